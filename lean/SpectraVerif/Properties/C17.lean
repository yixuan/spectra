/-
  C17 — LOBPCG solver bookkeeping (`Spectra::LOBPCGSolver`, include/Spectra/contrib/LOBPCGSolver.h).

  All theorems are about `Model/LOBPCG.lean` and hold for EVERY kernel record `K` (every behaviour of the operators, the
  preconditioner, `orthogonalizeInPlace`, the dense eigen-solver, the inner `SymGEigsSolver`, the norm test, `std::less`),
  every configuration, every tolerance, iteration limit and prior object state, except where a hypothesis is spelled out.
  The first section holds exact-arithmetic statements: the scalar is any commutative ring, columns live in any module over it,
  and only `A*`, `B*` are assumed linear (`Lawful K`).  The others are discrete and hold for every scalar/column type with
  `+`, `-`, `•` (so also for the executable `Float` instance the correspondence check runs against the real class).
-/
import SpectraVerif.Proofs.C17Asc
import SpectraVerif.Proofs.C17History
import Mathlib.Data.Matrix.Mul
import Mathlib.Tactic.Ring

namespace C17
open Lobpcg

/-! ## exact-arithmetic content (commutative ring, linear `A*`, `B*`) -/
section ring
variable {α V : Type} [CommRing α] [AddCommGroup V] [Module α V] (K : Kern α V) (c : Cfg)

/-- the initial phase (B-orthonormalisation of `X`, first projection) establishes `AX = A*X`, `BX = B*X`, `AD = A*D`, `BD = B*D`
    whenever the initial `orthogonalizeInPlace` succeeded — also when the dense eigen-solver then fails -/
theorem c17_products_init (hK : Lawful K) (s0 : St α V)
    (h : (K.orth .initX s0.X (s0.X.map K.applyB)).isSome) :
    Lobpcg.Inv K (initPhase K s0).1 (initPhase K s0).2.1 := by
  obtain ⟨X1, BX, ok, i1, ho, he⟩ := initPhase_cases K s0
  rcases ho with ⟨hn, _⟩ | ⟨_, rfl, _, _⟩
  · rw [hn] at h; cases h
  rcases he with ⟨_, e⟩ | ⟨θ0, C0, _, e⟩ <;> rw [e]
  · exact ⟨rfl, rfl, rfl, rfl⟩
  · simp only [Lobpcg.Inv, hK.zero, map_mulCoef _ hK.A, map_mulCoef _ hK.B, List.map_nil, and_self]

/-- one pass through the loop body preserves the tracked products, whichever way it ends, for every coefficient block -/
theorem c17_products_step (hK : Lawful K) (t : α) (iter : Nat) (s : St α V) (l : Loc V) (h : Lobpcg.Inv K s l) :
    (∀ s' l', step K c t iter s l = .cont s' l' → Lobpcg.Inv K s' l') ∧
    (∀ s' l' e, step K c t iter s l = .stop s' l' e → Lobpcg.Inv K s' l') :=
  ⟨fun _ _ e => (step_inv K c hK t iter s l h).cont e, fun _ _ _ e => (step_inv K c hK t iter s l h).stop e⟩

/--
  **Tracked products.**  At the end of `compute()` — however the loop was left, including through an exception — the locals
  `AX, BX, AD, BD` are exactly `A*X, B*X, A*D, B*D` for the internal iterate `X` and directions `D`, although the code never
  recomputes them but updates them with the same coefficient blocks as `X`.
-/
theorem c17_products (hK : Lawful K) (maxit : Int) (tol : α) (s0 : St α V)
    (h : (K.orth .initX s0.X (s0.X.map K.applyB)).isSome) :
    Lobpcg.Inv K (compute K c maxit tol s0).s (compute K c maxit tol s0).l :=
  compute_inv K c (Lobpcg.Inv K) (fun _ _ l hx _ _ hi => Mid.inv K hi (Mid.refl K l) hx) maxit tol s0
    (fun iter s l hi => step_inv K c hK _ iter s l hi) (c17_products_init K hK (reset s0) h)

/--
  **Residual accessor.**  After a `compute()` that returned normally, `residuals()` is `A*X - B*X*diag(θ)` for the INTERNAL
  iterate `X` and `θ = eigenvalues()`.
-/
theorem c17_residuals (hK : Lawful K) (maxit : Int) (tol : α) (s0 : St α V)
    (h : (K.orth .initX s0.X (s0.X.map K.applyB)).isSome)
    (hthrew : (compute K c maxit tol s0).threw = false) :
    residuals (compute K c maxit tol s0).s =
      residual ((compute K c maxit tol s0).s.X.map K.applyA) ((compute K c maxit tol s0).s.X.map K.applyB)
        (eigenvalues (compute K c maxit tol s0).s) := by
  obtain ⟨hA, hB, _, _⟩ := c17_products K c hK maxit tol s0 h
  obtain ⟨fuel, s2, _, _, hs⟩ := compute_cases K c maxit tol s0
  rcases hs with ⟨_, ht, _⟩ | ⟨_, _, hs⟩
  · rw [ht] at hthrew; cases hthrew
  · obtain ⟨_, fe, _, fr⟩ := finalize_frame K c (K.tolL2 tol c.n) s2 (compute K c maxit tol s0).l
    rw [← hA, ← hB]
    unfold residuals eigenvalues
    rw [hs, fr, fe]

/-- the formula itself, for any three blocks -/
theorem c17_residual_formula (a b : List V) (t : List α) (i : Nat) (ai bi : V) (ti : α)
    (ha : a[i]? = some ai) (hb : b[i]? = some bi) (ht : t[i]? = some ti) :
    (residual a b t)[i]? = some (ai - ti • bi) := by
  fun_induction residual a b t generalizing i with
  | case1 a as b bs t ts ih =>
    cases i with
    | zero =>
      simp only [List.getElem?_cons_zero, Option.some.injEq] at ha hb ht ⊢
      rw [ha, hb, ht]
    | succ i => exact ih i ha hb ht
  | case2 a b t h =>
    rcases a with _ | ⟨a0, as⟩
    · cases ha
    rcases b with _ | ⟨b0, bs⟩
    · cases hb
    rcases t with _ | ⟨t0, ts⟩
    · cases ht
    · exact absurd rfl (h a0 as b0 bs t0 ts rfl rfl)

/-- pointwise reading: column `i` of `residuals()` is `A x_i - θ_i • B x_i` -/
theorem c17_residuals_pointwise (hK : Lawful K) (maxit : Int) (tol : α) (s0 : St α V)
    (h : (K.orth .initX s0.X (s0.X.map K.applyB)).isSome)
    (hthrew : (compute K c maxit tol s0).threw = false) (i : Nat) (x : V) (θ : α)
    (hx : (compute K c maxit tol s0).s.X[i]? = some x) (hθ : (eigenvalues (compute K c maxit tol s0).s)[i]? = some θ) :
    (residuals (compute K c maxit tol s0).s)[i]? = some (K.applyA x - θ • K.applyB x) := by
  rw [c17_residuals K c hK maxit tol s0 h hthrew]
  exact c17_residual_formula _ _ _ i _ _ _ (by simp [hx]) (by simp [hx]) hθ

/--
  **B-orthonormality of the update.**  `b` any bilinear form (e.g. `b x y = xᵀ B y`), `S` the basis block (`[X R D]`), `C` the
  coefficient columns.  If the columns of `C` are orthonormal w.r.t. the Gram matrix `Sᵀ B S`
  (`gramForm b S S c d = Σ_k c_k Σ_l d_l b(S_k, S_l)`), the new block `S*C` is `b`-orthonormal.
  (That the inner solver returns such `C` is numerical and outside this clause; the code does no re-orthogonalisation of `X`.)
-/
theorem c17_borth (b : V → V → α) (hb : IsBilin b) (S : List V) (C : List (List α))
    (h : ∀ i j (hi : i < C.length) (hj : j < C.length), gramForm b S S C[i] C[j] = if i = j then 1 else 0)
    (i j : Nat) (hi : i < (mulCoef (0 : V) S C).length) (hj : j < (mulCoef (0 : V) S C).length) :
    b (mulCoef (0 : V) S C)[i] (mulCoef (0 : V) S C)[j] = if i = j then 1 else 0 := by
  have hi' : i < C.length := by simpa [mulCoef] using hi
  have hj' : j < C.length := by simpa [mulCoef] using hj
  have ei : (mulCoef (0 : V) S C)[i] = sumZip C[i] S := by simp [mulCoef_zero_eq]
  have ej : (mulCoef (0 : V) S C)[j] = sumZip C[j] S := by simp [mulCoef_zero_eq]
  rw [ei, ej, bilin_sumZip b hb]
  exact h i j hi' hj'

/-- the core identity: `b(Σ c_k S_k, Σ d_l T_l) = Σ_k c_k Σ_l d_l b(S_k, T_l)` for the model's `lincomb` -/
theorem c17_bilinear_lincomb (b : V → V → α) (hb : IsBilin b) (cs ds : List α) (S T : List V) :
    b (lincomb (0 : V) cs S) (lincomb (0 : V) ds T) = gramForm b S T cs ds := by
  rw [lincomb_zero_eq, lincomb_zero_eq]; exact bilin_sumZip b hb cs ds S T

/-- any element of `V →ₗ V →ₗ α` qualifies -/
theorem c17_borth_linearMap (B : V →ₗ[α] V →ₗ[α] α) : IsBilin (fun x y => B x y) :=
  ⟨fun x y z => by simp only [map_add, LinearMap.add_apply], fun a x z => by simp only [map_smul, LinearMap.smul_apply, smul_eq_mul],
    fun x y z => map_add _ y z, fun a x y => by simp only [map_smul, smul_eq_mul]⟩

/-- the model's update `X*C_X + (R*C_R + D*C_D)` (same for `AX`, `BX`) is `[X R D] * C` -/
theorem c17_update_concat (X R D : List V) (C : List (List α)) (nev bs : Nat)
    (hX : X.length = nev) (hR : R.length = bs) (hD : D.length = bs) :
    addB (mulCoef (0 : V) X (rowsOf C 0 nev))
        (addB (mulCoef (0 : V) R (rowsOf C nev bs)) (mulCoef (0 : V) D (rowsOf C (nev + bs) bs))) =
      mulCoef (0 : V) (X ++ R ++ D) C := by
  subst hX; subst hR
  have := update_concat3 X R D C
  rw [hD] at this
  exact this

/-- iteration 0 (no directions yet): `X*C_X + R*C_R = [X R] * C` -/
theorem c17_update_concat0 (X R : List V) (C : List (List α)) (nev bs : Nat)
    (hX : X.length = nev) (hR : R.length = bs) :
    addB (mulCoef (0 : V) X (rowsOf C 0 nev)) (mulCoef (0 : V) R (rowsOf C nev bs)) = mulCoef (0 : V) (X ++ R) C := by
  subst hX; subst hR
  exact update_concat2 X R C

/-- so `c17_borth` applies to the `step` update: after a completed iteration the new iterate is `[X R D] * C` (`[X R] * C` in
    iteration 0) with `R = residuals()` (the orthonormalised block), `C = m_evectors` (the public member), provided the blocks have the shapes
    the code assumes (`nev`, `bs`, `bs` columns) -/
theorem c17_step_update (hK : Lawful K) (t : α) (iter : Nat) (s s' : St α V) (l l' : Loc V)
    (h : step K c t iter s l = .cont s' l') (hX : s.X.length = c.nev) :
    ∃ (D : List V) (bs : Nat), (residuals s').length = bs → D.length = bs →
      s'.X = mulCoef (0 : V) (s.X ++ residuals s' ++ (if iter > 0 then D else [])) s'.evecs := by
  obtain ⟨D, bs, hu⟩ := (step_update K c t iter s l).cont h
  refine ⟨D, bs, fun hR hD => ?_⟩
  rw [hu, hK.zero]
  unfold residuals blockUpd dirUpd at *
  split
  · exact c17_update_concat s.X s'.resid D s'.evecs c.nev bs hX hR hD
  · rw [List.append_nil]; exact c17_update_concat0 s.X s'.resid s'.evecs c.nev bs hX hR

end ring

/-- matrix reading of `c17_borth`: `Cᵀ (Sᵀ B S) C = 1 → (S C)ᵀ B (S C) = 1` -/
theorem c17_borth_matrix {m n k R : Type} [Fintype m] [Fintype n] [Fintype k] [DecidableEq k] [CommRing R]
    (S : Matrix m n R) (B : Matrix m m R) (C : Matrix n k R)
    (h : C.transpose * (S.transpose * B * S) * C = 1) :
    (S * C).transpose * B * (S * C) = 1 := by
  rw [Matrix.transpose_mul, ← h]
  simp only [Matrix.mul_assoc]

/-! ## discrete content, every scalar and column type -/
section generic
variable {α V : Type} [Add V] [Sub V] [SMul α V] (K : Kern α V) (c : Cfg)

/--
  **Success means every column passed.**  Whatever the object's history (`compute()` resets `m_info` first), if `compute()`
  returned normally with `info() == Success`, then each of the `nev` columns of `residuals()` passed the code's test
  `sqrt(Σ r²) < tol_div_n * m_n`.
-/
theorem c17_success_tol (maxit : Int) (tol : α) (s0 : St α V)
    (hthrew : (compute K c maxit tol s0).threw = false)
    (hinfo : info (compute K c maxit tol s0).s = .success) :
    Passes K c (K.tolL2 tol c.n) (residuals (compute K c maxit tol s0).s) := by
  apply Classical.byContradiction
  intro hP
  obtain ⟨hi, hne⟩ := (compute_info K c maxit tol s0 hthrew).2 hP
  refine exitInfo_ne_success hne ?_ (hi.symm.trans hinfo)
  rcases (initPhase_info K (reset s0)).2 with e | e | e <;> rw [e] <;> exact nofun

/-- if all columns pass, `info()` is decided by the B-orthonormality guard alone, whatever the prior state and whatever the loop
    wrote into `m_info`: `Success` if `max |X' * BX - I| < sqrt(epsilon)` for the final iterate and its tracked product `BX`,
    `NumericalIssue` otherwise (repair of finding C17-gram-breakdown: a collapsed or blown-up block is not reported as converged) -/
theorem c17_passes_info (maxit : Int) (tol : α) (s0 : St α V)
    (hthrew : (compute K c maxit tol s0).threw = false)
    (hP : Passes K c (K.tolL2 tol c.n) (residuals (compute K c maxit tol s0).s)) :
    info (compute K c maxit tol s0).s =
      if K.borth (compute K c maxit tol s0).s.X (compute K c maxit tol s0).l.BX then .success else .numericalIssue := by
  exact (compute_info K c maxit tol s0 hthrew).1 hP

/-- the converse of `c17_success_tol` + `c17_success_borth`: all columns pass and the guard holds ⇒ `Success` -/
theorem c17_passes_success (maxit : Int) (tol : α) (s0 : St α V)
    (hthrew : (compute K c maxit tol s0).threw = false)
    (hP : Passes K c (K.tolL2 tol c.n) (residuals (compute K c maxit tol s0).s))
    (hG : K.borth (compute K c maxit tol s0).s.X (compute K c maxit tol s0).l.BX = true) :
    info (compute K c maxit tol s0).s = .success := by
  rw [c17_passes_info K c maxit tol s0 hthrew hP, if_pos hG]

/--
  **Success means the returned block passed the B-orthonormality guard.**  If `compute()` returned normally with
  `info() == Success`, the test `max |X' * BX - I| < sqrt(epsilon)` held for the returned iterate `X` (= `eigenvectors()`) and the
  tracked product `BX` (= `B*X` by `c17_products`).  Before the repair of finding C17-gram-breakdown a block with a zero column
  (or one blown up to 1e50) was reported as `Success` because its residual columns are small in absolute terms.
-/
theorem c17_success_borth (maxit : Int) (tol : α) (s0 : St α V)
    (hthrew : (compute K c maxit tol s0).threw = false)
    (hinfo : info (compute K c maxit tol s0).s = .success) :
    K.borth (eigenvectors (compute K c maxit tol s0).s) (compute K c maxit tol s0).l.BX = true := by
  have hP := c17_success_tol K c maxit tol s0 hthrew hinfo
  have := c17_passes_info K c maxit tol s0 hthrew hP
  rw [hinfo] at this
  unfold eigenvectors
  cases hb : K.borth (compute K c maxit tol s0).s.X (compute K c maxit tol s0).l.BX with
  | true => rfl
  | false => rw [hb] at this; cases this

/--
  **Status.**  For EVERY prior object state (fresh, or left behind by any earlier `compute()`), on a normal return:
  `info() == Success` exactly when all `nev` residual columns pass the test AND the returned block passes the B-orthonormality
  guard.  (Before the repair of finding C17-stale-info this needed the hypothesis "`m_info ≠ Success` before the call": `m_info`
  was never reset; before the repair of C17-gram-breakdown the second conjunct was missing.)
-/
theorem c17_status (maxit : Int) (tol : α) (s0 : St α V)
    (hthrew : (compute K c maxit tol s0).threw = false) :
    info (compute K c maxit tol s0).s = .success ↔
      Passes K c (K.tolL2 tol c.n) (residuals (compute K c maxit tol s0).s) ∧
      K.borth (eigenvectors (compute K c maxit tol s0).s) (compute K c maxit tol s0).l.BX = true :=
  ⟨fun h => ⟨c17_success_tol K c maxit tol s0 hthrew h, c17_success_borth K c maxit tol s0 hthrew h⟩,
   fun h => c17_passes_success K c maxit tol s0 hthrew h.1 h.2⟩

/--
  **Status per exit.**  `o.threw` ⇔ the loop was left by an exception of the inner solver, and then `m_info` is what the
  initial phase left (the code after the loop did not run).  On a normal return where not all columns pass:
  the loop was not left through the `BlockSize == 0` exit; a failed `orthogonalizeInPlace` and a Gram matrix whose Cholesky
  factorization fails (`gramFailed`, repair of C17-gram-breakdown: the failed factor used to be handed to the inner solver) give
  `NumericalIssue`; a non-converged inner solver gives `NoConvergence`; running out of iterations leaves `m_info` as the initial phase left it
  (`NoConvergence` from the reset when both initial kernels succeed: `c17_exhausted_noconvergence`); and `info()` is never
  `Success`, whatever the object's history.
-/
theorem c17_status_exits (maxit : Int) (tol : α) (s0 : St α V) (o : Out α V) (ho : o = compute K c maxit tol s0) :
    (o.threw = true ↔ ∃ i, o.exit = .rrThrew i) ∧
    (o.threw = true → info o.s = (initPhase K (reset s0)).1.info) ∧
    (o.threw = false → ¬ Passes K c (K.tolL2 tol c.n) (residuals o.s) →
      (∀ i, o.exit ≠ .converged i) ∧
      (∀ i, o.exit = .orthRFailed i ∨ o.exit = .orthDFailed i ∨ o.exit = .gramFailed i → info o.s = .numericalIssue) ∧
      (∀ i, o.exit = .rrFailed i → info o.s = .noConvergence) ∧
      (o.exit = .exhausted → info o.s = (initPhase K (reset s0)).1.info) ∧
      info o.s ≠ .success) := by
  subst ho
  obtain ⟨fuel, s2, hl, _, hs⟩ := compute_cases K c maxit tol s0
  obtain ⟨li, lc⟩ := loop_info K c (K.tolL2 tol c.n) fuel 0 (initPhase K (reset s0)).1 (initPhase K (reset s0)).2.1
  rw [hl] at li lc
  rcases hs with ⟨⟨i, hi⟩, ht, hs⟩ | ⟨hne, ht, hs⟩
  · refine ⟨⟨fun _ => ⟨i, hi⟩, fun _ => ht⟩, fun _ => ?_, fun h => (by rw [ht] at h; cases h)⟩
    unfold info
    rw [hs, li, hi]; rfl
  · refine ⟨⟨fun h => (by rw [ht] at h; cases h), fun ⟨i, hi⟩ => absurd hi (hne i)⟩, fun h => (by rw [ht] at h; cases h), ?_⟩
    intro _ hP
    obtain ⟨hinfo, hne⟩ := (compute_info K c maxit tol s0 ht).2 hP
    refine ⟨hne, fun i hi => ?_, fun i hi => ?_, fun hi => ?_, fun hsucc => hP (c17_success_tol K c maxit tol s0 ht hsucc)⟩
    all_goals show (compute K c maxit tol s0).s.info = _; rw [hinfo]
    · rcases hi with hi | hi | hi <;> rw [hi] <;> rfl
    · rw [hi]; rfl
    · rw [hi]; rfl

/-- **An exhausted loop reports non-success whatever the object's history**: when both initial kernels succeed and the loop runs
    out of iterations without convergence, `info()` is `NoConvergence` — the value `compute()` itself wrote at its top, not
    whatever an earlier call left behind (repair of finding C17-stale-info; no hypothesis on `s0.info`) -/
theorem c17_exhausted_noconvergence (maxit : Int) (tol : α) (s0 : St α V) (X' : List V)
    (hX : K.orth .initX s0.X (s0.X.map K.applyB) = some X') (hE : (K.eig0 X' (X'.map K.applyA)).isSome)
    (hthrew : (compute K c maxit tol s0).threw = false)
    (hP : ¬ Passes K c (K.tolL2 tol c.n) (residuals (compute K c maxit tol s0).s))
    (hex : (compute K c maxit tol s0).exit = .exhausted) :
    info (compute K c maxit tol s0).s = .noConvergence := by
  have hok : (initPhase K (reset s0)).2.2 = true := (initPhase_ok_iff K (reset s0)).mpr ⟨X', hX, hE⟩
  have := (c17_status_exits K c maxit tol s0 _ rfl).2.2 hthrew hP
  rw [this.2.2.2.1 hex]
  exact (initPhase_info K (reset s0)).1 hok

/-- the headline form: no normal return reports `Success` unless every column passed — for every prior state -/
theorem c17_nonsuccess_reported (maxit : Int) (tol : α) (s0 : St α V)
    (hthrew : (compute K c maxit tol s0).threw = false)
    (hP : ¬ Passes K c (K.tolL2 tol c.n) (residuals (compute K c maxit tol s0).s)) :
    info (compute K c maxit tol s0).s ≠ .success :=
  fun h => hP (c17_success_tol K c maxit tol s0 hthrew h)

/--
  **Shapes** (full clause, after the repair of finding F10): `eigenvectors()` IS the internal iterate `X` — so every theorem
  about `X` (`c17_products`, `c17_residuals`, `c17_borth` + `c17_step_update`) is a theorem about the returned matrix — and if the
  small eigen-solvers return `nev` pairs and the initial phase succeeds it has `nev` columns (each a column of the module `V`,
  i.e. of `n` entries in the executable instance), as many as `eigenvalues()` has entries.
-/
theorem c17_shape
    (heig : ∀ X AX θ C, K.eig0 X AX = some (θ, C) → θ.length = c.nev ∧ C.length = c.nev)
    (hrr : ∀ inp θ C, K.rr inp = .ok θ C → θ.length = c.nev ∧ C.length = c.nev)
    (maxit : Int) (tol : α) (s0 : St α V) (hok : (compute K c maxit tol s0).initOk = true) :
    eigenvectors (compute K c maxit tol s0).s = (compute K c maxit tol s0).s.X ∧
    (eigenvectors (compute K c maxit tol s0).s).length = c.nev ∧ (eigenvalues (compute K c maxit tol s0).s).length = c.nev := by
  rw [compute_initOk] at hok
  have := compute_inv K c (fun s _ => s.X.length = c.nev ∧ s.evals.length = c.nev ∧ s.evecs.length = c.nev)
    (fun _ _ _ hx he hc hi => by rw [hx, he, hc]; exact hi) maxit tol s0
    (fun it s l h1 => (step_shape K c hrr _ it s l).imp (fun _ _ h => h.1) (fun _ _ _ h => by rw [h.1, h.2.1, h.2.2]; exact h1))
    (initPhase_shape K c heig (reset s0) hok)
  exact ⟨rfl, this.1, this.2.1⟩

/-- `initOk` is: both kernels of the initial phase succeeded -/
theorem c17_initOk_iff (maxit : Int) (tol : α) (s0 : St α V) :
    (compute K c maxit tol s0).initOk = true ↔
      ∃ X', K.orth .initX s0.X (s0.X.map K.applyB) = some X' ∧ (K.eig0 X' (X'.map K.applyA)).isSome := by
  rw [compute_initOk]; exact initPhase_ok_iff K (reset s0)

/-- after a completed iteration the public member `m_evectors` is the (sorted) coefficient matrix the Rayleigh–Ritz kernel
    returned in THIS iteration (rows `nev + bs (+ bs)`); it is no longer what `eigenvectors()` returns -/
theorem c17_evecs_member_is_coeff (t : α) (iter : Nat) (s s' : St α V) (l l' : Loc V)
    (h : step K c t iter s l = .cont s' l') :
    ∃ inp θ0 C0, K.rr inp = .ok θ0 C0 ∧ inp.iter = iter ∧ inp.X = s.X ∧ inp.evals = s.evals ∧
      eigenvalues s' = (sortEpairs K.lt θ0 C0).1 ∧ s'.evecs = (sortEpairs K.lt θ0 C0).2 :=
  (step_evecs K c t iter s l).cont h

/-- **Inner constructor guard**: `SymGEigsSolver(…, nev, ncv)` with `ncv = min(10, rows-1)`, replaced by `min(rows, 2·nev)` when
    that is `≤ nev` (`innerNcv`), on a `rows × rows` pencil is accepted
    exactly when `1 ≤ nev ≤ rows - 1` (guard regenerated from `HermEigsBase.h`) -/
theorem c17_inner_guard (nev rows : Nat) : innerGuard nev rows = true ↔ 1 ≤ nev ∧ nev + 1 ≤ rows := by
  unfold innerGuard innerNcv Gen.Guard.herm_ctor_rvalue
  simp only [Bool.or_eq_true, decide_eq_true_eq]
  have ht : ∀ s, ((Res.throw s : Res Unit) == Res.ok ()) = false := fun _ => rfl
  have ho : ((Res.ok () : Res Unit) == Res.ok ()) = true := rfl
  split_ifs <;> simp only [ht, ho, Bool.false_eq_true, false_iff, true_iff] <;> omega

/-- a completed iteration implies the guard held on `rows = nev + bs (+ bs)` with `1 ≤ bs ≤ nev` -/
theorem c17_cont_guard (t : α) (iter : Nat) (s s' : St α V) (l l' : Loc V) (h : step K c t iter s l = .cont s' l') :
    ∃ bs, 0 < bs ∧ bs ≤ c.nev ∧ innerGuard c.nev (c.nev + bs + (if iter > 0 then bs else 0)) = true :=
  (step_guard K c t iter s l).cont h

/-- repair of finding C17-inner-ncv: on every Gram pencil the loop can build (`rows = nev + bs (+ bs)`, `bs ≥ 1`) the inner
    solver's constructor accepts its arguments — for EVERY block size `nev ≥ 1`, in particular `nev = 1`, `nev ≥ 10` and the
    one-column-left case `bs = 1` of iteration 0 which used to throw -/
theorem c17_inner_guard_holds (nev bs : Nat) (iter : Nat) (hnev : 1 ≤ nev) (hbs : 1 ≤ bs) :
    innerGuard nev (nev + bs + (if iter > 0 then bs else 0)) = true := by
  rw [c17_inner_guard]; omega

/-- hence an exception can leave `compute()` only if the inner solver's numerics throw (the kernel's `.threw`), never from the
    constructor guard: if a pass through the loop body stops with `rrThrew`, the Rayleigh–Ritz kernel was called and threw -/
theorem c17_throw_only_numeric (hnev : 1 ≤ c.nev) (t : α) (iter : Nat) (s s' : St α V) (l l' : Loc V) (i : Nat)
    (h : step K c t iter s l = .stop s' l' (.rrThrew i)) :
    ∃ inp, K.rr inp = .threw := by
  have key : (step K c t iter s l).Sat (fun _ _ => True)
      (fun _ _ e => ∀ j, e = .rrThrew j → ∃ inp, K.rr inp = .threw) := by
    refine step_sat K c t iter s l _ rfl (fun _ _ _ _ _ _ _ _ => trivial) (fun _ _ _ _ _ ht j hj => ?_)
    obtain ⟨hpos, hg | hr⟩ := ht j hj
    · rw [Bool.eq_false_iff, ne_eq, c17_inner_guard] at hg
      omega
    · exact hr
  exact key.stop h i rfl

end generic

/-! ## examples: hypotheses are satisfiable, counterexamples to the full-strength clauses -/

/-- kernels of the stale-info example: initial phase succeeds, no column ever passes the test -/
def exK1 : Kern Int Int :=
  { zeroV := 0, applyA := id, applyB := id, applyT := id, below := fun _ _ => false, tolL2 := fun t _ => t,
    lt := fun a b => decide (a < b), orth := fun _ X _ => some X, eig0 := fun _ _ => some ([1], [[1]]),
    gramSPD := fun _ => true, rr := fun _ => .notConverged, borth := fun _ _ => true }

/-- `Lawful` is satisfiable (α = V = ℤ, identity operators) -/
example : Lawful exK1 :=
  ⟨rfl, ⟨fun _ _ => rfl, fun _ _ => rfl⟩, ⟨fun _ _ => rfl, fun _ _ => rfl⟩⟩

/-- the hypotheses of `c17_borth` are satisfiable (1×1: `b x y = x*y`, `S = [1]`, `C = [[1]]`) -/
example : IsBilin (fun x y : Int => x * y) ∧
    (∀ i j (hi : i < [[(1 : Int)]].length) (hj : j < [[(1 : Int)]].length),
      gramForm (fun x y : Int => x * y) [1] [1] [[(1 : Int)]][i] [[(1 : Int)]][j] = if i = j then 1 else 0) := by
  refine ⟨⟨fun x y z => by ring, fun a x z => by simp only [smul_eq_mul]; ring, fun x y z => by ring,
    fun a x y => by simp only [smul_eq_mul]; ring⟩, ?_⟩
  intro i j hi hj
  have hi0 : i = 0 := by simpa using hi
  have hj0 : j = 0 := by simpa using hj
  subst hi0; subst hj0
  rfl

/-- repair of finding C17-stale-info on the model: an object whose `m_info` is `Success` from an earlier run, `compute(0, …)`:
    `info()` is `NoConvergence` (before the repair it stayed `Success`), and not a single residual column passes the test -/
example :
    info (compute exK1 { n := 5, nev := 1 } 0 1 { X := [1], resid := [], evecs := [], evals := [], info := .success }).s
      = .noConvergence ∧
    (compute exK1 { n := 5, nev := 1 } 0 1 { X := [1], resid := [], evecs := [], evals := [], info := .success }).threw
      = false ∧
    ¬ Passes exK1 { n := 5, nev := 1 } (exK1.tolL2 1 5)
      (residuals (compute exK1 { n := 5, nev := 1 } 0 1
        { X := [1], resid := [], evecs := [], evals := [], info := .success }).s) := by
  refine ⟨by decide, by decide, ?_⟩
  intro h
  obtain ⟨w, _, hw⟩ := h 0 (by decide)
  exact Bool.false_ne_true hw

/-- kernels of the shape example: n = 11, nev = 2, columns are `Fin 11 → ℤ`; the Rayleigh–Ritz kernel returns two pairs whose
    coefficient columns have as many rows as the pencil it was given -/
def exK2 : Kern Int (Fin 11 → Int) :=
  { zeroV := fun _ => 0, applyA := id, applyB := id, applyT := id, below := fun _ _ => false, tolL2 := fun t _ => t,
    lt := fun a b => decide (a < b), orth := fun _ X _ => some X,
    eig0 := fun _ _ => some ([1, 2], [[1, 0], [0, 1]]),
    gramSPD := fun _ => true,
    rr := fun inp => .ok [1, 2]
      [List.replicate (inp.X.length + inp.R.length + inp.D.length) 1,
       List.replicate (inp.X.length + inp.R.length + inp.D.length) 0],
    borth := fun _ _ => true }

def exS2 : St Int (Fin 11 → Int) :=
  { X := [fun i => if i.val = 0 then 1 else 0, fun i => if i.val = 1 then 1 else 0], resid := [], evecs := [], evals := [],
    info := .invalidInput }

/-- repair of finding F10 on the model: after two iterations `eigenvectors()` has 2 columns of type `Fin 11 → ℤ` (n = 11 entries
    each) and is the iterate, while the member `m_evectors` still has columns of 6 = nev + 2·bs entries -/
example :
    (eigenvectors (compute exK2 { n := 11, nev := 2 } 2 1 exS2).s).length = 2 ∧
    (compute exK2 { n := 11, nev := 2 } 2 1 exS2).s.evecs.map List.length = [6, 6] ∧
    (compute exK2 { n := 11, nev := 2 } 2 1 exS2).exit = .exhausted := by
  refine ⟨by decide, by decide, by decide⟩

/-- the hypotheses of `c17_inner_guard_holds` cover block size 1 in iteration 0 (used to throw) and block size 12 -/
example : innerGuard 1 2 = true ∧ innerGuard 12 13 = true ∧ innerGuard 3 4 = true := by decide

/-! ## the column-removal path: the indices of converged columns always fit the blocks they are applied to -/

/--
  **Widths in the column-removal path.**  DESIGN §5 suspected that `columnsToDelete` (indices into the `nev`-column residual
  block) might be applied to `directions`, `AD`, `BD` of a different width.  It is not so: after every completed iteration the
  three direction blocks have exactly `nev` columns again (they are products with the `nev`-column coefficient blocks) …
-/
theorem c17_directions_width {α V : Type} [Add V] [Sub V] [SMul α V] (K : Kern α V) (c : Cfg)
    (hrr : ∀ inp θ C, K.rr inp = .ok θ C → θ.length = c.nev ∧ C.length = c.nev)
    (t : α) (iter : Nat) (s s' : St α V) (l l' : Loc V) (h : step K c t iter s l = .cont s' l') :
    l'.D.length = c.nev ∧ l'.AD.length = c.nev ∧ l'.BD.length = c.nev :=
  ((step_shape K c hrr t iter s l).cont h).2

/-- … and removing the listed columns from ANY block of `nev` columns leaves exactly `BlockSize = nev - #columnsToDelete`
    columns, the row count of the coefficient blocks `C_R`, `C_D` the block is multiplied with -/
theorem c17_removed_width {α V : Type} [Add V] [Sub V] [SMul α V] (K : Kern α V) (c : Cfg)
    (t : α) (W M : List V) (hM : M.length = c.nev) :
    (removeCols M (delCols K c t W)).length = c.nev - (delCols K c t W).length := by
  unfold delCols
  rw [← hM]
  exact removeCols_length_filter _ M

/-! ## the two explicit scalar kernels of the class, read in exact arithmetic -/

/--
  **Ascending order (partial).**  `sort_epairs` pushes the (eigenvalue, vector) pairs through a `std::map` keyed by the value.
  If the values handed over by the inner solver are pairwise distinct, `eigenvalues()` comes out strictly ascending and the pairs
  are a permutation of the input pairs (pairing kept, nothing lost), over any linear order.

  Without distinctness the full clause is FALSE for the code: equal keys collapse in the map, the later pair is dropped and the
  tail positions keep stale content (see the `example` below: the second vector is lost and the third is duplicated, so the new
  iterate loses rank).  Exact ties are outside C17's quantifier ("well-separated smallest eigenvalues"); the tie behaviour itself
  is tied to the real `sort_epairs` by the `sortep` correspondence requests.
-/
theorem c17_sorted_partial {α β : Type} [LinearOrder α] (θ : List α) (C : List β) (hl : θ.length = C.length) (hn : θ.Nodup) :
    ((sortEpairs ltDec θ C).1).Pairwise (· < ·) ∧
    (((sortEpairs ltDec θ C).1).zip (sortEpairs ltDec θ C).2).Perm (θ.zip C) ∧
    ((sortEpairs ltDec θ C).1).length = θ.length ∧ ((sortEpairs ltDec θ C).2).length = C.length :=
  sortEpairs_sorted θ C hl hn

example : sortEpairs (ltDec (α := Int)) [1, 1, 3] ["a", "b", "c"] = ([1, 3, 3], ["a", "c", "c"]) := by decide

/--
  **`eigenvalues()` ascending (partial).**  For every kernel record whose `lt` is the order (`std::less`) and whose small
  eigen-solvers return pairwise distinct values, `eigenvalues()` is strictly ascending after `compute()` — whatever the exit
  (every exit other than a completed iteration leaves `m_evalues` untouched, a completed one stores the sorted kernel output).
  What is missing for the full clause "the k SMALLEST eigenvalues of the pencil in ascending order": that the values are
  eigenvalues of (A, B) at all is the residual bound (`c17_success_tol` + `c17_residuals`), that they are the smallest ones is
  convergence of the iteration and is NOT provable from the code (oracle only); ties: see `c17_sorted_partial`.
-/
theorem c17_ascending_partial {α V : Type} [LinearOrder α] [Add V] [Sub V] [SMul α V] (K : Kern α V) (c : Cfg)
    (hlt : K.lt = ltDec)
    (heig : ∀ X AX θ C, K.eig0 X AX = some (θ, C) → θ.Nodup ∧ θ.length = C.length)
    (hrr : ∀ inp θ C, K.rr inp = .ok θ C → θ.Nodup ∧ θ.length = C.length)
    (maxit : Int) (tol : α) (s0 : St α V) (hok : (compute K c maxit tol s0).initOk = true) :
    (eigenvalues (compute K c maxit tol s0).s).Pairwise (· < ·) := by
  rw [compute_initOk] at hok
  exact compute_inv K c (fun s _ => s.evals.Pairwise (· < ·)) (fun _ _ _ _ he _ hi => by rw [he]; exact hi) maxit tol s0
    (fun it s l h1 => step_sorted K c hlt hrr _ it s l h1) (initPhase_sorted K hlt heig (reset s0) hok)

/--
  **Meaning of the convergence test.**  The executable test `colBelow` (the explicit loop of `checkConvergence_getBlocksize`)
  instantiated at exact arithmetic over any linearly ordered field says `sqrt(Σ_i r_i²) < t`; with `t = tol_div_n * n` this is
  the "column norm below tol·n" of the property.  (At `Float` the same text is what the correspondence runs bit for bit.)
-/
theorem c17_test_meaning {F : Type} [Field F] [LinearOrder F] [IsStrictOrderedRing F] (fns : FieldFns F) (t : F) (v : Col F) :
    @colBelow F _ _ (scOfField fns) t v = true ↔ fns.sqrt ((v.d.toList.map (fun b => b * b)).sum) < t := by
  unfold colBelow
  simp only [ScF.lt, ScF.sqrt, decide_eq_true_eq, Lin.zero, ScF.ofInt]
  rw [← Array.foldl_toList, SumFold.foldl_add_eq_sum]
  simp

/--
  **Meaning of the B-orthonormality guard.**  The executable guard `gramOrthOk` (the statement
  `(Matrix(X' * BX) - Identity).cwiseAbs().maxCoeff() < sqrt(epsilon)` in front of `m_info = Success`) instantiated at exact
  arithmetic over any linearly ordered field says: every entry of `X' BX - I` is below the threshold in absolute value, where
  entry `(i, j)` of `X' BX` is the dot product of column `i` of `X` with column `j` of `BX` (= `B X` by `c17_products`).  With
  `c17_success_borth` this is the clause "`eigenvectors()` is `X` with `X'BX = I`" up to the threshold: `Success` ⇒
  `max |X'BX - I| < sqrt(eps)`.  (That the drift below the threshold stays near rounding level is numerical: oracle, bound 1e-8.)
-/
theorem c17_guard_meaning {F : Type} [Field F] [LinearOrder F] [IsStrictOrderedRing F] (fns : FieldFns F) (thr : F)
    (X BX : List (Col F)) :
    @gramOrthOk F _ _ _ (scOfField fns) thr X BX = true ↔
      ∀ i j, i < X.length → j < BX.length → ∃ x bx, X[i]? = some x ∧ BX[j]? = some bx ∧
        |((List.range x.d.size).map (fun k => @Lin.vget F (scOfField fns) x.d k * @Lin.vget F (scOfField fns) bx.d k)).sum
          - (if i = j then 1 else 0)| < thr := by
  unfold gramOrthOk
  simp only [List.all_eq_true, List.mem_range]
  constructor
  · intro h i j hi hj
    have := h i hi j hj
    have hx : X[i]? = some X[i] := List.getElem?_eq_getElem hi
    have hb : BX[j]? = some BX[j] := List.getElem?_eq_getElem hj
    rw [hx, hb] at this
    refine ⟨X[i], BX[j], hx, hb, ?_⟩
    simp only [ScF.lt, ScF.abs, decide_eq_true_eq, gramEntry_eq, Lin.one, Lin.zero, ScF.ofInt] at this
    -- the model writes `if i = j then one else zero` with `Sc` constants: both branches read as the field's `1`, `0`
    by_cases hij : i = j <;> simpa [hij] using this
  · intro h i hi j hj
    obtain ⟨x, bx, hx, hb, hlt⟩ := h i j hi hj
    rw [hx, hb]
    simp only [ScF.lt, ScF.abs, decide_eq_true_eq, gramEntry_eq, Lin.one, Lin.zero, ScF.ofInt]
    by_cases hij : i = j <;> simpa [hij] using hlt

/-- kernels of the guard examples: every column passes the residual test at once; `borth`/`gramSPD` as given -/
def exK3 (g spd : Bool) : Kern Int Int :=
  { zeroV := 0, applyA := id, applyB := id, applyT := id, below := fun _ _ => g || spd, tolL2 := fun t _ => t,
    lt := fun a b => decide (a < b), orth := fun _ X _ => some X, eig0 := fun _ _ => some ([1], [[1]]),
    gramSPD := fun _ => spd, rr := fun _ => .notConverged, borth := fun _ _ => g }

/-- repair of finding C17-gram-breakdown on the model: (1) all residual columns pass but the guard fails: `info()` is
    `NumericalIssue` although the loop's `BlockSize == 0` exit wrote `Success`; with the guard passing it is `Success`;
    (2) no column passes and the Cholesky factorization of the Gram matrix fails in iteration 0: exit `gramFailed 0`,
    `info()` is `NumericalIssue` and the inner solver is never called -/
example :
    info (compute (exK3 false true) { n := 5, nev := 1 } 3 1 (construct [1])).s = .numericalIssue ∧
    (compute (exK3 false true) { n := 5, nev := 1 } 3 1 (construct [1])).exit = .converged 0 ∧
    info (compute (exK3 true true) { n := 5, nev := 1 } 3 1 (construct [1])).s = .success ∧
    (compute (exK3 false false) { n := 5, nev := 1 } 3 1 (construct [1])).exit = .gramFailed 0 ∧
    info (compute (exK3 false false) { n := 5, nev := 1 } 3 1 (construct [1])).s = .numericalIssue := by
  refine ⟨by decide, by decide, by decide, by decide, by decide⟩

/-! ## histories on ONE solver object (`Lobpcg.Obj`: members `A`, `m_B`/flag, `m_preconditioner`/flag, the state `St`) -/
section history
variable {α V : Type} [Add V] [Sub V] [SMul α V] (c : Cfg)

/--
  **What `compute()` reads of the object's state.**  Two object states with the same block `X`, the same `m_evalues` and the same
  `m_evectors` give the same result (state, locals, exit, exception flag), for every kernel record: `m_info` (reset in the first
  statement) and `m_residuals` (overwritten on every path) of an earlier call are never read.  No hypothesis on the kernels.
-/
theorem c17_compute_reads (K : Kern α V) (maxit : Int) (tol : α) (s0 s0' : St α V)
    (hX : s0.X = s0'.X) (hv : s0.evals = s0'.evals) (hc : s0.evecs = s0'.evecs) :
    compute K c maxit tol s0 = compute K c maxit tol s0' :=
  compute_tail K c maxit tol s0 s0' (initPhase_agree K _ _ (reset_agree s0 s0' hX hv hc))

/-- … and of those only `X` whenever the dense eigen-solver of the first projection succeeds (it then overwrites `m_evalues` and
    `m_evectors` before anything reads them) -/
theorem c17_compute_reads_X (K : Kern α V) (hE : ∀ X AX, (K.eig0 X AX).isSome) (maxit : Int) (tol : α) (s0 s0' : St α V)
    (hX : s0.X = s0'.X) :
    compute K c maxit tol s0 = compute K c maxit tol s0' :=
  compute_tail K c maxit tol s0 s0' (initPhase_X_only K hE _ _ hX rfl)

/-- the setters only store: after ANY history the object's `A` is the constructor's, `B` / `T` are the arguments of the LAST
    `setB` / `setPreconditioner` (none if there was none) — no call, in particular no `compute()`, changes them -/
theorem c17_setters_last_win (A : V → V) (X0 : List V) (ops : List (Op α V)) :
    (Obj.run c (Obj.ctor A X0) ops).A = A ∧
    (Obj.run c (Obj.ctor A X0) ops).B = lastB none ops ∧
    (Obj.run c (Obj.ctor A X0) ops).T = lastT none ops :=
  ⟨Obj.run_A c _ ops, Obj.run_B c _ ops, Obj.run_T c _ ops⟩

/--
  **`compute()` is history independent.**  After ANY history `ops` of public calls on one object (constructor, then `setB`,
  `setPreconditioner`, `compute` in any order and number, each `compute` with arbitrary kernels, arguments and outcome — failed,
  converged, thrown), the result of the next `compute(maxit, tol)` — the whole `Out`: `info()`, `eigenvalues()`, `eigenvectors()`,
  `residuals()`, `m_evectors`, the locals, the exit, the exception flag — equals that of a FRESH object constructed from
  `(A, the block X the object holds now)`, given the B and T last set, and the same `compute(maxit, tol)`: the result is a function
  of `(A, current B, current T, current X, maxit, tol)` only.  There is no remembered status, tolerance or result.
  Hypothesis: the dense `EigenSolver` of the first projection does not fail (it cannot for a finite symmetric `X'AX`; the branch is
  listed as uncovered).  Without it see `c17_compute_history_independent_partial`.
  (X0 itself is not kept by the class: the constructor copies it into `X` and every `compute()` overwrites `X`, so "the same
  A / X0" for a reused object means its current `X`.)
-/
theorem c17_compute_history_independent (A : V → V) (X0 : List V) (ops : List (Op α V)) (N : Kern α V) (maxit : Int) (tol : α)
    (hE : ∀ X AX, (N.eig0 X AX).isSome) :
    (Obj.run c (Obj.ctor A X0) ops).computeOut N c maxit tol =
      (Obj.fresh A (Obj.run c (Obj.ctor A X0) ops).st.X (lastB none ops) (lastT none ops)).computeOut N c maxit tol := by
  have hk : (Obj.run c (Obj.ctor A X0) ops).kern N =
      (Obj.fresh A (Obj.run c (Obj.ctor A X0) ops).st.X (lastB none ops) (lastT none ops)).kern N :=
    Obj.kern_congr N _ _ (Obj.run_A c _ ops) (Obj.run_B c _ ops) (Obj.run_T c _ ops)
  unfold Obj.computeOut
  rw [hk]
  exact c17_compute_reads_X c
    (Obj.kern N (Obj.fresh A (Obj.run c (Obj.ctor A X0) ops).st.X (lastB none ops) (lastT none ops))) hE maxit tol
    (Obj.run c (Obj.ctor A X0) ops).st (construct (Obj.run c (Obj.ctor A X0) ops).st.X) rfl

/-- without the hypothesis on the eigen-solver: two objects (whatever their histories) that agree in the three operators, in `X`
    and in `m_evalues` / `m_evectors` give the same result.  The full clause "X alone" is FALSE for the code when the first
    eigen-solver fails: `m_evalues` of the previous call survives and the final residuals are computed with it (`example` below);
    on a fresh object `m_evalues` is then empty. -/
theorem c17_compute_history_independent_partial (N : Kern α V) (maxit : Int) (tol : α) (o o' : Obj α V)
    (hA : o.A = o'.A) (hB : o.B = o'.B) (hT : o.T = o'.T)
    (hX : o.st.X = o'.st.X) (hv : o.st.evals = o'.st.evals) (hc : o.st.evecs = o'.st.evecs) :
    o.computeOut N c maxit tol = o'.computeOut N c maxit tol := by
  unfold Obj.computeOut
  rw [Obj.kern_congr N o o' hA hB hT]
  exact c17_compute_reads c _ maxit tol _ _ hX hv hc

omit [Add V] [Sub V] [SMul α V] in
/-- a fresh object with operators is the constructor followed by the setters -/
theorem c17_fresh_is_ctor_setters (A : V → V) (X : List V) (b t : V → V) :
    (Obj.fresh A X (some b) (some t) : Obj α V) = ((Obj.ctor A X).setB b).setPreconditioner t ∧
    (Obj.fresh A X (some b) none : Obj α V) = (Obj.ctor A X).setB b ∧
    (Obj.fresh A X none (some t) : Obj α V) = (Obj.ctor A X).setPreconditioner t ∧
    (Obj.fresh A X none none : Obj α V) = Obj.ctor A X :=
  ⟨rfl, rfl, rfl, rfl⟩

/-- consequence: two histories that leave the same block and whose last setters agree are indistinguishable for the next call -/
theorem c17_histories_same_tail (A : V → V) (X0 X0' : List V) (ops ops' : List (Op α V)) (N : Kern α V) (maxit : Int) (tol : α)
    (hE : ∀ X AX, (N.eig0 X AX).isSome)
    (hX : (Obj.run c (Obj.ctor A X0) ops).st.X = (Obj.run c (Obj.ctor A X0') ops').st.X)
    (hB : lastB none ops = lastB none ops') (hT : lastT none ops = lastT none ops') :
    (Obj.run c (Obj.ctor A X0) ops).computeOut N c maxit tol = (Obj.run c (Obj.ctor A X0') ops').computeOut N c maxit tol := by
  rw [c17_compute_history_independent c A X0 ops N maxit tol hE, c17_compute_history_independent c A X0' ops' N maxit tol hE,
    hX, hB, hT]

end history

/-- the hypothesis of `c17_compute_history_independent` is satisfiable (`exK1`), and the operator change is visible: after
    `compute; setB(2 *)` the next `compute` runs with the new B (residual `A x - θ B x = 1 - 1 * 2`), exactly as on a fresh object -/
example : (∀ X AX, (exK1.eig0 X AX).isSome) ∧
    ((Obj.run { n := 5, nev := 1 } (Obj.ctor id [1]) [.compute exK1 0 1, .setB (fun x => 2 * x)]).computeOut exK1
        { n := 5, nev := 1 } 0 1).s.resid = [-1] ∧
    ((Obj.run { n := 5, nev := 1 } (Obj.ctor id [1]) [.compute exK1 0 1]).computeOut exK1 { n := 5, nev := 1 } 0 1).s.resid = [0] := by
  refine ⟨fun _ _ => rfl, by decide, by decide⟩

/-- kernels whose first eigen-solver fails -/
def exK4 : Kern Int Int := { exK1 with eig0 := fun _ _ => none }

/-- sharpness of the hypothesis: with a failing first eigen-solver the stale `m_evalues` of an earlier call is read (final
    residual `1 - 7 * 1`), a fresh object has none — same `X`, different `residuals()` -/
example :
    (compute exK4 { n := 5, nev := 1 } 0 1 { X := [1], resid := [], evecs := [], evals := [7], info := .success }).s.resid = [-6] ∧
    (compute exK4 { n := 5, nev := 1 } 0 1 (construct [1])).s.resid = [] := by
  refine ⟨by decide, by decide⟩

end C17
