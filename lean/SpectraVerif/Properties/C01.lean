/-
  C01 — SymEigsSolver / HermEigsSolver / SymEigsShiftSolver hand back only genuine, orthonormal eigenpairs, whether the run ends
  Successful or NotConverging, and after any sequence of init()/compute() calls.

  FULL STATEMENT (properties.jsonl): every pair `(θ, x)` handed back as converged satisfies
      ‖A x − θ x‖ ≤ tol · max(eps^(2/3), |θ|)  (iterated spectrum;  ≈ tol · ‖A − σI‖ after back-transformation in shift mode)
                    + a rounding-level multiple of ‖A‖,        ‖x‖ = 1,   returned vectors mutually orthonormal to rounding level.

  WHAT IS PROVED HERE (exact arithmetic: any linearly ordered field `F` — so float, double and long double parameters alike —,
  matrices of every size, every operator, every kernel behaviour, every history):
    (1) `c01_residual`      Krylov relation ∧ `H y = θ y` ∧ the code's flag test `|y_last|·β < tol·max(eps23,|θ|)` (β = ‖f‖)
                            ⇒ ‖A x − θ x‖² < (tol·max(eps23,|θ|))² for `x = V y`   (on top of `Ritz.residual`);
                            `c01_residual_real` the same with `Real.sqrt`; `c01_residual_norm` for any absolutely homogeneous norm
                            (complex Hermitian case: `V`, `f` complex, `H`, `y`, `θ` real; `B`-norms).
    (2) `c01_unit_orth`     `VᴴV = I`, `YᴴY = I` ⇒ `(VY)ᴴ(VY) = I` (star ring: complex Hermitian; `c01_unit_orth_real` with
                            transposes), and `‖V y‖² = ‖y‖²`.
    (3) `c01_shift`         SymEigsShiftSolver: with `(A − σI)·Op = I` and the returned `λ = σ + 1/ν`:
                            `A x − λ x = −(1/ν)(A − σI)(Op x − ν x)`, hence ‖A x − λ x‖ < C·tol·max(eps23,|ν|)/|ν| for every bound
                            `C` of the operator norm of `A − σI` (= C·tol when `|ν| ≥ eps23`: the documented `tol·‖A − σI‖`).
    (4) `c01_flags_paired`  (from `C05.c05_flags_fresh`) the flags handed back ARE the convergence test evaluated on the Ritz pairs of
                            the FINAL factorization, permuted together with the vectors — every kernel behaviour, every prior
                            state.  This is the clause that FAILED before the F1 repair (c774a83): when `maxit` ran out the flags
                            belonged to the Ritz pairs of the previous restart (and to no pairs at all for `maxit = 0`).
    (5) `c01_histories`     for EVERY finite history of init()/compute() calls from the freshly constructed object and a final
                            compute() that returns, every pair handed back (flag set) is `(back ν, V y)` with
                            ‖Op x − ν x‖² < (tol·max(eps23,|ν|))², under the explicit exact-arithmetic kernel specifications
                            `C01E.ExactKernels` (Krylov relation maintained: each factorization kernel is a sequence of C07 steps —
                            composed with C07's run theorem —; small eigen-solver returns eigenpairs of H with the estimate = last
                            coordinate — C09 spec —; flag test and `x = V y` as in the code).  NO "compute() is preceded by init()"
                            restriction: since the F2 repair (f70c7d9) a repeated compute() continues from the existing
                            factorization (`max 1 facDim` in the model), and the invariant "Krylov relation at the advertised
                            dimension" is kept by `compute` on EVERY path (`C01O.compute_fac_invariant`), including the ones that end in
                            an exception.  `c01_histories_sym` / `c01_histories_shift` are the two instances named in the property;
                            `c01_histories_orth`: under `ExactOrth` the vectors handed back after any history are orthonormal.

  NOT PROVED (out of reach; covered only by the bit-exact correspondence of the Float instance with the real classes and by the
  implementation-level predicate in __float128):
    * rounding: the "+ rounding-level multiple of ‖A‖" term, i.e. that the Float run stays close to the exact-arithmetic run
      (accumulation of rounding error through the recurrence, the QR sweeps and TridiagEigen);
    * `ExactKernels` as stated (specifications for EVERY object `fac`, every `factorize a b`, every `restartFac k`) is NOT
      satisfiable by the numeric kernels (malformed arrays; `factorize a b` with `a < k` truncates and keeps a stale residual;
      `restartFac 0`); it is shown satisfiable on a 1 × 1 instance only.  The specifications relativised to an invariant the kernels
      preserve as `compute()`/`init()` call them (`ExactKernelsOn`) are what `HermSolver.hermKern` meets at `scOfField F`
      (sections "the executable kernels satisfy the (relativised) kernel specifications" and after).  Hypotheses of
      `c01_histories_hermKern_full`: idealisation constants (exact sqrt, ideal rotations, `Sc.eps = 0`, `0 < min()`), `M` symmetric,
      `1 ≤ nev < ncv`, and two run-level hypotheses: `C01H.Reg` (no breakdown) and `C01H.ZeroDrop` (TridiagEigen's perturbation
      budget is 0 on the full regular states: its deflation test also uses the absolute `considerAsZero = min()`, so this cannot be
      a constant-level hypothesis); their consistency is shown on the degenerate witness `n = 0` only.
      `c01_histories_orth_hermKern` needs in addition the injectivity of the two index vectors (`C01H.SortInj`, C18).
      NOT covered: the breakdown branch (`beta < near_0` → `expand_basis`), non-zero discards (error terms), rounding;
    * orthonormality of the basis `V` in floating point is FALSE for the code as it is on weak hand-overs / under the absolute
      breakdown thresholds (known findings F12*, see known_findings/C01.json): (2) takes `VᴴV = I` as a hypothesis.
-/
import Mathlib.Analysis.Real.Sqrt
import Mathlib.Algebra.BigOperators.Fin
import Mathlib.Tactic.NormNum
import Mathlib.Tactic.FinCases
import SpectraVerif.Properties.C05
import SpectraVerif.Proofs.C01Toy
import SpectraVerif.Proofs.C01DischargeEig

set_option linter.unusedSectionVars false
set_option linter.unusedVariables false

open Matrix

namespace C01
open Orch C01M C01E

/-! ### (1) the flag test bounds the true residual -/

section residual
variable {n m : Type} [Fintype n] [Fintype m] [DecidableEq m] {F : Type} [Field F] [LinearOrder F] [IsStrictOrderedRing F]

/-- **Residual** (ordered field, squared Euclidean norms).  `β` is `m_fac.f_norm()` (`0 ≤ β`, `β² = ‖f‖²`), `y last` is the Ritz
    estimate `m_ritz_est`, the hypothesis `hflag` is literally the comparison `num_converged` evaluates. -/
theorem c01_residual (A : Matrix n n F) (V : Matrix n m F) (H : Matrix m m F) (f : n → F) (last : m) (θ : F) (y : m → F)
    (β tol eps23 : F)
    (hfac : A * V = V * H + vecMulVec f (Pi.single last 1)) (hy : H *ᵥ y = θ • y)
    (hβ : 0 ≤ β) (hβf : β * β = nsq f)
    (hflag : |y last| * β < tol * max eps23 |θ|) :
    nsq (A *ᵥ (V *ᵥ y) - θ • (V *ᵥ y)) < (tol * max eps23 |θ|) ^ 2 := by
  rw [Ritz.residual A V H f last θ y hfac hy, nsq_smul]
  exact sq_bound _ _ _ _ hβ hβf hflag

/-- **Residual**, any absolutely homogeneous norm (`nrm (c • v) = absK c * nrm v`): the Euclidean norm of complex vectors
    (HermEigsSolver: `V`, `f` complex, `H`, `y`, `θ` real numbers embedded in `K`), `B`-norms (generalized solvers). -/
theorem c01_residual_norm {K : Type} [Field K] (nrm : (n → K) → F) (absK : K → F) (hhom : ∀ c v, nrm (c • v) = absK c * nrm v)
    (A : Matrix n n K) (V : Matrix n m K) (H : Matrix m m K) (f : n → K) (last : m) (θ : K) (y : m → K) (tol eps23 : F)
    (hfac : A * V = V * H + vecMulVec f (Pi.single last 1)) (hy : H *ᵥ y = θ • y)
    (hflag : absK (y last) * nrm f < tol * max eps23 (absK θ)) :
    nrm (A *ᵥ (V *ᵥ y) - θ • (V *ᵥ y)) < tol * max eps23 (absK θ) := by
  rw [Ritz.residual A V H f last θ y hfac hy, hhom]; exact hflag

end residual

/-- **Residual** over `ℝ` with the Euclidean norm `√(v·v)`, `β = ‖f‖`. -/
theorem c01_residual_real {n m : Type} [Fintype n] [Fintype m] [DecidableEq m]
    (A : Matrix n n ℝ) (V : Matrix n m ℝ) (H : Matrix m m ℝ) (f : n → ℝ) (last : m) (θ : ℝ) (y : m → ℝ) (tol eps23 : ℝ)
    (hfac : A * V = V * H + vecMulVec f (Pi.single last 1)) (hy : H *ᵥ y = θ • y)
    (hflag : |y last| * Real.sqrt (f ⬝ᵥ f) < tol * max eps23 |θ|) :
    Real.sqrt ((A *ᵥ (V *ᵥ y) - θ • (V *ᵥ y)) ⬝ᵥ (A *ᵥ (V *ᵥ y) - θ • (V *ᵥ y))) < tol * max eps23 |θ| := by
  refine c01_residual_norm (fun v => Real.sqrt (v ⬝ᵥ v)) (fun c => |c|) ?_ A V H f last θ y tol eps23 hfac hy hflag
  intro c v
  have : (c • v) ⬝ᵥ (c • v) = c ^ 2 * (v ⬝ᵥ v) := nsq_smul c v
  rw [this, Real.sqrt_mul (sq_nonneg c), Real.sqrt_sq_eq_abs]

/-! ### (2) the returned vectors are orthonormal when the basis and the Ritz coordinates are -/

/-- **Unit norm and orthogonality**, Hermitian form (any commutative star ring: ℂ with conjugation, ℝ with the trivial star). -/
theorem c01_unit_orth {n m p : Type} [Fintype n] [Fintype m] [Fintype p] [DecidableEq m] [DecidableEq p]
    {K : Type} [CommRing K] [StarRing K] (V : Matrix n m K) (Y : Matrix m p K) (hV : Vᴴ * V = 1) (hY : Yᴴ * Y = 1) :
    (V * Y)ᴴ * (V * Y) = 1 := by
  rw [conjTranspose_mul, Matrix.mul_assoc, ← Matrix.mul_assoc Vᴴ V Y, hV, Matrix.one_mul, hY]

/-- the same with transposes (real symmetric solvers, any commutative ring), plus `‖V y‖² = ‖y‖²` and `(V y)·(V z) = y·z` -/
theorem c01_unit_orth_real {n m p : Type} [Fintype n] [Fintype m] [Fintype p] [DecidableEq m] [DecidableEq p]
    {F : Type} [Field F] [LinearOrder F] [IsStrictOrderedRing F] (V : Matrix n m F) (Y : Matrix m p F) (hV : Vᵀ * V = 1) :
    (Yᵀ * Y = 1 → (V * Y)ᵀ * (V * Y) = 1) ∧ (∀ y, nsq (V *ᵥ y) = nsq y) ∧ (∀ y z, (V *ᵥ y) ⬝ᵥ (V *ᵥ z) = y ⬝ᵥ z) :=
  ⟨fun hY => by rw [transpose_mul, Matrix.mul_assoc, ← Matrix.mul_assoc Vᵀ V Y, hV, Matrix.one_mul, hY],
    fun y => dot_mulVec_of_orth V hV y y, dot_mulVec_of_orth V hV⟩

/-! ### (3) shift-and-invert back-transformation -/

/-- **Shift mode**: the solver iterates on `Op` with `(A − σI)·Op = I` and returns `λ = σ + 1/ν`.  The residual in the user's
    problem is the iterated residual `r = Op x − ν x` pushed through `A − σI` and divided by `ν` (`Spectral.shift_invert`); with any
    bound `C` of the operator norm of `A − σI` and the flag bound `‖r‖ < b` this gives `‖A x − λ x‖ < C·b/|ν|`, which is the
    documented `C·tol` when `b = tol·max(eps23,|ν|)` and `|ν| ≥ eps23`. -/
theorem c01_shift {n : Type} [Fintype n] [DecidableEq n] {F : Type} [Field F] [LinearOrder F] [IsStrictOrderedRing F]
    (A Op : Matrix n n F) (σ ν : F) (x : n → F) (hν : ν ≠ 0) (hOp : (A - σ • (1 : Matrix n n F)) * Op = 1) :
    A *ᵥ x - (σ + ν⁻¹) • x = -ν⁻¹ • ((A - σ • (1 : Matrix n n F)) *ᵥ (Op *ᵥ x - ν • x)) ∧
    (∀ C b : F, 0 < C → (∀ v, nsq ((A - σ • (1 : Matrix n n F)) *ᵥ v) ≤ C ^ 2 * nsq v) →
        nsq (Op *ᵥ x - ν • x) < b ^ 2 → nsq (A *ᵥ x - (σ + ν⁻¹) • x) < (C * b / |ν|) ^ 2) ∧
    (∀ tol eps23 : F, eps23 ≤ |ν| → tol * max eps23 |ν| / |ν| = tol) := by
  have hy : Op *ᵥ x = ν • x + (Op *ᵥ x - ν • x) := (add_sub_cancel _ _).symm
  have hM : (A - σ • (1 : Matrix n n F)) *ᵥ (Op *ᵥ x) = x := by rw [mulVec_mulVec, hOp, one_mulVec]
  have key := Spectral.shift_invert A σ ν x (Op *ᵥ x - ν • x) (Op *ᵥ x) hν hy hM
  have hpos : 0 < |ν| := abs_pos.mpr hν
  refine ⟨key, ?_, ?_⟩
  · intro C b hC hnorm hr
    have h4 : (-ν⁻¹) ^ 2 * (C ^ 2 * b ^ 2) = (C * b / |ν|) ^ 2 := by
      rw [div_pow, sq_abs, neg_sq, inv_pow, mul_pow, div_eq_mul_inv, mul_comm]
    rw [key, nsq_smul, ← h4]
    -- `‖(A − σI) r‖² ≤ C² ‖r‖² < C² b²`, scaled by `ν⁻² > 0`
    exact mul_lt_mul_of_pos_left (lt_of_le_of_lt (hnorm _) (mul_lt_mul_of_pos_left hr (pow_pos hC 2)))
      (lt_of_le_of_ne (sq_nonneg _) (Ne.symm (pow_ne_zero 2 (neg_ne_zero.mpr (inv_ne_zero hν)))))
  · intro tol eps23 h
    rw [max_eq_right h, mul_div_assoc, div_self (ne_of_gt hpos), mul_one]

/-! ### (4) the flags belong to the pairs handed back -/

section flags
variable {φ ρ ε κ β τ ω : Type} (K : Kern φ ρ ε κ β τ ω) (c : Cfg)

/-- **Flags are paired with the returned Ritz pairs** (every kernel behaviour, every prior state / history, every `maxit` incl. 0,
    both exits of the restart loop): there is ONE pre-sort state `s3` on the final factorization and ONE index vector `ind` such
    that the flag handed back at position `i` is the convergence test evaluated on `s3`'s pair number `ind i` — the pair whose Ritz
    vector is handed back at position `i`.  Derived from `C05.c05_flags_fresh`.
    For the code before `fix:` c774a83 (finding F1) this was FALSE when `maxit` was exhausted: the flags were those of the previous
    restart's Ritz pairs. -/
theorem c01_flags_paired (sel : Int) (maxit : Nat) (tol : τ) (sorting : Int) (s : St φ ρ ε κ) (r : Nat)
    (h : (compute K c sel maxit tol sorting s).out = .ok r) :
    ∃ s3 : St φ ρ ε κ, ∃ ind, (compute K c sel maxit tol sorting s).st.fac = s3.fac ∧
      K.sortIdx sorting (mapHead c.nev K.backTransform s3.ritzVal) c.nev = .ok ind ∧
      ∀ i, i < c.nev →
        (compute K c sel maxit tol sorting s).st.ritzVec.getD i K.zeroκ = s3.ritzVec.getD (ind.getD i 0) K.zeroκ ∧
        (ind.getD i 0 < c.nev →
          (compute K c sel maxit tol sorting s).st.ritzConv.getD i false
            = K.convTest tol s3.fac (s3.ritzVal.getD (ind.getD i 0) K.zeroρ) (s3.ritzEst.getD (ind.getD i 0) K.zeroε)) := by
  obtain ⟨s3, ind, hfresh, hfac, hind, hconv, hvec⟩ := C05.c05_flags_fresh K c sel maxit tol sorting s r h
  refine ⟨s3, ind, hfac, hind, ?_⟩
  intro i hi
  constructor
  · rw [hvec, ListFold.getD_map_range _ _ _ _ hi]
  · intro hj
    rw [hconv, ListFold.getD_map_range _ _ _ _ hi, hfresh]
    unfold convFlags
    rw [ListFold.getD_map_range _ _ _ _ hj]

end flags

/-! ### (5) every history -/

section histories
variable {φ ρ ε κ β τ ω : Type} {F : Type} [Field F] [LinearOrder F] [IsStrictOrderedRing F]
  {K : Kern φ ρ ε κ β τ ω} {c : Cfg} {n : ℕ} {M : Matrix (Fin n) (Fin n) F} {eps23 : F}

/-- the Krylov relation at the advertised dimension survives EVERY history of `init()` / `compute()` calls, whatever their
    arguments and outcomes (normal return, exception at any stage): composition of `c07_run` over the kernels' step sequences -/
theorem c01_invariant_histories (X : ExactKernels K c n M eps23) (hist : List (Call β τ)) (s0 : St φ ρ ε κ)
    (h0 : Good (C01B.opOf M) (X.abs s0.fac)) : Good (C01B.opOf M) (X.abs (run K c s0 hist).fac) :=
  C01O.run_fac_invariant K c (fun fac => Good (C01B.opOf M) (X.abs fac)) X.init_good
    (fun a b fac h => X.factorize_good a b fac h) (fun k vals fac h => X.restart_good k vals fac h) hist s0 h0

/-- **Every history** (the full clause in exact arithmetic).  After ANY finite sequence of `init()` / `compute()` calls on an object
    whose factorization satisfied the Krylov relation at the start (e.g. the freshly constructed one: dimension 0), a `compute()` that
    returns hands back, at every position `i` it flags as converged (these are exactly the positions `eigenvalues()` and
    `eigenvectors()` read: `C05.c05_accessor_pairing`), a value `back ν` and the vector `x = V y` with
        ‖M x − ν x‖² < (tol · max(eps23, |ν|))²
    — whether `info()` ends up Successful or NotConverging, whether or not an `init()` precedes the `compute()`. -/
theorem c01_histories (X : ExactKernels K c n M eps23) (hist : List (Call β τ)) (s0 : St φ ρ ε κ)
    (h0 : Good (C01B.opOf M) (X.abs s0.fac))
    (sel : Int) (maxit : Nat) (tol : τ) (sorting : Int) (r : Nat)
    (h : (compute K c sel maxit tol sorting (run K c s0 hist)).out = .ok r) :
    let s' := (compute K c sel maxit tol sorting (run K c s0 hist)).st
    ∀ i ∈ convIdx c s',
      ∃ ν : F, X.val (s'.ritzVal.getD i K.zeroρ) = X.back ν ∧
        nsq (M *ᵥ X.out (K.assemble s'.fac (s'.ritzVec.getD i K.zeroκ)) - ν • X.out (K.assemble s'.fac (s'.ritzVec.getD i K.zeroκ)))
          < (X.tolv tol * max eps23 |ν|) ^ 2 :=
  compute_pairs X sel maxit tol sorting _ (c01_invariant_histories X hist s0 h0) r h

/-- the freshly constructed object (`m_k = 0`, nothing computed yet) satisfies the invariant vacuously, so `c01_histories` applies
    to every history that starts at the constructor: `s0 = construct fac0` -/
theorem c01_fresh_object (X : ExactKernels K c n M eps23) (fac0 : φ) (hk : (X.abs fac0).k = 0) (hR : (X.abs fac0).R = fun _ => 0) :
    Good (C01B.opOf M) (X.abs (construct (ρ := ρ) (ε := ε) (κ := κ) fac0).fac) := by
  refine ⟨?_, hR⟩
  intro j hj
  simp only [construct] at hj
  rw [hk] at hj
  exact absurd hj (Nat.not_lt_zero j)

/-- **SymEigsSolver** (`back = id`): the value handed back IS the Ritz value of the residual bound -/
theorem c01_histories_sym (X : ExactKernels K c n M eps23) (hback : ∀ t, X.back t = t) (hist : List (Call β τ)) (s0 : St φ ρ ε κ)
    (h0 : Good (C01B.opOf M) (X.abs s0.fac))
    (sel : Int) (maxit : Nat) (tol : τ) (sorting : Int) (r : Nat)
    (h : (compute K c sel maxit tol sorting (run K c s0 hist)).out = .ok r) :
    let s' := (compute K c sel maxit tol sorting (run K c s0 hist)).st
    ∀ i ∈ convIdx c s',
      nsq (M *ᵥ X.out (K.assemble s'.fac (s'.ritzVec.getD i K.zeroκ))
            - X.val (s'.ritzVal.getD i K.zeroρ) • X.out (K.assemble s'.fac (s'.ritzVec.getD i K.zeroκ)))
        < (X.tolv tol * max eps23 |X.val (s'.ritzVal.getD i K.zeroρ)|) ^ 2 := by
  intro s' i hi
  obtain ⟨ν, hν, hres⟩ := c01_histories X hist s0 h0 sel maxit tol sorting r h i hi
  rw [hback] at hν
  rw [hν]; exact hres

/-- **SymEigsShiftSolver** (`back ν = 1/ν + σ`, `M = Op` with `(A − σI)·Op = I`): the pair handed back is `(λ, x)` with
    `λ = σ + 1/ν` and `‖A x − λ x‖ < C · tol · max(eps23,|ν|) / |ν|` for every bound `C` of the operator norm of `A − σI`
    (for `ν ≠ 0`: the antecedent of the bound). -/
theorem c01_histories_shift (A : Matrix (Fin n) (Fin n) F) (σ : F) (X : ExactKernels K c n M eps23)
    (hback : ∀ t, X.back t = 1 / t + σ) (hOp : (A - σ • (1 : Matrix (Fin n) (Fin n) F)) * M = 1)
    (C : F) (hC : 0 < C) (hnorm : ∀ v, nsq ((A - σ • (1 : Matrix (Fin n) (Fin n) F)) *ᵥ v) ≤ C ^ 2 * nsq v)
    (hist : List (Call β τ)) (s0 : St φ ρ ε κ) (h0 : Good (C01B.opOf M) (X.abs s0.fac))
    (sel : Int) (maxit : Nat) (tol : τ) (sorting : Int) (r : Nat)
    (h : (compute K c sel maxit tol sorting (run K c s0 hist)).out = .ok r) :
    let s' := (compute K c sel maxit tol sorting (run K c s0 hist)).st
    ∀ i ∈ convIdx c s',
      ∃ ν : F, X.val (s'.ritzVal.getD i K.zeroρ) = σ + ν⁻¹ ∧
        (ν ≠ 0 →
          nsq (A *ᵥ X.out (K.assemble s'.fac (s'.ritzVec.getD i K.zeroκ))
                - (σ + ν⁻¹) • X.out (K.assemble s'.fac (s'.ritzVec.getD i K.zeroκ)))
            < (C * (X.tolv tol * max eps23 |ν|) / |ν|) ^ 2) := by
  intro s' i hi
  obtain ⟨ν, hν, hres⟩ := c01_histories X hist s0 h0 sel maxit tol sorting r h i hi
  refine ⟨ν, ?_, ?_⟩
  · rw [hν, hback]; rw [one_div]; ring
  · intro hν0
    exact (c01_shift A M σ ν _ hν0 hOp).2.1 C _ hC hnorm hres

/-- **Every history, orthonormality** (exact arithmetic).  Under the orthogonality halves of the kernel specifications (`ExactOrth`:
    every factorization step uses exact projections / norms / an orthonormal `Q` — composed by C07's `run_orth` —, `init` hands over a
    unit vector, the small eigen-solver returns orthonormal columns, the index vectors are permutations), the vectors handed back
    after ANY history are orthonormal: `x_i · x_i' = δ`, in particular `‖x_i‖ = 1`.
    In floating point the premise "V stays orthonormal" FAILS for the code as it is on weak hand-overs (known findings F12-C01-*). -/
theorem c01_histories_orth (X : ExactKernels K c n M eps23) (O : ExactOrth X) (hist : List (Call β τ)) (s0 : St φ ρ ε κ)
    (h0 : Good (C01B.opOf M) (X.abs s0.fac) ∧ OrthGood (X.abs s0.fac))
    (sel : Int) (maxit : Nat) (tol : τ) (sorting : Int) (r : Nat)
    (h : (compute K c sel maxit tol sorting (run K c s0 hist)).out = .ok r) :
    let s' := (compute K c sel maxit tol sorting (run K c s0 hist)).st
    ∀ i ∈ convIdx c s', ∀ i' ∈ convIdx c s',
      X.out (K.assemble s'.fac (s'.ritzVec.getD i K.zeroκ)) ⬝ᵥ X.out (K.assemble s'.fac (s'.ritzVec.getD i' K.zeroκ))
        = if i = i' then 1 else 0 :=
  compute_orth X O sel maxit tol sorting _
    (C01O.run_fac_invariant K c (fun fac => Good (C01B.opOf M) (X.abs fac) ∧ OrthGood (X.abs fac))
      (fun v0 fac hg => ⟨X.init_good v0 fac hg.1, O.init_orth v0 fac hg.2⟩)
      (fun a b fac hg => ⟨X.factorize_good a b fac hg.1, O.factorize_keeps a b fac hg.2⟩)
      (fun k vals fac hg => ⟨X.restart_good k vals fac hg.1, O.restart_keeps k vals fac hg.2⟩) hist s0 h0) r h

end histories

/-! ### the executable kernel record meets three of the `ExactKernels` specifications -/

section model
variable {K : Type} [Field K] [LinearOrder K] [IsStrictOrderedRing K] (F : FieldFns K)

/-- `HermSolver.hermKern`'s `convTest`, `backTransform` and `assemble` — the definitions the driver runs at `Float` against the real
    classes — instantiated at exact arithmetic (`scOfField`, any ordered field) satisfy `conv_spec`, `back_spec` and `assemble_spec`:
    the flag is set IFF `|est|·beta < tol·max(eps23,|θ|)`; the back-transformation is entrywise and length-preserving; the assembled
    vector is `Σ_j y_j v_j` over the first `ncv` columns of `V`. -/
theorem c01_model_kernels :
    (∀ (eps23 tol : K) (s : letI := scOfField F; Arnoldi.State K) (θ est : K),
        (letI := scOfField F; HermSolver.convTest eps23 tol s θ est) = true ↔ |est| * s.beta < tol * max eps23 |θ|) ∧
    (∀ (back : K → K) (d : K) (l : List K),
        (l.map back).length = l.length ∧ ∀ i, i < l.length → (l.map back).getD i d = back (l.getD i d)) ∧
    (∀ (ncv : ℕ) (s : letI := scOfField F; Arnoldi.State K) (y : Lin.Vec K) (n : ℕ), s.V.rows = n →
        (letI := scOfField F; C07.vecOf n (HermSolver.assemble ncv s y))
          = ∑ j ∈ Finset.range ncv, (letI := scOfField F; Lin.vget y j) • (letI := scOfField F; C07.colOf n s.V j)) :=
  letI := scOfField F
  ⟨C01Model.convTest_iff (fun _ => rfl) (fun _ _ => rfl), fun back d l => C01Model.back_spec back d l,
   fun ncv s y n h => C01Model.assemble_eq (by simp) ncv s y n h⟩

/-- `select_lt` and `sort_lt` for the executable record: the index vectors of the model's selection (`argsortIdx`, used by
    `retrieve_ritzpair`) and final sort (`hermSortIdx`, used by `sort_ritzpair`) — wrappers around the SOURCE-TRANSLATED `argsort` —
    only contain valid indices, for all five rules (C18). -/
theorem c01_model_sort_lt (rule : Int) (vals : List K) (n : Nat) (ind : List Nat) :
    (@HermSolver.argsortIdx K _ _ _ _ _ (scOfField F) rule vals n = .ok ind → ∀ i, i < n → ind.getD i 0 < n) ∧
    (@HermSolver.hermSortIdx K _ _ _ _ _ (scOfField F) rule vals n = .ok ind → ∀ i, i < n → ind.getD i 0 < n) :=
  ⟨C01Model.argsortIdx_lt F rule vals n ind, C01Model.hermSortIdx_lt F rule vals n ind⟩

end model


/-! ### the executable kernels satisfy the (relativised) kernel specifications -/

section discharge
open C01H C07L
variable {φ ρ ε κ β τ ω : Type} {F : Type} [Field F] [LinearOrder F] [IsStrictOrderedRing F]
  {K : Kern φ ρ ε κ β τ ω} {c : Cfg} {n : ℕ} {M : Matrix (Fin n) (Fin n) F} {eps23 : F} {Inv : φ → Prop} {Start : β → Prop}

/-- **Every history, relativised** (`ExactKernelsOn`: the kernel specifications are required only on an invariant `Inv` that
    `facInit` (for start vectors in `Start`), `factorize (max 1 dim) ncv` and `restartFac k` (`0 < k < ncv`, on a full factorization)
    preserve — the only calls `Orch.init`/`Orch.compute` make).  Same conclusion as `c01_histories`. -/
theorem c01_histories_on (X : ExactKernelsOn K c n M eps23 Inv Start) (hist : List (Call β τ)) (hS : StartsOk Start hist)
    (s0 : St φ ρ ε κ) (h0 : Inv s0.fac) (sel : Int) (maxit : Nat) (tol : τ) (sorting : Int) (r : Nat)
    (h : (compute K c sel maxit tol sorting (Orch.run K c s0 hist)).out = .ok r) :
    let s' := (compute K c sel maxit tol sorting (Orch.run K c s0 hist)).st
    ∀ i ∈ convIdx c s',
      ∃ ν : F, X.val (s'.ritzVal.getD i K.zeroρ) = X.back ν ∧
        nsq (M *ᵥ X.out (K.assemble s'.fac (s'.ritzVec.getD i K.zeroκ)) - ν • X.out (K.assemble s'.fac (s'.ritzVec.getD i K.zeroκ)))
          < (X.tolv tol * max eps23 |ν|) ^ 2 :=
  compute_pairs_on X sel maxit tol sorting _ (run_inv_on X hist hS s0 h0) r h

/-- orthonormality of the returned vectors, relativised (`ExactOrthOn`) -/
theorem c01_histories_orth_on (X : ExactKernelsOn K c n M eps23 Inv Start) (O : ExactOrthOn X) (hist : List (Call β τ))
    (hS : StartsOk Start hist) (s0 : St φ ρ ε κ) (h0 : Inv s0.fac) (sel : Int) (maxit : Nat) (tol : τ) (sorting : Int) (r : Nat)
    (h : (compute K c sel maxit tol sorting (Orch.run K c s0 hist)).out = .ok r) :
    let s' := (compute K c sel maxit tol sorting (Orch.run K c s0 hist)).st
    ∀ i ∈ convIdx c s', ∀ i' ∈ convIdx c s',
      X.out (K.assemble s'.fac (s'.ritzVec.getD i K.zeroκ)) ⬝ᵥ X.out (K.assemble s'.fac (s'.ritzVec.getD i' K.zeroκ))
        = if i = i' then 1 else 0 :=
  compute_orth_on X O sel maxit tol sorting _ (run_inv_on X hist hS s0 h0) r h

end discharge

section hermKern
open C01H C07L
variable {K : Type} [Field K] [LinearOrder K] [IsStrictOrderedRing K] (F : FieldFns K)

/-- **The kernel specifications hold for `HermSolver.hermKern`** (`Arnoldi.init`, `Lanczos.factorize_from`, `HermSolver.restartFac`,
    `convTest`, `assemble`, the sort wrappers, `nev_adjusted`) at `scOfField F` on the invariant
    `HInv = PassInv (shapes, Krylov relation, VᵀV = I, Vᵀf = 0, beta = ‖f‖, H symmetric tridiagonal) ∧ G`:
    all `ExactKernelsOn` fields — `inv_good`, `inv_init`, `inv_factorize`, `factorize_full`, `inv_restart`, `nevAdj_pos`, `fnorm_spec`,
    `select_lt`, `sort_lt`, `conv_spec`, `assemble_spec`, `back_spec` — are PROVED (C07 model-level run theorems + C08 `shiftLoop_spec` +
    C13 + C18); `eig_spec` is the hypothesis `hEig`.  Hypotheses: `hsqrt` exact square root; `hcut` ideal rotations (series branch of
    `compute_rotation` off); `heps : Sc.eps = 0` both TridiagQR deflation passes drop only exact zeros; `hM` symmetric; `hR` the
    run-level regular set (no breakdown: `beta ≥ near_0`, `beta ≠ 0` at every pass; `‖A v0‖ ≠ 0` and no `f := 0` shortcut in `init`). -/
theorem c01_hermKern_kernels (hsqrt : ∀ x : K, 0 ≤ x → F.sqrt x * F.sqrt x = x ∧ 0 ≤ F.sqrt x) (hcut : C08Givens.cutoff F ≤ 0)
    (heps : F.eps = 0) (op : Arnoldi.Op K) (c : Cfg) (eps23 : K) (back : K → K) (n : ℕ) (M : Matrix (Fin n) (Fin n) K) (hM : Mᵀ = M)
    (G : (letI := scOfField F; Arnoldi.State K) → Prop) (S : Lin.Vec K → Prop)
    (hop : (letI := scOfField F; OpOK n op (C01B.opOf M)))
    (hR : (letI := scOfField F; Reg op n c.ncv (C01B.opOf M) G S)) (h1 : 1 ≤ c.nev) (h2 : c.nev < c.ncv)
    (hEig : (letI := scOfField F; EigSpec c n (C01B.opOf M))) :
    (letI := scOfField F;
      Nonempty (ExactKernelsOn (HermSolver.hermKern op c eps23 back) c n M eps23 (HInv n c.ncv (C01B.opOf M) G) S)) :=
  letI := scOfField F
  ⟨hermX (exactSc F hsqrt) op c eps23 back n M hop (selfadjoint_of_symm M hM) G S hR h1 h2 (qrOK F hsqrt hcut heps c.ncv) (sortOK F)
    (EigSpec.on hEig G)⟩

/-- **Every history, for the executable numeric kernels.**  After ANY sequence of `init()` (start vectors in `S`) / `compute()` calls
    on the model solver `Orch.compute (hermKern …)` — the definitions the driver runs at `Float` against the real classes — started
    from an object whose factorization satisfies the invariant (e.g. the freshly constructed one: `c01_hermKern_fresh`), a `compute()`
    that returns hands back at every flagged position `i` the value `back ν` and the vector `x = V y` with
    `‖M x − ν x‖² < (tol · max(eps23, |ν|))²`.  Remaining hypotheses as in `c01_hermKern_kernels`. -/
theorem c01_histories_hermKern (hsqrt : ∀ x : K, 0 ≤ x → F.sqrt x * F.sqrt x = x ∧ 0 ≤ F.sqrt x) (hcut : C08Givens.cutoff F ≤ 0)
    (heps : F.eps = 0) (op : Arnoldi.Op K) (c : Cfg) (eps23 : K) (back : K → K) (n : ℕ) (M : Matrix (Fin n) (Fin n) K) (hM : Mᵀ = M)
    (G : (letI := scOfField F; Arnoldi.State K) → Prop) (S : Lin.Vec K → Prop)
    (hop : (letI := scOfField F; OpOK n op (C01B.opOf M)))
    (hR : (letI := scOfField F; Reg op n c.ncv (C01B.opOf M) G S)) (h1 : 1 ≤ c.nev) (h2 : c.nev < c.ncv)
    (hEig : (letI := scOfField F; EigSpec c n (C01B.opOf M))) :
    letI := scOfField F
    ∀ (hist : List (Call (Lin.Vec K) K)) (hS : StartsOk S hist) (s0 : St (Arnoldi.State K) K K (Lin.Vec K))
      (h0 : HInv n c.ncv (C01B.opOf M) G s0.fac) (sel : Int) (maxit : Nat) (tol : K) (sorting : Int) (r : Nat)
      (h : (compute (HermSolver.hermKern op c eps23 back) c sel maxit tol sorting
              (Orch.run (HermSolver.hermKern op c eps23 back) c s0 hist)).out = .ok r),
      let s' := (compute (HermSolver.hermKern op c eps23 back) c sel maxit tol sorting
              (Orch.run (HermSolver.hermKern op c eps23 back) c s0 hist)).st
      ∀ i ∈ convIdx c s', ∃ ν : K, s'.ritzVal.getD i Lin.zero = back ν ∧
        nsq (M *ᵥ C07.vecOf n (HermSolver.assemble c.ncv s'.fac (s'.ritzVec.getD i (Lin.vzero c.ncv)))
              - ν • C07.vecOf n (HermSolver.assemble c.ncv s'.fac (s'.ritzVec.getD i (Lin.vzero c.ncv))))
          < (tol * max eps23 |ν|) ^ 2 :=
  letI := scOfField F
  histories_hermX (exactSc F hsqrt) op c eps23 back n M hop (selfadjoint_of_symm M hM) G S hR h1 h2 (qrOK F hsqrt hcut heps c.ncv)
    (sortOK F) (EigSpec.on hEig G)

/-- the Krylov relation, `VᵀV = I`, `Vᵀf = 0`, `beta = ‖f‖` hold for the model solver's factorization after EVERY such history, on
    every path (also after an escaping exception) -/
theorem c01_invariant_hermKern (hsqrt : ∀ x : K, 0 ≤ x → F.sqrt x * F.sqrt x = x ∧ 0 ≤ F.sqrt x) (hcut : C08Givens.cutoff F ≤ 0)
    (heps : F.eps = 0) (op : Arnoldi.Op K) (c : Cfg) (eps23 : K) (back : K → K) (n : ℕ) (M : Matrix (Fin n) (Fin n) K) (hM : Mᵀ = M)
    (G : (letI := scOfField F; Arnoldi.State K) → Prop) (S : Lin.Vec K → Prop)
    (hop : (letI := scOfField F; OpOK n op (C01B.opOf M)))
    (hR : (letI := scOfField F; Reg op n c.ncv (C01B.opOf M) G S)) (h1 : 1 ≤ c.nev) (h2 : c.nev < c.ncv)
    (hEig : (letI := scOfField F; EigSpec c n (C01B.opOf M))) :
    letI := scOfField F
    ∀ (hist : List (Call (Lin.Vec K) K)) (hS : StartsOk S hist) (s0 : St (Arnoldi.State K) K K (Lin.Vec K))
      (h0 : HInv n c.ncv (C01B.opOf M) G s0.fac),
      PassInv n c.ncv (C01B.opOf M) (Orch.run (HermSolver.hermKern op c eps23 back) c s0 hist).fac
        (Orch.run (HermSolver.hermKern op c eps23 back) c s0 hist).fac.k :=
  letI := scOfField F
  fun hist hS s0 h0 =>
    (run_inv_on (hermX (exactSc F hsqrt) op c eps23 back n M hop (selfadjoint_of_symm M hM) G S hR h1 h2 (qrOK F hsqrt hcut heps c.ncv)
      (sortOK F) (EigSpec.on hEig G)) hist hS s0 h0).1

/-- the freshly constructed factorization object (`m_k = 0`) satisfies the array/Krylov part of the invariant -/
theorem c01_hermKern_fresh (hsqrt : ∀ x : K, 0 ≤ x → F.sqrt x * F.sqrt x = x ∧ 0 ≤ F.sqrt x) (n m : ℕ)
    (A : (Fin n → K) →ₗ[K] (Fin n → K)) (near0 eps : K) (heps : 0 ≤ eps) :
    (letI := scOfField F; PassInv n m A (Arnoldi.State.mk0 n m near0 eps) 0) := by
  let _ := scOfField F
  show PassInv n m A (Arnoldi.State.mk0 n m near0 eps) 0
  have hz : (Lin.zero : K) = 0 := ScF.zero F
  have hf : C07.vecOf n (Lin.vzero n : Lin.Vec K) = 0 := funext fun r => LinField.vget_vzero hz n r.val
  refine .of ⟨rfl, rfl, C08Mat.zeros_WF _ _, rfl, rfl, C08Mat.zeros_WF _ _, rfl, rfl⟩ (Nat.zero_le _) .zero ⟨?_, ?_⟩
    (fun a b _ _ _ _ => ?_) heps
  · show (0 : K) ≤ Lin.zero; rw [hz]
  · show (Lin.zero : K) * Lin.zero = dotProduct (C07.vecOf n (Lin.vzero n : Lin.Vec K)) (C07.vecOf n (Lin.vzero n : Lin.Vec K))
    rw [hf, hz, zero_mul, dotProduct_zero]
  · show (Lin.Mat.zeros m m : Lin.Mat K).get a b = 0
    rw [C08Mat.get_zeros, hz]

/-- **Every history, executable kernels, NO kernel-specification hypothesis** (`eig_spec` discharged by C09's whole-run similarity
    of `TridiagEigen`).  Hypotheses: `hsqrt` exact square root, `hcut` ideal rotations, `heps : Sc.eps = 0`, `hmin : 0 < min()`, `hM`
    symmetric, `1 ≤ nev < ncv`, and the run-level hypotheses on the user's closed set `G` of factorization states: `hR` (no breakdown)
    and `hD` (`ZeroDrop`: TridiagEigen's perturbation budget `C09Sim.totalDrop` vanishes on the full states). -/
theorem c01_histories_hermKern_full (hsqrt : ∀ x : K, 0 ≤ x → F.sqrt x * F.sqrt x = x ∧ 0 ≤ F.sqrt x) (hcut : C08Givens.cutoff F ≤ 0)
    (heps : F.eps = 0) (hmin : 0 < F.minPos) (op : Arnoldi.Op K) (c : Cfg) (eps23 : K) (back : K → K) (n : ℕ)
    (M : Matrix (Fin n) (Fin n) K) (hM : Mᵀ = M)
    (G : (letI := scOfField F; Arnoldi.State K) → Prop) (S : Lin.Vec K → Prop)
    (hop : (letI := scOfField F; OpOK n op (C01B.opOf M)))
    (hR : (letI := scOfField F; Reg op n c.ncv (C01B.opOf M) G S)) (h1 : 1 ≤ c.nev) (h2 : c.nev < c.ncv)
    (hD : ZeroDrop F c n (C01B.opOf M) G) :
    letI := scOfField F
    ∀ (hist : List (Call (Lin.Vec K) K)) (hS : StartsOk S hist) (s0 : St (Arnoldi.State K) K K (Lin.Vec K))
      (h0 : HInv n c.ncv (C01B.opOf M) G s0.fac) (sel : Int) (maxit : Nat) (tol : K) (sorting : Int) (r : Nat)
      (h : (compute (HermSolver.hermKern op c eps23 back) c sel maxit tol sorting
              (Orch.run (HermSolver.hermKern op c eps23 back) c s0 hist)).out = .ok r),
      let s' := (compute (HermSolver.hermKern op c eps23 back) c sel maxit tol sorting
              (Orch.run (HermSolver.hermKern op c eps23 back) c s0 hist)).st
      ∀ i ∈ convIdx c s', ∃ ν : K, s'.ritzVal.getD i Lin.zero = back ν ∧
        nsq (M *ᵥ C07.vecOf n (HermSolver.assemble c.ncv s'.fac (s'.ritzVec.getD i (Lin.vzero c.ncv)))
              - ν • C07.vecOf n (HermSolver.assemble c.ncv s'.fac (s'.ritzVec.getD i (Lin.vzero c.ncv))))
          < (tol * max eps23 |ν|) ^ 2 :=
  letI := scOfField F
  histories_hermX (exactSc F hsqrt) op c eps23 back n M hop (selfadjoint_of_symm M hM) G S hR h1 h2 (qrOK F hsqrt hcut heps c.ncv)
    (sortOK F) (eigSpecOn_c09 F hsqrt hmin c n (C01B.opOf M) G (by omega) hD)

/-- **Orthonormality of the returned vectors, executable kernels**: `x_i · x_i' = δ` after every history; `eig_orth` from C09
    (`ZᵀZ = I` for every run of TridiagEigen), `VᵀV = I` from the invariant; remaining hypothesis besides those of
    `c01_histories_hermKern_full`: `hInj` — the two index vectors are injective (C18; a hypothesis here). -/
theorem c01_histories_orth_hermKern (hsqrt : ∀ x : K, 0 ≤ x → F.sqrt x * F.sqrt x = x ∧ 0 ≤ F.sqrt x) (hcut : C08Givens.cutoff F ≤ 0)
    (heps : F.eps = 0) (hmin : 0 < F.minPos) (op : Arnoldi.Op K) (c : Cfg) (eps23 : K) (back : K → K) (n : ℕ)
    (M : Matrix (Fin n) (Fin n) K) (hM : Mᵀ = M)
    (G : (letI := scOfField F; Arnoldi.State K) → Prop) (S : Lin.Vec K → Prop)
    (hop : (letI := scOfField F; OpOK n op (C01B.opOf M)))
    (hR : (letI := scOfField F; Reg op n c.ncv (C01B.opOf M) G S)) (h1 : 1 ≤ c.nev) (h2 : c.nev < c.ncv)
    (hD : ZeroDrop F c n (C01B.opOf M) G) (hInj : SortInj F c) :
    letI := scOfField F
    ∀ (hist : List (Call (Lin.Vec K) K)) (hS : StartsOk S hist) (s0 : St (Arnoldi.State K) K K (Lin.Vec K))
      (h0 : HInv n c.ncv (C01B.opOf M) G s0.fac) (sel : Int) (maxit : Nat) (tol : K) (sorting : Int) (r : Nat)
      (h : (compute (HermSolver.hermKern op c eps23 back) c sel maxit tol sorting
              (Orch.run (HermSolver.hermKern op c eps23 back) c s0 hist)).out = .ok r),
      let s' := (compute (HermSolver.hermKern op c eps23 back) c sel maxit tol sorting
              (Orch.run (HermSolver.hermKern op c eps23 back) c s0 hist)).st
      ∀ i ∈ convIdx c s', ∀ i' ∈ convIdx c s',
        C07.vecOf n (HermSolver.assemble c.ncv s'.fac (s'.ritzVec.getD i (Lin.vzero c.ncv))) ⬝ᵥ
          C07.vecOf n (HermSolver.assemble c.ncv s'.fac (s'.ritzVec.getD i' (Lin.vzero c.ncv))) = if i = i' then 1 else 0 := by
  let _ := scOfField F
  exact histories_orth_hermX (exactSc F hsqrt) op c eps23 back n M hop (selfadjoint_of_symm M hM) G S hR h1 h2
    (qrOK F hsqrt hcut heps c.ncv) (sortOK F) (eigSpecOn_c09 F hsqrt hmin c n (C01B.opOf M) G (by omega) hD)
    (hermOrthFull F hsqrt hcut heps hmin op c eps23 back n M hM G S hop hR h1 h2 hD hInj)

end hermKern

/-! ### the hypotheses are satisfiable; a run through the theorems -/

section examples
open C01Toy

/-- `ExactKernels` and `ExactOrth` are satisfiable, together with the start invariants (instance: `Proofs/C01Toy.lean`) -/
example : Nonempty (ExactKernels toyK toyC 1 toyM (1 : ℚ)) ∧ ExactOrth toyX ∧ Good (C01B.opOf toyM) toySt ∧ OrthGood toySt :=
  ⟨⟨toyX⟩, toyO, toy_good, toy_orthgood⟩

/-- a run through `c01_histories_sym` on the toy instance: `init(); compute(); compute()` (the second `compute()` without `init()`)
    returns one pair, and the theorem bounds its residual -/
example :
    (compute toyK toyC 0 5 () 0 (run toyK toyC (construct ()) [Call.init (), Call.compute 0 5 () 0])).out = .ok 1 ∧
    ∀ i ∈ convIdx toyC (compute toyK toyC 0 5 () 0 (run toyK toyC (construct ()) [Call.init (), Call.compute 0 5 () 0])).st,
      nsq (toyM *ᵥ (fun _ => (1 : ℚ)) - (compute toyK toyC 0 5 () 0 (run toyK toyC (construct ()) [Call.init (), Call.compute 0 5 () 0])).st.ritzVal.getD i 0 • (fun _ => (1 : ℚ)))
        < (1 * max 1 |(compute toyK toyC 0 5 () 0 (run toyK toyC (construct ()) [Call.init (), Call.compute 0 5 () 0])).st.ritzVal.getD i 0|) ^ 2 := by
  have hrun : (compute toyK toyC 0 5 () 0 (run toyK toyC (construct ()) [Call.init (), Call.compute 0 5 () 0])).out = .ok 1 := by
    decide
  refine ⟨hrun, ?_⟩
  intro i hi
  exact c01_histories_sym toyX (fun _ => rfl) [Call.init (), Call.compute 0 5 () 0] (construct ()) toy_good 0 5 () 0 1 hrun i hi

/-- the hypotheses of `c01_histories_hermKern` are CONSISTENT (together with the start invariant `h0` for the freshly constructed
    object): over `ℝ` with `Real.sqrt`, a `pow` that switches the series branch off and `eps = 0`; witness with the trivial operator on
    `ℝ⁰` (`ncv = 2`, `nev = 1`), `G` = "dimension 0", no admissible start vector — there `EigSpec` and `Reg` hold because no full
    factorization exists.  (A NON-TRIVIAL witness is not given: `hsqrt` needs a total exact square root, so the field must be `ℝ`-like,
    and the array model with `Real.sqrt` cannot be evaluated by `decide`/`norm_num`; over `ℚ` no `FieldFns` satisfies `hsqrt`.) -/
example : ∃ F : FieldFns ℝ, (∀ x : ℝ, 0 ≤ x → F.sqrt x * F.sqrt x = x ∧ 0 ≤ F.sqrt x) ∧ C08Givens.cutoff F ≤ 0 ∧ F.eps = 0 ∧
    ∃ (op : Arnoldi.Op ℝ) (M : Matrix (Fin 0) (Fin 0) ℝ) (G : (letI := scOfField F; Arnoldi.State ℝ) → Prop) (S : Lin.Vec ℝ → Prop),
      Mᵀ = M ∧ (letI := scOfField F; C07L.OpOK 0 op (C01B.opOf M)) ∧
      (letI := scOfField F; C01H.Reg op 0 2 (C01B.opOf M) G S) ∧
      (letI := scOfField F; C01H.EigSpec ⟨0, 1, 2⟩ 0 (C01B.opOf M)) ∧
      (letI := scOfField F; C01H.HInv 0 2 (C01B.opOf M) G (Arnoldi.State.mk0 0 2 1 0)) ∧
      0 < F.minPos ∧ C01H.ZeroDrop F ⟨0, 1, 2⟩ 0 (C01B.opOf M) G := by
  let F0 : FieldFns ℝ := ⟨Real.sqrt, fun _ _ => 0, 0, 1⟩
  let _ : Sc ℝ := scOfField F0
  have hs : ∀ x : ℝ, 0 ≤ x → F0.sqrt x * F0.sqrt x = x ∧ 0 ≤ F0.sqrt x :=
    fun x hx => ⟨Real.mul_self_sqrt hx, Real.sqrt_nonneg x⟩
  refine ⟨F0, hs, by simp [C08Givens.cutoff, F0], rfl, ⟨0, fun _ => #[], none⟩, 0,
    fun (s : Arnoldi.State ℝ) => s.k = 0, fun _ => False, ?_, ?_, ?_, ?_, ?_, by simp [F0], ?_⟩
  · ext i; exact i.elim0
  · exact ⟨rfl, fun x _ => by funext r; exact r.elim0, fun x => rfl⟩
  · refine ⟨fun v0 h => h.elim, fun s v0 s' _ h => h.elim, ?_, ?_⟩
    · intro s hG _ h1 _
      have : s.k = 0 := hG
      omega
    · intro s k vals hG _ hk _ _
      have : s.k = 0 := hG
      omega
  · intro s evals lastRow cols hI
    exfalso
    have := hI.on 0 (by norm_num) 0 (by norm_num)
    simp [C01E.dotIP, dotProduct] at this
  · exact ⟨c01_hermKern_fresh F0 hs 0 2 _ 1 0 (le_refl 0), rfl⟩
  · intro s _ hI
    exfalso
    have := hI.on 0 (by norm_num) 0 (by norm_num)
    simp [C01E.dotIP, dotProduct] at this

/-- **Why `β = ‖f‖` cannot be dropped from (1)** — the exact-arithmetic face of known finding F12-C01-residual-abs.  The shortcut
    `beta < eps*sqrt(n) ⇒ f := 0, beta := 0` of `Lanczos::factorize_from` makes `β` stop being the norm of the residual the relation
    really has.  Witness (2 × 2, `A = [[0,1],[1,0]]`, `V = e₁`, `H = (0)`, true residual `f = e₂`, recorded `β = 0`): the relation and
    `H y = θ y` hold, the flag test `|y_last|·β < tol·max(eps23,|θ|)` passes, and the pair `(0, e₁)` has residual `‖A e₁‖ = 1`. -/
example :
    let A : Matrix (Fin 2) (Fin 2) ℚ := Matrix.of fun i j => if i = j then 0 else 1
    let V : Matrix (Fin 2) (Fin 1) ℚ := Matrix.of fun i _ => if i = 0 then 1 else 0
    let H : Matrix (Fin 1) (Fin 1) ℚ := Matrix.of fun _ _ => 0
    let f : Fin 2 → ℚ := fun i => if i = 0 then 0 else 1
    let y : Fin 1 → ℚ := fun _ => 1
    A * V = V * H + vecMulVec f (Pi.single 0 1) ∧ H *ᵥ y = (0 : ℚ) • y ∧
      |y 0| * (0 : ℚ) < 1 * max 1 |(0 : ℚ)| ∧
      ¬ nsq (A *ᵥ (V *ᵥ y) - (0 : ℚ) • (V *ᵥ y)) < (1 * max 1 |(0 : ℚ)|) ^ 2 := by
  intro A V H f y
  refine ⟨?_, ?_, ?_, ?_⟩
  · ext i j
    fin_cases i <;> fin_cases j <;>
      simp [A, V, H, f, Matrix.mul_apply, Matrix.add_apply, vecMulVec_apply]
  · ext i
    simp [H, y, Matrix.mulVec, dotProduct]
  · norm_num
  · have : A *ᵥ (V *ᵥ y) - (0 : ℚ) • (V *ᵥ y) = f := by
      ext i
      fin_cases i <;> simp [A, V, y, f, Matrix.mulVec, dotProduct, Matrix.mul_apply]
    rw [this]
    simp [nsq, f, dotProduct, Fin.sum_univ_succ]

end examples

end C01
