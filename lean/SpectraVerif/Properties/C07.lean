/-
  C07 — Krylov factorization invariant at every hand-over point (init, extension, implicit restart, breakdown).

  FULL STATEMENT (properties.jsonl): at every point where the factorization is passed on it satisfies
      A V = V H + f e_kᵀ,   VᴴBV = I,   VᴴBf = 0    "to rounding level relative to ‖A‖",
  H upper Hessenberg (symmetric tridiagonal for Lanczos), k = advertised dimension.

  WHAT IS PROVED HERE (exact arithmetic; every field `𝕜`, every `𝕜`-module `E` — all `n` at once —, every operator `A`,
  every sesquilinear `B`-form, every coefficient column, every history):
  the algebra of each operation the code performs between two hand-over points and its composition over ANY finite
  sequence of operations.  The executable model of `Arnoldi::init / factorize_from / expand_basis / compress_H / compress_V`
  and `Lanczos::factorize_from` (`Model/Arnoldi.lean`, `Model/Lanczos.lean`) is tied to the C++ by the bit-exact correspondence
  check and to the `Finset.sum` expressions used here by `c07_kernel_sums`; the model-level theorems of the last section hold under
  the RUN-LEVEL hypothesis "no breakdown" (`C07L.Regular`, `C07L.InitRegular`).

  NOT PROVED (out of reach here, checked only by the long-double oracle on the real code):
  * rounding: "to rounding level relative to ‖A‖".  The theorems are about exact arithmetic.
  * the floating comparisons (`beta < near_0`, `beta < eps*sqrt(n)`, `beta < sqrt(eps)`, the 0.717 test, the loop guards):
    the theorems hold for EVERY outcome (every `h`, every correction `g`, every choice extend/restart).
  * the full-strength statement is FALSE for the code as it is (known findings F12a–g, F17a; see known_findings/C07.json):
    - `c07_breakdown`: a restart that discards a nonzero residual leaves exactly that residual as error column — the code's
      thresholds are absolute (`eps*sqrt(n)`, `sqrt(eps)`, `near_0`), not relative to ‖A‖;
    - `c07_orth` needs `h = VᴴBw` exactly; `Arnoldi::init` and `compress_V` hand over a residual that the next
      `factorize_from` normalises without re-orthogonalisation, so in floating point orthogonality degrades like
      `eps‖A‖/beta` (up to O(1) for eigenvector starts / rank-deficient large-norm operators);
    - `c07_init` needs `‖A v0‖ ≠ 0` (`hAv0`): the code divides by it unguarded.
-/
import Mathlib.Data.Matrix.Mul
import SpectraVerif.Proofs.C07Krylov
import SpectraVerif.Proofs.C07Run
import SpectraVerif.Proofs.C07Refine
import SpectraVerif.Proofs.C07Step
import SpectraVerif.Proofs.C07Bridge
import SpectraVerif.Proofs.C07ModelLanczos
import SpectraVerif.Proofs.C07ModelRun
import SpectraVerif.Proofs.C07ModelRestart
import SpectraVerif.Proofs.C07ModelInit

open Finset Matrix

namespace C07

variable {𝕜 : Type*} [Field 𝕜] {E : Type*} [AddCommGroup E] [Module 𝕜 E]

/-- the state of the re-orthogonalisation loop: residual and coefficient column; one correction is `f -= V g, h += g` -/
def correct (V' : ℕ → E) (k : ℕ) (fh : E × (ℕ → 𝕜)) (g : ℕ → 𝕜) : E × (ℕ → 𝕜) :=
  (fh.1 - ∑ i ∈ range (k + 1), g i • V' i, fun i => fh.2 i + g i)

/-- ONE EXTENSION exactly as `Arnoldi::factorize_from` performs it: `v = f/β`, `H(k,k-1) = β`, coefficient column `h`,
    `f' = A v - V h`, followed by ANY number of corrections `f -= V g, h += g` (the list `gs`): a valid `k`-step relation
    becomes a valid `(k+1)`-step relation, for EVERY `h` and EVERY `gs` — orthogonality is not needed. -/
theorem c07_extend (A : E →ₗ[𝕜] E) (V : ℕ → E) (H : ℕ → ℕ → 𝕜) (f : E) (k : ℕ) (β : 𝕜) (hβ : β ≠ 0)
    (h : ℕ → 𝕜) (gs : List (ℕ → 𝕜)) (hK : Kry A V H f k) :
    let V' := extV V k (β⁻¹ • f)
    let fh := gs.foldl (correct V' k) (resid A V' k h, h)
    Kry A V' (extH H k β fh.2) fh.1 (k + 1) := by
  intro V' fh
  have hinv : ∀ (l : List (ℕ → 𝕜)) (p : E × (ℕ → 𝕜)), p.1 = resid A V' k p.2 →
      (l.foldl (correct V' k) p).1 = resid A V' k (l.foldl (correct V' k) p).2 := by
    intro l
    induction l with
    | nil => intro p hp; exact hp
    | cons g rest ih =>
      intro p hp
      apply ih
      simp only [correct]
      rw [hp, resid_add]
  have hfh : fh.1 = resid A V' k fh.2 := hinv gs _ rfl
  rw [hfh]
  exact extend_kry A V H f k β hβ fh.2 hK

/-- (Lanczos) the three-term variant `Lanczos::factorize_from` performs: `H(k-1,k) = H(k,k-1) = β`, `H(k,k) = α`,
    `f' = A v_k - β v_{k-1} - α v_k` (+ corrections to those two entries only, folded into `α`, `β'`).
    (a) the relation holds for every `α`; (b) if `A` is `B`-self-adjoint and the extended basis orthonormal, the dropped
    coefficients are really `0` and the sub-diagonal one is `β`, i.e. the three-term column IS `VᴴB A v_k` once `α = <v_k, A v_k>`;
    (c) `H` stays symmetric tridiagonal. -/
theorem c07_extend_lanczos (P : IP 𝕜 E) (A : E →ₗ[𝕜] E) (V : ℕ → E) (H : ℕ → ℕ → 𝕜) (f : E) (k : ℕ) (β α : 𝕜)
    (hβ : β ≠ 0) (hK : Kry A V H f k) :
    let V' := extV V k (β⁻¹ • f)
    Kry A V' (extH H k β (lanH k α β)) (resid A V' k (lanH k α β)) (k + 1) ∧
    ((∀ x y, P.ip x (A y) = P.ip (A x) y) → P.conj β = β → ON P V' (k + 1) → α = P.ip (V' k) (A (V' k)) →
        (∀ i, i < k + 1 → lanH k α β i = P.ip (V' i) (A (V' k))) ∧ FO P V' (resid A V' k (lanH k α β)) (k + 1)) ∧
    (TriSym H k → TriSym (extH H k β (lanH k α β)) (k + 1)) := by
  intro V'
  obtain ⟨hK', horth⟩ := extend_lanczos_core P A V H f k β α hβ hK
  exact ⟨hK', horth, trisym_ext H k α β⟩

/-- (Lanczos, floating-point corrections) what `Lanczos::factorize_from` DROPS: its correction `f -= V g` uses the full
    coefficient vector `g`, but only `H(k-1,k) += g(k-1)`, `H(k,k-1) = H(k-1,k)`, `H(k,k) += g(k)` are recorded.  The
    `(k+1)`-step relation then holds with the explicit error columns `R k = Σ_{j+1<k} g j • v_j` (dropped coefficients) and
    `R (k-1) = -g(k-1) • v_k` (symmetrised sub-diagonal).  In exact arithmetic with an orthonormal basis `g = 0`
    (`c07_extend_lanczos` (b)); in floating point this is the error term behind known finding F12f. -/
theorem c07_lanczos_dropped (A : E →ₗ[𝕜] E) (V : ℕ → E) (H : ℕ → ℕ → 𝕜) (f : E) (k : ℕ) (β α : 𝕜) (hβ : β ≠ 0)
    (g : ℕ → 𝕜) (hK : Kry A V H f k) :
    let V' := extV V k (β⁻¹ • f)
    KryE A V' (extH H k (β + g (k - 1)) (lanH k (α + g k) (β + g (k - 1))))
      (resid A V' k (lanH k α β) - ∑ j ∈ range (k + 1), g j • V' j) (k + 1)
      (fun j => if j = k then ∑ i ∈ range (k + 1), (if i + 1 < k then g i else 0) • V' i
                else if j + 1 = k then - g (k - 1) • V' k else 0) := by
  intro V'
  have h1 := step_general A V H f k (fun _ => 0) (β⁻¹ • f) (β + g (k - 1)) (lanH k (α + g k) (β + g (k - 1)))
    ((kry_iff_kryE A V H f k).mp hK)
  -- the recorded column is the three-term column plus `g` minus the dropped coefficients
  have hcoef : ∀ i ∈ range (k + 1), lanH k (α + g k) (β + g (k - 1)) i • V' i
      = lanH k α β i • V' i + g i • V' i - (if i + 1 < k then g i else 0) • V' i := by
    intro i hi
    rw [← add_smul, ← sub_smul]
    congr 1
    unfold lanH
    by_cases h1 : i = k
    · rw [if_pos h1, if_pos h1, if_neg (by omega), h1, sub_zero]
    · rw [if_neg h1, if_neg h1]
      by_cases h2 : i + 1 = k
      · rw [if_pos h2, if_pos h2, if_neg (by omega), sub_zero, ← h2, Nat.add_sub_cancel]
      · rw [if_neg h2, if_neg h2, if_pos (by have := mem_range.mp hi; omega), zero_add, sub_self]
  have hr : resid A V' k (lanH k (α + g k) (β + g (k - 1)))
      = resid A V' k (lanH k α β) - ∑ i ∈ range (k + 1), g i • V' i
        + ∑ i ∈ range (k + 1), (if i + 1 < k then g i else 0) • V' i := by
    rw [resid, resid, sum_congr rfl hcoef, sum_sub_distrib, sum_add_distrib]; abel
  intro j hj
  rw [h1 j hj]
  rcases Nat.lt_succ_iff_lt_or_eq.mp hj with hlt | rfl
  · have hne : j ≠ k := Nat.ne_of_lt hlt
    have hjk1 : j + 1 ≠ k + 1 := fun h => hne (Nat.succ_injective h)
    simp only [hjk1, if_false, add_zero, extR, hne]
    by_cases hlast : j + 1 = k
    · rw [if_pos hlast, if_pos hlast, zero_add, add_smul, smul_smul β, mul_inv_cancel₀ hβ, one_smul, sub_add_cancel_left,
        neg_smul]
      show _ = _ + -(g (k - 1) • extV V k (β⁻¹ • f) k)
      rw [show extV V k (β⁻¹ • f) k = β⁻¹ • f from Function.update_self ..]
    · rw [if_neg hlast, if_neg hlast]
  · simp only [if_true, extR, add_zero]
    rw [hr, add_assoc]

/-- ORTHOGONALITY of one extension: with `VᴴBV = I`, `VᴴBf = 0`, `β² = <f,f>_B` (β real) and the exact coefficients
    `h = V'ᴴ B w`: `V_{k+1}ᴴ B V_{k+1} = I` and `V_{k+1}ᴴ B f' = 0`. -/
theorem c07_orth (P : IP 𝕜 E) (A : E →ₗ[𝕜] E) (V : ℕ → E) (f : E) (k : ℕ) (β : 𝕜) (h : ℕ → 𝕜)
    (hON : ON P V k) (hFO : FO P V f k) (hβ : β ≠ 0) (hβc : P.conj β = β) (hnorm : β * β = P.ip f f)
    (hh : ∀ i, i < k + 1 → h i = P.ip (extV V k (β⁻¹ • f) i) (A (extV V k (β⁻¹ • f) k))) :
    ON P (extV V k (β⁻¹ • f)) (k + 1) ∧ FO P (extV V k (β⁻¹ • f)) (resid A (extV V k (β⁻¹ • f)) k h) (k + 1) := by
  have hON' := on_extend P V k f β hON hFO hβ hβc hnorm
  exact ⟨hON', resid_orth P _ (k + 1) _ h hON' hh⟩

/-- IRA COMPRESS: `A V = V H + f e_mᵀ`, `H Q = Q H⁺` (on the first `k` columns), `H⁺` Hessenberg there, last row of `Q`
    zero left of column `k-1` (lower bandwidth `m-k`): with `V⁺ = V Q`, `f⁺ = Q(m-1,k-1) f + H⁺(k,k-1) v⁺_k`
    the `k`-step relation holds.  (`Q` need not be orthogonal for the relation.) -/
theorem c07_compress (A : E →ₗ[𝕜] E) (V : ℕ → E) (H Hp Q : ℕ → ℕ → 𝕜) (f : E) (m k : ℕ)
    (hk : 0 < k) (hkm : k < m) (hK : Kry A V H f m)
    (hHQ : ∀ i, i < m → ∀ j, j < k → ∑ a ∈ range m, H i a * Q a j = ∑ b ∈ range m, Q i b * Hp b j)
    (hHess : ∀ b j, j + 1 < b → j < k → b < m → Hp b j = 0)
    (hband : ∀ j, j + 1 < k → Q (m - 1) j = 0) :
    Kry A (mulQ V Q m) Hp (Q (m - 1) (k - 1) • f + Hp k (k - 1) • mulQ V Q m k) k :=
  compress_kry A V H Hp Q f m k hk hkm hK hHQ hHess hband

/-- (orthogonality) orthonormal columns of `Q` preserve `VᴴBV = I`, and `f⁺ ⟂_B V⁺_k`. -/
theorem c07_compress_orth (P : IP 𝕜 E) (V : ℕ → E) (Q : ℕ → ℕ → 𝕜) (f : E) (m k : ℕ) (q η : 𝕜)
    (hON : ON P V m) (hFO : FO P V f m)
    (hQ : ∀ i, i < k + 1 → ∀ j, j < k + 1 → ∑ a ∈ range m, P.conj (Q a i) * Q a j = if i = j then 1 else 0) :
    ON P (mulQ V Q m) (k + 1) ∧ FO P (mulQ V Q m) (q • f + η • mulQ V Q m k) k := by
  have hON' := compress_on P V Q m (k + 1) hON hQ
  exact ⟨hON', compress_fo P V Q f m k q η hFO hON'⟩

/-- (bandwidth) `compress_V` uses only the first `nnz = m-k+i+1` entries of column `i` of `Q`: justified when `Q` has lower
    bandwidth `m-k`; and a product of factors with lower bandwidths `p₁, p₂` has lower bandwidth `p₁+p₂` (so `m-k` single-shift
    Hessenberg `Q`s, or double-shift ones with bandwidth 2, accumulate to `m-k`). -/
theorem c07_compress_band (V : ℕ → E) (Q : ℕ → ℕ → 𝕜) (m k i : ℕ) (hik : i < k) (hkm : k ≤ m)
    (hQ : ∀ a b, b + (m - k) < a → Q a b = 0) :
    mulQ V Q m i = ∑ a ∈ range (m - k + i + 1), Q a i • V a ∧
    (∀ (Q1 Q2 : ℕ → ℕ → 𝕜) (p1 p2 : ℕ), (∀ a c, c + p1 < a → Q1 a c = 0) → (∀ c b, b + p2 < c → Q2 c b = 0) →
      ∀ a b, b + (p1 + p2) < a → ∑ c ∈ range m, Q1 a c * Q2 c b = 0) := by
  constructor
  · exact sum_band V (fun a => Q a i) m (m - k + i + 1) (by omega) (fun a ha _ => hQ a i (by omega))
  · intro Q1 Q2 p1 p2 h1 h2 a b hab; exact band_mul (range m) id _ _ (h1 a) (fun c => h2 c b) hab

/-- BREAKDOWN: continuing an exact `k`-step relation with ANY fresh direction `v` (from `expand_basis`) and
    `H(k,k-1) = 0` gives the `(k+1)`-step relation with the explicit error column `f` (the discarded residual) at
    position `k-1`, and the exact relation holds IFF the discarded residual is `0`. -/
theorem c07_breakdown (A : E →ₗ[𝕜] E) (V : ℕ → E) (H : ℕ → ℕ → 𝕜) (f : E) (k : ℕ) (hk : 0 < k)
    (v : E) (h : ℕ → 𝕜) (hK : Kry A V H f k) :
    KryE A (extV V k v) (extH H k 0 h) (resid A (extV V k v) k h) (k + 1) (fun j => if j + 1 = k then f else 0) ∧
    (Kry A (extV V k v) (extH H k 0 h) (resid A (extV V k v) k h) (k + 1) ↔ f = 0) := by
  have hE : KryE A (extV V k v) (extH H k 0 h) (resid A (extV V k v) k h) (k + 1) (fun j => if j + 1 = k then f else 0) := by
    have := step_general A V H f k (fun _ => 0) v 0 h ((kry_iff_kryE A V H f k).mp hK)
    have he : extR (fun _ => (0 : E)) k (f - (0 : 𝕜) • v) = fun j => if j + 1 = k then f else 0 := by
      funext j
      by_cases h1 : j = k
      · have : j + 1 ≠ k := by omega
        simp [extR, h1]
      · simp [extR, h1]
    rw [he] at this; exact this
  refine ⟨hE, ?_, ?_⟩
  · intro hKn
    have e1 := hE (k - 1) (by omega)
    have e2 := hKn (k - 1) (by omega)
    have hk1 : k - 1 + 1 = k := by omega
    simp only [hk1, if_true] at e1 e2
    rw [e2] at e1
    simpa using e1
  · intro hf
    rw [kry_iff_kryE]
    subst hf
    have : (fun j => if j + 1 = k then (0 : E) else 0) = fun _ => 0 := by funext j; simp
    rw [this] at hE; exact hE

/-- INIT: `v = A v0 / ν` with `ν = ‖A v0‖_B ≠ 0` (hypothesis `hAv0`: the code divides unguarded), `H₀₀ = <v, A v>_B`,
    `f = A v - H₀₀ v`:  `k = 1`, `A v = v H₀₀ + f`, `<v,v>_B = 1`, `<v,f>_B = 0`.  The shortcut `f := 0` (taken when
    `max|f| < eps |H₀₀|`) leaves exactly `f` as error column. -/
theorem c07_init (P : IP 𝕜 E) (A : E →ₗ[𝕜] E) (v0 : E) (ν : 𝕜) (hAv0 : ν ≠ 0) (hνc : P.conj ν = ν)
    (hν : ν * ν = P.ip (A v0) (A v0)) :
    let v := ν⁻¹ • A v0
    let H00 := P.ip v (A v)
    let f := A v - H00 • v
    Kry A (fun _ => v) (fun _ _ => H00) f 1 ∧ ON P (fun _ => v) 1 ∧ FO P (fun _ => v) f 1 ∧
    KryE A (fun _ => v) (fun _ _ => H00) 0 1 (fun _ => f) := by
  intro v H00 f
  have hL := LInv.init P A v (P.normalize_self (A v0) ν hAv0 hνc hν)
  refine ⟨hL.kry, hL.on, hL.fo, fun j hj => ?_⟩
  rw [sum_range_one, if_pos (Nat.succ_inj.mpr (Nat.lt_one_iff.mp hj)), add_zero]
  exact (add_sub_cancel _ _).symm

/-- RUN: composition over ANY finite sequence of `extend | restart (breakdown-continue) | compress` steps
    (induction on the sequence).  From any state satisfying the relation with error columns `R`:
    (a) the relation holds at the end with the accumulated error columns (each restart adds its discarded residual to
        column `k-1`, each compress maps `R ↦ R Q`);
    (b) if nothing nonzero was discarded and `R = 0` initially, the exact relation holds at the end;
    (c) if moreover every step uses the exact projection coefficients / `B`-norms / orthonormal `Q`, then
        `VᴴBV = I` and `VᴴBf = 0` at the end;
    (d) the final dimension is the advertised one (`+1` per extension, `knew` after a compress). -/
theorem c07_run (P : IP 𝕜 E) (A : E →ₗ[𝕜] E) (l : List (Step 𝕜 E)) (s : St 𝕜 E) (hok : allOk A s l)
    (hK : KryE A s.V s.H s.f s.k s.R) :
    KryE A (run A s l).V (run A s l).H (run A s l).f (run A s l).k (run A s l).R ∧
    (allExact A s l → (s.R = fun _ => 0) → Kry A (run A s l).V (run A s l).H (run A s l).f (run A s l).k) ∧
    (allOrthOk P A s l → ON P s.V s.k → FO P s.V s.f s.k →
        ON P (run A s l).V (run A s l).k ∧ FO P (run A s l).V (run A s l).f (run A s l).k) ∧
    (run A s l).k = dimAfter s.k l := by
  have h1 := run_kryE A l s hok hK
  refine ⟨h1, ?_, ?_, run_dim A l s⟩
  · intro hex hR
    have := run_R_zero A l s hex hR
    rw [this] at h1
    exact (kry_iff_kryE A _ _ _ _).mpr h1
  · intro ho a b; exact run_orth P A l s ho a b

/-- SHAPE: an extension keeps the leading block upper Hessenberg (for every `sub`, `h`). -/
theorem c07_hessenberg (H : ℕ → ℕ → 𝕜) (k : ℕ) (sub : 𝕜) (h : ℕ → 𝕜) (hH : Hess H k) :
    Hess (extH H k sub h) (k + 1) := by
  intro i j hi hj hij
  have hjk : j ≠ k := by omega
  simp only [extH, hjk, if_false]
  by_cases hik : i = k
  · have : j + 1 ≠ k := by omega
    simp [hik, this]
  · simp only [hik, if_false]; exact hH i j (by omega) (by omega) hij

/-- SHAPE, Lanczos: the three-term step keeps the leading block symmetric tridiagonal (hence Hessenberg). -/
theorem c07_tridiagonal_symmetric (H : ℕ → ℕ → 𝕜) (k : ℕ) (α β : 𝕜) (hH : TriSym H k) :
    TriSym (extH H k β (lanH k α β)) (k + 1) ∧ Hess (extH H k β (lanH k α β)) (k + 1) :=
  ⟨trisym_ext H k α β hH, trisym_hess _ _ (trisym_ext H k α β hH)⟩

/-! ### the executable model (any scalar type, in particular `Float`): advertised dimension -/
section model
variable {α : Type} [Add α] [Sub α] [Mul α] [Div α] [Neg α] [Sc α]

/-- `k` = advertised dimension on the EXECUTABLE model, every scalar type (also `Float`), every input, every branch:
    `init` ⇒ `k = 1` (+2 operator applications); `factorize_from(a, b)` (both variants) ⇒ `k = b` when `a < b`, unchanged state
    when `b ≤ a`, throws exactly when `a < b ∧ k < a`; `compress_H`+`compress_V` ⇒ `k - shifts`. -/
theorem c07_dim_model (op : Arnoldi.Op α) (s : Arnoldi.State α) :
    (∀ s' v0, Arnoldi.init op s v0 = some s' → s'.k = 1 ∧ s'.n = s.n ∧ s'.m = s.m ∧ s'.ops = s.ops + 2) ∧
    (∀ s' a b, Arnoldi.factorize_from op s a b = some s' → (a < b → s'.k = b) ∧ (b ≤ a → s' = s)) ∧
    (∀ a b, Arnoldi.factorize_from op s a b = none ↔ (a < b ∧ s.k < a)) ∧
    (∀ s' a b, Lanczos.factorize_from op s a b = some s' → (a < b → s'.k = b) ∧ (b ≤ a → s' = s)) ∧
    (∀ a b, Lanczos.factorize_from op s a b = none ↔ (a < b ∧ s.k < a)) ∧
    (∀ QtHQ Q shifts, (Arnoldi.compress_V op (Arnoldi.compress_H s QtHQ shifts) Q).k = s.k - shifts) := by
  refine ⟨fun s' v0 h => ?_, fun s' a b h => ?_, fun a b => ?_, fun s' a b h => C07R.lanczos_factorize_dim op s s' a b h,
    fun a b => C07R.lanczos_factorize_throws op s a b, fun QtHQ Q shifts => by simp [Arnoldi.compress_V, Arnoldi.compress_H]⟩
  · unfold Arnoldi.init at h
    simp only at h
    split at h
    · cases h
    · cases h; exact ⟨rfl, rfl, rfl, rfl⟩
  · unfold Arnoldi.factorize_from at h
    split at h
    · cases h; exact ⟨fun hab => by omega, fun _ => rfl⟩
    · split at h
      · cases h
      · cases h; exact ⟨fun _ => rfl, fun hba => by omega⟩
  · unfold Arnoldi.factorize_from
    split
    · simp; omega
    · split
      · simp; omega
      · simp; omega
end model

/-! ### the executable model at a field: kernels are the sums used above -/
section kernels
variable {K : Type} [Field K] [Sc K] (h0 : (Sc.ofInt 0 : K) = 0)
include h0

/-- the array kernels of the model compute, entry by entry, the `Finset.sum`s of the theorems (any `Sc` instance on a field with
    `ofInt 0 = 0`, e.g. `scOfField`): gemv `V*x`, `Vᴴ*y`, `f -= V*g`, `x.dot(y)`, and the harness operator `y = a x`. -/
theorem c07_kernel_sums (V : Lin.Mat K) (k : ℕ) (x y f : Lin.Vec K) (n : ℕ) (a : Array K) :
    (∀ i, i < V.rows → Lin.vget (Arnoldi.mulVecK0 V k x) i = ∑ j ∈ range k, V.get i j * Lin.vget x j) ∧
    (∀ j, j < k → Lin.vget (Arnoldi.tmulVecK0 V k y) j = ∑ i ∈ range V.rows, V.get i j * Lin.vget y i) ∧
    (∀ i, i < f.size → Lin.vget (Arnoldi.subMulVecK0 f V k x) i = Lin.vget f i - ∑ j ∈ range k, V.get i j * Lin.vget x j) ∧
    (Lin.dot x y = ∑ i ∈ range x.size, Lin.vget x i * Lin.vget y i) ∧
    (∀ i, i < n → Lin.vget (Arnoldi.rowMajorOp n a x) i = ∑ j ∈ range n, a.getD (i * n + j) 0 * Lin.vget x j) :=
  ⟨fun i hi => C07R.mulVecK0_eq h0 V k x i hi, fun j hj => C07R.tmulVecK0_eq h0 V k y j hj,
   fun i hi => C07R.subMulVecK0_eq h0 f V k x i hi, LinField.dot_eq h0 x y, fun i hi => C07R.rowMajorOp_eq h0 n a x i hi⟩

/-- the model's `compress_V` (truncated sums over the first `m-k+i+1` entries of column `i`) computes, for a `Q` of lower
    bandwidth `m-k`, exactly `V⁺ = V Q` on columns `0..k` and `f⁺ = f Q(m-1,k-1) + v⁺_k H(k,k-1)`: the abstract step of
    `c07_compress`. -/
theorem c07_model_compress_V (op : Arnoldi.Op K) (s : Arnoldi.State K) (Q : Lin.Mat K) (hkm : s.k < s.m)
    (hQ : ∀ a b, b + (s.m - s.k) < a → Q.get a b = 0) (r : ℕ) (hr : r < s.n) :
    (∀ i, i < s.k + 1 → (Arnoldi.compress_V op s Q).V.get r i = ∑ j ∈ range s.m, Q.get j i * s.V.get r j) ∧
    Lin.vget (Arnoldi.compress_V op s Q).f r
      = Q.get (s.m - 1) (s.k - 1) * Lin.vget s.f r + s.H.get s.k (s.k - 1) * ∑ j ∈ range s.m, Q.get j s.k * s.V.get r j ∧
    (Arnoldi.compress_V op s Q).k = s.k := by
  obtain ⟨hc, hf⟩ := C07L.compress_V_mulQ h0 op s Q hkm (fun a b _ _ h => hQ a b h)
  refine ⟨fun i hi => ?_, ?_, rfl⟩
  · have := congrFun (hc i hi) ⟨r, hr⟩
    simpa only [mulQ, colOf, Finset.sum_apply, Pi.smul_apply, smul_eq_mul] using this
  · have := congrFun hf ⟨r, hr⟩
    simpa only [mulQ, vecOf, colOf, Pi.add_apply, Finset.sum_apply, Pi.smul_apply, smul_eq_mul] using this

/-- ONE PASS OF THE MODEL'S `Arnoldi.factorize_from` LOOP, entry by entry (any `restart` flag, any incoming `f`, `beta`):
    `V.col(i) = f/beta`; column `i` of `H` is some `h'` (the projection after all corrections), `H(i,i-1) = restart ? 0 : beta`,
    everything else untouched; and `f' = A v_i - V' h'` — or `f' = 0` (the `beta < eps*sqrt(n)` shortcut); `k`, `n`, `m` unchanged. -/
theorem c07_model_step_spec (op : Arnoldi.Op K) (bt : K) (s : Arnoldi.State K) (i : ℕ) (f : Lin.Vec K) (beta : K) (restart : Bool)
    (ops nexp : ℕ) (hVr : s.V.rows = s.n) (hVc : s.V.cols = s.m) (hHr : s.H.rows = s.m) (hHc : s.H.cols = s.m)
    (hf : f.size = s.n) (hA : ∀ x, (op.A x).size = s.n) :
    C07R.StepSpec op s (Arnoldi.stepCore op bt s i f beta restart ops nexp) i f beta (if restart then 0 else beta) :=
  C07R.stepCore_spec h0 op bt s i f beta restart ops nexp hVr hVc hHr hHc hf hA

/-- MODEL-LEVEL `c07_extend`: the executable model's regular extension pass (the code path of `Arnoldi::factorize_from` when
    `beta ≥ near_0`), run at a field on a state that satisfies the `i`-step relation (row `i` of `H` zero, as
    `factorize_from` arranges), yields a state satisfying the `(i+1)`-step relation, or takes the `f := 0` shortcut. -/
theorem c07_model_extend (op : Arnoldi.Op K) (s : Arnoldi.State K) (A : (Fin s.n → K) →ₗ[K] (Fin s.n → K)) (hop : OpIs s.n op A)
    (bt : K) (i : ℕ) (hi : i < s.m)
    (hVr : s.V.rows = s.n) (hVc : s.V.cols = s.m) (hHr : s.H.rows = s.m) (hHc : s.H.cols = s.m)
    (hfs : s.f.size = s.n) (hA : ∀ x, (op.A x).size = s.n)
    (hβ : s.beta ≠ 0) (hrow : ∀ b, b + 1 < i → s.H.get i b = 0)
    (hK : ModelKry s.n A s i) :
    ModelKry s.n A (Arnoldi.stepCore op bt s i s.f s.beta false s.ops s.nexpand) (i + 1) ∨
    vecOf s.n (Arnoldi.stepCore op bt s i s.f s.beta false s.ops s.nexpand).f = 0 := by
  obtain ⟨hV, ⟨h', hH, hf⟩, _, _, _⟩ := C07R.stepCore_spec h0 op bt s i s.f s.beta false s.ops s.nexpand hVr hVc hHr hHc hfs hA
  simp only [Bool.false_eq_true, if_false] at hH
  rcases hf with hf | hz
  · left
    have hE := extend_kry A (colOf s.n s.V) (fun a b => s.H.get a b) (vecOf s.n s.f) i s.beta hβ (fun a => Lin.vget h' a) hK
    have hcol : ∀ j, j < i + 1 → colOf s.n (Arnoldi.stepCore op bt s i s.f s.beta false s.ops s.nexpand).V j
        = extV (colOf s.n s.V) i (s.beta⁻¹ • vecOf s.n s.f) j := by
      intro j hj
      funext r
      refine (hV r.val j r.isLt (lt_of_lt_of_le hj hi)).trans ?_
      rw [extV, Function.update_apply]
      by_cases hji : j = i
      · rw [if_pos hji, if_pos hji]; exact div_eq_inv_mul _ _
      · rw [if_neg hji, if_neg hji]; rfl
    refine kry_congr A _ _ _ _ _ _ (i + 1) hcol (fun a b ha hb => ?_) ?_ hE
    · refine (hH a b (lt_of_lt_of_le ha hi) (lt_of_lt_of_le hb hi)).trans ?_
      rw [extH]
      by_cases hbi : b = i
      · rw [if_pos hbi, if_pos ha, if_pos hbi]
      · rw [if_neg hbi, if_neg hbi]
        by_cases hai : a = i
        · rw [if_pos hai]
          by_cases hb1 : b + 1 = i
          · rw [if_pos ⟨hai, hb1⟩, if_pos hb1]
          · rw [if_neg (fun h => hb1 h.2), if_neg hb1, hai]
            exact hrow b (lt_of_le_of_ne (Nat.succ_le_of_lt (lt_of_le_of_ne (Nat.le_of_lt_succ hb) hbi)) hb1)
        · rw [if_neg (fun h => hai h.1), if_neg hai]
    · -- the new residual: `A (f/β) - V' h'`, entry by entry
      have hvi : vecOf s.n (Lin.vdivs s.f s.beta) = extV (colOf s.n s.V) i (s.beta⁻¹ • vecOf s.n s.f) i := by
        rw [extV, Function.update_self]
        exact vecOf_vdivs h0 _ _ _
      have hAop : vecOf s.n (op.A (Lin.vdivs s.f s.beta)) = A (extV (colOf s.n s.V) i (s.beta⁻¹ • vecOf s.n s.f) i) := by
        rw [← hvi]; exact hop _ (by rw [Lin.vdivs, Array.size_map, hfs])
      funext r
      rw [resid, ← hAop, Pi.sub_apply, Finset.sum_apply]
      refine (hf r.val r.isLt).trans
        (congrArg (fun x => Lin.vget (op.A (Lin.vdivs s.f s.beta)) r.val - x) (Finset.sum_congr rfl fun j hj => ?_))
      rw [← hcol j (mem_range.mp hj)]; exact mul_comm _ _
  · right
    funext r; exact hz r.val

/-- ONE REGULAR PASS OF THE MODEL'S LOOP AS AN INDUCTIVE INVARIANT: if the breakdown test is false and `beta ≠ 0`, the pass
    `Arnoldi.factorStep … i` maps (well-formed state, rows `≥ i` of `H` zero left of the sub-diagonal, `i`-step relation) to
    (well-formed, rows `≥ i+1` zero, `(i+1)`-step relation — or the `f := 0` shortcut); `n`, `m`, `k` unchanged.  Iterating it
    is the model-level version of `c07_run` for `factorize_from`'s loop. -/
theorem c07_model_factorStep (op : Arnoldi.Op K) (s : Arnoldi.State K) (A : (Fin s.n → K) →ₗ[K] (Fin s.n → K)) (hop : OpIs s.n op A)
    (bt : K) (i : ℕ) (hi : i < s.m) (hA : ∀ x, (op.A x).size = s.n)
    (hreg : Sc.lt s.beta s.near0 = false) (hβ : s.beta ≠ 0) (hwf : WF s i) (hK : ModelKry s.n A s i) :
    let s' := Arnoldi.factorStep op bt s i
    s'.n = s.n ∧ s'.m = s.m ∧ s'.k = s.k ∧
    (ModelKry s.n A s' (i + 1) ∨ vecOf s.n s'.f = 0) ∧
    (s'.V.rows = s.n ∧ s'.V.cols = s.m ∧ s'.H.rows = s.m ∧ s'.H.cols = s.m ∧ s'.f.size = s.n ∧
      ∀ a b, i + 1 ≤ a → a < s.m → b + 1 < a → s'.H.get a b = 0) := by
  intro s'
  obtain ⟨hVr, hVc, hHr, hHc, hfs, hz⟩ := hwf
  have hs' : s' = Arnoldi.stepCore op bt s i s.f s.beta false s.ops s.nexpand := factorStep_regular op bt s i hreg
  have hspec := C07R.stepCore_spec h0 op bt s i s.f s.beta false s.ops s.nexpand hVr hVc hHr hHc hfs hA
  have hext := c07_model_extend h0 op s A hop bt i hi hVr hVc hHr hHc hfs hA hβ (fun b hb => hz i b (le_refl i) hi hb) hK
  rw [← hs'] at hspec hext
  obtain ⟨_, ⟨h', hH, _⟩, hk, hn, hm⟩ := hspec
  refine ⟨hn, hm, hk, hext, ?_⟩
  obtain ⟨d1, d2, d3, d4, d5⟩ := C07R.stepCore_dims op bt s i s.f s.beta false s.ops s.nexpand hA
  rw [← hs'] at d1 d2 d3 d4 d5
  refine ⟨d1.trans hVr, d2.trans hVc, d3.trans hHr, d4.trans hHc, d5, ?_⟩
  intro a b ha ham hb
  have hia : i ≤ a := Nat.le_of_succ_le ha
  rw [hH a b ham (lt_trans (Nat.lt_of_succ_lt hb) ham)]
  by_cases hbi : b = i
  · rw [if_pos hbi, if_neg (Nat.not_lt.mpr ha), hbi]
    exact hz a i hia ham (hbi ▸ hb)
  · have hai : ¬ (a = i ∧ b + 1 = i) := fun h => absurd (h.1 ▸ ha) (Nat.not_succ_le_self i)
    rw [if_neg hbi, if_neg hai]
    exact hz a b hia ham hb

end kernels

/-! ### instances and satisfiability of the hypotheses -/

/-- the inner product of the code for real scalars: `<x, y> = xᵀ B y` with `B` symmetric (`B = I` for standard problems) -/
def ipOfMatrix {n : ℕ} (B : Matrix (Fin n) (Fin n) 𝕜) (hB : Bᵀ = B) : IP 𝕜 (Fin n → 𝕜) where
  ip x y := x ⬝ᵥ (B *ᵥ y)
  conj := RingHom.id 𝕜
  add_right x y z := by rw [mulVec_add, dotProduct_add]
  smul_right x c y := by rw [mulVec_smul, dotProduct_smul, smul_eq_mul]
  symm x y := by
    simp only [RingHom.id_apply]
    rw [dotProduct_mulVec, ← mulVec_transpose, hB, dotProduct_comm]

/-- the operator of a matrix: `x ↦ M x` -/
def opOfMatrix {n : ℕ} (M : Matrix (Fin n) (Fin n) 𝕜) : (Fin n → 𝕜) →ₗ[𝕜] (Fin n → 𝕜) where
  toFun := M.mulVec
  map_add' := mulVec_add M
  map_smul' c x := by simp [mulVec_smul]

/-- the matrix form of the relation is the instance `E = Fin n → 𝕜`, `A = opOfMatrix M` -/
example {n : ℕ} (M : Matrix (Fin n) (Fin n) 𝕜) (V : ℕ → Fin n → 𝕜) (H : ℕ → ℕ → 𝕜) (f : Fin n → 𝕜) (k : ℕ) (β : 𝕜)
    (hβ : β ≠ 0) (h : ℕ → 𝕜) (hK : Kry (opOfMatrix M) V H f k) :
    Kry (opOfMatrix M) (extV V k (β⁻¹ • f)) (extH H k β h) (resid (opOfMatrix M) (extV V k (β⁻¹ • f)) k h) (k + 1) := by
  simpa using c07_extend (opOfMatrix M) V H f k β hβ h [] hK

/-- hypotheses satisfiable: a 1-step relation (`E = 𝕜`, `A = id`, `v = 1`, `H₀₀ = 1`, `f = 0`) -/
example : Kry (LinearMap.id : 𝕜 →ₗ[𝕜] 𝕜) (fun _ => (1 : 𝕜)) (fun _ _ => (1 : 𝕜)) 0 1 := by
  intro j hj
  have : j = 0 := by omega
  subst this; simp

/-- hypotheses of `c07_compress` satisfiable: `m = 2`, `k = 1`, `Q = I`, `H⁺ = H` diagonal -/
example : (∀ i, i < 2 → ∀ j, j < 1 →
      ∑ a ∈ range 2, (fun (i j : ℕ) => if i = j then (1 : 𝕜) else 0) i a * (fun (i j : ℕ) => if i = j then (1 : 𝕜) else 0) a j
        = ∑ b ∈ range 2, (fun (i j : ℕ) => if i = j then (1 : 𝕜) else 0) i b * (fun (i j : ℕ) => if i = j then (1 : 𝕜) else 0) b j) ∧
    (∀ j, j + 1 < 1 → (fun (i j : ℕ) => if i = j then (1 : 𝕜) else 0) (2 - 1) j = 0) := by
  constructor
  · intro i _ j _; rfl
  · intro j hj; omega

/-- the full-strength claim "continuing after a breakdown always preserves the relation" is FALSE for a nonzero discarded
    residual: witness `E = 𝕜`: any exact relation with `f ≠ 0` (here `A = id`, `v₀ = 1`, `H₀₀ = 0`, `f = 1`). -/
example (h1 : (1 : 𝕜) ≠ 0) (v : 𝕜) (h : ℕ → 𝕜) :
    ¬ Kry (LinearMap.id : 𝕜 →ₗ[𝕜] 𝕜) (extV (fun _ => (1 : 𝕜)) 1 v) (extH (fun _ _ => (0 : 𝕜)) 1 0 h)
        (resid (LinearMap.id : 𝕜 →ₗ[𝕜] 𝕜) (extV (fun _ => (1 : 𝕜)) 1 v) 1 h) 2 := by
  have hK : Kry (LinearMap.id : 𝕜 →ₗ[𝕜] 𝕜) (fun _ => (1 : 𝕜)) (fun _ _ => (0 : 𝕜)) 1 1 := by
    intro j hj
    have : j = 0 := by omega
    subst this; simp
  intro hn
  exact h1 (((c07_breakdown _ _ _ _ 1 (by omega) v h hK).2).mp hn)

/-! ### the executable Lanczos model at an exact field: passes, loops, restart, init as C07 steps

  NOT DONE: the RESTART BRANCH of a pass (`beta < near_0` → `Arnoldi.expand_basis`) and the `f := 0` shortcut inside the
  re-orthogonalisation loop.  In exact arithmetic with an orthonormal basis the shortcut and the second restart criterion are
  unreachable (proved inside `c07_model_lanczos_step`: `Vᵀf' = 0` exactly, so the loop is not entered); the first criterion is
  excluded by the hypothesis `hreg` / `C07L.Regular`: what the code does there (random directions, accepted only if
  `‖Vᵀg‖ < eps‖g‖`, residual discarded) is a C07 `restart` step whose exactness needs `f = 0` and whose orthogonality needs the random
  direction to leave `span V` — run-dependent facts (abstract algebra: `c07_breakdown`). -/
section lanczos_model
open C07L C01E
variable {K : Type} [Field K] [LinearOrder K] [IsStrictOrderedRing K] [Sc K] (Ex : ExactSc K)
include Ex

/-- ONE REGULAR PASS of `Lanczos.factorStep` on a state satisfying the loop invariant at `i`
    (`1 ≤ i < m`, `beta ≥ near_0`, `beta ≠ 0`) produces EXACTLY the C07 state `(absAt n i s).step A (.extend s.beta h)` — `V`, `H`, `f`, `k`,
    `R` as functions —; the step is `ok`, `exact` and `orthOk`; the invariant holds at `i + 1`.  (Neither the second restart criterion
    nor the re-orthogonalisation loop — hence the `f := 0` shortcut — can fire: the three-term recurrence is full Gram–Schmidt.) -/
theorem c07_model_lanczos_step (n m : ℕ) (A : (Fin n → K) →ₗ[K] (Fin n → K)) (op : Arnoldi.Op K) (hop : OpOK n op A)
    (hsa : ∀ x y, dotProduct x (A y) = dotProduct (A x) y) (bt es : K) (hes : 0 ≤ es)
    (s : Arnoldi.State K) (i : ℕ) (hI : PassInv n m A s i) (hi1 : 1 ≤ i) (him : i < m)
    (hreg : Sc.lt s.beta s.near0 = false) (hβ : s.beta ≠ 0) :
    ∃ h : ℕ → K,
      absAt n (i + 1) (Lanczos.factorStep op bt es s i) = (absAt n i s).step A (.extend s.beta h) ∧
      (Step.extend s.beta h : Step K (Fin n → K)).ok (absAt n i s) ∧
      (Step.extend s.beta h : Step K (Fin n → K)).exact (absAt n i s) ∧
      (Step.extend s.beta h : Step K (Fin n → K)).orthOk (dotIP n) A (absAt n i s) ∧
      PassInv n m A (Lanczos.factorStep op bt es s i) (i + 1) ∧
      (Lanczos.factorStep op bt es s i).k = s.k ∧ (Lanczos.factorStep op bt es s i).near0 = s.near0 ∧
      (Lanczos.factorStep op bt es s i).eps = s.eps :=
  lanczos_pass_regular Ex n m A op hop hsa bt es hes s i hI hi1 him hreg hβ

/-- INDUCTION OVER THE WHOLE LOOP.  `Lanczos.factorize_from(k, to_m)` from the current dimension
    `k = s.k ≥ 1` returns a state of advertised dimension `to_m` that is `C07.run` of a list of `to_m − k` steps applied to the state
    with `H` cleaned outside its leading block (the two `setZero` calls), all steps `ok`, `exact`, `orthOk`; the invariant holds at
    `to_m`.  Hypothesis `hreg`: no pass of this run meets a breakdown. -/
theorem c07_model_factorize_run (n m : ℕ) (A : (Fin n → K) →ₗ[K] (Fin n → K)) (op : Arnoldi.Op K) (hop : OpOK n op A)
    (hsa : ∀ x y, dotProduct x (A y) = dotProduct (A x) y)
    (s : Arnoldi.State K) (to_m : ℕ) (hI : PassInv n m A s s.k) (hk1 : 1 ≤ s.k) (hlt : s.k < to_m) (hto : to_m ≤ m)
    (hreg : Regular op (s.eps * Sc.sqrt (Sc.ofInt (s.n : Int))) (Sc.sqrt s.eps) (to_m - s.k) s.k (cleanH s s.k)) :
    ∃ s' : Arnoldi.State K, Lanczos.factorize_from op s s.k to_m = some s' ∧ s'.k = to_m ∧
      s'.near0 = s.near0 ∧ s'.eps = s.eps ∧ PassInv n m A s' s'.k ∧
      ∃ l : List (Step K (Fin n → K)), l.length = to_m - s.k ∧
        allOk A (absAt n s.k (cleanH s s.k)) l ∧ allExact A (absAt n s.k (cleanH s s.k)) l ∧
        allOrthOk (dotIP n) A (absAt n s.k (cleanH s s.k)) l ∧
        absAt n s'.k s' = C07.run A (absAt n s.k (cleanH s s.k)) l :=
  factorize_run Ex n m A op hop hsa s to_m hI hk1 hlt hto hreg

/-- `compress_H` + `compress_V` with an accumulated `(H⁺, Q)` satisfying the QR facts (`H⁺` symmetric
    tridiagonal, `H Q = Q H⁺`, `QᵀQ = I`, `Q` of lower bandwidth `m − k`: C08) maps the invariant at full dimension `m` to the invariant
    at `k` — the model-level `c07_compress` + `c07_compress_orth` + `c07_compress_band` in one. -/
theorem c07_model_compress (n m : ℕ) (A : (Fin n → K) →ₗ[K] (Fin n → K)) (op : Arnoldi.Op K) (hop : OpOK n op A)
    (s : Arnoldi.State K) (k : ℕ) (hI : PassInv n m A s m) (hk0 : 0 < k) (hkm : k < m) (Hp Q : Lin.Mat K)
    (hq : QRFacts m k s.H Hp Q) :
    PassInv n m A (Arnoldi.compress_V op { s with H := Hp, k := k } Q) k :=
  compress_passInv Ex n m A op hop s k hI hk0 hkm Hp Q hq

/-- the whole `HermSolver.restartFac(k)` from a full factorization: never throws, the state after
    `compress_V` (`restartMid`) satisfies the invariant at `k`, the result is `C07.run` of `m − k` exact steps from it and satisfies the
    invariant at `m`.  `hq`: the QR facts for the accumulated shift loop (for `TridiagQR` at `scOfField F` with `Sc.eps = 0`:
    `C01DT.shiftLoop_spec`; with `eps > 0` the deflation passes drop entries `|e| ≤ eps(|dᵢ|+|dᵢ₊₁|)` and `H Q = Q H⁺` holds only up
    to those entries — the explicit error term `Δ` of `c08_tqr_matrix_partial`; not carried through here). -/
theorem c07_model_restart_run (n m : ℕ) (A : (Fin n → K) →ₗ[K] (Fin n → K)) (op : Arnoldi.Op K) (hop : OpOK n op A)
    (hsa : ∀ x y, dotProduct x (A y) = dotProduct (A x) y)
    (s : Arnoldi.State K) (k : ℕ) (vals : List K) (hI : PassInv n m A s m) (hsk : s.k = m) (hk0 : 0 < k) (hkm : k < m)
    (hq : QRFacts m k s.H (shiftLoopG (HermSolver.restartShifts m k vals) s.H (Lin.Mat.identity m)).1
      (shiftLoopG (HermSolver.restartShifts m k vals) s.H (Lin.Mat.identity m)).2)
    (hreg : Regular op ((restartMid op m k vals s).eps * Sc.sqrt (Sc.ofInt ((restartMid op m k vals s).n : Int)))
      (Sc.sqrt (restartMid op m k vals s).eps) (m - k) k (cleanH (restartMid op m k vals s) k)) :
    ∃ s3 : Arnoldi.State K, HermSolver.restartFac op m k vals s = ⟨s3, s3.ops - s.ops, none⟩ ∧ s3.k = m ∧
      s3.near0 = s.near0 ∧ s3.eps = s.eps ∧ PassInv n m A s3 s3.k ∧
      PassInv n m A (restartMid op m k vals s) k ∧
      ∃ l : List (Step K (Fin n → K)), l.length = m - k ∧
        allOk A (absAt n k (cleanH (restartMid op m k vals s) k)) l ∧
        allExact A (absAt n k (cleanH (restartMid op m k vals s) k)) l ∧
        allOrthOk (dotIP n) A (absAt n k (cleanH (restartMid op m k vals s) k)) l ∧
        absAt n s3.k s3 = C07.run A (absAt n k (cleanH (restartMid op m k vals s) k)) l :=
  restart_run Ex n m A op hop hsa s k vals hI hsk hk0 hkm hq hreg

/-- a regular `Arnoldi.init` (`‖A v0‖ ≠ 0`, `f := 0` shortcut not taken) hands over a state
    satisfying the invariant at dimension 1 (model-level `c07_init`). -/
theorem c07_model_init (n m : ℕ) (A : (Fin n → K) →ₗ[K] (Fin n → K)) (op : Arnoldi.Op K) (hop : OpOK n op A)
    (s s' : Arnoldi.State K) (hn : s.n = n) (hm : s.m = m) (hm1 : 1 ≤ m) (heps : 0 ≤ s.eps) (v0 : Lin.Vec K) (hv0 : v0.size = n)
    (h : Arnoldi.init op s v0 = some s') (hreg : InitRegular op s v0) :
    PassInv n m A s' 1 ∧ s'.k = 1 ∧ s'.near0 = s.near0 ∧ s'.eps = s.eps :=
  init_passInv Ex n m A op hop s s' hn hm hm1 heps v0 hv0 h hreg

end lanczos_model

/-- the loop invariant, the regularity hypothesis and `ExactSc` are satisfiable: the exact instance over any ordered field with the
    trivial operator on `K⁰`, the freshly constructed state, zero passes -/
example {K : Type} [Field K] [LinearOrder K] [IsStrictOrderedRing K] (F : FieldFns K) (op : Arnoldi.Op K) :
    (letI := scOfField F; C07L.Regular op (0 : K) 0 0 1 (Arnoldi.State.mk0 0 2 0 0)) := trivial

end C07
