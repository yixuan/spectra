/-
  C11 — the matrix-operation wrappers compute the documented operator in every template configuration; wrappers with a triangle
  option read only that triangle.

  Split of the argument (DESIGN §5 C11):
  * what is Spectra's own in the wrappers is modelled in `Model/Ops.lean` and proved here for all sizes and all inputs:
    triangle selection, the triangle-wise assembly of `A - σB`, the permutation around the sparse Cholesky factor, the composite
    operators, the real block form of the complex shift solve;
  * the Eigen decompositions are trusted third-party code represented by their specification (hypotheses `M * Minv = 1`, …);
  * that each C++ template configuration computes `spec uplo M` is decided by the per-configuration correspondence run
    (`checks/c11.py`, obligations `corr:wrapper:<config>`), which compares the real class with `Ops.spec…` on the same stored matrix.

  History (known_findings/C11.json, all four repaired in /repo and now covered by full-strength theorems / live configurations):
  * F7  (fae71a7) `SparseRegularInverse<…, Upper>::solve` read the lower triangle (ConjugateGradient declared without `Uplo`);
  * F19 (3dca838) `SparseGenRealShiftSolve` / `SparseGenComplexShiftSolve<…, RowMajor>` handed a row-major type to Eigen::SparseLU;
  * F20 (da64743) `SparseGenComplexShiftSolve::set_shift` did not check `m_solver.info()`;
  * F21 (ffd7f8e) `SymShiftInvert<Sparse, Sparse, …>` did not compile for `StorageIndexA ≠ StorageIndexB`.
-/
import Mathlib.Data.Complex.BigOperators
import SpectraVerif.Proofs.C11Lemmas
import SpectraVerif.Gen.OpsFootprint
import SpectraVerif.Proofs.ScField

set_option linter.unusedSectionVars false
namespace C11
open Ops Lin Matrix

section triangle
variable {α : Type} [Add α] [Sub α] [Mul α] [Div α] [Neg α] [Sc α]

/-- every wrapper with a triangle option factors through the symmetric completion of that triangle (definitionally) … -/
theorem c11_spec_factors (u : Uplo) (p : Array Nat) (M : Mat α) (sigma : α) (x : Vec α) :
    specSymMatProd u M x = fullProd (symMat u M) x ∧
    specSymShiftSolve u M sigma x = fullShiftSolve (symMat u M) sigma x ∧
    specCholLower u M x = fullCholLower (symMat u M) x ∧ specCholUpper u M x = fullCholUpper (symMat u M) x ∧
    specSparseCholLower u p M x = sparseCholLower p (symMat u M) x ∧ specSparseCholUpper u p M x = sparseCholUpper p (symMat u M) x ∧
    specRegularInverseSolve u M x = fullSolve (symMat u M) x :=
  ⟨rfl, rfl, rfl, rfl, rfl, rfl, rfl⟩

/-- … hence reads only that triangle: stored matrices that agree on triangle `u` give the same result, whatever the other
    triangle holds (DenseSymMatProd, SparseSymMatProd, real Dense/SparseHermMatProd, Dense/SparseSymShiftSolve, Dense/SparseCholesky,
    SparseRegularInverse as documented). -/
theorem c11_triangle_only (u : Uplo) (n : Nat) (M M' : Mat α) (h : AgreeOn u n M M') (p : Array Nat) (sigma : α) (x : Vec α) :
    specSymMatProd u M x = specSymMatProd u M' x ∧
    specSymShiftSolve u M sigma x = specSymShiftSolve u M' sigma x ∧
    specCholLower u M x = specCholLower u M' x ∧ specCholUpper u M x = specCholUpper u M' x ∧
    specSparseCholLower u p M x = specSparseCholLower u p M' x ∧ specSparseCholUpper u p M x = specSparseCholUpper u p M' x ∧
    specRegularInverseSolve u M x = specRegularInverseSolve u M' x := by
  have e := h.symMat_eq
  simp only [specSymMatProd, specSymShiftSolve, specCholLower, specCholUpper, specSparseCholLower, specSparseCholUpper,
    specRegularInverseSolve, e, and_self]

/-- SymShiftInvert (all four pairings, all four `(UploA, UploB)`): the result depends on `A` only through triangle `UploA` and on
    `B` only through triangle `UploB` -/
theorem c11_triangle_only_shiftinvert (p : Pairing) (ua ub : Uplo) (n : Nat) (A A' B B' : Mat α) (hA : AgreeOn ua n A A')
    (hB : AgreeOn ub n B B') (sigma : α) (x : Vec α) :
    specSymShiftInvert p ua ub A B sigma x = specSymShiftInvert p ua ub A' B' sigma x := by
  unfold specSymShiftInvert
  rw [ssiMat_congr p ua ub A A' B B' sigma n hA.1 hA.2.2.1 hA.2.2.2.2 hB.2.2.2.2]

/-- Hermitian products with a complex scalar (pairs): only triangle `u` is read -/
theorem c11_triangle_only_herm (u : Uplo) (n : Nat) (M M' : Nat → Nat → α × α)
    (h : ∀ i j, inTri u i j = true → M i j = M' i j) (x : Nat → α × α) :
    specHermMatProd u n M x = specHermMatProd u n M' x := by
  unfold specHermMatProd
  rw [hermFromTri_congr u M M' h]

/-- SparseRegularInverse::solve as coded equals the documented operator `B⁻¹x` of the symmetric completion of the wrapper's OWN
    triangle, for both `Lower` and `Upper`.  (History of the library: before fae71a7 this held for `Lower` only — finding F7;
    `regularInverseSolveBeforeFix` below is that behaviour.) -/
theorem c11_reginv_solve (u : Uplo) (M : Mat α) (x : Vec α) :
    regularInverseSolveAsCoded u M x = specRegularInverseSolve u M x := rfl

/-- … and therefore reads only that triangle -/
theorem c11_reginv_solve_triangle_only (u : Uplo) (n : Nat) (M M' : Mat α) (h : AgreeOn u n M M') (x : Vec α) :
    regularInverseSolveAsCoded u M x = regularInverseSolveAsCoded u M' x := by
  unfold regularInverseSolveAsCoded; rw [h.symMat_eq]

/-- what the old code did: it solved with the LOWER completion whatever `u` was -/
theorem c11_reginv_before_fix (u : Uplo) (M : Mat α) (x : Vec α) :
    regularInverseSolveBeforeFix u M x = specRegularInverseSolve .lower M x := rfl
end triangle

/-- the old behaviour is refuted by `c11_reginv_solve`: with only the upper triangle stored (exact arithmetic over ℚ) the matrix the
    old code solved with, `symMat lower M` = diag(2, 2), is not the documented `symMat upper M` = [[2, 1], [1, 2]] -/
example : letI := scOfField (⟨id, fun x _ => x, 0, 0⟩ : FieldFns ℚ)
    (symMat Uplo.lower (⟨2, 2, #[2, 0, 1, 2]⟩ : Mat ℚ)).get 0 1 = 0 ∧ (symMat Uplo.upper (⟨2, 2, #[2, 0, 1, 2]⟩ : Mat ℚ)).get 0 1 = 1 := by
  exact ⟨rfl, rfl⟩

/-- the hypotheses of `c11_triangle_only` are satisfiable with different stored matrices -/
example : AgreeOn (α := Float) Uplo.lower 2 ⟨2, 2, #[1, 2, 77, 3]⟩ ⟨2, 2, #[1, 2, -5, 3]⟩ := by
  refine ⟨rfl, rfl, rfl, rfl, ?_⟩
  intro i j hi hj h
  obtain ⟨rfl | rfl, rfl | rfl⟩ : (i = 0 ∨ i = 1) ∧ (j = 0 ∨ j = 1) := by omega
  -- an entry is compared through its value: unifying the two `get`s directly first compares the stored arrays, `77` with `-5`
  · exact (rfl : _ = (1 : Float)).trans rfl
  · exact absurd h (by decide)
  · exact (rfl : _ = (2 : Float)).trans rfl
  · exact (rfl : _ = (3 : Float)).trans rfl

/-- **assembly of `A - σB`** (SymShiftInvert.h:37-112), any commutative ring, all four `(UploA, UploB)`:
    the triangle written by the dense-A helper (`UploA`) and by the sparse-A/dense-B helper (`UploB`) holds exactly the entries of
    `sym(A) - σ sym(B)` — including the transposed branch taken when `UploA ≠ UploB` — and the matrix every pairing hands to its
    factorization is `sym(A) - σ sym(B)`; the `junk` left outside the written triangle never enters. -/
theorem c11_shiftinvert_assembly {R : Type} [CommRing R] (ua ub : Uplo) (A B junk : Nat → Nat → R) (sigma : R) :
    (∀ i j, inTri ua i j = true → ssiAssembleDenseA ua ub A B sigma junk i j = symFromTri ua A i j - sigma * symFromTri ub B i j) ∧
    (∀ i j, inTri ub i j = true → ssiAssembleDenseB ua ub A B sigma junk i j = symFromTri ua A i j - sigma * symFromTri ub B i j) ∧
    (∀ p i j, ssiMatrix p ua ub A B sigma junk i j = symFromTri ua A i j - sigma * symFromTri ub B i j) := by
  have key : ∀ p i j, ssiMatrix p ua ub A B sigma junk i j = symFromTri ua A i j - sigma * symFromTri ub B i j := by
    intro p i j; rw [ssiMatrix_eq_combine, ssiCombine_ring]
  refine ⟨?_, ?_, key⟩
  · intro i j h
    have := key .denseDense i j
    simpa [ssiMatrix, symFromTri, h] using this
  · intro i j h
    have := key .sparseDense i j
    simpa [ssiMatrix, symFromTri, h] using this

/-- the factorized matrix is symmetric, so the triangle that BKLDLT / SparseLU(isSymmetric) reads determines it -/
theorem c11_shiftinvert_symmetric {R : Type} [CommRing R] (p : Pairing) (ua ub : Uplo) (A B junk : Nat → Nat → R) (sigma : R) (i j : Nat) :
    ssiMatrix p ua ub A B sigma junk i j = ssiMatrix p ua ub A B sigma junk j i := by
  rw [(c11_shiftinvert_assembly ua ub A B junk sigma).2.2 p i j, (c11_shiftinvert_assembly ua ub A B junk sigma).2.2 p j i,
    symFromTri_symm ua A i j, symFromTri_symm ub B i j]

section composite
variable {n R : Type} [Fintype n] [DecidableEq n] [CommRing R]

/-- SymGEigsShiftInvertOp: `perform_op = inv(A - σB) * B`, given that the parts meet their specifications -/
theorem c11_shiftinvert_op (A B Minv : Matrix n n R) (sigma : R) (hM : (A - sigma • B) * Minv = 1)
    (op Bop : (n → R) → (n → R)) (hop : ∀ v, op v = Minv *ᵥ v) (hB : ∀ v, Bop v = B *ᵥ v) (x : n → R) :
    shiftInvertOp op Bop x = (Minv * B) *ᵥ x ∧ (A - sigma • B) *ᵥ shiftInvertOp op Bop x = B *ᵥ x := by
  unfold shiftInvertOp
  rw [hop, hB]
  refine ⟨by rw [Matrix.mulVec_mulVec], ?_⟩
  rw [Matrix.mulVec_mulVec, Matrix.mulVec_mulVec, hM, Matrix.one_mul]

/-- SymGEigsBucklingOp: `perform_op = inv(K - σK_G) * K` -/
theorem c11_buckling_op (K KG Minv : Matrix n n R) (sigma : R) (hM : (K - sigma • KG) * Minv = 1)
    (op Bop : (n → R) → (n → R)) (hop : ∀ v, op v = Minv *ᵥ v) (hK : ∀ v, Bop v = K *ᵥ v) (x : n → R) :
    bucklingOp op Bop x = (Minv * K) *ᵥ x ∧ (K - sigma • KG) *ᵥ bucklingOp op Bop x = K *ᵥ x := by
  unfold bucklingOp
  rw [hop, hK, Matrix.mulVec_mulVec]
  refine ⟨rfl, ?_⟩
  rw [Matrix.mulVec_mulVec, ← Matrix.mul_assoc, hM, Matrix.one_mul]

/-- SymGEigsCayleyOp: `x + 2σ inv(A - σB) B x = inv(A - σB) (A + σB) x` -/
theorem c11_cayley (A B Minv : Matrix n n R) (sigma : R) (hM : (A - sigma • B) * Minv = 1)
    (op Bop : (n → R) → (n → R)) (hop : ∀ v, op v = Minv *ᵥ v) (hB : ∀ v, Bop v = B *ᵥ v) (x : n → R) :
    (A - sigma • B) *ᵥ cayleyOp op Bop sigma x = (A + sigma • B) *ᵥ x ∧
    cayleyOp op Bop sigma x = (Minv * (A + sigma • B)) *ᵥ x := by
  have hM' : Minv * (A - sigma • B) = 1 := mul_eq_one_comm.mp hM
  have key : cayleyOp op Bop sigma x = (Minv * (A + sigma • B)) *ᵥ x := by
    unfold cayleyOp
    rw [hop, hB, Matrix.mulVec_mulVec]
    have e : A + sigma • B = (A - sigma • B) + (2 * sigma) • B := by
      rw [two_mul, add_smul]; abel
    rw [e, Matrix.mul_add, hM', Matrix.add_mulVec, Matrix.one_mulVec, Matrix.mul_smul, Matrix.smul_mulVec]
  refine ⟨?_, key⟩
  rw [key, Matrix.mulVec_mulVec, ← Matrix.mul_assoc, hM, Matrix.one_mul]

/-- SymGEigsCholeskyOp: `perform_op = inv(L) * A * inv(L')` -/
theorem c11_cholesky_op (A L Linv : Matrix n n R) (hL : L * Linv = 1)
    (op lower upper : (n → R) → (n → R)) (hop : ∀ v, op v = A *ᵥ v) (hlo : ∀ v, lower v = Linv *ᵥ v) (hup : ∀ v, upper v = Linvᵀ *ᵥ v)
    (x : n → R) : choleskyOp op lower upper x = (Linv * A * Linvᵀ) *ᵥ x := by
  unfold choleskyOp
  rw [hup, hop, hlo, Matrix.mulVec_mulVec, Matrix.mulVec_mulVec, Matrix.mul_assoc]

/-- SymGEigsRegInvOp: `perform_op = inv(B) * A` -/
theorem c11_reginv_op (A B Binv : Matrix n n R) (hB : B * Binv = 1)
    (op solve : (n → R) → (n → R)) (hop : ∀ v, op v = A *ᵥ v) (hs : ∀ v, solve v = Binv *ᵥ v) (x : n → R) :
    regInvOp op solve x = (Binv * A) *ᵥ x ∧ B *ᵥ regInvOp op solve x = A *ᵥ x := by
  unfold regInvOp
  rw [hs, hop, Matrix.mulVec_mulVec]
  refine ⟨rfl, ?_⟩
  rw [Matrix.mulVec_mulVec, ← Matrix.mul_assoc, hB, Matrix.one_mul]

/-- SparseCholesky (SparseCholesky.h:92-108): with the fill-reducing permutation `P` (`Pᵀ P = I`) and `L Lᵀ = P B Pᵀ`,
    i.e. `B = Pᵀ L Lᵀ P`, the two solves `lower = L⁻¹ P ·` and `upper = Pᵀ L⁻ᵀ ·` compose to `B⁻¹` — the permutation cancels — and
    `F = L⁻¹ P` is a valid "inverse Cholesky factor" of `B` (`F B Fᵀ = I`, `upper = Fᵀ ·`), which is all SymGEigsCholeskyOp needs. -/
theorem c11_sparse_chol_perm (P L Linv : Matrix n n R) (hP : Pᵀ * P = 1) (hL : L * Linv = 1)
    (lower upper : (n → R) → (n → R)) (hlo : ∀ v, lower v = Linv *ᵥ (P *ᵥ v)) (hup : ∀ v, upper v = Pᵀ *ᵥ (Linvᵀ *ᵥ v)) (x : n → R) :
    (Pᵀ * (L * Lᵀ) * P) *ᵥ upper (lower x) = x ∧
    (Linv * P) * (Pᵀ * (L * Lᵀ) * P) * (Linv * P)ᵀ = 1 ∧
    upper x = (Linv * P)ᵀ *ᵥ x := by
  have h := sparse_chol_perm P L Linv hP hL
  refine ⟨?_, by rw [Matrix.transpose_mul]; exact h.2, by rw [hup, Matrix.mulVec_mulVec, Matrix.transpose_mul]⟩
  rw [hup, hlo]
  simp only [Matrix.mulVec_mulVec]
  rw [show Pᵀ * (L * Lᵀ) * P * (Pᵀ * (Linvᵀ * (Linv * P))) = (Pᵀ * (L * Lᵀ) * P) * (Pᵀ * Linvᵀ * (Linv * P)) by
    simp only [Matrix.mul_assoc], h.1, Matrix.one_mulVec]

/-- hypotheses satisfiable: identity permutation, `L = 2 I` over ℚ -/
example : ((1 : Matrix (Fin 2) (Fin 2) ℚ)ᵀ * 1 = 1) ∧ ((2 : ℚ) • (1 : Matrix (Fin 2) (Fin 2) ℚ)) * ((1 / 2 : ℚ) • 1) = 1 := by
  constructor
  · simp
  · rw [Matrix.smul_mul, Matrix.mul_smul, Matrix.mul_one, smul_smul]; norm_num
end composite

/-- the model's two permutation functions around the factor are inverse to each other (`Pᵀ (P x) = x`) for every injective index
    vector, i.e. they are the `P`, `Pᵀ` of `c11_sparse_chol_perm` -/
theorem c11_perm_roundtrip {β : Type} (p : Nat → Nat) (n : Nat) (x : Nat → β) (d : β)
    (hinj : ∀ a b, a < n → b < n → p a = p b → a = b) (i : Nat) (hi : i < n) :
    permBwd p (permFwd p n x d) i = x i := by
  unfold permBwd permFwd
  rw [find_range_inj p n i hi hinj]

/-- **real part of the complex shift solve.**  The wrappers compute `Re[(A - σI)⁻¹ x]`, `σ = a + bi`, by a complex LU of
    `A - σI` (Eigen, trusted); the model uses the real block system `[[A - aI, bI], [-bI, A - aI]] [u; v] = [x; 0]`.  This is the
    statement that the two agree: any solution `(u, v)` of the real block system is the complex solution `u + iv`, so `u` is its real part. -/
theorem c11_real_part {n : Type} [Fintype n] [DecidableEq n] (A : Matrix n n ℝ) (a b : ℝ) (u v x : n → ℝ)
    (h1 : (A - a • (1 : Matrix n n ℝ)) *ᵥ u + b • v = x)
    (h2 : (A - a • (1 : Matrix n n ℝ)) *ᵥ v - b • u = 0) :
    (A.map (fun r => (r : ℂ)) - (⟨a, b⟩ : ℂ) • (1 : Matrix n n ℂ)) *ᵥ (fun i => (⟨u i, v i⟩ : ℂ)) = fun i => ((x i : ℝ) : ℂ) := by
  funext i
  have e1 : ∑ j, (A i j - a * (if i = j then 1 else 0)) * u j + b * v i = x i := by
    have := congrFun h1 i
    simpa [Matrix.mulVec, dotProduct, Matrix.sub_apply, Matrix.smul_apply, Matrix.one_apply] using this
  have e2 : ∑ j, (A i j - a * (if i = j then 1 else 0)) * v j - b * u i = 0 := by
    have := congrFun h2 i
    simpa [Matrix.mulVec, dotProduct, Matrix.sub_apply, Matrix.smul_apply, Matrix.one_apply] using this
  show ∑ j, ((A.map (fun r => (r : ℂ)) - (⟨a, b⟩ : ℂ) • (1 : Matrix n n ℂ)) i j) * (⟨u j, v j⟩ : ℂ) = ((x i : ℝ) : ℂ)
  have t : ∀ j, ((A.map (fun r => (r : ℂ)) - (⟨a, b⟩ : ℂ) • (1 : Matrix n n ℂ)) i j) * (⟨u j, v j⟩ : ℂ)
      = (⟨(A i j - a * (if i = j then 1 else 0)) * u j + (if i = j then b * v j else 0),
          (A i j - a * (if i = j then 1 else 0)) * v j - (if i = j then b * u j else 0)⟩ : ℂ) := by
    intro j
    by_cases hij : i = j
    · subst hij; apply Complex.ext <;> simp [Matrix.sub_apply, Matrix.smul_apply, Matrix.map_apply]; ring
    · apply Complex.ext <;> simp [Matrix.sub_apply, Matrix.smul_apply, Matrix.map_apply, Matrix.one_apply_ne hij, hij]
  rw [Finset.sum_congr rfl (fun j _ => t j)]
  apply Complex.ext
  · rw [Complex.re_sum]
    simp only [Complex.ofReal_re, Finset.sum_add_distrib, Finset.sum_ite_eq, Finset.mem_univ, if_true]
    exact e1
  · rw [Complex.im_sum]
    simp only [Complex.ofReal_im, Finset.sum_sub_distrib, Finset.sum_ite_eq, Finset.mem_univ, if_true]
    exact e2

/-- the executable model's block matrix has exactly these four quadrants -/
theorem c11_cshift_block {β : Type} [Sub β] [Neg β] (z : β) (n : Nat) (A : Nat → Nat → β) (a b : β) (i j : Nat) (hi : i < n) (hj : j < n) :
    cshiftBlock z n A a b i j = (if i = j then A i j - a else A i j) ∧
    cshiftBlock z n A a b i (n + j) = (if i = j then b else z) ∧
    cshiftBlock z n A a b (n + i) j = (if i = j then -b else z) ∧
    cshiftBlock z n A a b (n + i) (n + j) = (if i = j then A i j - a else A i j) := by
  have h1 : ¬ (n + i < n) := by omega
  have h2 : ¬ (n + j < n) := by omega
  refine ⟨?_, ?_, ?_, ?_⟩
  · simp [cshiftBlock, hi, hj]
  · simp [cshiftBlock, hi, h2]; by_cases h : i = j <;> simp [h, eq_comm]
  · simp [cshiftBlock, hj, h1]
  · simp [cshiftBlock, h1, h2]

/-! ### template footprint regenerated from the headers (`Gen/OpsFootprint.lean`) -/
open Gen.OpsFootprint in
/-- every Eigen member type / view / factorization call of a wrapper that has a triangle option receives that option, and every
    wrapper class with a triangle option has at least one such use (a dropped `Uplo` makes this fail).
    (History: before fae71a7 `SparseRegularInverse`'s `ConjugateGradient` member was the one exception, F7.) -/
theorem c11_uplo_passthrough :
    (∀ e ∈ uploUses, e.2.2.2 = true) ∧
    (∀ c ∈ uploClasses, ∃ e ∈ uploUses, e.1 = c ∧ e.2.2.2 = true) ∧
    uploClasses.length = 11 ∧
    ("SparseRegularInverse", "field:ConjugateGradient", "Uplo", true) ∈ uploUses := by
  -- the tables of this section are closed terms over strings: evaluated once, by the kernel alone
  decide +kernel

open Gen.OpsFootprint in
/-- F19.  Full-strength wish "every Eigen::SparseLU in the wrappers is instantiated over a column-major matrix type" does NOT hold and
    need not: `SparseSymShiftSolve` and `SymShiftInvert` still instantiate it over the user's storage order, but they factorize a
    symmetric matrix (`isSymmetric(true)`; `symFromTri_symm`, `c11_shiftinvert_symmetric`), for which row-major storage of `M` is
    column-major storage of `Mᵀ = M`.  Proved from the regenerated footprint: every SparseLU is column-major OR declared symmetric, and
    the two wrappers for GENERAL matrices are explicitly column-major. -/
theorem c11_sparselu_colmajor_or_symmetric :
    (∀ e ∈ sparseLUUses, e.2.2.1 = true ∨ e.2.2.2 = true) ∧
    (∀ e ∈ sparseLUUses, (e.1 = "SparseGenRealShiftSolve" ∨ e.1 = "SparseGenComplexShiftSolve") → e.2.2.1 = true) ∧
    (∃ e ∈ sparseLUUses, e.1 = "SparseGenRealShiftSolve") ∧ (∃ e ∈ sparseLUUses, e.1 = "SparseGenComplexShiftSolve") ∧
    sparseLUUses.length = 4 := by
  decide +kernel

open Gen.OpsFootprint in
/-- F20.  Every `set_shift` / `factorize` that computes a factorization whose solver can report failure (BKLDLT, SparseLU) tests the
    status and throws (or returns it to `SymShiftInvert::set_shift`, which throws); the only unchecked ones use Eigen::PartialPivLU,
    which has no failure status (dense general shift solves: a singular shifted matrix is outside the documented domain). -/
theorem c11_shift_failure_throws :
    (∀ e ∈ shiftChecks, e.2.2.1 = "PartialPivLU" ∨ e.2.2.2 = true) ∧
    ("SparseGenComplexShiftSolve", "set_shift", "SparseLU", true) ∈ shiftChecks ∧
    shiftChecks.length = 10 := by
  decide +kernel

open Gen.OpsFootprint in
/-- the statements of `SymShiftInvertHelper::factorize` that `ssiAssembleDenseA / DenseB / Sparse` mirror, as found in the header:
    which matrix gets which triangle argument, in which branch of `if (UploA == UploB)`, and where the transpose sits.
    (Rigid on purpose: an edit of the helper changes this table and the model has to be re-read against the source.) -/
theorem c11_helper_footprint : helperUses = [
    ("A", "selfadjointView", "UploA", ""),
    ("B", "selfadjointView", "UploB", ""),
    ("mat", "triangularView", "UploA", ""),
    ("(B * sigma)", "triangularView", "UploA", "then(UploA == UploB)"),
    ("(B * sigma)", "triangularView.transpose", "UploB", "else(UploA == UploB)"),
    ("fac", "compute", "UploA", ""),
    ("mat", "triangularView", "UploB", ""),
    ("A", "triangularView", "UploB", "then(UploA == UploB)"),
    ("A", "triangularView.transpose", "UploA", "else(UploA == UploB)"),
    ("fac", "compute", "UploB", "")] := by decide +kernel

/-! ### what the wrappers do to their third-party solver objects (`solverFields`, `solverCalls`, `configCallsElsewhere`, regenerated) -/
open Gen.OpsFootprint in
/-- **every use of a solver object is a documented one** (decided over the regenerated table, which lists EVERY member call a wrapper method
    makes on a SparseLU / PartialPivLU / LLT / SimplicialLLT / ConjugateGradient / BKLDLT member, on the `Fac&` parameter of the three
    `SymShiftInvertHelper::factorize` and on local references to them, and every other occurrence of such an object):
    `compute`, `info()`, `solve`, `matrixL()/matrixU()/permutationP()/permutationPinv()`, the single configuration call `isSymmetric(true)`, and the
    hand-over of `m_solver` to the helper; no function with the name of a solver configuration function is called on anything else; every solver
    member is factorized somewhere; every wrapper has exactly one solver member. -/
theorem c11_solver_calls_documented :
    (∀ e : SolverCall, e ∈ solverCalls → documentedCall e.call e.args = true) ∧
    configCallsElsewhere = [] ∧
    (∀ f ∈ solverFields, ∃ e : SolverCall, e ∈ solverCalls ∧ e.cls = f.1 ∧ e.obj = f.2.1 ∧ (e.call = "compute" ∨ e.call = "(use)")) ∧
    (solverFields.map (·.1)).Nodup ∧ solverFields.length = 10 ∧
    ("SparseSymShiftSolve", "set_shift", "m_solver", "SparseLU", "isSymmetric", "true") ∈ solverCalls ∧
    ("SymShiftInvertHelper", "factorize", "fac", "template parameter Fac", "isSymmetric", "true") ∈ solverCalls := by
  decide +kernel

open Gen.OpsFootprint in
/-- lifted to ALL names (`only_documented_names`): whatever member function is not in the documented list — `setPivotThreshold`, `setTolerance`,
    `setMaxIterations`, `analyzePattern`, `factorize`, `preconditioner`, anything a later Eigen adds — no wrapper method calls it on a solver object -/
theorem c11_only_documented_calls (name : String) (hn : name ∉ documentedNames) (hu : name ≠ "(use)") :
    ∀ e : SolverCall, e ∈ solverCalls → e.call ≠ name :=
  only_documented_names solverCalls c11_solver_calls_documented.1 name hn hu

open Gen.OpsFootprint in
/-- **no pivot-threshold change.**  No wrapper calls `setPivotThreshold`; hence for EVERY history of wrapper-method invocations (any methods of any
    wrappers, any number of times, any order, modelled as a list of recorded solver calls) a SparseLU object still has the pivot threshold it was
    constructed with (1.0: partial pivoting, multipliers bounded by 1, `c11_partial_pivoting`), and the iterative solver keeps its default tolerance
    and iteration limit. -/
theorem c11_no_pivot_threshold_change :
    (∀ e : SolverCall, e ∈ solverCalls → e.call ≠ "setPivotThreshold" ∧ e.call ≠ "setTolerance" ∧ e.call ≠ "setMaxIterations") ∧
    (∀ hist : List SolverCall, (∀ e ∈ hist, e ∈ solverCalls) → ∀ c : LUConfig, (c.run hist).pivotThreshold = c.pivotThreshold) ∧
    (∀ hist : List SolverCall, (∀ e ∈ hist, e ∈ solverCalls) → (LUConfig.initial.run hist).pivotThreshold = none) := by
  have h := fun (nm : String) (hn : nm ∉ documentedNames) (hu : nm ≠ "(use)") => c11_only_documented_calls nm hn hu
  have hp := h "setPivotThreshold" (by decide) (by decide)
  refine ⟨fun e he => ⟨hp e he, h "setTolerance" (by decide) (by decide) e he, h "setMaxIterations" (by decide) (by decide) e he⟩, ?_, ?_⟩
  · intro hist hh c
    exact LUConfig.run_threshold hist c (fun e he => hp e (hh e he))
  · intro hist hh
    exact LUConfig.run_threshold hist LUConfig.initial (fun e he => hp e (hh e he))

/-- the hypothesis is satisfiable and the conclusion is not vacuous: the history `set_shift; perform_op; set_shift` of SparseSymShiftSolve switches the
    symmetric ordering on and leaves the threshold alone … -/
example : LUConfig.initial.run [("SparseSymShiftSolve", "set_shift", "m_solver", "SparseLU", "isSymmetric", "true"),
      ("SparseSymShiftSolve", "set_shift", "m_solver", "SparseLU", "compute", "mat"), ("SparseSymShiftSolve", "perform_op", "m_solver", "SparseLU", "solve", "x"),
      ("SparseSymShiftSolve", "set_shift", "m_solver", "SparseLU", "isSymmetric", "true")] = ⟨true, none⟩ := by decide +kernel
/-- … whereas a `setPivotThreshold` call would show up in the state (so a table containing one cannot satisfy the theorem) -/
example : (LUConfig.initial.run [("SparseSymShiftSolve", "set_shift", "m_solver", "SparseLU", "setPivotThreshold", "Eigen::NumTraits<Scalar>::dummy_precision()")]).pivotThreshold
    = some "Eigen::NumTraits<Scalar>::dummy_precision()" := by decide +kernel

/-- why the threshold matters (`SparseLUImpl::pivotL`): a diagonal entry `d` accepted as pivot with threshold `t > 0` bounds every multiplier of its
    column by `1 / t`; for the constructor's `t = 1` this is partial pivoting (`|a / d| ≤ 1`), for `t = 10⁻¹²` the bound is `10¹²` -/
theorem c11_partial_pivoting {K : Type} [Field K] [LinearOrder K] [IsStrictOrderedRing K] (F : FieldFns K) (t pivmax d : K) (ht : 0 < t)
    (hacc : @diagPivotAccepted K _ (scOfField F) t pivmax d = true) (a : K) (ha : |a| ≤ pivmax) :
    |a / d| ≤ 1 / t ∧ (t = 1 → |a / d| ≤ 1) := by
  refine ⟨diagPivot_multiplier_bound F t pivmax d ht hacc a ha, ?_⟩
  intro h1; subst h1
  exact diagPivot_partial F pivmax d hacc a ha

/-- the bound is attained: with `t = 10⁻⁶` the diagonal `d = 10⁻⁶` of a column with an off-diagonal entry `1` is accepted and the multiplier is `10⁶`;
    with `t = 1` it is rejected -/
example : letI := scOfField (⟨id, fun x _ => x, 0, 0⟩ : FieldFns ℚ)
    diagPivotAccepted (α := ℚ) (1 / 1000000) 1 (1 / 1000000) = true ∧ diagPivotAccepted (α := ℚ) 1 1 (1 / 1000000) = false ∧
    |(1 : ℚ) / (1 / 1000000)| = 1000000 := by
  refine ⟨?_, ?_, ?_⟩
  · simp [diagPivotAccepted]
  · simp [diagPivotAccepted]; norm_num
  · norm_num

end C11
