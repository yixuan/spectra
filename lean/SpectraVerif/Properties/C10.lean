/-
  C10 — Bunch-Kaufman LDLT (include/Spectra/LinAlg/BKLDLT.h, MatOp/DenseSymShiftSolve.h, MatOp/SymShiftInvert.h).

  Objects of the theorems:
   * `Gen.BK.*`  — regenerated from the headers on every run: `solve_inplace_2x2`, `inverse_inplace_2x2`, `compress_permutation`,
     the singularity tests of the two eliminations, the status statements of `compute`, the wrapper guards.
   * `BKLDLT.*`  — the hand model (Model/BKLDLT.lean; real scalars), tied to the code by the bit-exact correspondence.
   * `BKLDLTC.*` — the hand model of the complex Hermitian instantiation (Model/BKLDLTC.lean; std::complex as pairs over the real
     scalar class, bit-exact against `BKLDLT<std::complex<double>>`): section (7).  Its value-level theorems are index safety,
     permutation structure, status and Lower ≡ Upper; the per-step Schur-complement statements are proved for the real model only.
  Every theorem is for all sizes, all inputs, every scalar type with every `Sc` instance where stated so (the comparisons are
  then arbitrary functions, i.e. every pivot-decision sequence is covered), resp. every (ordered) field.

  Proved in exact arithmetic for the real model (tier 3, section (8)): `c10_factor_partial`, `c10_solve_correct_partial` (induction
  over the pivot loop, every pivot-decision sequence).
  NOT proved (out of reach here, stated for the record): tier 3 for the complex model and in floating point; the full clause
    ‖(A−σI)x − b‖ ≤ c·n·eps·(‖A−σI‖‖x‖+‖b‖) in floating point needs the Bunch–Kaufman growth/backward-error analysis; the harness
    checks it on the implementation with c = 100 in long double.
-/
import Mathlib.Algebra.Order.Field.Rat
import Mathlib.Tactic.NormNum
import Mathlib.Data.Matrix.Mul
import Mathlib.Algebra.BigOperators.Fin
import SpectraVerif.Proofs.C10SolveSafeC
import SpectraVerif.Proofs.C10Factor
import SpectraVerif.Proofs.C10SolveCorrect
import SpectraVerif.Proofs.C10History

namespace C10
open Gen.BK BKLDLT

/-! ### (1) index safety -/

section index
variable {α : Type} [Add α] [Sub α] [Mul α] [Div α] [Neg α] [Sc α]

/-- The packed offset of every legal `coeff(i,j)` lies inside `m_data`: `0 ≤ j·n − j(j−1)/2 + (i−j) < n(n+1)/2`. -/
theorem c10_offset_in_range (n i j : Int) (h : 0 ≤ j ∧ j ≤ i ∧ i < n) :
    0 ≤ j * n - j * (j - 1) / 2 + (i - j) ∧ j * n - j * (j - 1) / 2 + (i - j) < n * (n + 1) / 2 :=
  off_bounds h

/-- `compute_pointer`: consecutive column pointers differ by the column length (`head += m_n - i`), from 0 up to the array size. -/
theorem c10_colptr (n j : Int) : colptr n 0 = 0 ∧ colptr n (j + 1) = colptr n j + (n - j) ∧ colptr n n = packedSize n :=
  ⟨colptr_zero n, colptr_succ n j, colptr_n n⟩

/-- Index safety of the factorization: for every size, every input, every scalar type and every outcome of every comparison
    (hence every pivot-decision sequence), all accesses `coeff(i,j)` performed by `compute` (copy_data incl. the running `dest`
    pointer, pivot search, interchanges, both eliminations, the final block) satisfy `0 ≤ j ≤ i < n`, and all `m_perm[i]`
    accesses satisfy `0 ≤ i < n`. -/
theorem c10_index_safe_compute (src : Array α) (rowMajor : Bool) (n uplo : Int) (shift alpha : α) :
    (compute src rowMajor n uplo shift alpha).s.ok = true ∧ (compute src rowMajor n uplo shift alpha).s.n = n :=
  ⟨(compute_good src rowMajor n uplo shift alpha).2, (compute_good src rowMajor n uplo shift alpha).1⟩

/-- … and of `solve_inplace` on the result of `compute`: every `coeff(i,j)` has `0 ≤ j ≤ i < n`, every `m_perm[i]` and every
    `x[i]` has `0 ≤ i < n` — forward substitution, block-diagonal solve (a 2x2 block never starts at the last row), backward
    substitution (a negative `m_perm[i]` is only met at the second row of a pair, so column `i-1` exists), both permutation passes.
    Rests on the block structure of `m_perm` that `compute` establishes for EVERY pivot-decision sequence (`c10_perm_blocks`). -/
theorem c10_index_safe (src : Array α) (rowMajor : Bool) (n uplo : Int) (shift alpha : α) (b : Array α) (hn : 1 ≤ n) :
    (solve_inplace (compute src rowMajor n uplo shift alpha) b).s.ok = true :=
  solve_inplace_eq _ b ▸ Skel.solve_inplace_ok (compute_ok src rowMajor n uplo shift alpha (by omega)) hn _ _ b

/-- `m_perm` after `compute`, for every input and every pivot decision: `n` entries, tiled from the left and from the right by 1x1
    blocks (entry ≥ 0) and 2x2 blocks (two consecutive negative entries), every entry decoding to a position in `[0, n)`. -/
theorem c10_perm_blocks (src : Array α) (rowMajor : Bool) (n uplo : Int) (shift alpha : α) (hn : 0 ≤ n) :
    let f := compute src rowMajor n uplo shift alpha
    f.s.perm.size = n.toNat ∧ Tl (pfn f.s) 0 n ∧ Pre (pfn f.s) n ∧ ∀ i, 0 ≤ i → i < n → -n ≤ pfn f.s i ∧ pfn f.s i < n := by
  intro f
  have h := (compute_ok src rowMajor n uplo shift alpha hn).pinv
  exact ⟨h.1, h.2.1, h.2.2.1, h.2.2.2.2⟩

/-- the flag really records violations: an out-of-range access switches it off for good (non-vacuity of `ok`) -/
example : ((initSt (α := Float) 3).get 3 0).2.ok = false := by decide
example : ((initSt (α := Float) 3).wr 1 2 0.0).ok = false := by decide
example : ((initSt (α := Float) 3).wr 2 1 0.0).ok = true := by decide

end index

/-! ### (2) permutation round trip -/

section perm
variable {α : Type} [Add α] [Sub α] [Mul α] [Div α] [Neg α] [Sc α]

/-- Step 5 of `solve_inplace` undoes step 1: for every compressed permutation whose entries are legal positions of the
    vector (which `c10_permc_in_range` shows for every `m_perm` produced by `compute`), applying the swaps and then the swaps in
    reverse order returns the original vector. -/
theorem c10_perm_inverse (x : Array α) (s : St α) (pc : List (Int × Int))
    (h : ∀ ab ∈ pc, 0 ≤ ab.1 ∧ ab.1 < x.size ∧ 0 ≤ ab.2 ∧ ab.2 < x.size) :
    (applyPermc (applyPermc ⟨x, s⟩ pc) pc.reverse).x = x :=
  perm_round_trip x s pc h

/-- every pair produced by the translated `compress_permutation` is `(i, decode (m_perm i))` with `0 ≤ i < n` -/
theorem c10_permc_in_range (perm : Int → Int) (n : Int) (hp : ∀ i, 0 ≤ i → i < n → (0 ≤ perm i ∧ perm i < n) ∨ (perm i < 0 ∧ -perm i - 1 < n)) :
    ∀ ab ∈ compress_permutation perm n, 0 ≤ ab.1 ∧ ab.1 < n ∧ 0 ≤ ab.2 ∧ ab.2 < n :=
  permc_in_range perm n hp

end perm

/-! ### (3) the 2x2 block solve / inverse (translated from the header) -/

section solve2
variable {K : Type} [Field K]

/-- Any field, any `Sc` instance (so the row-exchange decision is an arbitrary oracle): if the pivot used as divisor and the
    determinant are nonzero, `solve_inplace_2x2` returns the solution of `E x = b`, `E = [e11 e21; e21 e22]` — both branches. -/
theorem c10_solve2 [Sc K] (e11 e21 e22 b1 b2 : K)
    (hp : if Sc.ge (Sc.abs e11) (Sc.abs e21) then e11 ≠ 0 else e21 ≠ 0) (hdet : e11 * e22 - e21 * e21 ≠ 0) :
    e11 * (solve_inplace_2x2 e11 e21 e22 b1 b2).1 + e21 * (solve_inplace_2x2 e11 e21 e22 b1 b2).2 = b1 ∧
    e21 * (solve_inplace_2x2 e11 e21 e22 b1 b2).1 + e22 * (solve_inplace_2x2 e11 e21 e22 b1 b2).2 = b2 :=
  C10S.solve2_any e11 e21 e22 b1 b2 hp hdet

/-- same for the column version used by the 2x2 elimination (`solve_left_2x2`, hand model): `x E = c` -/
theorem c10_solve_left2 [Sc K] (e11 e21 e22 c1 c2 : K)
    (hp : if Sc.ge (Sc.abs e11) (Sc.abs e21) then e11 ≠ 0 else e21 ≠ 0) (hdet : e11 * e22 - e21 * e21 ≠ 0) :
    (solve_left_2x2 e11 e21 e22 c1 c2).1 * e11 + (solve_left_2x2 e11 e21 e22 c1 c2).2 * e21 = c1 ∧
    (solve_left_2x2 e11 e21 e22 c1 c2).1 * e21 + (solve_left_2x2 e11 e21 e22 c1 c2).2 * e22 = c2 :=
  C10S.solve_left2_any e11 e21 e22 c1 c2 hp hdet

/-- `inverse_inplace_2x2` returns `E⁻¹` whenever `det E ≠ 0` (any field) -/
theorem c10_inv2 [Sc K] (e11 e21 e22 : K) (hdet : e11 * e22 - e21 * e21 ≠ 0) :
    let d := inverse_inplace_2x2 e11 e21 e22
    e11 * d.1 + e21 * d.2.1 = 1 ∧ e11 * d.2.1 + e21 * d.2.2 = 0 ∧
    e21 * d.1 + e22 * d.2.1 = 0 ∧ e21 * d.2.1 + e22 * d.2.2 = 1 :=
  C10S.inv2_any e11 e21 e22 hdet

end solve2

section ordered
variable {K : Type} [Field K] [LinearOrder K] [IsStrictOrderedRing K] (F : FieldFns K)

/-- With the real comparison `|e11| ≥ |e21|` (exact arithmetic over any ordered field) the divisor is automatically nonzero:
    `det E ≠ 0` alone suffices. -/
theorem c10_solve2_ordered (e11 e21 e22 b1 b2 : K) (hdet : e11 * e22 - e21 * e21 ≠ 0) :
    e11 * (@solve_inplace_2x2 K _ _ _ _ _ (scOfField F) e11 e21 e22 b1 b2).1 + e21 * (@solve_inplace_2x2 K _ _ _ _ _ (scOfField F) e11 e21 e22 b1 b2).2 = b1 ∧
    e21 * (@solve_inplace_2x2 K _ _ _ _ _ (scOfField F) e11 e21 e22 b1 b2).1 + e22 * (@solve_inplace_2x2 K _ _ _ _ _ (scOfField F) e11 e21 e22 b1 b2).2 = b2 :=
  C10S.solve2_ordered F e11 e21 e22 b1 b2 hdet

example : (3 : ℚ) * 2 - 1 * 1 ≠ 0 := by norm_num

/-! ### (4) status -/

/-- 1x1 elimination: `NumericalIssue` iff the pivot is exactly zero, otherwise `Successful` (translated test) -/
theorem c10_status_ge1 (akk : K) :
    (@ge1_status K _ _ _ _ _ (scOfField F) akk = NumericalIssue ↔ akk = 0) ∧
    (@ge1_status K _ _ _ _ _ (scOfField F) akk = Successful ↔ akk ≠ 0) := C10S.ge1_status_iff F akk

/-- 2x2 elimination: `NumericalIssue` iff the block is exactly singular, otherwise `Successful` (translated test) -/
theorem c10_status_ge2 (e11 e21 e22 : K) :
    (@ge2_status K _ _ _ _ _ (scOfField F) e11 e21 e22 = NumericalIssue ↔ e11 * e22 - e21 * e21 = 0) ∧
    (@ge2_status K _ _ _ _ _ (scOfField F) e11 e21 e22 = Successful ↔ e11 * e22 - e21 * e21 ≠ 0) := C10S.ge2_status_iff F e11 e21 e22

/-- the status statements of `compute` (translated): the status is `Successful` when the pivot loop is entered (this is what makes
    `n = 1` report `Successful`: fix 09507a4), the loop is left exactly on a non-`Successful` status, and the trailing block turns
    a zero last 1x1 pivot into `NumericalIssue` and changes nothing otherwise. -/
theorem c10_status_compute (m_n k info : Int) (akk : K) :
    compute_init_info info = Successful ∧
    (compute_break info = true ↔ info ≠ Successful) ∧
    @compute_final_info K _ _ _ _ _ (scOfField F) m_n k info akk = (if k = m_n - 1 ∧ akk = 0 then NumericalIssue else info) :=
  C10S.compute_status F m_n k info akk

/-- `n = 1` (no elimination step runs): `info()` is `Successful` for a nonzero shifted entry and `NumericalIssue` for a zero one. -/
theorem c10_status_n1 (src : Array K) (rowMajor : Bool) (uplo : Int) (shift alpha : K) :
    letI : Sc K := scOfField F
    (compute src rowMajor 1 uplo shift alpha).info =
      (if (copy_data (initSt 1) src rowMajor uplo shift).rd 0 0 = 0 then NumericalIssue else Successful) :=
  C10S.status_n1 F src rowMajor uplo shift alpha

end ordered

/-- The pivot loop, any scalar type: it stops at the first elimination whose status is not `Successful` and that status is the
    loop's result; if every elimination succeeds the result is `Successful`.  So `info()` after `compute` is always `Successful`
    or the non-`Successful` status of an elimination / of the trailing block. -/
theorem c10_status_loop {α : Type} [Add α] [Sub α] [Mul α] [Div α] [Neg α] [Sc α] (alpha : α) (fuel : Nat) (k : Int) (s : St α) (tags : List Nat) :
    (computeLoop alpha fuel k Successful s tags).2.1 = Successful ∨
    (computeLoop alpha fuel k Successful s tags).2.1 = NumericalIssue :=
  loop_status alpha fuel k s tags

/-- After `compute`, `info()` is `Successful` or `NumericalIssue` — in particular never `NotComputed` — for every size incl. `n = 1`
    (F8, fix 09507a4), every input and every scalar type. -/
theorem c10_status_total {α : Type} [Add α] [Sub α] [Mul α] [Div α] [Neg α] [Sc α] (src : Array α) (rowMajor : Bool) (n uplo : Int) (shift alpha : α) :
    (compute src rowMajor n uplo shift alpha).info = Successful ∨ (compute src rowMajor n uplo shift alpha).info = NumericalIssue :=
  compute_info_total src rowMajor n uplo shift alpha

/-- wrappers: `DenseSymShiftSolve::set_shift` and `SymShiftInvert::set_shift` (dense branch) throw `std::invalid_argument`
    exactly when `info() ≠ Successful`, and return normally otherwise (translated guards). -/
theorem c10_wrapper_throws (info : Int) :
    (dense_set_shift_guard info = Res.throw "std::invalid_argument" ↔ info ≠ Successful) ∧
    (dense_set_shift_guard info = Res.ok () ↔ info = Successful) ∧
    (symshift_set_shift_guard (symshift_factorize_ok info) = Res.throw "std::invalid_argument" ↔ info ≠ Successful) ∧
    (symshift_set_shift_guard (symshift_factorize_ok info) = Res.ok () ↔ info = Successful) :=
  C10S.wrapper_guards info

/-! ### (5) Lower / Upper -/

/-- For a symmetric input (`src(i,j) = src(j,i)` on the stored values, `0 ≤ j ≤ i < n`), the packed copy made from `Upper` equals
    the one made from `Lower` — the whole state: every packed entry, `m_perm`, and the access flag — in either storage order, for
    every scalar type (so also bit for bit in floating point).  Column-major `Lower` is the `std::copy` fast path, everything else
    the element loop with the running `dest` pointer; the proof shows `dest` is the column pointer `j·n − j(j−1)/2`. -/
theorem c10_uplo_equal {α : Type} [Add α] [Sub α] [Mul α] [Div α] [Neg α] [Sc α] (src : Array α) (rowMajor : Bool) (n : Int) (shift : α)
    (hsym : ∀ i j, 0 ≤ j → j ≤ i → i < n → srcCoeff src rowMajor n i j = srcCoeff src rowMajor n j i) :
    copy_data (initSt n) src rowMajor 2 shift = copy_data (initSt n) src rowMajor 1 shift :=
  uplo_equal src rowMajor n shift hsym

/-- hence the whole factorization and every solve agree -/
theorem c10_uplo_equal_compute {α : Type} [Add α] [Sub α] [Mul α] [Div α] [Neg α] [Sc α] (src : Array α) (rowMajor : Bool) (n : Int) (shift alpha : α)
    (hsym : ∀ i j, 0 ≤ j → j ≤ i → i < n → srcCoeff src rowMajor n i j = srcCoeff src rowMajor n j i) :
    compute src rowMajor n 2 shift alpha = compute src rowMajor n 1 shift alpha := by
  unfold compute; rw [uplo_equal src rowMajor n shift hsym]

/-! ### (6) one elimination step is the Schur-complement step -/

section elim
variable {K : Type} [Field K]

/-- 1x1 step as the code computes it: with `c = l_j / a`, the update `b − c·l_i` is the Schur complement entry `b − l_i l_j / a`,
    the stored multiplier is `l_i / a`, and `A = L·diag(a, S)·Lᵀ` holds entrywise: `l_i' · a · l_j' + S_ij = b`. -/
theorem c10_elim1 (a li lj b : K) (ha : a ≠ 0) :
    b - (lj / a) * li = b - li * lj / a ∧ (li / a) * a * (lj / a) + (b - (lj / a) * li) = b ∧ (li / a) * a = li :=
  C10S.elim1 a li lj b ha

/-- 2x2 step: with `(x1, x2) = (l1 l2)·E⁻¹` (as `solve_left_2x2` returns them), the update `b − (x1·l1j + x2·l2j)` is the Schur
    complement entry, and `X E = l`, i.e. `L D Lᵀ` reproduces the block column and `b`. -/
theorem c10_elim2 [Sc K] (e11 e21 e22 l1i l2i l1j l2j b : K)
    (hp : if Sc.ge (Sc.abs e11) (Sc.abs e21) then e11 ≠ 0 else e21 ≠ 0) (hdet : e11 * e22 - e21 * e21 ≠ 0) :
    let xi := solve_left_2x2 e11 e21 e22 l1i l2i
    let xj := solve_left_2x2 e11 e21 e22 l1j l2j
    (xi.1 * e11 + xi.2 * e21 = l1i ∧ xi.1 * e21 + xi.2 * e22 = l2i) ∧
    ((xi.1 * e11 + xi.2 * e21) * xj.1 + (xi.1 * e21 + xi.2 * e22) * xj.2 + (b - (xi.1 * l1j + xi.2 * l2j)) = b) :=
  C10S.elim2 e11 e21 e22 l1i l2i l1j l2j b hp hdet

end elim

section elim_model
variable {α : Type} [Add α] [Sub α] [Mul α] [Div α] [Neg α] [Sc α]

/-- The 1x1 elimination of the MODEL, entry by entry, for every scalar type (read-over-write reasoning on the packed array, all `n`,
    all `k`): if the pivot test passes, column `k` below the diagonal holds the multipliers `A(i,k)/a_kk`, every entry right of
    column `k` holds `A(i,j) − (A(j,k)/a_kk)·A(i,k)` — by `c10_elim1` the Schur complement — and nothing else changes. -/
theorem c10_elim1_model (n : Int) (s : St α) (k : Int) (hs : s.n = n ∧ s.data.size = (packedSize n).toNat) (hk : 0 ≤ k) (hkn : k < n)
    (hst : ge1_status (s.rd k k) = Successful) :
    (gaussian_elimination_1x1 s k).1 = Successful ∧
    ∀ i j, 0 ≤ j → j ≤ i → i < n → (gaussian_elimination_1x1 s k).2.rd i j =
      if j = k ∧ k < i then s.rd i k / s.rd k k
      else if k < j then s.rd i j - (s.rd j k / s.rd k k) * s.rd i k
      else s.rd i j :=
  elim1_model hs hk hkn hst

/-- The 2x2 elimination of the MODEL, entry by entry: with `X(i) = (A(i,k), A(i,k+1))·E⁻¹` (`solve_left_2x2`, see `c10_solve_left2`),
    rows `i ≥ k+2` of columns `k`, `k+1` hold `X(i)`, every entry right of column `k+1` holds
    `A(i,j) − (X(i)₁·A(j,k) + X(i)₂·A(j,k+1))` — by `c10_elim2` the Schur complement w.r.t. the 2x2 block — nothing else changes. -/
theorem c10_elim2_model (n : Int) (s : St α) (k : Int) (hs : s.n = n ∧ s.data.size = (packedSize n).toNat) (hk : 0 ≤ k) (hkn : k + 1 < n)
    (hst : ge2_status (s.rd k k) (s.rd (k + 1) k) (s.rd (k + 1) (k + 1)) = Successful) :
    (gaussian_elimination_2x2 s k).1 = Successful ∧
    ∀ i j, 0 ≤ j → j ≤ i → i < n → (gaussian_elimination_2x2 s k).2.rd i j =
      if j = k ∧ k + 2 ≤ i then (solve_left_2x2 (s.rd k k) (s.rd (k + 1) k) (s.rd (k + 1) (k + 1)) (s.rd i k) (s.rd i (k + 1))).1
      else if j = k + 1 ∧ k + 2 ≤ i then (solve_left_2x2 (s.rd k k) (s.rd (k + 1) k) (s.rd (k + 1) (k + 1)) (s.rd i k) (s.rd i (k + 1))).2
      else if k + 1 < j then s.rd i j -
        ((solve_left_2x2 (s.rd k k) (s.rd (k + 1) k) (s.rd (k + 1) (k + 1)) (s.rd i k) (s.rd i (k + 1))).1 * s.rd j k +
         (solve_left_2x2 (s.rd k k) (s.rd (k + 1) k) (s.rd (k + 1) (k + 1)) (s.rd i k) (s.rd i (k + 1))).2 * s.rd j (k + 1))
      else s.rd i j :=
  elim2_model hs hk hkn hst

/-- the size hypothesis holds for the state `compute` starts from (and every model operation preserves it) -/
example (n : Int) : (initSt (α := α) n).n = n ∧ (initSt (α := α) n).data.size = (packedSize n).toNat := initSt_sized n

/-- distinct legal `coeff(i,j)` live at distinct offsets (the packed layout is injective on the lower triangle) -/
theorem c10_offset_injective (n i j i' j' : Int) (h : 0 ≤ j ∧ j ≤ i ∧ i < n) (h' : 0 ≤ j' ∧ j' ≤ i' ∧ i' < n)
    (e : off n i j = off n i' j') : i = i' ∧ j = j' := off_inj h h' e

/-- `pivoting_1x1(k, r)` of the MODEL is the symmetric interchange `k ↔ r` of the trailing block: reading the packed lower triangle
    as the symmetric matrix `M(a,b) = coeff(max a b, min a b)`, afterwards `M'(i,j) = M(τ i, τ j)` for all `k ≤ j ≤ i < n` with `τ`
    the transposition `(k r)`; columns left of `k` (the finished part of `L`, permuted separately by `interchange_rows`) are untouched.
    All three pointer loops (diagonal swap, `swap_ranges` below row `r`, the column-`k`/row-`r` exchange) are covered; any scalar type. -/
theorem c10_pivot_sym (n : Int) (s : St α) (k r : Int) (hs : s.n = n ∧ s.data.size = (packedSize n).toNat) (hk : 0 ≤ k) (hkr : k ≤ r) (hr : r < n) :
    ∀ i j, 0 ≤ j → j ≤ i → i < n →
      (pivoting_1x1 s k r).rd i j = if k ≤ j then symrd s (tr k r i) (tr k r j) else s.rd i j :=
  (pivoting_1x1_spec hs hk hkr hr).2

/-- the 2x2 pivot as the code performs it (`p = k`): the symmetric interchange `k+1 ↔ r` of the trailing block `A[k:, k:]`
    (two `pivoting_1x1` calls plus the extra swap of `coeff(k+1,k)` with `coeff(r,k)`) -/
theorem c10_pivot2_sym (n : Int) (s : St α) (k r : Int) (hs : s.n = n ∧ s.data.size = (packedSize n).toNat) (hk : 0 ≤ k) (hr1 : k + 1 ≤ r) (hr : r < n) :
    ∀ i j, 0 ≤ j → j ≤ i → i < n →
      (pivoting_2x2 s k r k).rd i j = if k ≤ j then symrd s (tr (k + 1) r i) (tr (k + 1) r j) else s.rd i j :=
  (pivoting_2x2_spec hs hk hr1 hr).2

/-- `interchange_rows(r1, r2, c1, c2)` exchanges rows `r1`, `r2` in columns `c1..c2` (the permutation applied to the finished part of `L`) -/
theorem c10_interchange_rows (n : Int) (s : St α) (r1 r2 c1 c2 : Int) (hs : s.n = n ∧ s.data.size = (packedSize n).toNat)
    (hc : 0 ≤ c1) (h1 : c2 < r1) (h2 : r1 ≤ r2) (h3 : r2 < n) :
    ∀ i j, 0 ≤ j → j ≤ i → i < n → (interchange_rows s r1 r2 c1 c2).rd i j =
      if c1 ≤ j ∧ j ≤ c2 ∧ i = r1 then s.rd r2 j else if c1 ≤ j ∧ j ≤ c2 ∧ i = r2 then s.rd r1 j else s.rd i j :=
  (interchange_rows_spec hs hc h1 h2 h3).2

end elim_model

/-! ### (7) the complex Hermitian instantiation `BKLDLT<std::complex<R>>` (Model/BKLDLTC.lean, bit-exact against the code) -/

section cplx
open BKLDLTC (Cx conjC realC)
variable {β : Type} [Add β] [Sub β] [Mul β] [Div β] [Neg β] [Sc β]

/-- Index safety of the complex factorization, for every real scalar type `β`, every `Sc β` instance (every outcome of every
    `abs`/comparison, hence every pivot-decision sequence), every input: all `coeff(i,j)` accesses of `compute` — copy_data incl.
    the running `dest` pointer, pivot search, the interchanges with their conjugation loops, both eliminations, the last block —
    satisfy `0 ≤ j ≤ i < n`, all `m_perm[i]` accesses `0 ≤ i < n`. -/
theorem c10_index_safe_compute_complex (src : Array (Cx β)) (rowMajor : Bool) (n uplo : Int) (shift alpha : β) :
    (BKLDLTC.compute src rowMajor n uplo shift alpha).s.ok = true ∧ (BKLDLTC.compute src rowMajor n uplo shift alpha).s.n = n :=
  ⟨(BKLDLTC.compute_good src rowMajor n uplo shift alpha).2, (BKLDLTC.compute_good src rowMajor n uplo shift alpha).1⟩

/-- … and of the complex `solve_inplace` on the result of `compute` (forward substitution, block-diagonal solve, backward
    substitution with the conjugating `dot`, both permutation passes) -/
theorem c10_index_safe_complex (src : Array (Cx β)) (rowMajor : Bool) (n uplo : Int) (shift alpha : β) (b : Array (Cx β)) (hn : 1 ≤ n) :
    (BKLDLTC.solve_inplace (BKLDLTC.compute src rowMajor n uplo shift alpha) b).s.ok = true :=
  BKLDLTC.solve_inplace_eq _ b ▸ Skel.solve_inplace_ok (BKLDLTC.compute_ok src rowMajor n uplo shift alpha (by omega)) hn _ _ b

/-- `m_perm` after the complex `compute`: the same 1x1/2x2 tiling with entries decoding into `[0, n)` -/
theorem c10_perm_blocks_complex (src : Array (Cx β)) (rowMajor : Bool) (n uplo : Int) (shift alpha : β) (hn : 0 ≤ n) :
    let f := BKLDLTC.compute src rowMajor n uplo shift alpha
    f.s.perm.size = n.toNat ∧ Tl (pfn f.s) 0 n ∧ Pre (pfn f.s) n ∧ ∀ i, 0 ≤ i → i < n → -n ≤ pfn f.s i ∧ pfn f.s i < n := by
  intro f
  have h := (BKLDLTC.compute_ok src rowMajor n uplo shift alpha hn).pinv
  exact ⟨h.1, h.2.1, h.2.2.1, h.2.2.2.2⟩

/-- status of the complex pivot loop and of `compute`: `Successful` or `NumericalIssue`, never `NotComputed`, every size incl. 1 -/
theorem c10_status_loop_complex (alpha : β) (fuel : Nat) (k : Int) (s : St (Cx β)) (tags : List Nat) :
    (BKLDLTC.computeLoop alpha fuel k Successful s tags).2.1 = Successful ∨
    (BKLDLTC.computeLoop alpha fuel k Successful s tags).2.1 = NumericalIssue :=
  BKLDLTC.loop_status alpha fuel k s tags

theorem c10_status_total_complex (src : Array (Cx β)) (rowMajor : Bool) (n uplo : Int) (shift alpha : β) :
    (BKLDLTC.compute src rowMajor n uplo shift alpha).info = Successful ∨ (BKLDLTC.compute src rowMajor n uplo shift alpha).info = NumericalIssue :=
  BKLDLTC.compute_info_total src rowMajor n uplo shift alpha

/-- The branch condition of `copy_data` as TRANSLATED from the header: the `std::copy` path (which copies memory verbatim, without
    the conjugation of the element loop) is taken for column-major + `Lower` and for nothing else — in particular never for `Upper`.
    (A fast path extended to row-major + `Upper` changes the regenerated `copy_fast_path` and this theorem fails.) -/
theorem c10_copy_fast_path (rowMajor : Bool) (uplo : Int) :
    copy_fast_path rowMajor uplo = ((!rowMajor) && decide (uplo = 1)) ∧ copy_fast_path rowMajor 2 = false :=
  ⟨BKLDLTC.copy_fast_path_spec rowMajor uplo, by rw [BKLDLTC.copy_fast_path_spec]; exact BKLDLTC.fast_upper rowMajor⟩

/-- Lower ≡ Upper for Hermitian input, complex scalars: if the stored upper triangle is the conjugate of the stored lower triangle
    (`conj(src(j,i)) = src(i,j)` for `0 ≤ j ≤ i < n`, with the TRANSLATED `ScalarOp<std::complex<R>>::conj`), the packed copy made
    from `Upper` equals the one made from `Lower` — the whole state, entry for entry, in BOTH storage orders, for every real scalar
    type (no field axioms used: also bit for bit in floating point, where the hypothesis for `j = i` asks the imaginary part `y` of
    a diagonal entry to satisfy `-y = y`, which a float zero does not: there the diagonal imaginary parts may differ in the sign
    of zero until `ScalarOp::real` erases them in the elimination).  Column-major `Lower` is the `std::copy` path, the other three
    combinations the element loop; the conjugation on the `Upper` path is what makes this true. -/
theorem c10_uplo_equal_complex (src : Array (Cx β)) (rowMajor : Bool) (n : Int) (shift : β)
    (hherm : ∀ i j, 0 ≤ j → j ≤ i → i < n → conjC (BKLDLTC.srcCoeff src rowMajor n j i) = BKLDLTC.srcCoeff src rowMajor n i j) :
    BKLDLTC.copy_data (initSt n) src rowMajor 2 shift = BKLDLTC.copy_data (initSt n) src rowMajor 1 shift :=
  BKLDLTC.uplo_equal_complex src rowMajor n shift hherm

/-- hence the whole complex factorization and every solve agree -/
theorem c10_uplo_equal_compute_complex (src : Array (Cx β)) (rowMajor : Bool) (n : Int) (shift alpha : β)
    (hherm : ∀ i j, 0 ≤ j → j ≤ i → i < n → conjC (BKLDLTC.srcCoeff src rowMajor n j i) = BKLDLTC.srcCoeff src rowMajor n i j) :
    BKLDLTC.compute src rowMajor n 2 shift alpha = BKLDLTC.compute src rowMajor n 1 shift alpha := by
  unfold BKLDLTC.compute; rw [BKLDLTC.uplo_equal_complex src rowMajor n shift hherm]

end cplx

/-- the translated complex `ScalarOp`: `conj` negates the imaginary part and is an involution, `real` zeroes it (any ring) -/
theorem c10_scalarop_complex {R : Type} [Ring R] [Div R] [Sc R] (z : R × R) :
    scalarop_conj_c z = (z.1, -z.2) ∧ scalarop_conj_c (scalarop_conj_c z) = z ∧ scalarop_real_c z = (z.1, Sc.ofInt 0) := by
  refine ⟨rfl, ?_, rfl⟩
  simp [scalarop_conj_c, Sc.conj]

/-- the Hermitian hypothesis of `c10_uplo_equal_complex` is satisfiable with genuinely complex entries: `[[2, 1-3i], [1+3i, 5]]` over ℚ -/
example : letI : Sc ℚ := scOfField ⟨id, fun x _ => x, 1, 1⟩
    ∀ i j : Int, 0 ≤ j → j ≤ i → i < 2 →
    BKLDLTC.conjC (BKLDLTC.srcCoeff (β := ℚ) #[⟨2, 0⟩, ⟨1, 3⟩, ⟨1, -3⟩, ⟨5, 0⟩] false 2 j i) =
      BKLDLTC.srcCoeff #[⟨2, 0⟩, ⟨1, 3⟩, ⟨1, -3⟩, ⟨5, 0⟩] false 2 i j := by
  intro i j h0 h1 h2
  have hi : i = 0 ∨ i = 1 := by omega
  have hj : j = 0 ∨ j = 1 := by omega
  rcases hi with rfl | rfl <;> rcases hj with rfl | rfl <;>
    first | omega | simp [BKLDLTC.conjC, BKLDLTC.srcCoeff, BKLDLTC.ofPair, BKLDLTC.toPair, scalarop_conj_c, Sc.conj, srcIdx]

/-! ### (8) tier 3: the global identity of the factorization and the correctness of `solve` (real model, exact arithmetic) -/

section tier3

/-- What the packed array means after `compute` (definitions in Proofs/C10Tiling.lean): `Lent` is UNIT LOWER TRIANGULAR —
    block-unit for 2x2 pivots: the sub-diagonal entry of a 2x2 block is `0` in `L` — with the stored multipliers below;
    `Dent` is BLOCK DIAGONAL with the stored 1x1 entries and the stored symmetric 2x2 blocks `[d11 d21; d21 d22]`, zero elsewhere.
    `kind (pfn s) c` ∈ {0: 1x1 block, 1: first row of a 2x2 block, 2: second row} is read from the signs in `m_perm`. -/
theorem c10_LD_structure {K : Type} [Field K] [Sc K] (s : St K) (i j : Int) :
    Lent s i i = 1 ∧ (i < j → Lent s i j = 0) ∧ (kind (pfn s) j = 1 → Lent s (j + 1) j = 0) ∧
    (j < i → ¬(kind (pfn s) j = 1 ∧ i = j + 1) → Lent s i j = s.rd i j) ∧
    Dent s i i = s.rd i i ∧ (kind (pfn s) j = 1 → Dent s (j + 1) j = s.rd (j + 1) j ∧ Dent s j (j + 1) = s.rd (j + 1) j) ∧
    (i ≠ j → ¬(i = j + 1 ∧ kind (pfn s) j = 1) → ¬(j = i + 1 ∧ kind (pfn s) i = 1) → Dent s i j = 0) := by
  refine ⟨Lent_diag s i, Lent_upper s, Lent_sub s, fun h1 h2 => Lent_lower s h1 h2, by simp [Dent], fun h => ⟨?_, ?_⟩, fun h1 h2 h3 => ?_⟩
  · unfold Dent; rw [if_neg (by omega), if_pos ⟨rfl, h⟩]
  · unfold Dent; rw [if_neg (by omega), if_neg (by omega), if_pos ⟨rfl, h⟩]
  · unfold Dent; rw [if_neg h1, if_neg h2, if_neg h3]

variable {K : Type} [Field K] [LinearOrder K] [IsStrictOrderedRing K] (F : FieldFns K)

/-- TIER 3, factorization (exact arithmetic over any linearly ordered field, every size, every input, EVERY pivot-decision sequence:
    all five branches of `permutate_mat`, 1x1 and 2x2 pivots, arbitrary interchanges; induction over the pivot loop with the
    per-step lemmas `c10_pivot_sym`, `c10_pivot2_sym`, `c10_interchange_rows`, `c10_elim1_model`, `c10_elim2_model`):
    if `compute` reports `Successful`, then   P (A − σI) Pᵀ = L D Lᵀ   entry by entry, where
      * `shiftedSym src … a b` is the symmetric matrix `A − σI` read from the triangle of the input selected by `uplo`,
      * `permFn f.permc` is the index map of the compressed permutation (`(P x)[i] = x[permFn f.permc i]`), a bijection of `[0,n)`,
      * `L`, `D` are `Lent`, `Dent` of the final packed array (`c10_LD_structure`), and every block of `D` is nonsingular.
    `_partial`: exact arithmetic only — nothing is claimed about the rounded factorization (the harness checks the residual). -/
theorem c10_factor_partial (src : Array K) (rowMajor : Bool) (n uplo : Int) (shift alpha : K) (hn : 1 ≤ n) :
    letI : Sc K := scOfField F
    (compute src rowMajor n uplo shift alpha).info = Successful →
    let f := compute src rowMajor n uplo shift alpha
    (∀ i j, 0 ≤ i → i < n → 0 ≤ j → j < n →
      shiftedSym src rowMajor n uplo shift (permFn f.permc i) (permFn f.permc j) = LDLt f.s n i j) ∧
    ((∀ i, 0 ≤ i → i < n → 0 ≤ permFn f.permc i ∧ permFn f.permc i < n) ∧ (∀ i j, permFn f.permc i = permFn f.permc j → i = j)) ∧
    (∀ c, 0 ≤ c → c < n → (kind (pfn f.s) c = 0 → f.s.rd c c ≠ 0) ∧
      (kind (pfn f.s) c = 1 → f.s.rd c c * f.s.rd (c + 1) (c + 1) - f.s.rd (c + 1) c * f.s.rd (c + 1) c ≠ 0)) := by
  let _ : Sc K := scOfField F
  intro hinfo
  have h := compute_isLDLT (exactSc_field F) src rowMajor n uplo shift alpha hn hinfo
  exact ⟨h.ident, ⟨fun _ => h.toOk.permFn_range, fun i j e => by rw [← SolveC.permFn_cancel _ i, e, SolveC.permFn_cancel]⟩, h.dns⟩

omit [IsStrictOrderedRing K] in
/-- `shiftedSym` is `A − σI`: the stored triangle of the input, mirrored, minus the shift on the diagonal -/
theorem c10_shiftedSym (src : Array K) (rowMajor : Bool) (n uplo : Int) (shift : K) (a b : Int) [Sc K] :
    shiftedSym src rowMajor n uplo shift a b = shiftedSym src rowMajor n uplo shift b a ∧
    (b ≤ a → shiftedSym src rowMajor n uplo shift a b =
      (if uplo = 1 then srcCoeff src rowMajor n a b else srcCoeff src rowMajor n b a) - (if a = b then shift else 0)) := by
  refine ⟨?_, fun h => by simp [shiftedSym, tgt, srcTri, h]⟩
  unfold shiftedSym
  by_cases h1 : b ≤ a <;> by_cases h2 : a ≤ b
  · have : a = b := by omega
    subst this; rfl
  · rw [if_pos h1, if_neg h2]
  · rw [if_neg h1, if_pos h2]
  · omega

/-- the same identity as a Mathlib matrix equation over `Fin n`: `(A − σI).submatrix π π = L * D * Lᵀ` for the permutation `π` of `Fin n`
    given by `m_perm` (`A.submatrix π π = P A Pᵀ` for the permutation matrix `P` of `π`) -/
theorem c10_factor_matrix_partial (src : Array K) (rowMajor : Bool) (n uplo : Int) (shift alpha : K) (hn : 1 ≤ n) :
    letI : Sc K := scOfField F
    (compute src rowMajor n uplo shift alpha).info = Successful →
    let f := compute src rowMajor n uplo shift alpha
    ∀ π : Fin n.toNat → Fin n.toNat, (∀ i, ((π i : Nat) : Int) = permFn f.permc ((i : Nat) : Int)) →
      (Matrix.of fun (i j : Fin n.toNat) => shiftedSym src rowMajor n uplo shift ((i : Nat) : Int) ((j : Nat) : Int)).submatrix π π =
        (Matrix.of fun (i j : Fin n.toNat) => Lent f.s ((i : Nat) : Int) ((j : Nat) : Int)) *
        (Matrix.of fun (i j : Fin n.toNat) => Dent f.s ((i : Nat) : Int) ((j : Nat) : Int)) *
        (Matrix.of fun (i j : Fin n.toNat) => Lent f.s ((i : Nat) : Int) ((j : Nat) : Int)).transpose := by
  let _ : Sc K := scOfField F
  intro hinfo f π hπ
  have hid := (compute_isLDLT (exactSc_field F) src rowMajor n uplo shift alpha hn hinfo).ident
  ext i j
  have hi := i.2; have hj := j.2
  rw [Matrix.submatrix_apply, Matrix.of_apply, hπ i, hπ j, hid _ _ (by omega) (by omega) (by omega) (by omega)]
  simp only [Matrix.mul_apply, Matrix.transpose_apply, Matrix.of_apply, LDLt]
  rw [Finset.sum_comm, Finset.sum_range]
  refine Finset.sum_congr rfl (fun c' _ => ?_)
  rw [Finset.sum_range, Finset.sum_mul]

/-- TIER 3, solve (same setting): if `compute` reports `Successful`, the five phases of `solve_inplace` — `P b`, forward substitution
    with the (block-)unit `L`, the block-diagonal solve (1x1 division / translated `solve_inplace_2x2`), backward substitution with
    `Lᵀ`, `Pᵀ` — compose to a solution of `(A − σI) x = b`:  ∑ⱼ (A − σI)(i,j) · x[j] = b[i]  for every row `i`.
    Proved from the identity and the nonsingular `D` blocks of `c10_factor_partial` (`BKLDLT.Fact.IsLDLT.solve` starts from exactly
    these two facts and the tiling of `m_perm`, bundled as `Fact.IsLDLT A n f`, for any `A`).  `_partial`: exact arithmetic only. -/
theorem c10_solve_correct_partial (src : Array K) (rowMajor : Bool) (n uplo : Int) (shift alpha : K) (hn : 1 ≤ n)
    (b : Array K) (hb : b.size = n.toNat) :
    letI : Sc K := scOfField F
    (compute src rowMajor n uplo shift alpha).info = Successful →
    ∀ i, 0 ≤ i → i < n →
      ∑ j ∈ Finset.range n.toNat, shiftedSym src rowMajor n uplo shift i (j : Int) * (solve (compute src rowMajor n uplo shift alpha) b).getD j 0
        = b.getD i.toNat 0 := by
  let _ : Sc K := scOfField F
  intro hinfo i hi hin
  have := (compute_isLDLT (exactSc_field F) src rowMajor n uplo shift alpha hn hinfo).solve (exactSc_field F) hn b hb i hi hin
  simp only [SolveC.xf, Int.toNat_natCast, (exactSc_field F).zero] at this
  exact this

end tier3

/-- non-vacuity of (8): over ℚ the 3x3 matrix `[[0,1,2],[1,0,3],[2,3,1]]` (zero leading diagonal: a 2x2 pivot is chosen) factorizes
    with `info = Successful`, and `solve` returns the exact solution of `A x = (1,2,3)` -/
example : letI : Sc ℚ := scOfField ⟨id, fun x _ => x, 1, 1⟩
    (compute (α := ℚ) #[0, 1, 2, 1, 0, 3, 2, 3, 1] false 3 1 0 (64/100)).info = Successful ∧
    (compute (α := ℚ) #[0, 1, 2, 1, 0, 3, 2, 3, 1] false 3 1 0 (64/100)).s.perm.toList.any (· < 0) = true := by
  decide +kernel

/-! ### (9) object reuse: histories on one `BKLDLT` object and on one `DenseSymShiftSolve` object -/

section history
open BKLDLTC (Cx)

/-- `copy_data` writes every packed entry before anything reads it: two entry states that differ only in the CONTENTS of the packed
    array (`Agree 0`: same `n`, `m_perm`, access flag and array size) give the same state — real and complex model, both storage
    orders, both triangles, every size.  This is why `m_data.resize` without clearing is harmless. -/
theorem c10_copy_overwrites {α : Type} [Add α] [Sub α] [Mul α] [Div α] [Neg α] [Sc α] {β : Type} [Add β] [Sub β] [Mul β] [Div β] [Neg β] [Sc β]
    (rowMajor : Bool) (uplo : Int) :
    (∀ (s t : St α) (src : Array α) (shift : α), 0 ≤ s.n → s.data.size = (packedSize s.n).toNat → Agree 0 s t →
      copy_data s src rowMajor uplo shift = copy_data t src rowMajor uplo shift) ∧
    (∀ (s t : St (Cx β)) (src : Array (Cx β)) (shift : β), 0 ≤ s.n → s.data.size = (packedSize s.n).toNat → Agree 0 s t →
      BKLDLTC.copy_data s src rowMajor uplo shift = BKLDLTC.copy_data t src rowMajor uplo shift) :=
  ⟨fun s t src shift hn hsz h => copy_data_overwrites s t src rowMajor uplo shift hn hsz h,
   fun s t src shift hn hsz h => BKLDLTC.copy_data_overwrites s t src rowMajor uplo shift hn hsz h⟩

/-- `compute()` does not depend on the object's previous state.  `computeFrom prev` is the model of `compute` called on an object
    whose members are `prev` — ANY state, so the result of any earlier history of `compute`/`solve` calls, of any size, successful or
    failed — with the members reset as BKLDLT.h resets them (`m_n`, `m_perm` (all entries), `m_permc`, `m_info` overwritten; `m_data`
    only resized, stale contents kept; `enterSt`).  Its result — packed array, `m_perm`, compressed permutation, `info()`, access flag —
    EQUALS that of `compute` on a freshly constructed object, for the real and the complex Hermitian model, every size `n ≥ 0`, every
    input, every scalar type and `Sc` instance.  (A `compute` that keeps `m_perm` across calls is a different function: the
    correspondence runs the same histories on the real class, see harness/c10.cpp `hist` lines.) -/
theorem c10_compute_history_independent {α : Type} [Add α] [Sub α] [Mul α] [Div α] [Neg α] [Sc α] {β : Type} [Add β] [Sub β] [Mul β] [Div β] [Neg β] [Sc β]
    (n : Int) (hn : 0 ≤ n) :
    (∀ (prev : Fact α) (src : Array α) (rowMajor : Bool) (uplo : Int) (shift alpha : α),
      computeFrom prev src rowMajor n uplo shift alpha = compute src rowMajor n uplo shift alpha) ∧
    (∀ (prev : Fact (Cx β)) (src : Array (Cx β)) (rowMajor : Bool) (uplo : Int) (shift alpha : β),
      BKLDLTC.computeFrom prev src rowMajor n uplo shift alpha = BKLDLTC.compute src rowMajor n uplo shift alpha) :=
  ⟨fun prev src rm uplo shift alpha => computeFrom_eq prev src rm n uplo shift alpha hn,
   fun prev src rm uplo shift alpha => BKLDLTC.computeFrom_eq prev src rm n uplo shift alpha hn⟩

/-- Which members `compute` resets, read from the header on every run (`Gen.BK.compute_prologue*`, translator target in
    xlate/tgt_c10.py): before the pivot loop it assigns `m_n`, calls `m_perm.setLinSpaced(m_n, 0, m_n - 1)`, `m_permc.clear()`,
    `m_data.resize(..)`, `compute_pointer()`, `copy_data(..)` and assigns `m_info` — in this order and ALL unconditionally: no member
    write before the loop is nested under a condition.  This is the entry state `enterSt` of the model (`m_perm` = identity on all
    `n` positions, whatever it held before), so `c10_compute_history_independent` speaks about the reset the code performs.
    (A reset moved into an "only when the size changed" block empties the first list and fills the second.) -/
theorem c10_compute_resets {α : Type} [Sub α] [Sc α] (prev : St α) (n : Int) :
    compute_prologue = [("m_n", "="), ("m_perm", "setLinSpaced"), ("m_permc", "clear"), ("m_data", "resize"),
      ("this", "compute_pointer"), ("this", "copy_data"), ("m_info", "=")] ∧
    compute_prologue_conditional = [] ∧ compute_perm_reset_args = "m_n, 0, m_n - 1" ∧
    (enterSt prev n).n = n ∧ (enterSt prev n).perm.size = n.toNat ∧
    (∀ i : Nat, i < n.toNat → (enterSt prev n).perm.getD i 0 = (i : Int)) ∧ (enterSt prev n).data.size = (packedSize n).toNat := by
  refine ⟨rfl, rfl, rfl, rfl, by simp [enterSt, linSpaced], fun i hi => ?_, (enterSt_sized prev n).2⟩
  simp [enterSt, linSpaced, hi]

/-- hence along every history `compute(A₁,…); …; compute(A_k,…)` on ONE object the members after the last call are those of a fresh
    object given the last arguments alone -/
theorem c10_history_last {α : Type} [Add α] [Sub α] [Mul α] [Div α] [Neg α] [Sc α]
    (reqs : List (Array α × Bool × Int × Int × α)) (last : Array α × Bool × Int × Int × α) (alpha : α) (s0 : Fact α) (hn : 0 ≤ last.2.2.1) :
    (reqs ++ [last]).foldl (fun s r => computeFrom s r.1 r.2.1 r.2.2.1 r.2.2.2.1 r.2.2.2.2 alpha) s0 =
      compute last.1 last.2.1 last.2.2.1 last.2.2.2.1 last.2.2.2.2 alpha := by
  rw [List.foldl_append]
  exact computeFrom_eq _ _ _ _ _ _ _ hn

/-- the stale contents are really there in the model (the statement above is not about a model that clears the array):
    with an unchanged size `compute` starts from the previous packed array -/
example {α : Type} [Sc α] (prev : St α) (n : Int) (h : prev.data.size = (packedSize n).toNat) : (enterSt prev n).data = prev.data := by
  simp [enterSt, resizeData, h]

/-- `DenseSymShiftSolve` histories: on a wrapper object in ANY state (after any sequence of `set_shift` calls, successful or not),
    `set_shift(sigma)` (i) has the outcome given by `sigma` and the matrix alone — it throws `std::invalid_argument` exactly when the
    factorization of `A − sigma·I` on a fresh object does not report `Successful`, so there is no memory of earlier attempts —,
    (ii) leaves `m_solver` holding exactly that factorization (so `perform_op` is `solve` of it: `c10_solve_correct_partial` applies),
    and (iii) asking again with the same `sigma` gives the same outcome (a failed shift throws every time: retry, or the
    `SymEigsShiftSolver` constructor called with that shift). -/
theorem c10_wrapper_history_independent {α : Type} [Add α] [Sub α] [Mul α] [Div α] [Neg α] [Sc α] (w : DenseShift α) (sigma alpha : α) (hn : 0 ≤ w.n) :
    (w.set_shift sigma alpha).1 = dense_set_shift_guard (compute w.mat w.rowMajor w.n w.uplo sigma alpha).info ∧
    ((w.set_shift sigma alpha).1 = Res.throw "std::invalid_argument" ↔ (compute w.mat w.rowMajor w.n w.uplo sigma alpha).info ≠ Successful) ∧
    ((w.set_shift sigma alpha).1 = Res.ok () ↔ (compute w.mat w.rowMajor w.n w.uplo sigma alpha).info = Successful) ∧
    (w.set_shift sigma alpha).2.solver = compute w.mat w.rowMajor w.n w.uplo sigma alpha ∧
    (∀ x, (w.set_shift sigma alpha).2.perform_op x = solve (compute w.mat w.rowMajor w.n w.uplo sigma alpha) x) ∧
    ((w.set_shift sigma alpha).2.set_shift sigma alpha).1 = (w.set_shift sigma alpha).1 := by
  have e : ∀ w' : DenseShift α, w'.n = w.n → w'.mat = w.mat → w'.rowMajor = w.rowMajor → w'.uplo = w.uplo →
      w'.set_shift sigma alpha = (dense_set_shift_guard (compute w.mat w.rowMajor w.n w.uplo sigma alpha).info,
        { w' with solver := compute w.mat w.rowMajor w.n w.uplo sigma alpha }) := by
    intro w' h1 h2 h3 h4
    unfold DenseShift.set_shift
    rw [computeFrom_eq _ _ _ _ _ _ _ (by rw [h1]; exact hn), h1, h2, h3, h4]
  have e1 := e w rfl rfl rfl rfl
  have g := C10S.wrapper_guards (compute w.mat w.rowMajor w.n w.uplo sigma alpha).info
  refine ⟨by rw [e1], by rw [e1]; exact g.1, by rw [e1]; exact g.2.1, by rw [e1], fun x => by rw [e1]; rfl, ?_⟩
  rw [e1]
  exact congrArg Prod.fst (e _ rfl rfl rfl rfl)

end history

/-! ### (10) the control skeleton of `solve_inplace`, read from the header on every run -/

/-- The body of `BKLDLT::solve_inplace` (and of `solve`), flattened by the translator from the clang AST alone into rows
    `(nesting depth, kind, canonical text)` (`Gen.BK.solve_inplace_flow`, target `solve_flow` in xlate/tgt_c10.py: comments, white space and
    redundant parentheses do not enter), IS the five-phase skeleton that `Model/BKLDLT.lean` `solve_inplace` (and its complex twin) mirrors:
    (1) the `m_computed` check, (2) `applyPermc` forward, (3) `fwdLoop` with the bound `end` = `n-3`/`n-2`, whose body branches on
    `m_perm[i] >= 0` ONLY (1x1: one column update; 2x2: two-column update and the extra `i++`), (4) `diagLoop` branching on `m_perm[i] >= 0`
    (division resp. the translated `solve_inplace_2x2` and `i++`), (5) `bwdLoop` (dot product, then on `m_perm[i] < 0` the second dot
    product and `i--`), (6) `applyPermc` backward — and NOTHING else:
      * no `continue`, `break`, `return`, `goto`, `while`, `switch` anywhere in the body;
      * exactly five loops and four branch statements, with exactly these headers / conditions;
      * every `if` / loop-header / `?:` condition reads only `m_computed`, `m_perm`, `m_n`, the loop index and the loop bounds — never the
        right-hand side `x` / `res` / `b` nor a matrix entry: the control flow of a solve is independent of the DATA, as it is in the model
        (where the recursion of `fwdLoop`/`diagLoop`/`bwdLoop` inspects `pget` alone);
      * `solve` copies its argument, calls `solve_inplace` on the copy and returns it.
    A data-dependent shortcut ("skip the update when `x[i] == 0`", an early exit on a zero tail, ...) adds a row and a condition name and
    breaks this theorem before any failing input is known; the `rhs` part of harness/c10.cpp then supplies the input. -/
theorem c10_solve_skeleton :
    solve_inplace_flow =
      [(0, "if", "(!m_computed)"),
       (1, "throw", "std::logic_error(\"BKLDLT: need to call compute() first\")"),
       (0, "decl", "x := b.data()"),
       (0, "decl", "res := (x, m_n)"),
       (0, "decl", "npermc := m_permc.size()"),
       (0, "for", "i := 0 ; (i < npermc) ; (i++)"),
       (1, "call", "swap(x[m_permc[i].first], x[m_permc[i].second])"),
       (0, "decl", "end := ((m_perm[(m_n - 1)] < 0) ? (m_n - 3) : (m_n - 2))"),
       (0, "for", "i := 0 ; (i <= end) ; (i++)"),
       (1, "decl", "b1size := ((m_n - i) - 1)"),
       (1, "decl", "b2size := (b1size - 1)"),
       (1, "if", "(m_perm[i] >= 0)"),
       (2, "decl", "l := ((&coeff((i + 1), i)), b1size)"),
       (2, "assign", "(res.segment((i + 1), b1size).noalias() -= (l * x[i]))"),
       (1, "else", ""),
       (2, "decl", "l1 := ((&coeff((i + 2), i)), b2size)"),
       (2, "decl", "l2 := ((&coeff((i + 2), (i + 1))), b2size)"),
       (2, "assign", "(res.segment((i + 2), b2size).noalias() -= ((l1 * x[i]) + (l2 * x[(i + 1)])))"),
       (2, "expr", "(i++)"),
       (0, "for", "i := 0 ; (i < m_n) ; (i++)"),
       (1, "decl", "e11 := diag_coeff(i)"),
       (1, "if", "(m_perm[i] >= 0)"),
       (2, "assign", "(x[i] /= e11)"),
       (1, "else", ""),
       (2, "decl", "e21 := coeff((i + 1), i)"),
       (2, "decl", "e22 := diag_coeff((i + 1))"),
       (2, "call", "solve_inplace_2x2(e11, e21, e22, x[i], x[(i + 1)])"),
       (2, "expr", "(i++)"),
       (0, "decl", "i := ((m_perm[(m_n - 1)] < 0) ? (m_n - 3) : (m_n - 2))"),
       (0, "for", " ; (i >= 0) ; (i--)"),
       (1, "decl", "ldim := ((m_n - i) - 1)"),
       (1, "decl", "l := ((&coeff((i + 1), i)), ldim)"),
       (1, "assign", "(x[i] -= l.dot(res.segment((i + 1), ldim)))"),
       (1, "if", "(m_perm[i] < 0)"),
       (2, "decl", "l2 := ((&coeff((i + 1), (i - 1))), ldim)"),
       (2, "assign", "(x[(i - 1)] -= l2.dot(res.segment((i + 1), ldim)))"),
       (2, "expr", "(i--)"),
       (0, "for", "i := (npermc - 1) ; (i >= 0) ; (i--)"),
       (1, "call", "swap(x[m_permc[i].first], x[m_permc[i].second])")] ∧
    (∀ r ∈ solve_inplace_flow, r.2.1 ∉ ["continue", "break", "return", "goto", "while", "do", "switch", "case", "label", "try", "catch"]) ∧
    (solve_inplace_flow.filter (fun r => r.2.1 = "if" ∨ r.2.1 = "for")).map (fun r => (r.1, r.2.1, r.2.2)) =
      [(0, "if", "(!m_computed)"), (0, "for", "i := 0 ; (i < npermc) ; (i++)"),
       (0, "for", "i := 0 ; (i <= end) ; (i++)"), (1, "if", "(m_perm[i] >= 0)"),
       (0, "for", "i := 0 ; (i < m_n) ; (i++)"), (1, "if", "(m_perm[i] >= 0)"),
       (0, "for", " ; (i >= 0) ; (i--)"), (1, "if", "(m_perm[i] < 0)"),
       (0, "for", "i := (npermc - 1) ; (i >= 0) ; (i--)")] ∧
    (∀ nm ∈ solve_inplace_cond_names, nm ∈ ["m_computed", "m_perm", "m_n", "i", "end", "npermc", "operator[]"]) ∧
    solve_inplace_params = ["b"] ∧
    solve_flow = [(0, "decl", "res := b"), (0, "call", "solve_inplace(res)"), (0, "return", "res")] := by
  refine ⟨rfl, by decide +kernel, rfl, by decide +kernel, rfl, rfl⟩

/-! ### non-vacuity -/
/-- the zero-diagonal block `[0 1; 1 0]` meets the hypothesis of `c10_solve2_ordered` (second branch: rows exchanged) -/
example : (0 : ℚ) * (@solve_inplace_2x2 ℚ _ _ _ _ _ (scOfField ⟨id, fun x _ => x, 1, 1⟩) 0 1 0 3 4).1
    + 1 * (@solve_inplace_2x2 ℚ _ _ _ _ _ (scOfField ⟨id, fun x _ => x, 1, 1⟩) 0 1 0 3 4).2 = 3 :=
  (c10_solve2_ordered (K := ℚ) ⟨id, fun x _ => x, 1, 1⟩ 0 1 0 3 4 (by norm_num)).1
/-- a compressed permutation as in the header comment `[(0, 2), (2, 3), (3, 1)]` on a vector of length 6 meets the hypothesis of `c10_perm_inverse` -/
example : ∀ ab ∈ [((0 : Int), (2 : Int)), (2, 3), (3, 1)], 0 ≤ ab.1 ∧ ab.1 < (6 : Int) ∧ 0 ≤ ab.2 ∧ ab.2 < (6 : Int) := by decide
/-- `m_perm = [-1, -1, 3, 1]`-like data: the translated compression yields exactly the non-trivial pairs -/
example : compress_permutation (fun i => if i = 0 then -3 else if i = 1 then -2 else if i = 2 then 3 else i) 4 = [(0, 2), (2, 3)] := by decide
/-- status codes -/
example : (Successful, NotComputed, NumericalIssue) = ((0 : Int), (1 : Int), (3 : Int)) := rfl

end C10
