/-
  C16 — partial SVD (`include/Spectra/contrib/PartialSVDSolver.h` on top of `SymEigsSolver`).

  Two layers.
  (A) Exact-arithmetic linear algebra (Mathlib `Matrix` over any linearly ordered field, `ℝ` with `Real.sqrt` as the instance the
      code means): what the class computes IS a set of singular triplets whenever the inner solver returns genuine orthonormal
      eigenpairs of `AᵀA` (tall) resp. `AAᵀ` (wide) — `c16_triplets*`; the operator is positive semidefinite, so every Ritz value the
      inner solver can produce in exact arithmetic is ≥ 0 and `sqrt` is applied to non-negative numbers — `c16_psd`.
  (B) The state machine `Model/SVD.lean` (m_nconv, the eigenvector cache, the shape switch, column counts, which side is cached and
      which is computed), built on the generic orchestration model `Orch` of the inner solver: `c16_counts`, `c16_order`,
      `c16_latest` hold for EVERY kernel record `K` (every behaviour of the inner numerics, exceptions included), every
      matrix, every scalar type, every history.  The same definitions run at `Float` against the real class (correspondence).

  Two clauses rest on repairs of the C++ class (`fix:` commits d08c57f / a913b0d of /repo):
    * "matrix_U/V always describe the most recent compute()" — before d08c57f the cache `m_evecs` was filled once and never
      invalidated (finding F4: `compute(1000,1e-10); matrix_V(3); compute(1000,1e-2); matrix_V(3)` returned the vectors of the first
      run; with a shorter cached matrix `leftCols` ran out of range).  `compute()` starts with `m_evecs.resize(0, 0)`:
      `c16_cache_invalidated`, and `c16_latest` / `c16_latest_equals_fresh` hold for every history; the two histories of F4 are
      `example`s below and show that the second run's vectors are returned.
    * "singular values are finite and non-negative" on exactly rank-deficient input — a converged Ritz value of size −1e-31…−1e-17
      went into `sqrt` unclamped and came back NaN, and a zero singular value was divided by (finding F5).  The values are now
      `sqrt(max(λ, 0))` and the other factor's column for `σ = 0` is the zero vector: `c16_nonneg`, `c16_zero_column` (exact
      arithmetic; at `Float`: bit-exact correspondence + oracle on rank-deficient inputs).
  Not provable here and NOT claimed: that the inner Lanczos solver returns eigenpairs of the operator to the requested tolerance
  (rounding/convergence: property C01).  The oracle checks it on the real class against a long double Jacobi SVD and has found two
  input classes where it fails (recorded, not hidden): small-norm matrices (absolute breakdown thresholds applied to `AᵀA`, whose
  norm is `‖A‖²`: finding F12) and a missing re-orthogonalisation of the first residual in `Arnoldi::init` (finding F20).
  (C) The object model, regenerated from the clang AST of the header on every run (`Gen.SVDMem`, xlate/tgt_c16.py) and decided by the
      kernel: which members are handles / pointers and who owns them (`c16_members_nonowning`), which members each accessor writes
      (`c16_accessor_writes`), that `compute()` empties the cache first (`c16_compute_resets_cache`: the source-level twin of
      `c16_cache_invalidated`, which is about the model), and the state of the copy operations (`c16_copy_operations`).
  (A) and (B) are connected by `c16_operator`, `c16_model_triplet_tall/wide` (the model's explicit loops at exact arithmetic ARE
  Mathlib's `mulVec`), `c16_order_argsort` (C18 discharges the sort hypothesis) and `c16_latest_equals_fresh` (C06).
-/
import SpectraVerif.Proofs.C16Matrix
import SpectraVerif.Proofs.C16Order
import SpectraVerif.Proofs.C16Sort
import SpectraVerif.Proofs.C16Bridge
import SpectraVerif.Proofs.C16Nonint
import SpectraVerif.Proofs.C16Mem
import Mathlib.Analysis.Real.Sqrt

namespace C16
open Matrix

/-! ### (A) exact arithmetic -/

section exact
variable {K : Type} [Field K] [LinearOrder K] [IsStrictOrderedRing K]
variable {m n k : Type} [Fintype m] [Fintype n] [Fintype k]

/-- **Triplets, tall case** (`m_m > m_n`: the eigenproblem is `AᵀA v = λ v`, `matrix_V` returns `v`, `matrix_U` returns `A (v/σ)`):
    a unit eigenvector with positive eigenvalue `λ = σ²`, `σ > 0`, gives a unit `u` with `A v = σ u` and `Aᵀ u = σ v`. -/
theorem c16_triplets (A : Matrix m n K) (v : n → K) (lam σ : K)
    (hv : (Aᵀ * A) *ᵥ v = lam • v) (hn : v ⬝ᵥ v = 1) (hσ : 0 < σ) (hσ2 : σ * σ = lam) :
    let u := A *ᵥ (fun i => v i / σ)
    u ⬝ᵥ u = 1 ∧ A *ᵥ v = σ • u ∧ Aᵀ *ᵥ u = σ • v := by
  have hne : σ ≠ 0 := ne_of_gt hσ
  refine ⟨?_, ?_, ?_⟩
  · rw [C16M.other_factor_dot A v v lam σ σ hv, hn, ← hσ2, mul_one, mul_mul_mul_comm, inv_mul_cancel₀ hne, one_mul]
  · rw [C16M.mulVec_div, smul_smul, mul_inv_cancel₀ hne, one_smul]
  · rw [C16M.mulVec_div, mulVec_smul, mulVec_mulVec, hv, smul_smul, ← hσ2, ← mul_assoc, inv_mul_cancel₀ hne, one_mul]

/-- ... and orthonormal eigenvectors `vᵢ` give orthonormal `uᵢ = A (vᵢ/σᵢ)`: `UᵀU = I` -/
theorem c16_triplets_orthonormal {ι : Type} [DecidableEq ι] (A : Matrix m n K) (v : ι → n → K) (lam σ : ι → K)
    (hv : ∀ i, (Aᵀ * A) *ᵥ v i = lam i • v i) (hσ : ∀ i, 0 < σ i) (hσ2 : ∀ i, σ i * σ i = lam i)
    (hon : ∀ i j, v i ⬝ᵥ v j = if i = j then 1 else 0) (i j : ι) :
    (A *ᵥ (fun a => v i a / σ i)) ⬝ᵥ (A *ᵥ (fun a => v j a / σ j)) = if i = j then 1 else 0 := by
  rw [C16M.other_factor_dot A (v i) (v j) (lam j) (σ i) (σ j) (hv j), hon i j]
  by_cases h : i = j
  · subst h
    have hne : σ i ≠ 0 := ne_of_gt (hσ i)
    rw [if_pos rfl, mul_one, ← hσ2 i, mul_mul_mul_comm, inv_mul_cancel₀ hne, one_mul]
  · simp [h]

/-- **Triplets, wide/square case** (`m_m ≤ m_n`: `AAᵀ u = λ u`, `matrix_U` returns `u`, `matrix_V` returns `Aᵀ (u/σ)`) -/
theorem c16_triplets_wide (A : Matrix m n K) (u : m → K) (lam σ : K)
    (hu : (A * Aᵀ) *ᵥ u = lam • u) (hn : u ⬝ᵥ u = 1) (hσ : 0 < σ) (hσ2 : σ * σ = lam) :
    let v := Aᵀ *ᵥ (fun i => u i / σ)
    v ⬝ᵥ v = 1 ∧ Aᵀ *ᵥ u = σ • v ∧ A *ᵥ v = σ • u := by
  have h := c16_triplets Aᵀ u lam σ (by simpa [transpose_transpose] using hu) hn hσ hσ2
  simpa [transpose_transpose] using h

theorem c16_triplets_wide_orthonormal {ι : Type} [DecidableEq ι] (A : Matrix m n K) (u : ι → m → K) (lam σ : ι → K)
    (hu : ∀ i, (A * Aᵀ) *ᵥ u i = lam i • u i) (hσ : ∀ i, 0 < σ i) (hσ2 : ∀ i, σ i * σ i = lam i)
    (hon : ∀ i j, u i ⬝ᵥ u j = if i = j then 1 else 0) (i j : ι) :
    (Aᵀ *ᵥ (fun a => u i a / σ i)) ⬝ᵥ (Aᵀ *ᵥ (fun a => u j a / σ j)) = if i = j then 1 else 0 :=
  c16_triplets_orthonormal Aᵀ u lam σ (fun i => by simpa [transpose_transpose] using hu i) hσ hσ2 hon i j

/-- **PSD**: `xᵀ(AᵀA)x ≥ 0` and `xᵀ(AAᵀ)x ≥ 0`; every Rayleigh quotient is ≥ 0; every eigenvalue `θ` of a projection `Qᵀ(AᵀA)Q`
    (a Ritz value with respect to ANY basis `Q`, orthonormal or not — in particular the tridiagonal matrix of an exact Lanczos run)
    is ≥ 0.  Hence in exact arithmetic `sqrt` is only ever applied to non-negative numbers. -/
theorem c16_psd (A : Matrix m n K) :
    (∀ x : n → K, 0 ≤ x ⬝ᵥ ((Aᵀ * A) *ᵥ x)) ∧ (∀ x : m → K, 0 ≤ x ⬝ᵥ ((A * Aᵀ) *ᵥ x)) ∧
    (∀ x : n → K, 0 ≤ (x ⬝ᵥ ((Aᵀ * A) *ᵥ x)) / (x ⬝ᵥ x)) ∧
    (∀ (Q : Matrix n k K) (y : k → K) (θ : K), 0 < y ⬝ᵥ y → (Qᵀ * (Aᵀ * A) * Q) *ᵥ y = θ • y → 0 ≤ θ) ∧
    (∀ (Q : Matrix m k K) (y : k → K) (θ : K), 0 < y ⬝ᵥ y → (Qᵀ * (A * Aᵀ) * Q) *ᵥ y = θ • y → 0 ≤ θ) := by
  refine ⟨C16M.gram_psd A, C16M.gram_psd_wide A, C16M.rayleigh_nonneg A, fun Q y θ hy h => C16M.ritz_nonneg A Q y θ hy h, ?_⟩
  intro Q y θ hy h
  have := C16M.ritz_nonneg Aᵀ Q y θ hy (by simpa [transpose_transpose] using h)
  exact this

end exact

/-- the real-number instance the code means: `σ = √λ` with `λ > 0` satisfies the hypotheses of `c16_triplets` -/
theorem c16_triplets_real {m n : Type} [Fintype m] [Fintype n] (A : Matrix m n ℝ) (v : n → ℝ) (lam : ℝ)
    (hv : (Aᵀ * A) *ᵥ v = lam • v) (hn : v ⬝ᵥ v = 1) (hlam : 0 < lam) :
    let u := A *ᵥ (fun i => v i / Real.sqrt lam)
    u ⬝ᵥ u = 1 ∧ A *ᵥ v = Real.sqrt lam • u ∧ Aᵀ *ᵥ u = Real.sqrt lam • v :=
  c16_triplets A v lam (Real.sqrt lam) hv hn (Real.sqrt_pos.mpr hlam) (Real.mul_self_sqrt (le_of_lt hlam))

/-- exact arithmetic: a singular value `√θ` of a (non-negative, by `c16_psd`) Ritz value is a non-negative real with `(√θ)² = θ` -/
theorem c16_nonneg_exact (θ : ℝ) (h : 0 ≤ θ) : 0 ≤ Real.sqrt θ ∧ Real.sqrt θ * Real.sqrt θ = θ :=
  ⟨Real.sqrt_nonneg θ, Real.mul_self_sqrt h⟩
/-
  Clause "finite, non-negative singular values for arbitrary, including exactly rank-deficient, matrices": before a913b0d the C++
  code returned NaN at `Float` (10×7 integer matrix of rank < ncomp = 6, eigenvalue −7.9e-31 ↦ NaN; a zero eigenvalue ↦ 0/0 in
  matrix_U/V).  With the clamp it is `c16_nonneg` below in exact arithmetic; finiteness at `Float` is not a theorem (Lean's `Float`
  is opaque) and rests on the bit-exact correspondence plus the oracle, which searches rank-deficient inputs on every run.
-/

/-! ### (B) the state machine, for every inner kernel -/

section machine
open SVD Lin
variable {φ α ε κ β τ : Type} [Add α] [Sub α] [Mul α] [Div α] [Neg α] [Sc α]
variable (K : Orch.Kern φ α ε κ β τ (Vec α)) (c : Orch.Cfg) (A : Mat α) (v0 : β)

/-- **Counts**, every history: after ANY state `s` (any earlier history, any junk in `m_nconv`, any stale cache), a `compute` that
    returns `r`, and ANY sequence `acc` of accessor calls: `singular_values()` has `r ≤ ncomp` entries; `matrix_U(k)` / `matrix_V(k)`
    DO return (no out-of-range block) and return exactly `min(k, r)` columns.
    (With the C++ code before d08c57f the "do return" part failed for a stale cache shorter than the new count.) -/
theorem c16_counts (hperm : C05.SortPerm K c) (s : St φ α ε κ) (maxit : Nat) (tol : τ) (r : Nat)
    (h : (compute K c v0 maxit tol s).2 = .ok r) (acc : List (Call τ)) (hacc : ∀ a ∈ acc, a.isAccessor = true) (k : Nat) :
    let s' := run K c A v0 (compute K c v0 maxit tol s).1 acc
    r ≤ c.nev ∧ s'.nconv = r ∧ (singular_values K c s').length = r ∧
    (∃ cols, (matrix_U K c A k s').2 = .ok cols ∧ cols.length = min k r) ∧
    (∃ cols, (matrix_V K c A k s').2 = .ok cols ∧ cols.length = min k r) := by
  intro s'
  have hg0 := good_after_compute K c v0 hperm maxit tol s r h
  -- the cache after the accessor calls: still empty, or filled with at least r columns
  obtain ⟨hg, hfit⟩ : Good K c r s' ∧ CacheFits r s' :=
    run_accessors_inv K c A v0 (fun t => Good K c r t ∧ CacheFits r t)
      (fun t ⟨hgt, hf⟩ => ⟨good_fillCache K c r t hgt, Or.inr (fillCache_length K c r t hgt hf)⟩) _ acc hacc
      ⟨hg0, Or.inl (compute_evecs K c v0 maxit tol s)⟩
  have hU := factor_count K c (!isTall A) A.mulVec r k s' hg
  have hV := factor_count K c (isTall A) (tmulVec A) r k s' hg
  rw [← matrix_U_eq] at hU
  rw [← matrix_V_eq] at hV
  obtain ⟨cu, hu⟩ := hU.2 hfit
  obtain ⟨cv, hv⟩ := hV.2 hfit
  exact ⟨hg.le, hg.nconv, singular_values_length K c r s' hg, ⟨cu, hu, hU.1 cu hu⟩, ⟨cv, hv, hV.1 cv hv⟩⟩

/-- **Order**: after a successful `compute` (and any accessor calls) the singular values are non-increasing — selection and final
    sort are both LargestAlge.  Hypotheses: the kernel's final sort lists the values it is given in non-increasing order
    (`SortDesc`: C18's `c18_sorted` for the library's `argsort`, see `c16_order_argsort`), and `x ↦ sqrt(max(x, 0))` is monotone
    (`c16_order_sqrt_mono` for `Real.sqrt`; IEEE sqrt). -/
theorem c16_order [LE α] (hcfg : c.nev ≤ c.ncv) (hs : SortDesc K c)
    (hmono : ∀ a b : α, a ≤ b → (Sc.sqrt (clamp0 a) : α) ≤ Sc.sqrt (clamp0 b))
    (s : St φ α ε κ) (maxit : Nat) (tol : τ) (r : Nat) (h : (compute K c v0 maxit tol s).2 = .ok r)
    (acc : List (Call τ)) (hacc : ∀ a ∈ acc, a.isAccessor = true) :
    (singular_values K c (run K c A v0 (compute K c v0 maxit tol s).1 acc)).Pairwise (fun a b => b ≤ a) := by
  have h1 := singular_values_sorted K c v0 hcfg hs hmono maxit tol s r h
  obtain ⟨he, _, _⟩ := run_accessors K c A v0 (compute K c v0 maxit tol s).1 acc hacc
  unfold singular_values at h1 ⊢
  rw [he]; exact h1

/-- **The cache is invalidated by every `compute`** — returning or throwing, with any arguments — (`m_evecs.resize(0, 0)` is its
    first statement).  The C++ code before d08c57f left the cache as it was. -/
theorem c16_cache_invalidated (maxit : Nat) (tol : τ) (s : St φ α ε κ) :
    (compute K c v0 maxit tol s).1.evecs = [] :=
  compute_evecs K c v0 maxit tol s

/--
  **Latest compute**: from ANY state `s` (any history of earlier `compute`/accessor calls, with any `maxit`/`tol`,
  any stale cache), after a `compute` that returns `r` and any further accessor calls, both factors and the singular values are
  functions of the inner solver state left by THAT `compute` alone: the cached side is the first `min(k,r)` columns of
  `m_eigs->eigenvectors()`, the other side is `B·(e_j / σ_j)` (`B·0` where `σ_j = 0`) with the current singular values `σ` and
  eigenvectors `e`, and the values are `sqrt(max(λ_j, 0))` of the current eigenvalues.
  (No hypothesis on the cache of `s`: `compute` empties it, `c16_cache_invalidated`; before d08c57f the C++ code did not.)
-/
theorem c16_latest (hperm : C05.SortPerm K c) (s : St φ α ε κ)
    (maxit : Nat) (tol : τ) (r : Nat) (h : (compute K c v0 maxit tol s).2 = .ok r)
    (acc : List (Call τ)) (hacc : ∀ a ∈ acc, a.isAccessor = true) (k : Nat) :
    let latest := (compute K c v0 maxit tol s).1.eigs
    let s' := run K c A v0 (compute K c v0 maxit tol s).1 acc
    let E := Orch.eigenvectors K c c.nev latest
    let sv := (Orch.eigenvalues K c latest).map (fun x => Sc.sqrt (clamp0 x))
    (matrix_U K c A k s').2 = .ok (if isTall A then specComputed (A.mulVec) sv E k r else specCached E k r) ∧
    (matrix_V K c A k s').2 = .ok (if isTall A then specCached E k r else specComputed (tmulVec A) sv E k r) ∧
    singular_values K c s' = sv := by
  intro latest s' E sv
  have hg0 := good_after_compute K c v0 hperm maxit tol s r h
  have hg : Good K c r s' := good_run_accessors K c A v0 r _ acc hacc hg0
  obtain ⟨he, _, hfr⟩ := run_accessors K c A v0 (compute K c v0 maxit tol s).1 acc hacc
  have hf0 : Fresh K c (compute K c v0 maxit tol s).1 := Or.inl (compute_evecs K c v0 maxit tol s)
  have hf : Fresh K c s' := hfr hf0
  have hU := factor_fresh K c (!isTall A) A.mulVec r k s' hg hf
  have hV := factor_fresh K c (isTall A) (tmulVec A) r k s' hg hf
  have hsv : singular_values K c s' = sv := by unfold singular_values; rw [he]
  rw [← matrix_U_eq, he, hsv] at hU
  rw [← matrix_V_eq, he, hsv] at hV
  refine ⟨hU.trans ?_, hV, hsv⟩
  cases isTall A <;> rfl

/-- ... and they are exactly what a FRESH solver object returns for the same `compute` arguments (the predicate the harness
    evaluates on the real class), because `compute` re-initialises the inner solver itself (C06: `init` is total, for kernels that
    read only what the factorization's own `init` rebuilds — `Orch.Respects`) and empties the cache. -/
theorem c16_latest_equals_fresh {R : φ → φ → Prop} (hperm : C05.SortPerm K c) (hK : Orch.Respects K R)
    (s : St φ α ε κ) (fac0 : φ) (junk : Nat) (maxit : Nat) (tol : τ) (r : Nat)
    (h : (compute K c v0 maxit tol s).2 = .ok r) (k : Nat) :
    let fresh := (compute K c v0 maxit tol (construct fac0 junk)).1
    (compute K c v0 maxit tol (construct fac0 junk)).2 = .ok r ∧
    singular_values K c (compute K c v0 maxit tol s).1 = singular_values K c fresh ∧
    (matrix_U K c A k (compute K c v0 maxit tol s).1).2 = (matrix_U K c A k fresh).2 ∧
    (matrix_V K c A k (compute K c v0 maxit tol s).1).2 = (matrix_V K c A k fresh).2 := by
  intro fresh
  obtain ⟨hout, hacc⟩ := compute_history_independent K c v0 hK maxit tol s (construct fac0 junk)
  have hf : (compute K c v0 maxit tol (construct fac0 junk)).2 = .ok r := by rw [← hout]; exact h
  obtain ⟨hval, hvec⟩ := hacc r h
  obtain ⟨u1, v1, _⟩ := c16_latest K c A v0 hperm s maxit tol r h [] (by simp) k
  obtain ⟨u2, v2, _⟩ := c16_latest K c A v0 hperm (construct fac0 junk) maxit tol r hf [] (by simp) k
  simp only [run, List.foldl_nil] at u1 v1 u2 v2
  refine ⟨hf, ?_, ?_, ?_⟩
  · unfold singular_values; rw [hval]
  · rw [u1, u2, hval, hvec]
  · rw [v1, v2, hval, hvec]

/-- a throwing `compute` (failing operator, failing small eigen-solver, …) leaves `m_nconv` as it was and the cache empty.
    (Residual hazard, not part of F4: `m_nconv` then no longer matches the inner solver, so a following `matrix_U/V(k)` asks for
    `leftCols(min(k, old m_nconv))` of the refilled cache — the `.error` outcome of the model.) -/
theorem c16_throwing_compute (maxit : Nat) (tol : τ) (s : St φ α ε κ) (e : Orch.Exn)
    (h : (compute K c v0 maxit tol s).2 = .error e) :
    (compute K c v0 maxit tol s).1.nconv = s.nconv ∧ (compute K c v0 maxit tol s).1.evecs = [] :=
  ⟨compute_error_nconv K c v0 maxit tol s e h, compute_evecs K c v0 maxit tol s⟩

end machine

/-! ### (A) ∘ (B): the model at exact arithmetic returns singular triplets -/

section bridge
open SVD Lin
variable {K : Type} [Field K] [LinearOrder K] [IsStrictOrderedRing K] (F : FieldFns K)

/-- the `SortDesc` hypothesis of `c16_order` is a theorem for every kernel whose final sort is the library's own `argsort`
    (`SVD.hermSortIdx`/`SVD.argsortIdx` = Gen/Sort.lean, translated from the source on every run): C18 discharges it. -/
theorem c16_order_argsort {φ ε κ β τ ω : Type} (Kn : Orch.Kern φ K ε κ β τ ω) (c : Orch.Cfg)
    (hsort : ∀ vals n, Kn.sortIdx LARGEST_ALGE vals n = @argsortIdx K _ _ _ _ _ (scOfField F) LARGEST_ALGE vals n)
    (hzero : Kn.zeroρ = 0) : SortDesc Kn c := by
  intro vals ind h i j hij hj
  obtain ⟨ind', h1, _, h3⟩ := argsortIdx_desc F vals c.nev
  rw [hsort, h1] at h
  simp only [Except.ok.injEq] at h
  subst h
  rw [hzero]
  exact h3 i j hij hj

/-- the operators the constructor installs are `AᵀA` (tall) and `AAᵀ` (wide): the model's explicit loops, at exact arithmetic,
    are Mathlib's matrix–vector products -/
theorem c16_operator (A : Mat K) (x : Vec K) :
    toVec F A.cols (@tallPerformOp K _ _ (scOfField F) A x).1 = ((toMatrix F A)ᵀ * toMatrix F A) *ᵥ toVec F A.cols x ∧
    toVec F A.rows (@widePerformOp K _ _ (scOfField F) A x).1 = (toMatrix F A * (toMatrix F A)ᵀ) *ᵥ toVec F A.rows x :=
  ⟨tallPerformOp_eq F A x, widePerformOp_eq F A x⟩

/-- **what `matrix_U` returns in the tall case is a left singular vector**: column `j` of the model's computed side
    (`c16_latest`: `specComputed (A.mulVec) σ E k r`), read at exact arithmetic, is the unit vector `u` with `A v = σ u`,
    `Aᵀ u = σ v` — provided the `j`-th singular value is positive with `σ_j² = λ_j` (`c16_sigma`) and the inner solver's pair
    `(λ_j, e_j)` is a unit eigenpair of `AᵀA` (which is property C01 of the inner solver). -/
theorem c16_model_triplet_tall (A : Mat K) (sv : List K) (E : List (Vec K)) (k r j : Nat) (hj : j < min k r)
    (lamj : K) (hσ : 0 < sv.getD j 0) (hσ2 : sv.getD j 0 * sv.getD j 0 = lamj)
    (hev : ((toMatrix F A)ᵀ * toMatrix F A) *ᵥ toVec F A.cols (E.getD j #[]) = lamj • toVec F A.cols (E.getD j #[]))
    (hn : toVec F A.cols (E.getD j #[]) ⬝ᵥ toVec F A.cols (E.getD j #[]) = 1) :
    let u := toVec F A.rows ((@specComputed K _ (scOfField F) (@Mat.mulVec K _ _ (scOfField F) A) sv E k r).getD j #[])
    let v := toVec F A.cols (E.getD j #[])
    let σ := sv.getD j 0
    u ⬝ᵥ u = 1 ∧ toMatrix F A *ᵥ v = σ • u ∧ (toMatrix F A)ᵀ *ᵥ u = σ • v := by
  intro u v σ
  have hu : u = toMatrix F A *ᵥ (fun i => v i / σ) := by
    show toVec F A.rows ((@specComputed K _ (scOfField F) (@Mat.mulVec K _ _ (scOfField F) A) sv E k r).getD j #[]) = _
    rw [specComputed_getD F _ sv E k r j hj, computed_col_tall F A _ _ hσ]
  rw [hu]
  exact c16_triplets (toMatrix F A) v lamj σ hev hn hσ hσ2

/-- the same for `matrix_V` in the wide/square case -/
theorem c16_model_triplet_wide (A : Mat K) (sv : List K) (E : List (Vec K)) (k r j : Nat) (hj : j < min k r)
    (lamj : K) (hσ : 0 < sv.getD j 0) (hσ2 : sv.getD j 0 * sv.getD j 0 = lamj)
    (hev : (toMatrix F A * (toMatrix F A)ᵀ) *ᵥ toVec F A.rows (E.getD j #[]) = lamj • toVec F A.rows (E.getD j #[]))
    (hn : toVec F A.rows (E.getD j #[]) ⬝ᵥ toVec F A.rows (E.getD j #[]) = 1) :
    let v := toVec F A.cols ((@specComputed K _ (scOfField F) (@tmulVec K _ _ (scOfField F) A) sv E k r).getD j #[])
    let u := toVec F A.rows (E.getD j #[])
    let σ := sv.getD j 0
    v ⬝ᵥ v = 1 ∧ (toMatrix F A)ᵀ *ᵥ u = σ • v ∧ toMatrix F A *ᵥ v = σ • u := by
  intro v u σ
  have hv : v = (toMatrix F A)ᵀ *ᵥ (fun i => u i / σ) := by
    show toVec F A.cols ((@specComputed K _ (scOfField F) (@tmulVec K _ _ (scOfField F) A) sv E k r).getD j #[]) = _
    rw [specComputed_getD F _ sv E k r j hj, computed_col_wide F A _ _ hσ]
  rw [hv]
  exact c16_triplets_wide (toMatrix F A) u lamj σ hev hn hσ hσ2

/-- a singular value the model returns is `sqrt(max(λ, 0))`: positive with `σ² = λ` for `λ > 0` (given a genuine square root),
    and — **non-negativity**, the exact-arithmetic content of the F5 repair — never negative whatever sign rounding gave `λ` -/
theorem c16_sigma (hsqrt : ∀ x, 0 < x → 0 < F.sqrt x ∧ F.sqrt x * F.sqrt x = x) (lam : K) (hlam : 0 < lam) :
    0 < F.sqrt (@clamp0 K (scOfField F) lam) ∧ F.sqrt (@clamp0 K (scOfField F) lam) * F.sqrt (@clamp0 K (scOfField F) lam) = lam := by
  rw [clamp0_eq, max_eq_left (le_of_lt hlam)]; exact hsqrt lam hlam

theorem c16_nonneg {φ ε κ β τ : Type} (hsq : ∀ x : K, 0 ≤ x → 0 ≤ F.sqrt x)
    (Kn : Orch.Kern φ K ε κ β τ (Vec K)) (c : Orch.Cfg) (s : SVD.St φ K ε κ) :
    ∀ σ ∈ @singular_values φ K ε κ β τ (scOfField F) Kn c s, 0 ≤ σ := by
  intro σ hσ
  unfold singular_values at hσ
  obtain ⟨x, _, rfl⟩ := List.mem_map.mp hσ
  show 0 ≤ F.sqrt (@clamp0 K (scOfField F) x)
  rw [clamp0_eq]; exact hsq _ (le_max_right x 0)

/-- **the column for a zero singular value** (`σ_j ≤ 0`, i.e. `σ_j = 0` by `c16_nonneg`) of the computed factor is the zero vector:
    finite, and it satisfies `A v_j = σ_j u_j` trivially when `A v_j = 0` -/
theorem c16_zero_column (A : Mat K) (sv : List K) (E : List (Vec K)) (k r j : Nat) (hj : j < min k r) (hσ : ¬ 0 < sv.getD j 0) :
    toVec F A.rows ((@specComputed K _ (scOfField F) (@Mat.mulVec K _ _ (scOfField F) A) sv E k r).getD j #[]) = 0 := by
  rw [specComputed_getD F _ sv E k r j hj]; exact computed_col_zero F A _ _ hσ

/-- `Real.sqrt` satisfies the square-root hypotheses -/
example : (∀ x : ℝ, 0 < x → 0 < Real.sqrt x ∧ Real.sqrt x * Real.sqrt x = x) ∧ (∀ x : ℝ, 0 ≤ x → 0 ≤ Real.sqrt x) :=
  ⟨fun x hx => ⟨Real.sqrt_pos.mpr hx, Real.mul_self_sqrt (le_of_lt hx)⟩, fun x _ => Real.sqrt_nonneg x⟩

end bridge

/-! ### non-vacuity, and the refuted full-strength statement -/

section toy
open SVD Lin

/-- a toy scalar instance (only used to run the state machine in the examples; no arithmetic is performed on the cached side) -/
local instance : Sc Int where
  abs x := x.natAbs
  sqrt x := x
  pow x _ := x
  ofInt x := x
  lit m _ := m
  lt a b := decide (a < b)
  le a b := decide (a ≤ b)
  eq a b := decide (a = b)
  eps := 0
  minPos := 0
  cabs z := z.1

/-- toy inner solver: the "factorization" is the number of `init()` calls so far; run number `f` finds Ritz values `[10 f, f]`
    with eigenvectors `[#[f], #[f+100]]`; the second pair passes the convergence test only from the second run on -/
def toyK : Orch.Kern Nat Int Nat (Vec Int) Unit Unit (Vec Int) :=
  { zeroρ := 0, zeroε := 0, zeroκ := #[],
    facInit := fun _ f => ⟨f + 1, 1, none⟩, facDim := fun _ => 1, factorize := fun _ _ f => ⟨f, 1, none⟩,
    eig := fun f => .ok ([10 * (f : Int), (f : Int)], [1, 2], [#[(f : Int)], #[(f : Int) + 100]]),
    select := fun _ _ n => .ok (List.range n),
    convTest := fun _ f _ est => decide (est ≤ f), nevAdj := fun c _ _ _ => c.nev, restartFac := fun _ _ f => ⟨f, 1, none⟩,
    backTransform := id, sortIdx := fun _ _ n => .ok (List.range n), assemble := fun _ k => k }
def toyC1 : Orch.Cfg := ⟨3, 1, 2⟩
def toyC2 : Orch.Cfg := ⟨3, 2, 3⟩
/-- a wide 2 × 3 matrix: `matrix_U` is the cached side -/
def toyA : Mat Int := ⟨2, 3, #[1, 0, 0, 1, 1, 1]⟩

/-- the hypotheses of `c16_counts` / `c16_latest` / `c16_order` are satisfiable -/
example : C05.SortPerm toyK toyC1 ∧ SortDesc toyK toyC1 ∧ toyC1.nev ≤ toyC1.ncv ∧
    (compute toyK toyC1 () 5 () (construct 0 7)).2 = .ok 1 ∧
    (matrix_U toyK toyC1 toyA 3 (compute toyK toyC1 () 5 () (construct 0 7)).1).2 = .ok [#[1]] := by
  refine ⟨?_, ?_, by decide, rfl, rfl⟩
  · intro rule vals ind h
    simp only [toyK, Except.ok.injEq] at h
    subst h; exact List.Perm.refl _
  · intro vals ind h i j hij hj
    simp only [toyC1] at hj; omega

/-- **the history of finding F4 on the model**: `compute(); matrix_U(1); compute(); matrix_U(1)` — the second `matrix_U` returns the
    eigenvector of the SECOND run (`#[2]`), the same as a fresh object (the C++ code before d08c57f returned `#[1]`, the vector of
    the first run).  The same history is replayed on the real class by the harness on every run. -/
example :
    let s1 := (compute toyK toyC1 () 5 () (construct 0 0)).1
    let s2 := (matrix_U toyK toyC1 toyA 1 s1).1
    let s3 := (compute toyK toyC1 () 5 () s2).1
    (matrix_U toyK toyC1 toyA 1 s1).2 = .ok [#[1]] ∧
    (matrix_U toyK toyC1 toyA 1 s3).2 = .ok [#[2]] ∧
    Orch.eigenvectors toyK toyC1 toyC1.nev s3.eigs = [#[2]] ∧
    (matrix_U toyK toyC1 toyA 1 (compute toyK toyC1 () 5 () (compute toyK toyC1 () 5 () (construct 0 0)).1).1).2 = .ok [#[2]] :=
  ⟨rfl, rfl, rfl, rfl⟩

/-- **the count-mismatch history of F4 on the model**: the first run converges 1 of 2 values and `matrix_U` caches 1 column; the
    second run converges 2; `matrix_U(2)` returns the 2 columns of the second run (the C++ code before d08c57f took `leftCols(2)`
    of a 1-column matrix: an Eigen assertion / undefined behaviour). -/
example :
    let s1 := (compute toyK toyC2 () 1 () (construct 0 0)).1
    let s2 := (matrix_U toyK toyC2 toyA 2 s1).1
    let s3 := (compute toyK toyC2 () 1 () s2).1
    (compute toyK toyC2 () 1 () (construct 0 0)).2 = .ok 1 ∧ (compute toyK toyC2 () 1 () s2).2 = .ok 2 ∧
    (matrix_U toyK toyC2 toyA 2 s3).2 = .ok [#[2], #[102]] :=
  ⟨rfl, rfl, rfl⟩

end toy

/-- `x ↦ Real.sqrt (max x 0)` is monotone: the `hmono` hypothesis of `c16_order` holds for the exact-arithmetic instance -/
theorem c16_order_sqrt_mono (a b : ℝ) (h : a ≤ b) : Real.sqrt (max a 0) ≤ Real.sqrt (max b 0) :=
  Real.sqrt_le_sqrt (max_le_max h (le_refl 0))

/-! ### object model: regenerated from the clang AST on every run (`Gen.SVDMem`, xlate/tgt_c16.py), decided by the kernel -/

section objectmodel
open C16Mem


/-- **What the objects keep of the caller's arguments** (blind spot "values and objects of the caller change or die between
    construction and later calls").  Of ALL data members of PartialSVDSolver, SVDTallMatOp, SVDWideMatOp (SVDMatOp has none), the
    only ones not held by value are
      * the three `m_mat`: `const Eigen::Ref<const MatrixType>` handles to the USER's matrix — allowed by the property (the matrix
        must outlive the solver and is read at every `compute()` / computed-side accessor call; the harness checks that the handle
        points INTO the user's storage for every view it passes), initialised from the constructor parameter `mat` and never
        written again (they are `const`);
      * `m_op`, `m_eigs`: raw pointers that are OWNING — every value they are ever given is a `new` expression in the constructor
        (`*m_op` is only handed to the inner solver's constructor, the `catch` handler deletes `m_op`), the destructor deletes both,
        and nothing else touches them except `m_eigs->init()` / `m_eigs->compute(…)` in `compute()`.
    `ncomp`, `ncv`, `maxit`, `tol`, `nu`, `nv`, `k` are taken by value; the only reference parameters are the constructors' `mat`
    (plus `perform_op`'s raw in/out arrays, used only during the call); the sizes `m_m`, `m_n`, `m_dim`, and the length of `m_cache`
    are copied out of `mat` at construction.  A new reference / pointer member, a parameter kept by reference or a handle
    re-seated later changes the regenerated table. -/
theorem c16_members_nonowning :
    ((members.filter (fun m => m.kind != "value")).map (fun m => (m.cls, m.name, m.type, m.kind, m.isConst)) =
      [("SVDTallMatOp", "m_mat", "const Eigen::Ref<const MatrixType>", "handle", true),
       ("SVDWideMatOp", "m_mat", "const Eigen::Ref<const MatrixType>", "handle", true),
       ("PartialSVDSolver", "m_mat", "const Eigen::Ref<const MatrixType>", "handle", true),
       ("PartialSVDSolver", "m_op", "SVDMatOp<typename MatrixType::Scalar> *", "pointer", false),
       ("PartialSVDSolver", "m_eigs", "SymEigsSolver<SVDMatOp<typename MatrixType::Scalar>> *", "pointer", false)]) ∧
    writesTo "SVDTallMatOp" "m_mat" = [("SVDTallMatOp(ConstGenericMatrix &)", "init", "mat", "", false)] ∧
    writesTo "SVDWideMatOp" "m_mat" = [("SVDWideMatOp(ConstGenericMatrix &)", "init", "mat", "", false)] ∧
    writesTo "PartialSVDSolver" "m_mat" = [("PartialSVDSolver(ConstGenericMatrix &, Index, Index)", "init", "mat", "", false)] ∧
    writesTo "PartialSVDSolver" "m_op" =
      [("PartialSVDSolver(ConstGenericMatrix &, Index, Index)", "=", "new SVDTallMatOp<Scalar, MatrixType>(mat)", "(m_m > m_n)", false),
       ("PartialSVDSolver(ConstGenericMatrix &, Index, Index)", "=", "new SVDWideMatOp<Scalar, MatrixType>(mat)", "not (m_m > m_n)", false),
       ("PartialSVDSolver(ConstGenericMatrix &, Index, Index)", "*", "new SymEigsSolver<SVDMatOp<Scalar>>(*m_op, ncomp, ncv)", "", false),
       ("PartialSVDSolver(ConstGenericMatrix &, Index, Index)", "delete", "", "catch", false),
       ("~PartialSVDSolver()", "delete", "", "", false)] ∧
    writesTo "PartialSVDSolver" "m_eigs" =
      [("PartialSVDSolver(ConstGenericMatrix &, Index, Index)", "=", "new SymEigsSolver<SVDMatOp<Scalar>>(*m_op, ncomp, ncv)", "", false),
       ("~PartialSVDSolver()", "delete", "", "", false),
       ("compute(Index, Scalar)", "->init", "", "", false),
       ("compute(Index, Scalar)", "->compute", "SortRule::LargestAlge, maxit, tol", "", false)] ∧
    nonValueParams =
      [("SVDMatOp", "perform_op(const Scalar *, Scalar *) const", "x_in", "pointer"), ("SVDMatOp", "perform_op(const Scalar *, Scalar *) const", "y_out", "pointer"),
       ("SVDTallMatOp", "SVDTallMatOp(ConstGenericMatrix &)", "mat", "reference"),
       ("SVDTallMatOp", "perform_op(const Scalar *, Scalar *) const", "x_in", "pointer"), ("SVDTallMatOp", "perform_op(const Scalar *, Scalar *) const", "y_out", "pointer"),
       ("SVDWideMatOp", "SVDWideMatOp(ConstGenericMatrix &)", "mat", "reference"),
       ("SVDWideMatOp", "perform_op(const Scalar *, Scalar *) const", "x_in", "pointer"), ("SVDWideMatOp", "perform_op(const Scalar *, Scalar *) const", "y_out", "pointer"),
       ("PartialSVDSolver", "PartialSVDSolver(ConstGenericMatrix &, Index, Index)", "mat", "reference")] ∧
    ((uses.filter (fun u => u.use == "init" && u.member != "m_mat" && u.member != "m_evecs")).map (fun u => (u.cls, u.member, u.args)) =
      [("SVDTallMatOp", "m_dim", "(std::min)(mat.rows(), mat.cols())"), ("SVDTallMatOp", "m_cache", "mat.rows()"),
       ("SVDWideMatOp", "m_dim", "(std::min)(mat.rows(), mat.cols())"), ("SVDWideMatOp", "m_cache", "mat.cols()"),
       ("PartialSVDSolver", "m_m", "mat.rows()"), ("PartialSVDSolver", "m_n", "mat.cols()")]) :=
  -- each table is read off by unfolding the filters (texts compared as literals)
  ⟨rfl, rfl, rfl, rfl, rfl, rfl, rfl, rfl⟩

/-- keeps the search for the instance that decides the conjunction below small -/
local instance : DecidableEq (String × String × String × String × Bool) := inferInstance

/-- **Accessors write only the documented cache.**  `singular_values()` and `scaled_evecs()` are `const` and write nothing (the class
    has no `mutable` member); `matrix_U` / `matrix_V` write exactly one member, the eigenvector cache `m_evecs`, by the single
    assignment `m_evecs = m_eigs->eigenvectors()` under the single condition `m_evecs.cols() < 1` — so the cache is keyed on "empty
    or not" alone (not on `k`, not on which accessor filled it), `m_nconv` is not touched, and what one accessor call returns
    cannot depend on the arguments of earlier accessor calls (the model's `fillCache`; checked on the real class by the
    accessor-sequence stream).  The operator classes' only mutable member is the scratch vector `m_cache`, fully overwritten by
    `perform_op` (`noalias() =`) before it is read. -/
theorem c16_accessor_writes :
    methodsOf "PartialSVDSolver" =
      [("scaled_evecs(Index) const", true, "body"), ("PartialSVDSolver(ConstGenericMatrix &, Index, Index)", false, "body"),
       ("~PartialSVDSolver()", false, "body"), ("compute(Index, Scalar)", false, "body"), ("singular_values() const", true, "body"),
       ("matrix_U(Index)", false, "body"), ("matrix_V(Index)", false, "body")] ∧
    (members.filter (fun m => m.isMutable)).map (fun m => (m.cls, m.name)) = [("SVDTallMatOp", "m_cache"), ("SVDWideMatOp", "m_cache")] ∧
    writesOf "PartialSVDSolver" "singular_values() const" = [] ∧
    writesOf "PartialSVDSolver" "scaled_evecs(Index) const" = [] ∧
    writesOf "PartialSVDSolver" "matrix_U(Index)" = [("m_evecs", "=", "m_eigs->eigenvectors()", "(m_evecs.cols() < 1)", false)] ∧
    writesOf "PartialSVDSolver" "matrix_V(Index)" = [("m_evecs", "=", "m_eigs->eigenvectors()", "(m_evecs.cols() < 1)", false)] ∧
    (∀ c ∈ ["SVDTallMatOp", "SVDWideMatOp"], writesOf c "rows() const" = [] ∧ writesOf c "cols() const" = []) ∧
    writesOf "SVDTallMatOp" "perform_op(const Scalar *, Scalar *) const" = [("m_cache", "noalias=", "m_mat * x", "", false)] ∧
    writesOf "SVDWideMatOp" "perform_op(const Scalar *, Scalar *) const" = [("m_cache", "noalias=", "m_mat.transpose() * x", "", false)] :=
  ⟨rfl, by decide +kernel⟩

/-- **`compute()` resets the cache (the repair d08c57f of finding F4, read off the source).**  The member uses of `compute()` in source order: FIRST the
    unconditional `m_evecs.resize(0, 0)` (under no `if`, in no loop, before anything that can throw), then `m_eigs->init()`,
    `m_nconv = m_eigs->compute(SortRule::LargestAlge, maxit, tol)`, `return m_nconv` — exactly `SVD.compute` of the model.  The
    cache is written nowhere else than: the constructor (`m_evecs(0, 0)`), this reset, and the guarded refill of `matrix_U/V`;
    `m_nconv` is written by `compute()` only.  Dropping the reset, moving it behind a condition or after `m_eigs->compute`, or
    refilling under another condition (seed C16-cache-reset-dropped-refetch-on-count) breaks this theorem. -/
theorem c16_compute_resets_cache :
    (usesOf "PartialSVDSolver" "compute(Index, Scalar)").map (fun u => (u.member, u.use, u.args, u.guards, u.inLoop)) =
      [("m_evecs", ".resize", "0, 0", "", false), ("m_eigs", "->init", "", "", false),
       ("m_nconv", "=", "m_eigs->compute(SortRule::LargestAlge, maxit, tol)", "", false),
       ("m_eigs", "->compute", "SortRule::LargestAlge, maxit, tol", "", false), ("m_nconv", "read", "return m_nconv", "", false)] ∧
    writesTo "PartialSVDSolver" "m_evecs" =
      [("PartialSVDSolver(ConstGenericMatrix &, Index, Index)", "init", "0, 0", "", false),
       ("compute(Index, Scalar)", ".resize", "0, 0", "", false),
       ("matrix_U(Index)", "=", "m_eigs->eigenvectors()", "(m_evecs.cols() < 1)", false),
       ("matrix_V(Index)", "=", "m_eigs->eigenvectors()", "(m_evecs.cols() < 1)", false)] ∧
    writesTo "PartialSVDSolver" "m_nconv" = [("compute(Index, Scalar)", "=", "m_eigs->compute(SortRule::LargestAlge, maxit, tol)", "", false)] :=
  ⟨rfl, rfl, rfl⟩

/-- PartialSVDSolver declares a destructor (it deletes the two owning pointers) and — on the unchanged tree — NO copy operations, so
    the implicit member-wise copy constructor is still generated: `PartialSVDSolver<> b = a;` compiles and both destructors delete the
    same operator and inner solver (finding C16-copy, reported with demo and patch: delete the copy operations).  The statement
    admits exactly the two states "none declared" and "both deleted". -/
theorem c16_copy_operations :
    Gen.SVDMem.specialMembers.filter (fun s => s.1 == "PartialSVDSolver" && s.2.1 == "destructor") = [("PartialSVDSolver", "destructor", "body")] ∧
    (copyOps "PartialSVDSolver" = [] ∨ copyOps "PartialSVDSolver" = [("copy-constructor", "deleted"), ("copy-assignment", "deleted")]) := by
  decide

end objectmodel

end C16
