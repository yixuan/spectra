/-
  C12 — invalid arguments are rejected with std::invalid_argument, valid ones accepted, nothing leaks.
  Theorems are about `Gen/Guard.lean` and `Gen/Sort.lean`, regenerated on every run from HermEigsBase.h, GenEigsBase.h,
  JDSymEigsBase.h, SymGEigsShiftSolver.h, Util/SelectionRule.h and (for the raw-`new` footprint) every constructor in
  namespace Spectra, and about `Gen/MatOpGuard.lean`, regenerated from the constructors of every class of MatOp/*.h and of the
  internal SymGEigs*Op adapters.  Integer statements hold for all n, nev, ncv, rows, cols ∈ ℤ.
-/
import SpectraVerif.Gen.Guard
import SpectraVerif.Gen.Sort
import SpectraVerif.Gen.MatOpGuard
import SpectraVerif.Model.C12Geigs
import SpectraVerif.Proofs.ScField
import SpectraVerif.Proofs.C12Lemmas
import SpectraVerif.Proofs.SortDispatch

namespace C12
open Gen.Guard Gen.MatOpGuard

/-- symmetric/Hermitian family (both constructor overloads): accepted ⇔ 1 ≤ nev ≤ n-1 ∧ nev < ncv ≤ n,
    and every rejection is `std::invalid_argument` -/
theorem c12_herm_iff (nev ncv n : Int) :
    (herm_ctor_lvalue nev ncv n = Res.ok () ↔ (1 ≤ nev ∧ nev ≤ n - 1 ∧ nev < ncv ∧ ncv ≤ n)) ∧
    (herm_ctor_lvalue nev ncv n ≠ Res.ok () → herm_ctor_lvalue nev ncv n = Res.throw "std::invalid_argument") ∧
    herm_ctor_rvalue nev ncv n = herm_ctor_lvalue nev ncv n := by
  have v : Validates (herm_ctor_lvalue nev ncv n) (1 ≤ nev ∧ nev ≤ n - 1 ∧ nev < ncv ∧ ncv ≤ n) :=
    validates_of_eq (by shape_guard_eq herm_ctor_lvalue)
  exact ⟨v.1, v.2, rfl⟩

/-- for accepted arguments the stored subspace dimension is exactly `ncv` (the `ncv > n ? n : ncv` clamp is a no-op) -/
theorem c12_herm_ncv (nev ncv n : Int) (h : herm_ctor_lvalue nev ncv n = Res.ok ()) : herm_ncv_member nev ncv n = ncv := by
  have := ((c12_herm_iff nev ncv n).1).mp h
  simp only [herm_ncv_member, decide_eq_true_eq]
  rw [if_neg (by omega)]

/-- general family, operator with `n` rows and `cols` columns: accepted ⇔ the operator is square ∧ 1 ≤ nev ≤ n-2 ∧ nev+2 ≤ ncv ≤ n,
    every rejection is `std::invalid_argument` (the squareness clause is the repair of finding F23: before it a 4x7
    `DenseGenMatProd` was accepted and `init()` read past the end of a vector) -/
theorem c12_gen_iff (nev ncv n cols : Int) :
    (gen_ctor nev ncv n cols = Res.ok () ↔ (cols = n ∧ 1 ≤ nev ∧ nev ≤ n - 2 ∧ nev + 2 ≤ ncv ∧ ncv ≤ n)) ∧
    (gen_ctor nev ncv n cols ≠ Res.ok () → gen_ctor nev ncv n cols = Res.throw "std::invalid_argument") := by
  have v : Validates (gen_ctor nev ncv n cols) (cols = n ∧ 1 ≤ nev ∧ nev ≤ n - 2 ∧ nev + 2 ≤ ncv ∧ ncv ≤ n) :=
    validates_of_eq (by shape_guard_eq gen_ctor)
  exact v

/-- a non-square operator is rejected whatever (nev, ncv) are (F23 repaired), with invalid_argument -/
theorem c12_gen_nonsquare_rejected (nev ncv n cols : Int) (h : cols ≠ n) :
    gen_ctor nev ncv n cols = Res.throw "std::invalid_argument" := by
  have h1 := c12_gen_iff nev ncv n cols
  exact h1.2 (fun hok => h (h1.1.mp hok).1)

theorem c12_gen_ncv (nev ncv n cols : Int) (h : gen_ctor nev ncv n cols = Res.ok ()) : gen_ncv_member nev ncv n = ncv := by
  have := ((c12_gen_iff nev ncv n cols).1).mp h
  simp only [gen_ncv_member, decide_eq_true_eq]
  rw [if_neg (by omega)]

/-- Davidson: accepted ⇔ 1 ≤ nev ≤ n-1 -/
theorem c12_jd_iff (nev n : Int) :
    (jd_check_argument nev n = Res.ok () ↔ (1 ≤ nev ∧ nev ≤ n - 1)) ∧
    (jd_check_argument nev n ≠ Res.ok () → jd_check_argument nev n = Res.throw "std::invalid_argument") := by
  have v : Validates (jd_check_argument nev n) (1 ≤ nev ∧ nev ≤ n - 1) :=
    validates_of_eq (by shape_guard_eq jd_check_argument)
  exact v

/-- partial SVD forwards (ncomp, ncv) to the symmetric solver on an operator of size min(rows, cols); with that `n`
    `c12_herm_iff` is the statement (the forwarding itself is checked by the correspondence sweep, all shapes) -/
theorem c12_svd_iff (ncomp ncv rows cols : Int) :
    herm_ctor_lvalue ncomp ncv (min rows cols) = Res.ok () ↔
      (1 ≤ ncomp ∧ ncomp ≤ min rows cols - 1 ∧ ncomp < ncv ∧ ncv ≤ min rows cols) :=
  (c12_herm_iff ncomp ncv (min rows cols)).1

/-! ### shape guards of the matrix-operation wrappers (MatOp/*.h)

  One theorem per wrapper, for ALL integer shapes, about the constructor regenerated from the header: a rewritten guard either
  still proves (harmless) or breaks its theorem.
  `size()` is translated as `rows * cols`, so a test on coefficient counts is not a test on shapes. -/

theorem c12_wrap_DenseSymMatProd (rows cols : Int) : Validates (ctor_DenseSymMatProd rows cols) (rows = cols) :=
  validates_of_eq (by shape_guard_eq ctor_DenseSymMatProd)

theorem c12_wrap_DenseHermMatProd (rows cols : Int) : Validates (ctor_DenseHermMatProd rows cols) (rows = cols) :=
  validates_of_eq (by shape_guard_eq ctor_DenseHermMatProd)

theorem c12_wrap_SparseSymMatProd (rows cols : Int) : Validates (ctor_SparseSymMatProd rows cols) (rows = cols) :=
  validates_of_eq (by shape_guard_eq ctor_SparseSymMatProd)

theorem c12_wrap_SparseHermMatProd (rows cols : Int) : Validates (ctor_SparseHermMatProd rows cols) (rows = cols) :=
  validates_of_eq (by shape_guard_eq ctor_SparseHermMatProd)

theorem c12_wrap_DenseSymShiftSolve (rows cols : Int) : Validates (ctor_DenseSymShiftSolve rows cols) (rows = cols) :=
  validates_of_eq (by shape_guard_eq ctor_DenseSymShiftSolve)

theorem c12_wrap_SparseSymShiftSolve (rows cols : Int) : Validates (ctor_SparseSymShiftSolve rows cols) (rows = cols) :=
  validates_of_eq (by shape_guard_eq ctor_SparseSymShiftSolve)

theorem c12_wrap_DenseGenRealShiftSolve (rows cols : Int) : Validates (ctor_DenseGenRealShiftSolve rows cols) (rows = cols) :=
  validates_of_eq (by shape_guard_eq ctor_DenseGenRealShiftSolve)

theorem c12_wrap_SparseGenRealShiftSolve (rows cols : Int) : Validates (ctor_SparseGenRealShiftSolve rows cols) (rows = cols) :=
  validates_of_eq (by shape_guard_eq ctor_SparseGenRealShiftSolve)

theorem c12_wrap_DenseGenComplexShiftSolve (rows cols : Int) : Validates (ctor_DenseGenComplexShiftSolve rows cols) (rows = cols) :=
  validates_of_eq (by shape_guard_eq ctor_DenseGenComplexShiftSolve)

theorem c12_wrap_SparseGenComplexShiftSolve (rows cols : Int) : Validates (ctor_SparseGenComplexShiftSolve rows cols) (rows = cols) :=
  validates_of_eq (by shape_guard_eq ctor_SparseGenComplexShiftSolve)

theorem c12_wrap_DenseCholesky (rows cols : Int) : Validates (ctor_DenseCholesky rows cols) (rows = cols) :=
  validates_of_eq (by shape_guard_eq ctor_DenseCholesky)

theorem c12_wrap_SparseCholesky (rows cols : Int) : Validates (ctor_SparseCholesky rows cols) (rows = cols) :=
  validates_of_eq (by shape_guard_eq ctor_SparseCholesky)

theorem c12_wrap_SparseRegularInverse (rows cols : Int) : Validates (ctor_SparseRegularInverse rows cols) (rows = cols) :=
  validates_of_eq (by shape_guard_eq ctor_SparseRegularInverse)

/-- `DenseGenMatProd(mat)`: every shape is accepted (general rectangular product `y = A x`; squareness is the solver's business) -/
theorem c12_wrap_DenseGenMatProd (rows cols : Int) : Validates (ctor_DenseGenMatProd rows cols) True :=
  validates_of_eq (if_pos trivial).symm

/-- `SparseGenMatProd(mat)`: every shape is accepted (general rectangular product `y = A x`; squareness is the solver's business) -/
theorem c12_wrap_SparseGenMatProd (rows cols : Int) : Validates (ctor_SparseGenMatProd rows cols) True :=
  validates_of_eq (if_pos trivial).symm

/-- `SymShiftInvert(A, B)`: accepted ⇔ A and B are square of the same order (NOT: of the same coefficient count) -/
theorem c12_wrap_SymShiftInvert (a_rows a_cols b_rows b_cols : Int) :
    Validates (ctor_SymShiftInvert a_rows a_cols b_rows b_cols) (a_rows = a_cols ∧ b_rows = a_rows ∧ b_cols = a_rows) :=
  validates_of_eq (by shape_guard_eq ctor_SymShiftInvert)

/-- the statement in the "throws ⇔ outside the documented domain" form, for the two-matrix wrapper -/
theorem c12_wrap_SymShiftInvert_throws (a_rows a_cols b_rows b_cols : Int) :
    ctor_SymShiftInvert a_rows a_cols b_rows b_cols = Res.throw "std::invalid_argument" ↔
      ¬ (a_rows = a_cols ∧ b_rows = a_rows ∧ b_cols = a_rows) :=
  (c12_wrap_SymShiftInvert a_rows a_cols b_rows b_cols).throws_iff

/-! ### generalized solvers: two operators

  Full statement (provable since the repair of finding F22: every SymGEigs*Op adapter constructor now compares `op.rows()`
  with `Bop.rows()`): for all sizes `a` of op and `b` of Bop
  `Validates (geigs_solver_ctor mode nev ncv a b) (a = b ∧ 1 ≤ nev ∧ nev ≤ a - 1 ∧ nev < ncv ∧ ncv ≤ a)`.
  Before the repair the regenerated `geigs_ctor_*` were all `Res.ok ()`, (nev, ncv) were validated against whichever size the
  adapter's `rows()` returns, and `init()` read past the end of the shorter operand (heap-buffer-overflow). -/

/-- the regenerated adapter constructors: accepted ⇔ the two operators have the same size; rejection is invalid_argument;
    the size reported to the solver is then that common size -/
theorem c12_geigs_adapter (mode a b : Int) (hm : 0 ≤ mode ∧ mode ≤ 4) :
    (geigs_ctor mode a b = Res.ok () ↔ a = b) ∧
    (geigs_ctor mode a b ≠ Res.ok () → geigs_ctor mode a b = Res.throw "std::invalid_argument") ∧
    (a = b → geigs_rows mode a b = a) := by
  obtain rfl | rfl | rfl | rfl | rfl : mode = 0 ∨ mode = 1 ∨ mode = 2 ∨ mode = 3 ∨ mode = 4 := by omega
  · have v : Validates (geigs_ctor_SymGEigsCholeskyOp a b) (a = b) :=
      validates_of_eq (by shape_guard_eq geigs_ctor_SymGEigsCholeskyOp)
    exact ⟨v.1, v.2, fun h => h.symm⟩
  · have v : Validates (geigs_ctor_SymGEigsRegInvOp a b) (a = b) :=
      validates_of_eq (by shape_guard_eq geigs_ctor_SymGEigsRegInvOp)
    exact ⟨v.1, v.2, fun h => h.symm⟩
  · have v : Validates (geigs_ctor_SymGEigsShiftInvertOp a b) (a = b) :=
      validates_of_eq (by shape_guard_eq geigs_ctor_SymGEigsShiftInvertOp)
    exact ⟨v.1, v.2, fun _ => rfl⟩
  · have v : Validates (geigs_ctor_SymGEigsBucklingOp a b) (a = b) :=
      validates_of_eq (by shape_guard_eq geigs_ctor_SymGEigsBucklingOp)
    exact ⟨v.1, v.2, fun _ => rfl⟩
  · have v : Validates (geigs_ctor_SymGEigsCayleyOp a b) (a = b) :=
      validates_of_eq (by shape_guard_eq geigs_ctor_SymGEigsCayleyOp)
    exact ⟨v.1, v.2, fun _ => rfl⟩

/-- every GEigsMode, FULL statement: accepted ⇔ the two operators have one common size n = a = b ∧ 1 ≤ nev ≤ n-1 ∧ nev < ncv ≤ n;
    every rejection (mismatched operators included) is `std::invalid_argument` -/
theorem c12_geigs_iff (mode nev ncv a b : Int) (hm : 0 ≤ mode ∧ mode ≤ 4) :
    (geigs_solver_ctor mode nev ncv a b = Res.ok () ↔ (a = b ∧ 1 ≤ nev ∧ nev ≤ a - 1 ∧ nev < ncv ∧ ncv ≤ a)) ∧
    (geigs_solver_ctor mode nev ncv a b ≠ Res.ok () → geigs_solver_ctor mode nev ncv a b = Res.throw "std::invalid_argument") := by
  obtain ⟨h1, h2, h3⟩ := c12_geigs_adapter mode a b hm
  by_cases hab : a = b
  · have hok := h1.mpr hab
    have hr := h3 hab
    unfold geigs_solver_ctor
    rw [hok, hr]
    have hh := c12_herm_iff nev ncv a
    exact ⟨⟨fun h => ⟨hab, hh.1.mp h⟩, fun h => hh.1.mpr h.2⟩, hh.2.1⟩
  · have hne : geigs_ctor mode a b ≠ Res.ok () := fun h => hab (h1.mp h)
    have hthrow := h2 hne
    unfold geigs_solver_ctor
    rw [hthrow]
    exact ⟨⟨fun h => absurd h (by simp), fun h => absurd h.1 hab⟩, fun _ => rfl⟩

theorem c12_geigs_equal_sizes (mode n : Int) (hm : 0 ≤ mode ∧ mode ≤ 4) : geigs_ctor mode n n = Res.ok () ∧ geigs_rows mode n n = n :=
  ⟨(c12_geigs_adapter mode n n hm).1.mpr rfl, (c12_geigs_adapter mode n n hm).2.2 rfl⟩

/-- operators of one common size n: the instance `a = b` of `c12_geigs_iff` -/
theorem c12_geigs_iff_partial (mode nev ncv n : Int) (hm : 0 ≤ mode ∧ mode ≤ 4) :
    Validates (geigs_solver_ctor mode nev ncv n n) (1 ≤ nev ∧ nev ≤ n - 1 ∧ nev < ncv ∧ ncv ≤ n) := by
  have h := c12_geigs_iff mode nev ncv n n hm
  exact ⟨⟨fun hk => (h.1.mp hk).2, fun hd => h.1.mpr ⟨rfl, hd⟩⟩, h.2⟩

/-- mismatched operators are rejected whatever (nev, ncv) are -/
theorem c12_geigs_mismatch_rejected (mode nev ncv a b : Int) (hm : 0 ≤ mode ∧ mode ≤ 4) (h : a ≠ b) :
    geigs_solver_ctor mode nev ncv a b = Res.throw "std::invalid_argument" := by
  have h1 := c12_geigs_iff mode nev ncv a b hm
  exact h1.2 (fun hok => h (h1.1.mp hok).1)

section field
variable {K : Type} [Field K] [LinearOrder K] [IsStrictOrderedRing K] (F : FieldFns K)

/-- buckling (mode 3) and Cayley (mode 4) reject exactly σ = 0, with invalid_argument; shift-invert (mode 2) has no such guard -/
theorem c12_sigma (mode : Int) (sigma : K) :
    (@sigma_guard K _ _ _ _ _ (scOfField F) mode sigma = Res.throw "std::invalid_argument" ↔ ((mode = 3 ∨ mode = 4) ∧ sigma = 0)) ∧
    (@sigma_guard K _ _ _ _ _ (scOfField F) mode sigma ≠ Res.throw "std::invalid_argument" →
      @sigma_guard K _ _ _ _ _ (scOfField F) mode sigma = Res.ok ()) := by
  simp only [sigma_guard, ScF.eq, ScF.ofInt, Int.cast_zero, decide_eq_true_eq]
  by_cases h2 : mode = 2
  · subst h2; simp
  rw [if_neg h2]
  by_cases h3 : mode = 3
  · subst h3; by_cases hs : sigma = 0 <;> simp [hs]
  rw [if_neg h3]
  by_cases h4 : mode = 4
  · subst h4; by_cases hs : sigma = 0 <;> simp [hs]
  rw [if_neg h4]
  simp [h3, h4]

end field

/-- selection / sorting rules: the accepted sets per solver family are the documented ones, everything else throws
    invalid_argument (restated from the generated dispatch functions; the order theorems are C18) -/
theorem c12_rules (r : Int) :
    (Gen.Sort.argsort_rule r ≠ -1 ↔ (r = 0 ∨ r = 3 ∨ r = 4 ∨ r = 7 ∨ r = 8)) ∧
    (Gen.Sort.herm_sort_guard r = Res.ok () ↔ (r = 0 ∨ r = 3 ∨ r = 4 ∨ r = 7)) ∧
    (Gen.Sort.gen_select_rule r ≠ -1 ↔ (r = 0 ∨ r = 1 ∨ r = 2 ∨ r = 4 ∨ r = 5 ∨ r = 6)) ∧
    (Gen.Sort.gen_sort_rule r ≠ -1 ↔ (r = 0 ∨ r = 1 ∨ r = 2 ∨ r = 4 ∨ r = 5 ∨ r = 6)) :=
  ⟨SortDispatch.argsort_rule_accepts r, (SortDispatch.herm_sort_guard_accepts r).1, SortDispatch.gen_rules_accept r⟩

/-! ### nothing leaks from a rejected constructor

  Model of C++ constructor unwinding: a constructor is a list of actions; an action may acquire a resource that is either
  owned by a fully constructed member/local (released by its destructor during unwinding) or held only by a raw pointer
  (released by nobody: the destructor of a partially constructed object does not run).  -/

inductive Own | raii | raw deriving DecidableEq, Repr

/-- resources live after the constructor throws at action `k` (actions before `k` completed): exactly the raw ones -/
def leakedAt (acts : List (Own × Nat)) (k : Nat) : List Nat :=
  ((acts.take k).filter (fun a => a.1 = Own.raw)).map (·.2)

theorem c12_ctor_unwind (acts : List (Own × Nat)) (k : Nat) :
    leakedAt acts k = [] ↔ ∀ a ∈ acts.take k, a.1 ≠ Own.raw := by
  simp only [leakedAt, List.map_eq_nil_iff, List.filter_eq_nil_iff, decide_eq_true_eq]

/-- in particular a constructor all of whose acquisitions are RAII-owned leaks nothing, wherever it throws -/
theorem c12_no_raw_no_leak (acts : List (Own × Nat)) (h : ∀ a ∈ acts, a.1 = Own.raii) (k : Nat) : leakedAt acts k = [] := by
  rw [c12_ctor_unwind]; intro a ha
  have := h a (List.mem_of_mem_take ha); rw [this]; decide

/-- the source fact that makes `c12_no_raw_no_leak` applicable to every Spectra class: no constructor holds the result of
    a raw `new` across a later action that can throw (regenerated from the clang AST of all constructors on every run;
    before the repair of PartialSVDSolver's constructor this list read `[("PartialSVDSolver", 1)]`) -/
theorem c12_no_leak : ∀ p ∈ ctor_raw_new, p.2 = 0 := by decide

-- non-vacuity
example : herm_ctor_lvalue 3 6 10 = Res.ok () ∧ gen_ctor 3 6 10 10 = Res.ok () ∧ jd_check_argument 3 10 = Res.ok () := by decide
example : herm_ctor_lvalue 10 11 10 = Res.throw "std::invalid_argument" ∧ gen_ctor 9 11 10 10 = Res.throw "std::invalid_argument" ∧ gen_ctor 1 4 4 7 = Res.throw "std::invalid_argument" := by decide
example : leakedAt [(Own.raw, 1), (Own.raii, 2)] 1 = [1] := by decide
example : ctor_SymShiftInvert 3 3 3 3 = Res.ok () ∧ ctor_SymShiftInvert 2 2 1 4 = Res.throw "std::invalid_argument" ∧
    ctor_SymShiftInvert 2 2 4 1 = Res.throw "std::invalid_argument" ∧ ctor_DenseCholesky 2 3 = Res.throw "std::invalid_argument" ∧
    ctor_DenseGenMatProd 2 3 = Res.ok () ∧ geigs_solver_ctor 0 2 4 6 6 = Res.ok () ∧
    geigs_solver_ctor 0 2 4 8 5 = Res.throw "std::invalid_argument" ∧ geigs_solver_ctor 2 2 4 5 8 = Res.throw "std::invalid_argument" := by decide

end C12
