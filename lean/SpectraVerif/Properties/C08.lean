/-
  C08 — shifted QR helpers (UpperHessenbergQR, TridiagQR, DoubleShiftQR): orthogonal Q, exact similarity, structure preserved.

  What is proved here (for EVERY input, size, shift, and every value of the machine parameters eps / min / series cutoff):
  the exact-arithmetic and discrete content of the property, about
    * `Gen.Givens.*`  — regenerated from UpperHessenbergQR.h on every run by the translator, and
    * the executable models `QRModel.UpperHessenbergQR / TridiagQR / DoubleShiftQR` (Model/*.lean), which call the generated
      kernels and are tied bit-exactly to the real classes by the correspondence check.
  "Exact arithmetic" = any linearly ordered field `K` with a function `sqrt` such that `sqrt x * sqrt x = x ∧ 0 ≤ sqrt x` for
  `0 ≤ x` (`ℝ` with `Real.sqrt` is one instance); `F.pow`, `F.eps`, `F.minPos` are arbitrary.

  What is NOT proved (rounding): the clause "all identities hold to a small multiple of n·eps·(‖H‖+|s|)" in floating point.
  The full-strength statement is
      ∀ H s, ‖QᵀQ − I‖, ‖QR − (H − sI)‖, ‖QtHQ − QᵀHQ‖, ‖apply_*(Y) − Q·Y‖ ≤ c·n·eps·(‖H‖ + |s|)   in IEEE arithmetic;
  the theorems below give the `eps = 0` case (exact identities, ideal rotations) and the only non-rounding source of
  non-orthogonality, the series branch (defect ≤ (5/8)·t⁶ with t < cutoff), and are therefore the exact-arithmetic part; the
  floating-point clause is evaluated on the real classes in long double by the oracle of harness/c08.cpp.
-/
import SpectraVerif.Proofs.C08Givens
import SpectraVerif.Proofs.C08Local
import SpectraVerif.Proofs.C08Nr
import SpectraVerif.Proofs.C08Tridiag
import SpectraVerif.Proofs.C08Hess
import SpectraVerif.Proofs.C08Refl
import SpectraVerif.Proofs.C08Finding
import SpectraVerif.Proofs.C08HessMatrix
import SpectraVerif.Proofs.C08TridiagQ
import SpectraVerif.Proofs.C08TridiagMatrix
import SpectraVerif.Proofs.C08DsqrQ
import SpectraVerif.Proofs.C08DsqrMatrix
import SpectraVerif.Proofs.C08DsqrFirst
import SpectraVerif.Proofs.C08DsqrSimE
import SpectraVerif.Proofs.C08DsqrSimG
import SpectraVerif.Proofs.C08Buf
import SpectraVerif.Proofs.C08Reuse
import SpectraVerif.Proofs.C08ReuseDs
import Mathlib.Analysis.Real.Sqrt
import Mathlib.LinearAlgebra.Matrix.Charpoly.Basic

set_option linter.unusedSectionVars false

namespace C08
open QRModel

variable {K : Type} [Field K] [LinearOrder K] [IsStrictOrderedRing K] (F : FieldFns K)

/-- the translated `compute_rotation` at the exact-arithmetic instance; result is `(r, c, s)` -/
abbrev givens (x y : K) : K × K × K := @Gen.Givens.compute_rotation K _ _ _ _ _ (scOfField F) x y
/-- the series cutoff `0.1 * pow(eps, 0.25)` as the generated code computes it: an arbitrary element of `K` -/
abbrev cutoff : K := C08Givens.cutoff F

/-! ### (1) the stable Givens rotation -/

/-- all sign/zero cases, both branches: `r ≥ 0` and the rotation annihilates EXACTLY: `s·x + c·y = 0` -/
theorem c08_givens (hsq : ∀ x : K, 0 ≤ x → F.sqrt x * F.sqrt x = x ∧ 0 ≤ F.sqrt x) (x y r c s : K)
    (h : givens F x y = (r, c, s)) : 0 ≤ r ∧ s * x + c * y = 0 :=
  C08Givens.rot_spec F hsq x y r c s h

/-- outside the series branch (`x = 0`, `y = 0`, or ratio ≥ cutoff) the rotation is ideal:
    `c² + s² = 1`, `c·x − s·y = r`, `r² = x² + y²` -/
theorem c08_givens_standard (hsq : ∀ x : K, 0 ≤ x → F.sqrt x * F.sqrt x = x ∧ 0 ≤ F.sqrt x) (x y r c s : K)
    (hcase : x = 0 ∨ y = 0 ∨ cutoff F ≤ min |x| |y| / max |x| |y|) (h : givens F x y = (r, c, s)) :
    c * c + s * s = 1 ∧ c * x - s * y = r ∧ r * r = x * x + y * y ∧ 0 ≤ r ∧ s * x + c * y = 0 :=
  C08Givens.rot_std F hsq x y hcase r c s h

/-- series branch (`t = min/max < cutoff`): orthogonality defect `≤ (5/8) t⁶`, `r` is the degree-6 Taylor polynomial of
    `max·√(1+t²)` with `|r² − (x²+y²)| ≤ (5/64)·max²·t⁸`, and the annihilation is still exact -/
theorem c08_givens_series (x y r c s : K) (hx : x ≠ 0) (hy : y ≠ 0)
    (hcut : min |x| |y| / max |x| |y| < cutoff F) (h : givens F x y = (r, c, s)) :
    |c * c + s * s - 1| ≤ 5 / 8 * (min |x| |y| / max |x| |y|) ^ 6 ∧ 0 < r ∧
    |r * r - (x * x + y * y)| ≤ 5 / 64 * (max |x| |y| * max |x| |y|) * (min |x| |y| / max |x| |y|) ^ 8 ∧
    s * x + c * y = 0 := by
  have := C08Givens.rot_taylor F x y hx hy hcut r c s h
  exact ⟨this.1, this.2.1, this.2.2.2.2.1, this.2.2.2.2.2.2⟩

/-- `c08_zero_subdiag`, rotation part: a zero subdiagonal entry gives `(c, s) = (±1, 0)`, i.e. `Gᵢ = ±I` on that plane, `r = |x|` -/
theorem c08_zero_subdiag_rotation (x : K) :
    givens F x 0 = (|x|, (if x = 0 then 1 else if 0 < x then 1 else -1), 0) :=
  C08Givens.rot_zero_y F x

/-! ### (2) one rotation step: inner products, inverse, the closed formulas of TridiagQR, first column of the double shift -/

/-- applying `Gᵢ'` (as every loop of the classes writes it) to two pairs multiplies their inner product by `c² + s²`;
    with `c² + s² = 1` inner products of rows/columns are preserved (the local step behind `QᵀQ = I`) -/
theorem c08_rotation_inner (c s x y u v : K) (h : c * c + s * s = 1) :
    (rotT c s x y).1 * (rotT c s u v).1 + (rotT c s x y).2 * (rotT c s u v).2 = x * u + y * v ∧
    (rotG c s x y).1 * (rotG c s u v).1 + (rotG c s x y).2 * (rotG c s u v).2 = x * u + y * v := by
  refine ⟨?_, ?_⟩
  · have := C08Local.rT_inner ⟨id, fun x _ => x, 0, 0⟩ c s x y u v; rw [h, one_mul] at this; exact this
  · have := C08Local.rG_inner ⟨id, fun x _ => x, 0, 0⟩ c s x y u v; rw [h, one_mul] at this; exact this

/-- `apply_QY` undoes `apply_QtY` on each plane: `Gᵢ (Gᵢ' p) = p = Gᵢ' (Gᵢ p)` when `c² + s² = 1` -/
theorem c08_rotation_inverse (c s x y : K) (h : c * c + s * s = 1) :
    rotG c s (rotT c s x y).1 (rotT c s x y).2 = (x, y) ∧ rotT c s (rotG c s x y).1 (rotG c s x y).2 = (x, y) := by
  refine ⟨?_, ?_⟩
  · have := C08Local.rG_rT ⟨id, fun x _ => x, 0, 0⟩ c s x y; rw [h, one_mul, one_mul] at this; exact this
  · have := C08Local.rT_rG ⟨id, fun x _ => x, 0, 0⟩ c s x y; rw [h, one_mul, one_mul] at this; exact this

/-- the rotation computed by `compute_rotation` maps `(x, y)` to `(r, 0)` (standard branch), which is what `compute` stores
    (`Rii[0] = r; Rii[1] = 0`) instead of computing -/
theorem c08_rotation_annihilates (hsq : ∀ x : K, 0 ≤ x → F.sqrt x * F.sqrt x = x ∧ 0 ≤ F.sqrt x) (x y r c s : K)
    (hcase : x = 0 ∨ y = 0 ∨ cutoff F ≤ min |x| |y| / max |x| |y|) (h : givens F x y = (r, c, s)) :
    rotT c s x y = (r, 0) := by
  have := C08Givens.rot_std F hsq x y hcase r c s h
  exact C08Local.rT_annihilate ⟨id, fun x _ => x, 0, 0⟩ c s x y r this.2.2.2.2 this.2.1

/-- TridiagQR `matrix_QtHQ`: the closed formulas `x', y', z', o' = −s·w, w' = c·w, u' = u` are the entries of `Gᵀ T G`
    on the 3x3 window `T = [x y 0; y z w; 0 w u]`, `G = [c s 0; −s c 0; 0 0 1]` (ring identity, all `c, s`) -/
theorem c08_tqr_qthq_local (c s x y z w u : K) :
    (C08Local.G3 c s).transpose * C08Local.T3 x y z w u * C08Local.G3 c s =
      !![(C08Local.qloc F c s x y z).1, (C08Local.qloc F c s x y z).2.1, -s * w;
         (C08Local.qloc F c s x y z).2.1, (C08Local.qloc F c s x y z).2.2, c * w;
         -s * w, c * w, u] :=
  C08Local.qthq_window F c s x y z w u

/-- DoubleShiftQR: for an upper Hessenberg `H` of any size `≥ 3`, `(m00, m10, m20, 0, …, 0)` as `update_block` computes it
    is the first column of `H² − sH + tI` -/
theorem c08_dsqr_first_col {n : Nat} (H : Matrix (Fin (n + 3)) (Fin (n + 3)) K)
    (hH : ∀ i j : Fin (n + 3), j.val + 1 < i.val → H i j = 0) (s t : K) (i : Fin (n + 3)) :
    (H * H - s • H + t • (1 : Matrix (Fin (n + 3)) (Fin (n + 3)) K)) i 0 =
      if i.val = 0 then DoubleShiftQR.firstCol0 (H 0 0) (H 0 1) (H 1 0) s t
      else if i.val = 1 then DoubleShiftQR.firstCol1 (H 0 0) (H 1 0) (H 1 1) s
      else if i.val = 2 then DoubleShiftQR.firstCol2 (H 2 1) (H 1 0) else 0 :=
  C08Local.first_col_hessenberg ⟨id, fun x _ => x, 0, 0⟩ H hH s t i

/-! ### (3) structural / discrete facts, for ALL sizes n and all inputs -/

section structural
open Lin

/-- the three models at the exact-arithmetic instance -/
abbrev tqr (mat : Mat K) (shift : K) : TridiagQR K := @TridiagQR.compute K _ _ _ _ _ (scOfField F) mat shift
abbrev dsqr (mat : Mat K) (s t : K) : DoubleShiftQR K := @DoubleShiftQR.compute K _ _ _ _ _ (scOfField F) mat s t
abbrev mget (m : Mat K) (i j : Nat) : K := @Mat.get K (scOfField F) m i j
abbrev vecget (v : Vec K) (i : Nat) : K := @vget K (scOfField F) v i

/-- TridiagQR `matrix_R` is upper triangular with upper bandwidth 2 (every n, every input, every shift) -/
theorem c08_tqr_band (mat : Mat K) (shift : K) (i j : Nat) (hi : i < mat.rows) (hj : j < mat.rows) :
    (j < i → mget F (@TridiagQR.matrix_R K (scOfField F) (tqr F mat shift)) i j = 0) ∧
    (i + 2 < j → mget F (@TridiagQR.matrix_R K (scOfField F) (tqr F mat shift)) i j = 0) :=
  C08Tridiag.tqr_R_band F mat shift i j hi hj

/-- `c08_shapes`, TridiagQR: `matrix_QtHQ` is tridiagonal and symmetric by construction — exactly, whatever the rotations are -/
theorem c08_tqr_shapes (q : TridiagQR K) (i j : Nat) (hi : i < q.n) (hj : j < q.n) :
    ((i + 1 < j ∨ j + 1 < i) → mget F (@TridiagQR.matrix_QtHQ K _ _ _ _ (scOfField F) q) i j = 0) ∧
    mget F (@TridiagQR.matrix_QtHQ K _ _ _ _ (scOfField F) q) i j = mget F (@TridiagQR.matrix_QtHQ K _ _ _ _ (scOfField F) q) j i :=
  ⟨C08Tridiag.tqr_qthq_tridiagonal F q i j hi hj, C08Tridiag.tqr_qthq_symmetric F q i j hi hj⟩

/-- both deflation passes of TridiagQR (on the input in `compute`, on the result in `matrix_QtHQ`) replace an entry by an exact
    `0` precisely when `|e| ≤ eps (|dᵢ| + |dᵢ₊₁|)`, and change nothing else -/
theorem c08_tqr_deflation (d e : Vec K) (n i : Nat) :
    vecget F (@TridiagQR.deflate K _ _ (scOfField F) d e n) i =
      if i < n - 1 ∧ |vecget F e i| ≤ F.eps * (|vecget F d i| + |vecget F d (i + 1)|) then 0 else vecget F e i :=
  C08Tridiag.deflate_get F d e n i

/-- TridiagQR reads only the diagonal and the first subdiagonal of its argument -/
theorem c08_tqr_reads_bands (m1 m2 : Mat K) (shift : K) (hr : m1.rows = m2.rows)
    (hd : ∀ i, i < m1.rows → mget F m1 i i = mget F m2 i i)
    (he : ∀ i, i < m1.rows - 1 → mget F m1 (i + 1) i = mget F m2 (i + 1) i) :
    tqr F m1 shift = tqr F m2 shift :=
  C08Tridiag.tqr_compute_reads_bands F m1 m2 shift hr hd he

/-- one step of TridiagQR's compact factorization loop is the plane rotation `Gᵢ'` applied to the full 2x3 window
    `[x a 0; y z w]` of `R`, given that the rotation annihilates (`s x + c y = 0`, `c x − s y = r`: `c08_givens_standard`) -/
theorem c08_tqr_step_is_rotation (n : Nat) (T : Vec K) (st : TridiagQR.FacSt K) (i : Nat) (r c s : K)
    (hrot : givens F (vecget F st.Rd i) (vecget F T i) = (r, c, s))
    (h0 : s * vecget F st.Rd i + c * vecget F T i = 0) (hr : c * vecget F st.Rd i - s * vecget F T i = r)
    (hRd : i + 1 < st.Rd.size) (hRs : i < st.Rs.size) :
    ((vecget F (@TridiagQR.facStep K _ _ _ _ _ (scOfField F) n T st i).Rd i, (0 : K)) = rotT c s (vecget F st.Rd i) (vecget F T i)) ∧
    ((vecget F (@TridiagQR.facStep K _ _ _ _ _ (scOfField F) n T st i).Rs i,
      vecget F (@TridiagQR.facStep K _ _ _ _ _ (scOfField F) n T st i).Rd (i + 1)) = rotT c s (vecget F st.Rs i) (vecget F st.Rd (i + 1))) ∧
    (i < n - 2 → i + 1 < st.Rs.size → i < st.Rs2.size →
      (vecget F (@TridiagQR.facStep K _ _ _ _ _ (scOfField F) n T st i).Rs2 i,
       vecget F (@TridiagQR.facStep K _ _ _ _ _ (scOfField F) n T st i).Rs (i + 1)) = rotT c s 0 (vecget F st.Rs (i + 1))) :=
  C08Tridiag.tqr_facStep_window F n T st i r c s hrot h0 hr hRd hRs

/-- `c08_dsqr_nr_safe`: for every size, every input matrix (hence EVERY deflation pattern and every block split), every
    double shift and every outcome of the floating comparisons inside `compute_reflector`:
    `m_ref_nr` has `n` entries in `{1,2,3}`; `nr[k] = 3 ⇒ k+2 ≤ n−1`, `nr[k] = 2 ⇒ k+1 ≤ n−1`, `nr[n−1] = 1`; so every raw
    access `x[0..nr−1]` of `apply_PX(Scalar*, k)` in `apply_QtY` and every column `k..k+nr−1` in `apply_YQ` is inside the data.
    Only hypothesis: `0 < min()` (so that the literal `x3 = 0` is `< near_0`) -/
theorem c08_dsqr_nr_safe (hmin : 0 < F.minPos) (mat : Mat K) (s t : K) (hn : 1 ≤ mat.rows) :
    (dsqr F mat s t).nr.size = mat.rows ∧
    (∀ k, k < mat.rows → ((dsqr F mat s t).nr.getD k 0 = 1 ∨ (dsqr F mat s t).nr.getD k 0 = 2 ∨ (dsqr F mat s t).nr.getD k 0 = 3)) ∧
    (∀ k, k < mat.rows → (dsqr F mat s t).nr.getD k 0 = 3 → k + 2 ≤ mat.rows - 1) ∧
    (∀ k, k < mat.rows → (dsqr F mat s t).nr.getD k 0 = 2 → k + 1 ≤ mat.rows - 1) ∧
    (dsqr F mat s t).nr.getD (mat.rows - 1) 0 = 1 :=
  C08Nr.compute_nr_safe F hmin mat s t hn

/-- per-block strengthening: the block boundaries `zero_ind` are strictly increasing from `0` to `n`, and inside each block
    `[il, iu]`: counts in `{1,2,3}`, `nr[k] = 3 ⇒ k+2 ≤ iu` (three live rows INSIDE the block), `nr[k] = 2 ⇒ k+1 ≤ iu`,
    `nr[iu] = 1` (`C08Nr.BlockOK`); blocks of size 1 and 2 (already-deflated input) are covered -/
theorem c08_dsqr_nr_blocks (hmin : 0 < F.minPos) (mat : Mat K) (s t : K) (hn : 1 ≤ mat.rows) :
    (C08Nr.zeroInd F mat).getD 0 0 = 0 ∧
    (C08Nr.zeroInd F mat).getD ((C08Nr.zeroInd F mat).size - 1) 0 = mat.rows ∧
    (∀ a, a + 1 < (C08Nr.zeroInd F mat).size → (C08Nr.zeroInd F mat).getD a 0 < (C08Nr.zeroInd F mat).getD (a + 1) 0) ∧
    (∀ i, i + 1 < (C08Nr.zeroInd F mat).size →
      C08Nr.BlockOK (dsqr F mat s t).nr ((C08Nr.zeroInd F mat).getD i 0) ((C08Nr.zeroInd F mat).getD (i + 1) 0 - 1)) := by
  obtain ⟨_, _, h2, h3, h4, h5⟩ := C08Nr.compute_nr_blocks F hmin mat s t hn
  exact ⟨h2, h3, h4, h5⟩

/-- `c08_zero_subdiag`, block part: `update_block(il, iu)` for EVERY block size (1, 2, ≥ 3) touches only `nr[il..iu]`, leaves
    counts in `{1,2,3}` with three/two live rows inside the block, and ends the block with the identity -/
theorem c08_zero_subdiag_blocks (hmin : 0 < F.minPos) (n : Nat) (s t : K) (H u : Mat K) (nr : Array Nat) (il iu : Nat)
    (hle : il ≤ iu) (hsz : iu < nr.size) :
    (C08Nr.ub F n s t (H, u, nr) il iu).2.2.size = nr.size ∧
    (∀ k, (k < il ∨ iu < k) → (C08Nr.ub F n s t (H, u, nr) il iu).2.2.getD k 0 = nr.getD k 0) ∧
    C08Nr.BlockOK (C08Nr.ub F n s t (H, u, nr) il iu).2.2 il iu :=
  C08Nr.update_block_nr_st F hmin n s t (H, u, nr) il iu hle hsz

end structural

/-! ### (4) whole-matrix statements for UpperHessenbergQR (all n, all H, all shifts), on the executable array model

  `C08Hess.hqr F mat shift` is `UpperHessenbergQR.compute mat shift` at the exact-arithmetic instance; `QtYm/QYm/YQm/QtYv/QYv`
  are `apply_QtY/apply_QY/apply_YQ` (matrix and vector overloads), `QtHQ` is `matrix_QtHQ`, `Hsh F mat shift` is the matrix
  `H − sI` the class factorizes (upper Hessenberg part of `mat`; entries below the subdiagonal are ignored).
  "Ideal rotations" = exact square root and series branch disabled (`cutoff ≤ 0`); the theorems named `…_partial` are the
  `eps = 0` case of the corresponding clause of the property (what is missing: the floating-point error bound
  `c·n·eps·(‖H‖+|s|)`, and the series branch whose orthogonality defect is bounded in `c08_givens_series`). -/

section hess
open Lin C08Hess

/-- `c08_shapes`, UpperHessenbergQR: `R` is upper triangular and `matrix_QtHQ` is upper Hessenberg with EXACT zeros, for every
    input and every outcome of the rotations (no hypothesis on `sqrt`, `pow`, `eps`); sizes are as allocated -/
theorem c08_hqr_shapes (mat : Mat K) (hw : C08Mat.WF mat) (hsq : mat.cols = mat.rows) (shift : K)
    (i j : Nat) (hi : i < mat.rows) (hj : j < mat.rows) :
    (j < i → C08Hess.mget F (hqr F mat shift).R i j = 0) ∧
    (j + 1 < i → C08Hess.mget F (QtHQ F (hqr F mat shift)) i j = 0) ∧
    (hqr F mat shift).cos.size = mat.rows - 1 ∧ (hqr F mat shift).sin.size = mat.rows - 1 :=
  letI := scOfField F
  ⟨R_upper_gen (zero_eq F) mat shift i j hi hj, qthq_gen (zero_eq F) mat shift i j hi hj, (sizes_gen mat shift).2.2.2.2⟩

/-- `c08_hqr_factor` (exact arithmetic): `Qᵀ (H − sI) = R` and `Q R = H − sI`, as equalities of matrices, where `Qᵀ·`/`Q·` are
    the class's own `apply_QtY` / `apply_QY`.
    Full-strength clause: `‖Q R − (H − sI)‖ ≤ c·n·eps·(‖H‖+|s|)` in IEEE arithmetic — not proved (rounding) -/
theorem c08_hqr_factor_partial (hsqrt : ∀ x : K, 0 ≤ x → F.sqrt x * F.sqrt x = x ∧ 0 ≤ F.sqrt x) (hcut : cutoff F ≤ 0)
    (mat : Mat K) (hw : C08Mat.WF mat) (hsq : mat.cols = mat.rows) (shift : K) :
    QtYm F (hqr F mat shift) (Hsh F mat shift) = (hqr F mat shift).R ∧
    QYm F (hqr F mat shift) (hqr F mat shift).R = Hsh F mat shift :=
  letI := scOfField F
  ⟨factor_gen (zero_eq F) (ideal_of F hsqrt hcut) mat shift, QR_gen (zero_eq F) (ideal_of F hsqrt hcut) mat shift⟩

/-- `Q` is orthogonal (exact arithmetic): `apply_QY ∘ apply_QtY = id = apply_QtY ∘ apply_QY` on every matrix with `n` rows
    (any number of columns), and every stored pair has `c² + s² = 1`.
    Full-strength clause: `‖QᵀQ − I‖ ≤ c·n·eps` in IEEE arithmetic — not proved (rounding; series-branch defect bounded separately) -/
theorem c08_hqr_orthogonal_partial (hsqrt : ∀ x : K, 0 ≤ x → F.sqrt x * F.sqrt x = x ∧ 0 ≤ F.sqrt x) (hcut : cutoff F ≤ 0)
    (mat : Mat K) (hw : C08Mat.WF mat) (hsq : mat.cols = mat.rows) (shift : K) :
    (∀ Y : Mat K, C08Mat.WF Y → Y.rows = mat.rows →
      QYm F (hqr F mat shift) (QtYm F (hqr F mat shift) Y) = Y ∧ QtYm F (hqr F mat shift) (QYm F (hqr F mat shift) Y) = Y) ∧
    (∀ i, i < mat.rows - 1 →
      vgt F (hqr F mat shift).cos i * vgt F (hqr F mat shift).cos i + vgt F (hqr F mat shift).sin i * vgt F (hqr F mat shift).sin i = 1) :=
  letI := scOfField F
  ⟨orth_gen (ideal_of F hsqrt hcut) mat shift, rot_orth_gen (ideal_of F hsqrt hcut) mat shift⟩

/-- `c08_hqr_rq`: `matrix_QtHQ = R Q + s I` entrywise, where `·Q` is the class's own `apply_YQ` — for EVERY outcome of the
    rotations (the truncated row range `0..i+1` of the loop loses nothing because `R` is upper triangular) -/
theorem c08_hqr_rq (mat : Mat K) (hw : C08Mat.WF mat) (hsq : mat.cols = mat.rows) (shift : K)
    (i j : Nat) (hi : i < mat.rows) (hj : j < mat.rows) :
    C08Hess.mget F (QtHQ F (hqr F mat shift)) i j =
      C08Hess.mget F (YQm F (hqr F mat shift) (hqr F mat shift).R) i j + (if i = j then shift else 0) :=
  letI := scOfField F
  rq_compute (zero_eq F) mat shift i j hi hj

/-- similarity (exact arithmetic): `matrix_QtHQ = Qᵀ (H − sI) Q + s I` entrywise, with `Qᵀ·` = `apply_QtY`, `·Q` = `apply_YQ`.
    Full-strength clause: `matrix_QtHQ = Qᵀ H Q` up to `c·n·eps·(‖H‖+|s|)`.  Missing for the exact version of that form: the
    (true, unproved here) linearity step `Qᵀ (sI) Q = s·QᵀQ = sI` for the array maps; missing for the clause: rounding -/
theorem c08_hqr_similarity_partial (hsqrt : ∀ x : K, 0 ≤ x → F.sqrt x * F.sqrt x = x ∧ 0 ≤ F.sqrt x) (hcut : cutoff F ≤ 0)
    (mat : Mat K) (hw : C08Mat.WF mat) (hsq : mat.cols = mat.rows) (shift : K)
    (i j : Nat) (hi : i < mat.rows) (hj : j < mat.rows) :
    C08Hess.mget F (QtHQ F (hqr F mat shift)) i j =
      C08Hess.mget F (YQm F (hqr F mat shift) (QtYm F (hqr F mat shift) (Hsh F mat shift))) i j + (if i = j then shift else 0) := by
  rw [show QtYm F (hqr F mat shift) (Hsh F mat shift) = _ from
    @factor_gen K _ (scOfField F) (zero_eq F) (ideal_of F hsqrt hcut) mat shift]
  exact @rq_compute K _ (scOfField F) (zero_eq F) mat shift i j hi hj

/-- `c08_hqr_apply`: the vector overloads of `apply_QY` / `apply_QtY` are the matrix overloads on the `n × 1` matrix with that
    column (for every outcome of the rotations): all apply methods multiply by the same `Q` -/
theorem c08_hqr_apply_overloads (mat : Mat K) (hw : C08Mat.WF mat) (hsq : mat.cols = mat.rows) (shift : K) (y : Vec K)
    (hy : y.size = mat.rows) (i : Nat) (hi : i < mat.rows) :
    vgt F (QYv F (hqr F mat shift) y) i = C08Hess.mget F (QYm F (hqr F mat shift) (colM F mat.rows y)) i 0 ∧
    vgt F (QtYv F (hqr F mat shift) y) i = C08Hess.mget F (QtYm F (hqr F mat shift) (colM F mat.rows y)) i 0 :=
  letI := scOfField F
  ⟨(apply_vec_gen (hqr F mat shift) y hy).1.2 i hi, (apply_vec_gen (hqr F mat shift) y hy).2.2 i hi⟩

end hess

/-! ### (5) DoubleShiftQR: the reflector kernel (kernel lemma `Refl.unit_spec` of DESIGN.md), reflector algebra, and the known finding -/

section refl
open Lin

/-- `stable_norm3` and the 3-vector `stable_scaling` (translated from DoubleShiftQR.h on every run), standard branch:
    `stable_norm3 = ‖x‖₂ ≥ 0` (when the largest component is ≥ near_0), `stable_scaling x = x / ‖x‖₂` (unit vector) -/
theorem c08_refl_kernels (hsq : ∀ x : K, 0 ≤ x → F.sqrt x * F.sqrt x = x ∧ 0 ≤ F.sqrt x) (hcut : cutoff F ≤ 0)
    (x1 x2 x3 : K) :
    (@near0 K _ (scOfField F) ≤ max |x1| (max |x2| |x3|) →
      0 ≤ @Gen.Refl.stable_norm3 K _ _ _ _ _ (scOfField F) x1 x2 x3 ∧
      @Gen.Refl.stable_norm3 K _ _ _ _ _ (scOfField F) x1 x2 x3 * @Gen.Refl.stable_norm3 K _ _ _ _ _ (scOfField F) x1 x2 x3
        = x1 * x1 + x2 * x2 + x3 * x3) ∧
    (x1 ≠ 0 → ∃ ν : K, 0 < ν ∧ ν * ν = x1 * x1 + x2 * x2 + x3 * x3 ∧
      (@Gen.Refl.stable_scaling K _ _ _ _ _ (scOfField F) x1 x2 x3).1 * ν = x1 ∧
      (@Gen.Refl.stable_scaling K _ _ _ _ _ (scOfField F) x1 x2 x3).2.1 * ν = x2 ∧
      (@Gen.Refl.stable_scaling K _ _ _ _ _ (scOfField F) x1 x2 x3).2.2 * ν = x3) := by
  refine ⟨fun h => C08Refl.norm3_spec F hsq hcut x1 x2 x3 (by rw [← C08Refl.nz_eq]; exact h), fun h => ?_⟩
  obtain ⟨ν, h1, h2, h3, h4, h5, _⟩ := C08Refl.scaling_spec F hsq hcut x1 x2 x3 h _ _ _ rfl
  exact ⟨ν, h1, h2, h3, h4, h5⟩

/-- series branch of the 3-vector `stable_scaling`: the result is `x/|x1|·(1 − ρ/2 + 3ρ²/8)` with `ρ = r2² + r3²`, and its
    unit-norm defect is `0 ≤ ‖y‖² − 1 ≤ (5/8) ρ³` (ρ ≤ 1): with ρ < 2·cutoff² this is far below eps -/
theorem c08_refl_series (x1 x2 x3 : K) (h1 : x1 ≠ 0)
    (hser : ¬ (cutoff F ≤ abs (x2 / |x1|) ∨ cutoff F ≤ abs (x3 / |x1|))) (y1 y2 y3 : K)
    (h : @Gen.Refl.stable_scaling K _ _ _ _ _ (scOfField F) x1 x2 x3 = (y1, y2, y3))
    (hρ1 : x2 / |x1| * (x2 / |x1|) + x3 / |x1| * (x3 / |x1|) ≤ 1) :
    0 ≤ y1 * y1 + y2 * y2 + y3 * y3 - 1 ∧
    y1 * y1 + y2 * y2 + y3 * y3 - 1 ≤ 5 / 8 * (x2 / |x1| * (x2 / |x1|) + x3 / |x1| * (x3 / |x1|)) ^ 3 := by
  obtain ⟨_, _, _, _, h5, h6⟩ := C08Refl.scaling_series F x1 x2 x3 hser y1 y2 y3 h _ rfl
  exact ⟨(h5 (by linarith)).1, h6 hρ1⟩

/-- `Refl.unit_spec`, 3-row case: `compute_reflector(x1, x2, x3, ind)` with `|x3| ≥ near_0` stores `nr = 3` and a UNIT vector
    `u` with `(I − 2uuᵀ)x = ρ‖x‖e₁`, `ρ = −sign(x1)` (`+1` for `x1 = 0`): rows 2 and 3 are annihilated exactly -/
theorem c08_refl_unit3 (hsq : ∀ x : K, 0 ≤ x → F.sqrt x * F.sqrt x = x ∧ 0 ≤ F.sqrt x) (hcut : cutoff F ≤ 0)
    (hmin : 0 < F.minPos) (u : Mat K) (nr : Array Nat) (x1 x2 x3 : K) (ind : Nat)
    (hind : ind < nr.size) (hr : u.rows = 3) (hc : ind < u.cols) (hd : u.d.size = 3 * u.cols)
    (h3 : ¬ |x3| < C08Refl.nz F) (u0 u1 u2 : K)
    (h0 : u0 = C08Refl.mget F (C08Refl.cRef F u nr x1 x2 x3 ind).1 0 ind)
    (h1 : u1 = C08Refl.mget F (C08Refl.cRef F u nr x1 x2 x3 ind).1 1 ind)
    (h2 : u2 = C08Refl.mget F (C08Refl.cRef F u nr x1 x2 x3 ind).1 2 ind) :
    (C08Refl.cRef F u nr x1 x2 x3 ind).2.getD ind 0 = 3 ∧
    u0 * u0 + u1 * u1 + u2 * u2 = 1 ∧
    x2 - 2 * (u0 * x1 + u1 * x2 + u2 * x3) * u1 = 0 ∧
    x3 - 2 * (u0 * x1 + u1 * x2 + u2 * x3) * u2 = 0 ∧
    ∃ N : K, 0 < N ∧ N * N = x1 * x1 + x2 * x2 + x3 * x3 ∧
      x1 - 2 * (u0 * x1 + u1 * x2 + u2 * x3) * u0 = (if x1 ≤ 0 then 1 else -1) * N := by
  obtain ⟨a, b, c, d, _, e⟩ := C08Refl.reflector_unit F hsq hcut hmin u nr x1 x2 x3 ind hind hr hc hd h3 u0 u1 u2 h0 h1 h2
  exact ⟨a, b, c, d, e⟩

/-- `Refl.unit_spec`, 2-row case as `update_block` calls it (literal `x3 = 0`: first reflector of a 2x2 block, last reflector of
    every block): `nr = 2`, `u2 = 0`, `(u0, u1)` unit, `(I − 2uuᵀ)(x1, x2)ᵀ = ρ‖x‖e₁` -/
theorem c08_refl_unit2 (hsq : ∀ x : K, 0 ≤ x → F.sqrt x * F.sqrt x = x ∧ 0 ≤ F.sqrt x) (hcut : cutoff F ≤ 0)
    (hmin : 0 < F.minPos) (u : Mat K) (nr : Array Nat) (x1 x2 : K) (ind : Nat)
    (hind : ind < nr.size) (hr : u.rows = 3) (hc : ind < u.cols) (hd : u.d.size = 3 * u.cols)
    (hx2 : ¬ |x2| < C08Refl.nz F) (u0 u1 u2 : K)
    (h0 : u0 = C08Refl.mget F (C08Refl.cRef F u nr x1 x2 0 ind).1 0 ind)
    (h1 : u1 = C08Refl.mget F (C08Refl.cRef F u nr x1 x2 0 ind).1 1 ind)
    (h2 : u2 = C08Refl.mget F (C08Refl.cRef F u nr x1 x2 0 ind).1 2 ind) :
    (C08Refl.cRef F u nr x1 x2 0 ind).2.getD ind 0 = 2 ∧ u2 = 0 ∧ u0 * u0 + u1 * u1 = 1 ∧
    x2 - 2 * (u0 * x1 + u1 * x2) * u1 = 0 ∧
    ∃ N : K, 0 < N ∧ N * N = x1 * x1 + x2 * x2 ∧ x1 - 2 * (u0 * x1 + u1 * x2) * u0 = (if x1 ≤ 0 then 1 else -1) * N := by
  obtain ⟨a, b, c, d, _, e⟩ := C08Refl.reflector_unit2 F hsq hcut hmin u nr x1 x2 ind hind hr hc hd hx2 u0 u1 u2 h0 h1 h2
  exact ⟨a, b, c, d, e⟩

/-- a unit reflector `P = I − 2uuᵀ` is an involution and an isometry (any commutative ring), and the two expression forms the
    class uses for `P x` (`tmp = 2u₀x₀ + 2u₁x₁ + 2u₂x₂` in the matrix loops, `dot2 = 2(x₀u₀ + x₁u₁ + x₂u₂)` on vectors) agree -/
theorem c08_refl_orthogonal {R : Type} [CommRing R] (u0 u1 u2 x0 x1 x2 y0 y1 y2 : R) (hu : u0 * u0 + u1 * u1 + u2 * u2 = 1) :
    C08Refl.refl3 u0 u1 u2 (C08Refl.refl3 u0 u1 u2 x0 x1 x2).1 (C08Refl.refl3 u0 u1 u2 x0 x1 x2).2.1
      (C08Refl.refl3 u0 u1 u2 x0 x1 x2).2.2 = (x0, x1, x2) ∧
    (C08Refl.refl3 u0 u1 u2 x0 x1 x2).1 * (C08Refl.refl3 u0 u1 u2 y0 y1 y2).1 +
      (C08Refl.refl3 u0 u1 u2 x0 x1 x2).2.1 * (C08Refl.refl3 u0 u1 u2 y0 y1 y2).2.1 +
      (C08Refl.refl3 u0 u1 u2 x0 x1 x2).2.2 * (C08Refl.refl3 u0 u1 u2 y0 y1 y2).2.2 = x0 * y0 + x1 * y1 + x2 * y2 ∧
    (x0 - (2 * u0 * x0 + 2 * u1 * x1 + 2 * u2 * x2) * u0, x1 - (2 * u0 * x0 + 2 * u1 * x1 + 2 * u2 * x2) * u1,
      x2 - (2 * u0 * x0 + 2 * u1 * x1 + 2 * u2 * x2) * u2) =
    (x0 - 2 * (x0 * u0 + x1 * u1 + x2 * u2) * u0, x1 - 2 * (x0 * u0 + x1 * u1 + x2 * u2) * u1,
      x2 - 2 * (x0 * u0 + x1 * u1 + x2 * u2) * u2) := by
  refine ⟨C08Refl.reflector_involution u0 u1 u2 x0 x1 x2 hu, C08Refl.reflector_isometry u0 u1 u2 x0 x1 x2 y0 y1 y2 hu, ?_⟩
  rw [(C08Refl.reflector_apply_forms u0 u1 u2 x0 x1 x2).1, (C08Refl.reflector_apply_forms u0 u1 u2 x0 x1 x2).2]

/-
  KNOWN FINDING C08-F1 (known_findings/C08.json; witness replayed on the real class on every run by harness/c08.cpp, pattern
  `fixed-tiny-scale`).  Full-strength clause of the property for DoubleShiftQR:

      ∀ H (upper Hessenberg, finite), s, t :  ‖matrix_QtHQ − QᵀHQ‖ ≤ c·n·eps·(‖H‖ + |s|),
      "including matrices with zero or negligible subdiagonal entries … entries near overflow/underflow thresholds".

  It is FALSE of the unchanged tree for matrices whose subdiagonal entries are below `min()·10·n/eps` (≈ n·1e-291 for double,
  ≈ n·1e-30 for float) in absolute value: `compute` zeroes them whatever `‖H‖` is (the LAPACK `dlahqr` criterion), so for
  `H = 1e-295·[1 2 3; 4 5 6; 0 7 8]` the returned matrix is the upper triangle of `H`, at distance 7e-295 = O(‖H‖) from `QᵀHQ`.
  The theorem below is the mechanism, proved on the model for every `H`; the whole-matrix similarity theorem
  `c08_dsqr_similarity_partial` (section 7) makes the dropped entries explicit instead of excluding them:
  `matrix_QtHQ = Qᵀ (Hm − D₁) Q − D₂` with `D₁`, `D₂` supported on the subdiagonal entries that pass the (absolute or relative)
  deflation test; the oracle evaluates the clause on inputs with `‖H‖ ≥ 1e-140`.
-/
/-- the first pass of `DoubleShiftQR::compute` replaces a subdiagonal entry with `|h| ≤ eps_abs` by an exact zero and starts a
    new block there, for EVERY value of the neighbouring diagonal entries (an absolute, not a relative, test) -/
theorem c08_dsqr_abs_deflation (H : Mat K) (hw : C08Mat.WF H) (n : Nat) (hr : H.rows = n) (hc : H.cols = n) (zi : Array Nat)
    (epsAbs : K) (i : Nat) (hi : i + 1 < n) (hsmall : |mget F H (i + 1) i| ≤ epsAbs) :
    mget F (@DoubleShiftQR.splitStep K _ _ (scOfField F) n epsAbs (H, zi) i).1 (i + 1) i = 0 ∧
    (@DoubleShiftQR.splitStep K _ _ (scOfField F) n epsAbs (H, zi) i).2 = zi.push (i + 1) :=
  C08Finding.abs_deflation F H hw n hr hc zi epsAbs i hi hsmall

end refl

/-! ### (6) the property in Mathlib `Matrix` language (UpperHessenbergQR), TridiagQR whole-loop facts, DoubleShiftQR "same Q" -/

section matrix
open Lin C08Hess C08HessMatrix Matrix

/-- THE PROPERTY FOR UpperHessenbergQR IN EXACT ARITHMETIC, as statements about Mathlib matrices.  With
    `Q := G₀ G₁ ⋯ G_{n−2}` (`Gₖ` = the stored plane rotation `[c s; −s c]` at rows/columns `k, k+1`), `R := matrix_R`,
    `Hm` := the upper Hessenberg part of the input, `T := matrix_QtHQ`:
      `QᵀQ = 1 = QQᵀ`,  `Q R = Hm − s·1`,  `R` upper triangular,  `T = R Q + s·1`,  `T = Qᵀ Hm Q`,  `T` upper Hessenberg —
    for every size `n`, every input matrix, every shift.
    Full-strength clause: the same identities up to `c·n·eps·(‖H‖+|s|)` in IEEE arithmetic, including the series branch — not
    proved (rounding); hence `_partial` -/
theorem c08_hqr_matrix_partial (hsqrt : ∀ x : K, 0 ≤ x → F.sqrt x * F.sqrt x = x ∧ 0 ≤ F.sqrt x) (hcut : cutoff F ≤ 0)
    (mat : Mat K) (hw : C08Mat.WF mat) (hsq : mat.cols = mat.rows) (shift : K) :
    let n := mat.rows
    let Q : Matrix (Fin n) (Fin n) K := Qof F (hqr F mat shift)
    let R : Matrix (Fin n) (Fin n) K := toM F n n (hqr F mat shift).R
    let Hm : Matrix (Fin n) (Fin n) K := toM F n n (Mat.ofFn n n (fun i j => if i ≤ j + 1 then C08Hess.mget F mat i j else 0))
    let T : Matrix (Fin n) (Fin n) K := toM F n n (QtHQ F (hqr F mat shift))
    (Qᵀ * Q = 1 ∧ Q * Qᵀ = 1) ∧ Q * R = Hm - shift • (1 : Matrix (Fin n) (Fin n) K) ∧
    (∀ i j : Fin n, j < i → R i j = 0) ∧ T = R * Q + shift • (1 : Matrix (Fin n) (Fin n) K) ∧
    T = Qᵀ * Hm * Q ∧ (∀ i j : Fin n, j.val + 1 < i.val → T i j = 0) :=
  hqr_matrix F hsqrt hcut mat shift

/-- `c08_hqr_apply`: EVERY apply method multiplies by exactly that `Q` / `Qᵀ` from the stated side — for every stored rotation
    table (no hypothesis at all on `cos`/`sin`: exact, unconditional), matrix and vector overloads -/
theorem c08_hqr_apply (q : UpperHessenbergQR K) {m : Nat} {Y Z : Mat K} (hw : C08Mat.WF Y) (hr : Y.rows = q.n) (hc : Y.cols = m)
    (hwz : C08Mat.WF Z) (hrz : Z.rows = m) (hcz : Z.cols = q.n) (y : Vec K) (hy : y.size = q.n) :
    toM F q.n m (QYm F q Y) = Qof F q * toM F q.n m Y ∧
    toM F q.n m (QtYm F q Y) = (Qof F q)ᵀ * toM F q.n m Y ∧
    toM F m q.n (YQm F q Z) = toM F m q.n Z * Qof F q ∧
    toM F m q.n (YQtm F q Z) = toM F m q.n Z * (Qof F q)ᵀ ∧
    (fun i : Fin q.n => vgt F (QYv F q y) i.val) = (Qof F q).mulVec (fun i : Fin q.n => vgt F y i.val) ∧
    (fun i : Fin q.n => vgt F (QtYv F q y) i.val) = (Qof F q)ᵀ.mulVec (fun i : Fin q.n => vgt F y i.val) :=
  ⟨apply_QY_mat_toM F q hw hr hc, apply_QtY_mat_toM F q hw hr hc, apply_YQ_toM F q hwz hrz hcz, apply_YQt_toM F q hwz hrz hcz,
   apply_QY_vec F q y hy, apply_QtY_vec F q y hy⟩

end matrix

section tridiag_whole
open Lin

/-- `c08_tqr_factor` (exact arithmetic, all n): with `T̃` the symmetric tridiagonal matrix of the stored diagonal and (deflated)
    subdiagonal, `Qᵀ (T̃ − sI) = R` and `Q R = T̃ − sI` as equalities of matrices (`Qᵀ·`, `Q·` = the inherited `apply_QtY`,
    `apply_QY`; `R = matrix_R` assembled from the three stored bands), and every stored rotation has `c² + s² = 1` -/
theorem c08_tqr_factor_partial (hsqrt : ∀ x : K, 0 ≤ x → F.sqrt x * F.sqrt x = x ∧ 0 ≤ F.sqrt x) (hcut : cutoff F ≤ 0)
    (mat : Mat K) (shift : K) :
    @UpperHessenbergQR.apply_QtY_mat K _ _ _ (scOfField F) (@TridiagQR.toHess K (scOfField F) (tqr F mat shift))
        (C08TridiagQ.Tshift F mat.rows (tqr F mat shift).T_diag (tqr F mat shift).T_subd shift) =
      @TridiagQR.matrix_R K (scOfField F) (tqr F mat shift) ∧
    @UpperHessenbergQR.apply_QY_mat K _ _ _ (scOfField F) (@TridiagQR.toHess K (scOfField F) (tqr F mat shift))
        (@TridiagQR.matrix_R K (scOfField F) (tqr F mat shift)) =
      C08TridiagQ.Tshift F mat.rows (tqr F mat shift).T_diag (tqr F mat shift).T_subd shift ∧
    (∀ i, i < mat.rows - 1 → vecget F (tqr F mat shift).cos i * vecget F (tqr F mat shift).cos i +
        vecget F (tqr F mat shift).sin i * vecget F (tqr F mat shift).sin i = 1) :=
  have hq := C08TridiagQ.linked_compute F mat shift
  have hid := C08TridiagQ.idealF_of F hsqrt hcut
  ⟨C08TridiagQ.factor_linked_eq F _ hq hid, C08TridiagQ.QR_linked_eq F _ hq hid,
   fun i hi => (C08TridiagQ.linked_ideal F _ hq hid i (Nat.add_lt_of_lt_sub hi)).1⟩

/-- the assumption hidden in TridiagQR::matrix_QtHQ ("o'' = 0") is a THEOREM for ideal rotations: the bulge
    `sin[i+1]·y' + cos[i+1]·o'` that step `i` drops is exactly zero, for every n, T, shift; and the subdiagonal the rotation loop
    produces is `−sᵢ · R(i+1,i+1)`, the `(i+1, i)` entry of `R Q` -/
theorem c08_tqr_bulge_zero_partial (hsqrt : ∀ x : K, 0 ≤ x → F.sqrt x * F.sqrt x = x ∧ 0 ≤ F.sqrt x) (hcut : cutoff F ≤ 0)
    (mat : Mat K) (shift : K) :
    (∀ i, i + 2 < mat.rows →
      vecget F (tqr F mat shift).sin (i + 1) *
        (C08Local.qloc F (vecget F (tqr F mat shift).cos i) (vecget F (tqr F mat shift).sin i)
          (vecget F (C08TridiagQ.qthqAt F (tqr F mat shift) i).1 i) (vecget F (C08TridiagQ.qthqAt F (tqr F mat shift) i).2 i)
          (vecget F (C08TridiagQ.qthqAt F (tqr F mat shift) i).1 (i + 1))).2.1 +
      vecget F (tqr F mat shift).cos (i + 1) * (-(vecget F (tqr F mat shift).sin i) * vecget F (tqr F mat shift).T_subd (i + 1)) = 0) ∧
    (∀ i, i < mat.rows - 1 → vecget F (C08Tridiag.qthqRaw F (tqr F mat shift)).2 i =
      -(vecget F (tqr F mat shift).sin i) * vecget F (tqr F mat shift).R_diag (i + 1)) :=
  have hq := C08TridiagQ.linked_compute F mat shift
  have hid := C08TridiagQ.idealF_of F hsqrt hcut
  ⟨fun i hi => C08TridiagQ.qthq_bulge F _ hq hid i hi,
   fun i hi => C08TridiagQ.qthq_sub_final F _ hq hid i (Nat.add_lt_of_lt_sub hi)⟩

end tridiag_whole

section tridiag_matrix
open Lin C08HessMatrix C08TridiagMatrix Matrix

/-- THE PROPERTY FOR TridiagQR IN EXACT ARITHMETIC, as statements about Mathlib matrices.  With `q = compute mat shift`,
    `Q := G₀ ⋯ G_{n−2}` (stored rotations), `R := matrix_R`, `Tm` := the symmetric tridiagonal matrix of the stored diagonal and
    (deflated) subdiagonal, `T := matrix_QtHQ`, `B` := what `matrix_QtHQ` holds before its final deflation pass, `Δ` := the
    symmetric matrix of the sub/superdiagonal entries that pass drops (each with `|e| ≤ eps (|dᵢ| + |dᵢ₊₁|)`):
      `QᵀQ = 1 = QQᵀ`,  `Q R = Tm − s·1`,  `R` upper triangular with upper bandwidth 2,  `Qᵀ Tm Q = R Q + s·1`,
      `B = Qᵀ Tm Q`  (the closed formulas formed from `T` directly, with the bulge dropped, ARE the similarity transform),
      `T = Qᵀ Tm Q − Δ`,  `Δᵀ = Δ` — for every size, input, shift.
    Full-strength clause: the same up to `c·n·eps·(‖T‖+|s|)` in IEEE arithmetic — not proved (rounding); hence `_partial` -/
theorem c08_tqr_matrix_partial (hsqrt : ∀ x : K, 0 ≤ x → F.sqrt x * F.sqrt x = x ∧ 0 ≤ F.sqrt x) (hcut : cutoff F ≤ 0)
    (mat : Mat K) (shift : K) :
    let n := mat.rows
    let q := C08TridiagMatrix.tqr F mat shift
    let Q : Matrix (Fin n) (Fin n) K := Qof F (hessOf F q)
    let R : Matrix (Fin n) (Fin n) K := toM F n n (Rmat F q)
    let Tm : Matrix (Fin n) (Fin n) K := toM F n n (Mat.ofFn n n (fun i j =>
      if i = j then C08Hess.vgt F q.T_diag i else if i = j + 1 then C08Hess.vgt F q.T_subd j
      else if j = i + 1 then C08Hess.vgt F q.T_subd i else 0))
    let D := (C08Tridiag.qthqRaw F q).1
    let E := (C08Tridiag.qthqRaw F q).2
    let B : Matrix (Fin n) (Fin n) K :=
      toM F n n (@TridiagQR.bandMat K (scOfField F) n (C08Hess.vgt F E) (C08Hess.vgt F D) (C08Hess.vgt F E) (fun _ => 0))
    let T : Matrix (Fin n) (Fin n) K := toM F n n (TQtHQ F q)
    let Δ : Matrix (Fin n) (Fin n) K := dropMat F q
    (Qᵀ * Q = 1 ∧ Q * Qᵀ = 1) ∧
    Q * R = Tm - shift • (1 : Matrix (Fin n) (Fin n) K) ∧
    (∀ i j : Fin n, j < i → R i j = 0) ∧
    (∀ i j : Fin n, i.val + 2 < j.val → R i j = 0) ∧
    Qᵀ * Tm * Q = R * Q + shift • (1 : Matrix (Fin n) (Fin n) K) ∧
    B = Qᵀ * Tm * Q ∧
    (∀ i j : Fin n, T i j =
      if (i.val = j.val + 1 ∨ j.val = i.val + 1) ∧
          |C08Hess.vgt F E (min i.val j.val)| ≤
            F.eps * (|C08Hess.vgt F D (min i.val j.val)| + |C08Hess.vgt F D (min i.val j.val + 1)|) then 0
      else (Qᵀ * Tm * Q) i j) ∧
    (T = Qᵀ * Tm * Q - Δ ∧ Δᵀ = Δ) :=
  tqr_matrix F hsqrt hcut mat shift

/-- the six apply methods TridiagQR inherits multiply by exactly its `Q` / `Qᵀ` from the stated side, for every stored rotation
    table (unconditional) -/
theorem c08_tqr_apply (q : TridiagQR K) :
    (∀ y : Vec K, y.size = q.n →
      (fun i : Fin q.n => C08Hess.vgt F (@TridiagQR.apply_QY K _ _ _ (scOfField F) q y) i.val) =
        (TQ F q).mulVec (fun i : Fin q.n => C08Hess.vgt F y i.val)) ∧
    (∀ y : Vec K, y.size = q.n →
      (fun i : Fin q.n => C08Hess.vgt F (@TridiagQR.apply_QtY K _ _ _ (scOfField F) q y) i.val) =
        (TQ F q)ᵀ.mulVec (fun i : Fin q.n => C08Hess.vgt F y i.val)) ∧
    (∀ (m : Nat) (Y : Mat K), C08Mat.WF Y → Y.rows = q.n → Y.cols = m →
      toM F q.n m (@TridiagQR.apply_QY_mat K _ _ _ (scOfField F) q Y) = TQ F q * toM F q.n m Y) ∧
    (∀ (m : Nat) (Y : Mat K), C08Mat.WF Y → Y.rows = q.n → Y.cols = m →
      toM F q.n m (@TridiagQR.apply_QtY_mat K _ _ _ (scOfField F) q Y) = (TQ F q)ᵀ * toM F q.n m Y) ∧
    (∀ (m : Nat) (Y : Mat K), C08Mat.WF Y → Y.rows = m → Y.cols = q.n →
      toM F m q.n (@TridiagQR.apply_YQ K _ _ _ (scOfField F) q Y) = toM F m q.n Y * TQ F q) ∧
    (∀ (m : Nat) (Y : Mat K), C08Mat.WF Y → Y.rows = m → Y.cols = q.n →
      toM F m q.n (@TridiagQR.apply_YQt K _ _ _ (scOfField F) q Y) = toM F m q.n Y * (TQ F q)ᵀ) :=
  tqr_apply_matrix F q

end tridiag_matrix

section dsqr_whole
open Lin C08DsqrQ

/-- DoubleShiftQR applies the SAME `Q` from both sides, for every computed factorization (every n ≥ 2, H, s, t): row `a` of
    `apply_YQ(Y)` is `apply_QtY` of row `a` of `Y`, i.e. `Y Q` has rows `(Qᵀ yₐ)ᵀ`; and the first column of `Q`
    (`apply_YQ` of the identity) is the first column of the first reflector `P₀ = I − 2u₀u₀ᵀ` (`Q e₁ = P₀ e₁`) -/
theorem c08_dsqr_apply (hmin : 0 < F.minPos) (mat : Mat K) (s t : K) (hn : 2 ≤ mat.rows)
    {Y : Mat K} (hw : C08Mat.WF Y) (hc : Y.cols = mat.rows) (a b : Nat) (ha : a < Y.rows) (hb : b < mat.rows) :
    C08DsqrQ.mget F (aYQ F (comp F mat s t) Y) a b =
      C08DsqrQ.vgt F (aQtY F (comp F mat s t) (vofFn mat.rows (fun j => C08DsqrQ.mget F Y a j))) b :=
  compute_YQ_rows_eq_QtY F hmin mat s t hn hw hc a b ha hb

/-- `apply_QtY` is an isometry (sum of squares preserved) whenever the stored reflectors are unit vectors on their live rows
    (which `c08_refl_unit3` / `c08_refl_unit2` establish for each reflector `compute_reflector` stores in the standard branch) -/
theorem c08_dsqr_isometry_partial (hmin : 0 < F.minPos) (mat : Mat K) (s t : K) (hn : 1 ≤ mat.rows)
    (hunit : ∀ k, k < mat.rows - 1 →
      ((comp F mat s t).nr.getD k 0 = 2 →
        C08DsqrQ.mget F (comp F mat s t).u 0 k * C08DsqrQ.mget F (comp F mat s t).u 0 k +
        C08DsqrQ.mget F (comp F mat s t).u 1 k * C08DsqrQ.mget F (comp F mat s t).u 1 k = 1) ∧
      ((comp F mat s t).nr.getD k 0 = 3 →
        C08DsqrQ.mget F (comp F mat s t).u 0 k * C08DsqrQ.mget F (comp F mat s t).u 0 k +
        C08DsqrQ.mget F (comp F mat s t).u 1 k * C08DsqrQ.mget F (comp F mat s t).u 1 k +
        C08DsqrQ.mget F (comp F mat s t).u 2 k * C08DsqrQ.mget F (comp F mat s t).u 2 k = 1))
    (y : Vec K) (hy : y.size = mat.rows) :
    sqN F (aQtY F (comp F mat s t) y) = sqN F y :=
  compute_QtY_isometry F hmin mat s t hn hunit y hy

/-- if the unit reflector `P₀ = I − 2uuᵀ` maps `x = (m00, m10, m20)` to `κ e₁` (`c08_refl_unit3`) then `κ · P₀ e₁ = x`:
    together with `c08_dsqr_first_col` (x is the first column of `H² − sH + tI`) and `Q e₁ = P₀ e₁` this is
    "the first column of Q is parallel to (H² − sH + tI) e₁" -/
theorem c08_dsqr_first_col_parallel_local (u0 u1 u2 x1 x2 x3 κ : K) (hu : u0 * u0 + u1 * u1 + u2 * u2 = 1)
    (h1 : x1 - 2 * (u0 * x1 + u1 * x2 + u2 * x3) * u0 = κ)
    (h2 : x2 - 2 * (u0 * x1 + u1 * x2 + u2 * x3) * u1 = 0)
    (h3 : x3 - 2 * (u0 * x1 + u1 * x2 + u2 * x3) * u2 = 0) :
    κ * (1 - 2 * u0 * u0) = x1 ∧ κ * (-(2 * u0 * u1)) = x2 ∧ κ * (-(2 * u0 * u2)) = x3 :=
  C08Local.refl_first_col u0 u1 u2 x1 x2 x3 κ hu h1 h2 h3

end dsqr_whole

section dsqr_matrix
open Lin C08DsqrQ C08DsqrMatrix C08HessMatrix Matrix

/-- DoubleShiftQR in Mathlib `Matrix` language, for every computed factorization (every n ≥ 2, H, s, t; only `0 < min()`):
    with `Q := P₀ P₁ ⋯ P_{n−2}`, `Pₖ = I − 2uₖuₖᵀ` on the `nr[k]` live rows (`C08DsqrMatrix.Qdof`),
    `apply_YQ(Y) = Y·Q` and `apply_QtY(y) = Qᵀ·y` — the two apply methods multiply by exactly that `Q` / `Qᵀ` from the stated
    side; and `QᵀQ = 1 = QQᵀ` whenever every stored reflector is a unit vector on its live rows (which `c08_refl_unit3/2`
    prove for each reflector `compute_reflector` stores in the standard branch) -/
theorem c08_dsqr_matrix_apply (hmin : 0 < F.minPos) (mat : Mat K) (s t : K) (hn : 2 ≤ mat.rows) :
    (∀ (m : Nat) (Y : Mat K), C08Mat.WF Y → Y.rows = m → Y.cols = (comp F mat s t).n →
      toM F m (comp F mat s t).n (aYQ F (comp F mat s t) Y) = toM F m (comp F mat s t).n Y * Qdof F (comp F mat s t)) ∧
    (∀ y : Vec K, y.size = (comp F mat s t).n →
      (fun i : Fin (comp F mat s t).n => C08DsqrQ.vgt F (aQtY F (comp F mat s t) y) i.val) =
        (Qdof F (comp F mat s t))ᵀ.mulVec (fun i : Fin (comp F mat s t).n => C08DsqrQ.vgt F y i.val)) ∧
    ((∀ k, k < (comp F mat s t).n - 1 →
        ((comp F mat s t).nr.getD k 0 = 2 →
          C08DsqrQ.mget F (comp F mat s t).u 0 k * C08DsqrQ.mget F (comp F mat s t).u 0 k +
          C08DsqrQ.mget F (comp F mat s t).u 1 k * C08DsqrQ.mget F (comp F mat s t).u 1 k = 1) ∧
        ((comp F mat s t).nr.getD k 0 = 3 →
          C08DsqrQ.mget F (comp F mat s t).u 0 k * C08DsqrQ.mget F (comp F mat s t).u 0 k +
          C08DsqrQ.mget F (comp F mat s t).u 1 k * C08DsqrQ.mget F (comp F mat s t).u 1 k +
          C08DsqrQ.mget F (comp F mat s t).u 2 k * C08DsqrQ.mget F (comp F mat s t).u 2 k = 1)) →
      (Qdof F (comp F mat s t))ᵀ * Qdof F (comp F mat s t) = 1 ∧ Qdof F (comp F mat s t) * (Qdof F (comp F mat s t))ᵀ = 1) := by
  have hsafe := compute_safe F hmin mat s t (by omega)
  have hn' : 2 ≤ (comp F mat s t).n := hn
  exact ⟨fun m Y hw hr hc => C08DsqrMatrix.apply_YQ_toM F _ hn' hsafe hw hr hc,
         fun y hy => C08DsqrMatrix.apply_QtY_vec F _ hn' hsafe y hy,
         fun hunit => Qd_orth F _ hsafe hunit⟩

/-- `c08_dsqr_first_col` for the COMPUTED factorization (exact arithmetic; every n ≥ 3, H, s, t with a first block of size ≥ 3,
    i.e. the first two subdiagonal entries are not deflated, and `|m20| ≥ near_0`): the matrix the class works on is upper
    Hessenberg, the first reflector has three rows, and the first column of `Q` is parallel to `(H² − sH + tI)e₁`:
    `κ · Q e₁ = (H² − sH + tI) e₁` with `κ ≠ 0`, `κ² = ‖(m00, m10, m20)‖²`.
    Full-strength clause: for every double shift, up to rounding, including 2x2 / 1x1 first blocks (the 2-row local statement is
    `C08DsqrMatrix.first_col_parallel2`; a 1x1 first block gives `Q e₁ = e₁` and `(H²−sH+tI)e₁ ∥ e₁` trivially) -/
theorem c08_dsqr_first_col_parallel_partial (hsq : ∀ x : K, 0 ≤ x → F.sqrt x * F.sqrt x = x ∧ 0 ≤ F.sqrt x)
    (hcut : cutoff F ≤ 0) (hmin : 0 < F.minPos) (mat : Mat K) (s t : K) {n' : Nat} (hrows : mat.rows = n' + 3)
    (hd0 : dfl F (epsA F mat) mat 0 = false) (hd1 : dfl F (epsA F mat) mat 1 = false)
    (hbig : ¬ |C08Local.fc2 F (C08DsqrQ.mget F mat 2 1) (C08DsqrQ.mget F mat 1 0)| < C08Refl.nz F) :
    (∀ i j : Fin (n' + 3), j.val + 1 < i.val → toM F (n' + 3) (n' + 3) (C08Nr.st0 F mat).1 i j = 0) ∧
    (comp F mat s t).nr.getD 0 0 = 3 ∧
    ∃ κ : K, κ ≠ 0 ∧
      ∀ i : Fin (comp F mat s t).n,
        κ * Qdof F (comp F mat s t) i ⟨0, by show 0 < mat.rows; omega⟩ =
          (toM F (n' + 3) (n' + 3) (C08Nr.st0 F mat).1 * toM F (n' + 3) (n' + 3) (C08Nr.st0 F mat).1 -
            s • toM F (n' + 3) (n' + 3) (C08Nr.st0 F mat).1 +
            t • (1 : Matrix (Fin (n' + 3)) (Fin (n' + 3)) K)) (Fin.cast hrows i) 0 := by
  obtain ⟨h1, h2, κ, hκ, _, h4⟩ := compute_first_col_parallel' F hsq hcut hmin mat s t hrows hd0 hd1 hbig
  exact ⟨h1, h2, κ, hκ, h4⟩

end dsqr_matrix

/-! ### (7) DoubleShiftQR: the similarity transform as a whole-matrix theorem -/

section dsqr_similarity
open Lin C08DsqrQ C08DsqrMatrix C08DsqrSim C08HessMatrix Matrix

/-
  THE SIMILARITY CLAUSE FOR DoubleShiftQR, full strength:

      ∀ n ≥ 3, ∀ H upper Hessenberg (finite), ∀ s t :   Q orthogonal,  ‖matrix_QtHQ − QᵀHQ‖ ≤ c·n·eps·(‖H‖ + |s|),
      matrix_QtHQ upper Hessenberg,   in IEEE arithmetic, including zero / negligible subdiagonal entries.

  What is proved below is its exact-arithmetic content for EVERY size n ≥ 1, every input matrix (hence every deflation pattern and
  block split: blocks of size 1, 2 and ≥ 3, the whole bulge chase), all shifts, with the entries `compute` drops made explicit:

      matrix_QtHQ = Qᵀ (Hm − D₁) Q − D₂,    QᵀQ = QQᵀ = 1,    Qᵀ (Hm − D₁) Q and matrix_QtHQ upper Hessenberg with EXACT zeros,

  `Q = P₀ P₁ ⋯ P_{n−2}` the SAME matrix `apply_YQ` / `apply_QtY` multiply by (`c08_dsqr_matrix_apply`), `Hm` the upper Hessenberg
  part of the argument (`compute` ignores the rest), `D₁` / `D₂` supported on the subdiagonal positions whose entry `h` of `Hm` /
  of `Qᵀ (Hm − D₁) Q` passes the deflation test `|h| ≤ eps_abs ∨ |h| ≤ eps (|d₀| + |d₁|)`, `eps_abs = m_near_0 · (n / eps)`.
  It is `_partial` because of three hypotheses:
    * `hsq`, `hcut` (exact square root, series branch of `stable_scaling` disabled): the rounding part of the clause is not proved;
    * `hex : RunExact F mat s t`: NO argument `x2` / `x3` of any `compute_reflector` call made by `compute` lies in the underflow
      window `0 < |x| < m_near_0 = 10·min()`.  Inside that window the real code (and the model) treats the argument as zero
      without making it zero: it stores a non-unit 2-row reflector or the identity and leaves a nonzero entry below the
      subdiagonal that later reflectors never see, so neither `QᵀQ = 1` nor the similarity nor the Hessenberg shape hold EXACTLY
      (the defect is `O(m_near_0)`, i.e. it belongs to the rounding part and to known finding C08-F1's regime `‖H‖ ≈ min()/eps`).
      For IEEE inputs with `‖H‖ ≥ 1e-140` the window is never entered except by exact zeros.
  The implicit-Q statement (first column of `Q` parallel to `(H² − sH + tI) e₁`) is `c08_dsqr_first_col_parallel_partial`.
-/

/-- whole-matrix similarity of `DoubleShiftQR::compute` (exact arithmetic, all n, all inputs, all shifts, all deflation patterns) -/
theorem c08_dsqr_similarity_partial (hsq : ∀ x : K, 0 ≤ x → F.sqrt x * F.sqrt x = x ∧ 0 ≤ F.sqrt x) (hcut : cutoff F ≤ 0)
    (hmin : 0 < F.minPos) (mat : Mat K) (s t : K) (hn : 1 ≤ mat.rows) (hex : RunExact F mat s t) :
    let n := mat.rows
    let q := comp F mat s t
    let Q : Matrix (Fin n) (Fin n) K := Qdof F q
    let e : K := epsA F mat
    let Hm : Matrix (Fin n) (Fin n) K := hessPart F mat
    let D₁ : Matrix (Fin n) (Fin n) K := dropOf F e Hm
    let B : Matrix (Fin n) (Fin n) K := Qᵀ * (Hm - D₁) * Q
    let D₂ : Matrix (Fin n) (Fin n) K := dropOf F e B
    let T : Matrix (Fin n) (Fin n) K := toM F n n (DoubleShiftQR.matrix_QtHQ q)
    (Qᵀ * Q = 1 ∧ Q * Qᵀ = 1) ∧
    T = B - D₂ ∧
    (∀ i j : Fin n, j.val + 1 < i.val → B i j = 0) ∧
    (∀ i j : Fin n, j.val + 1 < i.val → T i j = 0) ∧
    -- what `Hm`, `D₁`, `D₂` are
    (∀ i j : Fin n, Hm i j = if i.val ≤ j.val + 1 then C08DsqrQ.mget F mat i.val j.val else 0) ∧
    (∀ i j : Fin n, D₁ i j =
      if i.val = j.val + 1 ∧ (|Hm i j| ≤ e ∨ |Hm i j| ≤ F.eps * (|Hm j j| + |Hm i i|)) then Hm i j else 0) ∧
    (∀ i j : Fin n, D₂ i j =
      if i.val = j.val + 1 ∧ (|B i j| ≤ e ∨ |B i j| ≤ F.eps * (|B j j| + |B i i|)) then B i j else 0) := by
  intro n q Q e Hm D₁ B D₂ T
  obtain ⟨h1, h2, h3, h4⟩ := dsqr_similarity F hsq hcut hmin mat s t hn hex Q B rfl rfl
  exact ⟨h1, h2, h3, h4, fun _ _ => rfl, fun _ _ => rfl, fun _ _ => rfl⟩

/-- corollary: when neither pass drops an entry (`D₁ = 0`, `D₂ = 0`), `matrix_QtHQ = Qᵀ Hm Q` EXACTLY with `Q` orthogonal — an
    orthogonal similarity, so the characteristic polynomial (hence every eigenvalue with its multiplicity) is preserved — and the
    result is upper Hessenberg again -/
theorem c08_dsqr_similarity_nodrop_partial (hsq : ∀ x : K, 0 ≤ x → F.sqrt x * F.sqrt x = x ∧ 0 ≤ F.sqrt x)
    (hcut : cutoff F ≤ 0) (hmin : 0 < F.minPos) (mat : Mat K) (s t : K) (hn : 1 ≤ mat.rows) (hex : RunExact F mat s t)
    (hd1 : ∀ i j : Fin mat.rows, i.val = j.val + 1 →
      ¬ (|hessPart F mat i j| ≤ epsA F mat ∨
         |hessPart F mat i j| ≤ F.eps * (|hessPart F mat j j| + |hessPart F mat i i|)))
    (Q : Matrix (Fin mat.rows) (Fin mat.rows) K) (hQ : Q = Qdof F (comp F mat s t))
    (hd2 : ∀ i j : Fin mat.rows, i.val = j.val + 1 →
      ¬ (|(Qᵀ * hessPart F mat * Q) i j| ≤ epsA F mat ∨
         |(Qᵀ * hessPart F mat * Q) i j| ≤
           F.eps * (|(Qᵀ * hessPart F mat * Q) j j| + |(Qᵀ * hessPart F mat * Q) i i|))) :
    let n := mat.rows
    let Hm : Matrix (Fin n) (Fin n) K := hessPart F mat
    let T : Matrix (Fin n) (Fin n) K := toM F n n (DoubleShiftQR.matrix_QtHQ (comp F mat s t))
    (Qᵀ * Q = 1 ∧ Q * Qᵀ = 1) ∧ T = Qᵀ * Hm * Q ∧ T.charpoly = Hm.charpoly ∧
    (∀ i j : Fin n, j.val + 1 < i.val → T i j = 0) := by
  intro n Hm T
  have z1 : dropOf F (epsA F mat) Hm = 0 := dropOf_eq_zero F _ _ hd1
  have z2 : dropOf F (epsA F mat) (Qᵀ * Hm * Q) = 0 := dropOf_eq_zero F _ _ hd2
  obtain ⟨h1, h2, _, h4⟩ := dsqr_similarity F hsq hcut hmin mat s t hn hex Q _ hQ rfl
  rw [z1, sub_zero, z2, sub_zero] at h2
  refine ⟨h1, h2, ?_, h4⟩
  show (toM F n n (comp F mat s t).H).charpoly = Hm.charpoly
  rw [h2, Matrix.mul_assoc, Matrix.charpoly_mul_comm, Matrix.mul_assoc, h1.2, Matrix.mul_one]

/-- `RunExact` holds on runs that really store a reflector: for EVERY 2 × 2 input whose subdiagonal entry is not deflated and whose
    `m10 = h₁₀ (h₀₀ + h₁₁ − s)` is not below `m_near_0`, `compute` makes exactly one `compute_reflector(m00, m10, 0)` call -/
theorem c08_dsqr_runexact_two (hmin : 0 < F.minPos) (mat : Mat K) (s t : K) (h2 : mat.rows = 2)
    (hd : dfl F (epsA F mat) mat 0 = false)
    (hbig : ¬ |C08DsqrQ.mget F mat 1 0 * (C08DsqrQ.mget F mat 0 0 + C08DsqrQ.mget F mat 1 1 - s)| < C08Refl.nz F) :
    RunExact F mat s t :=
  runExact_two F mat s t h2 hd hbig

end dsqr_similarity

/-! ### (8) argument buffers and object reuse: the helpers' answers do not depend on what their arguments / the object held before

  (a) closed facts about the footprint `Gen.QRBuf`, regenerated from the clang AST of the three classes on every run (how each
      method ADDRESSES its matrix / vector arguments), decided by the kernel;
  (b) for every scalar type and every `Sc` instance (so for `Float` and for exact arithmetic alike), every old object, every
      junk value and every input: `compute()` on an object that already holds a factorization builds the object a fresh
      `compute()` builds (UpperHessenbergQR, TridiagQR); for DoubleShiftQR, whose reflector store keeps stale columns, every
      query answers as on a fresh object.
  The real classes are checked bit for bit against these statements by harness/c08.cpp (destination states, views with an outer
  stride, reuse histories incl. `hqrh|tqrh|dsqrh` correspondence requests answered by the models' `recompute`). -/

section buffers
open Gen.QRBuf C08Buf

/-- `matrix_QtHQ(dest)` of every class (the only methods with an owning matrix output parameter: exactly these four) gives
    `dest` its size and EVERY entry a value, unconditionally, before anything else is done with it: the first use of `dest` is
    either the whole-object assignment `dest.noalias() = M` (Eigen resizes the destination) or `dest.resize(m_n, m_n)` followed
    at once by `dest.setZero()` / a whole-object assignment — under no `if`, in no loop.  So the band writes that follow cannot
    leave stale off-band entries, whatever size and contents the caller's matrix had. -/
theorem c08_dest_initialised :
    destMethods = [("UpperHessenbergQR", "matrix_QtHQ(Matrix &)"), ("TridiagQR", "matrix_QtHQ(Matrix &)"),
                   ("TridiagQR", "matrix_QtHQ(ComplexMatrix &)"), ("DoubleShiftQR", "matrix_QtHQ(Matrix &)")] ∧
    (∀ m ∈ destMethods, destInit (usesOf m.1 m.2) = true) := by
  decide +kernel

/-- every `apply_*` of UpperHessenbergQR (all six; TridiagQR declares none of its own: it inherits them) and
    `DoubleShiftQR::apply_YQ` address an `Eigen::Ref` argument ONLY through accessors that take its outer stride into account
    (`rows/cols/row/col/coeff/coeffRef/block`, or ask for the stride itself: `outerStride/innerStride`), never through `data()`; the only raw pointers taken in them are the column starts
    `&Y.coeffRef(0, i)`, `&Y.coeffRef(0, i + 1)` of `apply_YQ` (walked inside ONE column, where the inner stride is 1);
    `Vector&` arguments (owning, contiguous) are addressed by `[]` / `data()`.  The two private DoubleShiftQR helpers that do
    walk `X.data()` take the stride as an explicit argument: `c08_dsqr_stride_calls`. -/
theorem c08_apply_stride_aware :
    (∀ u ∈ uses, u.ptype = "GenericMatrix" → isStrideHelper u = false → strideAware u.member = true) ∧
    (∀ u ∈ uses, u.ptype = "Vector &" → u.member = "[]" ∨ u.member = "data") ∧
    ptrAssigns.filter (fun p => p.1 == "UpperHessenbergQR" && hqrApplySigs.contains p.2.1) =
      [("UpperHessenbergQR", "apply_YQ(GenericMatrix)", "Y_col_i", "&Y.coeffRef(0, i)"),
       ("UpperHessenbergQR", "apply_YQ(GenericMatrix)", "Y_col_i1", "&Y.coeffRef(0, i + 1)")] ∧
    (qrMethods.filter (fun m => m.1 == "UpperHessenbergQR" && (m.2.take 6).toString == "apply_")).map (·.2) = hqrApplySigs ∧
    qrMethods.filter (fun m => m.1 == "TridiagQR") =
      [("TridiagQR", "compute(ConstGenericMatrix &, const Scalar &)"), ("TridiagQR", "matrix_R()"),
       ("TridiagQR", "matrix_QtHQ(Matrix &)"), ("TridiagQR", "matrix_QtHQ(ComplexMatrix &)")] := by
  decide +kernel

/-- the pointer-walking helpers `DoubleShiftQR::apply_PX/apply_XP(X, stride, ind)` step from column to column by `stride` only,
    and at every call site the stride argument belongs to the matrix the block is taken from: `m_n` for blocks of the owning
    `m_n × m_n` member `m_mat_H` (eight calls in `update_block`); for the blocks of the caller's `Y` in `apply_YQ` either
    `Y.outerStride()` or `Y.rows()`.
    KNOWN FINDING C08-F2: the unchanged tree passes `Y.rows()`, which is the distance between columns only for a plain matrix;
    for a view with a larger outer stride (`B.topRows(k)`, a block of a workspace, a strided Map) `apply_YQ` computes a wrong
    product and writes outside the view (harness: `dsqr-view-apply_YQ`).  The one-line repair `Y.outerStride()` keeps this theorem. -/
theorem c08_dsqr_stride_calls :
    (∀ c ∈ strideCalls, (c.2.2.2.1 = "m_mat_H" ∧ c.2.2.2.2 = "m_n") ∨
       (c.2.1 = "apply_YQ(GenericMatrix)" ∧ c.2.2.2.1 = "Y" ∧ (c.2.2.2.2 = "Y.outerStride()" ∨ c.2.2.2.2 = "Y.rows()"))) ∧
    ptrAssigns.filter (fun p => p.1 == "DoubleShiftQR" && (p.2.1 == "apply_PX(GenericMatrix, Index, Index)" || p.2.1 == "apply_XP(GenericMatrix, Index, Index)")) =
      [("DoubleShiftQR", "apply_PX(GenericMatrix, Index, Index)", "xptr", "X.data()"),
       ("DoubleShiftQR", "apply_PX(GenericMatrix, Index, Index)", "xptr", "+=stride"),
       ("DoubleShiftQR", "apply_PX(GenericMatrix, Index, Index)", "xptr", "+=stride"),
       ("DoubleShiftQR", "apply_XP(GenericMatrix, Index, Index)", "X0", "X.data()"),
       ("DoubleShiftQR", "apply_XP(GenericMatrix, Index, Index)", "X1", "X0 + stride"),
       ("DoubleShiftQR", "apply_XP(GenericMatrix, Index, Index)", "X2", "X1 + stride")] := by
  decide +kernel

/-- `compute()` of each class (re)sizes every array member it writes and assigns the whole-object members UNCONDITIONALLY (under
    no `if`, in no loop), exactly as the models' `recompute` assume: a resize moved into an `if (size changed)` block, a dropped
    or added (re)initialisation changes this table. -/
theorem c08_compute_resets :
    (∀ r ∈ computeResets, r.2.2.2.2.2.1 = "" ∧ r.2.2.2.2.2.2 = false) ∧
    computeResets.map (fun r => (r.1, r.2.2.1, r.2.2.2.1, r.2.2.2.2.1)) =
      [("UpperHessenbergQR", "m_mat_R", "resize", "m_n, m_n"), ("UpperHessenbergQR", "m_rot_cos", "resize", "m_n - 1"),
       ("UpperHessenbergQR", "m_rot_sin", "resize", "m_n - 1"), ("UpperHessenbergQR", "m_mat_R", "noalias=", "mat"),
       ("TridiagQR", "m_rot_cos", "resize", "m_n - 1"), ("TridiagQR", "m_rot_sin", "resize", "m_n - 1"),
       ("TridiagQR", "m_T_diag", "resize", "m_n"), ("TridiagQR", "m_T_subd", "resize", "m_n - 1"),
       ("TridiagQR", "m_T_diag", "noalias=", "mat.diagonal()"), ("TridiagQR", "m_T_subd", "noalias=", "mat.diagonal(-1)"),
       ("TridiagQR", "m_R_diag", "resize", "m_n"), ("TridiagQR", "m_R_supd", "resize", "m_n - 1"),
       ("TridiagQR", "m_R_supd2", "resize", "m_n - 2"), ("TridiagQR", "m_R_supd", "noalias=", "m_T_subd"),
       ("DoubleShiftQR", "m_mat_H", "resize", "m_n, m_n"), ("DoubleShiftQR", "m_ref_u", "resize", "3, m_n"),
       ("DoubleShiftQR", "m_ref_nr", "resize", "m_n"), ("DoubleShiftQR", "m_mat_H", "noalias=", "mat")] := by
  decide +kernel

end buffers

section reuse
variable {α : Type} [Add α] [Sub α] [Mul α] [Div α] [Neg α] [Sc α]

/-- object reuse, UpperHessenbergQR: for EVERY object `old` (whatever factorization, of whatever size, it holds), every value
    `junk` of freshly reallocated storage, every input and shift — `old.compute(mat, shift)` leaves exactly the object
    `UpperHessenbergQR(mat, shift)` constructs: `m_mat_R` is assigned as a whole and each of the `n − 1` entries of the resized
    `m_rot_cos` / `m_rot_sin` is overwritten.  Every query (`matrix_R`, `matrix_QtHQ`, all `apply_*`) is a function of the object,
    hence history-independent.  Any scalar type, any `Sc` instance (`Float` included). -/
theorem c08_hqr_recompute (old : UpperHessenbergQR α) (junk : α) (mat : Lin.Mat α) (shift : α) :
    old.recompute junk mat shift = UpperHessenbergQR.compute mat shift :=
  C08Reuse.hqr_recompute old junk mat shift

/-- object reuse, TridiagQR (the Lanczos restart loop calls `compute` on ONE object for every shift): the same statement; of the
    resized-only members, `m_rot_cos`, `m_rot_sin` (`n − 1` entries) and `m_R_supd2` (`n − 2` entries) are overwritten entry by
    entry by the factorization loop, the others are assigned as a whole. -/
theorem c08_tqr_recompute (old : TridiagQR α) (junk : α) (mat : Lin.Mat α) (shift : α) :
    old.recompute junk mat shift = TridiagQR.compute mat shift :=
  C08Reuse.tqr_recompute old junk mat shift

/-- object reuse, DoubleShiftQR (`GenEigsBase::restart` calls `compute` on ONE object for every complex shift pair): the
    reflector store is NOT rebuilt completely — `m_ref_u` / `m_ref_nr` survive a `resize` to the same size and a column of `m_ref_u`
    is written only when its count is ≥ 2, so columns with `nr = 1` keep stale reflectors.  Nevertheless, for EVERY old object,
    every junk in reallocated storage, every input (n ≥ 1) and shifts: `n`, `matrix_QtHQ`, the shifts and `m_ref_nr` are those of a
    fresh object, the reflectors agree wherever the count is not 1 (`uLive`: the store with the dead columns cleared, what the
    harness and the driver print, is identical), and `apply_QtY`, `apply_YQ` give the same result on every argument.
    Any scalar type, any `Sc` instance (`Float` included). -/
theorem c08_dsqr_recompute (old : DoubleShiftQR α) (junk : α) (junkNr : Nat) (mat : Lin.Mat α) (s t : α) (hn : 1 ≤ mat.rows) :
    (old.recompute junk junkNr mat s t).n = (DoubleShiftQR.compute mat s t).n ∧
    (old.recompute junk junkNr mat s t).matrix_QtHQ = (DoubleShiftQR.compute mat s t).matrix_QtHQ ∧
    (old.recompute junk junkNr mat s t).s = (DoubleShiftQR.compute mat s t).s ∧
    (old.recompute junk junkNr mat s t).t = (DoubleShiftQR.compute mat s t).t ∧
    (old.recompute junk junkNr mat s t).nr = (DoubleShiftQR.compute mat s t).nr ∧
    (old.recompute junk junkNr mat s t).uLive = (DoubleShiftQR.compute mat s t).uLive ∧
    (∀ y, (old.recompute junk junkNr mat s t).apply_QtY y = (DoubleShiftQR.compute mat s t).apply_QtY y) ∧
    (∀ Y, (old.recompute junk junkNr mat s t).apply_YQ Y = (DoubleShiftQR.compute mat s t).apply_YQ Y) := by
  obtain ⟨h1, _, h3, h4, h5, _, h7, h8, h9⟩ := C08ReuseDs.dsqr_recompute old junk junkNr mat s t hn
  exact ⟨h1, h7, h3, h4, h5, C08ReuseDs.dsqr_recompute_uLive old junk junkNr mat s t hn, h8, h9⟩

end reuse

/-! ### hypotheses are satisfiable -/

/-- the upper Hessenberg hypothesis of `c08_dsqr_first_col` holds e.g. for the identity -/
example : ∀ i j : Fin (0 + 3), j.val + 1 < i.val → (1 : Matrix (Fin 3) (Fin 3) ℚ) i j = 0 := by
  intro i j h
  have : i ≠ j := by intro e; rw [e] at h; omega
  exact Matrix.one_apply_ne this

/-- the hypotheses "exact square root", "series branch disabled" (ideal rotations / reflectors) and `0 < min()` used by the
    `…_partial` theorems are simultaneously satisfiable: over ℝ with `Real.sqrt` and a `pow` that makes the cutoff 0 -/
example : ∃ F : FieldFns ℝ, (∀ x : ℝ, 0 ≤ x → F.sqrt x * F.sqrt x = x ∧ 0 ≤ F.sqrt x) ∧ C08Givens.cutoff F ≤ 0 ∧ 0 < F.minPos :=
  ⟨⟨Real.sqrt, fun _ _ => 0, 1, 1⟩, fun x hx => ⟨Real.mul_self_sqrt hx, Real.sqrt_nonneg x⟩, by simp [C08Givens.cutoff], by norm_num⟩

/-- the hypotheses of `c08_dsqr_similarity_partial` (exact square root, series branch disabled, `0 < min()`, `n ≥ 1`, and
    `RunExact`: no `compute_reflector` argument in the underflow window) hold SIMULTANEOUSLY on a run that stores a genuine
    reflector: over ℝ with `Real.sqrt`, `min() = 1`, `eps = 1`, `H = [1 0; 100 0]`, `s = t = 0` (subdiagonal entry not deflated,
    `m10 = 100 ≥ m_near_0 = 10`; `C08DsqrSim.ex_hyps`).  A concrete instance over ℚ is impossible because `hsq` asks for a
    square root of EVERY non-negative element; `c08_dsqr_runexact_two` gives `RunExact` for every such 2 × 2 input -/
example : ∃ (F : FieldFns ℝ) (mat : Lin.Mat ℝ) (s t : ℝ),
    (∀ x : ℝ, 0 ≤ x → F.sqrt x * F.sqrt x = x ∧ 0 ≤ F.sqrt x) ∧ C08Givens.cutoff F ≤ 0 ∧ 0 < F.minPos ∧ 1 ≤ mat.rows ∧
    C08DsqrSim.RunExact F mat s t ∧ C08DsqrMatrix.dfl F (C08DsqrMatrix.epsA F mat) mat 0 = false :=
  ⟨C08DsqrSim.exF, C08DsqrSim.exMat, 0, 0, C08DsqrSim.ex_hyps⟩

/-- `c² + s² = 1` is satisfiable with both entries nonzero (3-4-5) -/
example : ((3 : ℚ) / 5) * (3 / 5) + (4 / 5) * (4 / 5) = 1 := by norm_num

/-! ### not proved (gaps, stated at full strength)

  * Rounding.  `‖QᵀQ − I‖ ≤ c·n·eps`, `‖QR − (H − sI)‖, ‖QtHQ − QᵀHQ‖, ‖apply_*(Y) − Q·Y‖ ≤ c·n·eps·(‖H‖+|s|)` in IEEE arithmetic for
    float / double / long double: evaluated on the real classes in long double by harness/c08.cpp (c = 64), never proved.
    The series branches are covered only by their exact defect bounds (`c08_givens_series`, `c08_refl_series`).
  * DoubleShiftQR similarity / Hessenberg shape / orthogonality of `Q` as whole-matrix theorems ARE proved in exact arithmetic
    (`c08_dsqr_similarity_partial`, `c08_dsqr_similarity_nodrop_partial`) for every run none of whose `compute_reflector`
    arguments lies in the underflow window `0 < |x| < m_near_0` (`C08DsqrSim.RunExact`).  NOT proved: the same inside that window
    (there the identities are false exactly: the code treats the argument as zero without zeroing it; defect `O(m_near_0)`), and
    the first-column statement for 2x2 / 1x1 first blocks in instantiated form (local statement: `C08DsqrMatrix.first_col_parallel2`).
  * The clause fails near the underflow threshold for DoubleShiftQR: known finding C08-F1 above.
  * Views: the Lean models have no notion of an outer stride; that the real `apply_*` treat a strided view like an owning matrix
    is established structurally (`c08_apply_stride_aware`, `c08_dsqr_stride_calls`) and by the harness's view cases.
-/

end C08
