/-
  C05 for `HermEigsSolver` with `Scalar = std::complex<Real>` (companion of Properties/C05.lean; a separate file because the
  embedding theorems need an ordered field and `Proofs/HermCplxEmbed.lean`, i.e. Mathlib, which Properties/C05.lean does without).
  Built and audited by `checks/c05.py` together with Properties/C05.lean.
-/
import SpectraVerif.Properties.C05
import SpectraVerif.Proofs.HermCplxEmbed

namespace C05c
open Orch C05

variable (c : Cfg)

/-! ### The complex Hermitian instance (`HermEigsSolver`, `Scalar = std::complex<Real>`; Model/HermCplx.lean)

  `HermCplx.hermCplxKern` is a kernel record like any other (Ritz data real, basis / start vector / eigenvectors complex), so every
  theorem above applies to `Orch.compute (hermCplxKern …)` verbatim; the two central ones are stated as corollaries.  The instance
  is the one the `hermc` correspondence lines run bit for bit against the real class. -/
section cplx
open HermCplx HermCplxEmbed
variable {α : Type} [Add α] [Sub α] [Mul α] [Div α] [Neg α] [Sc α]

/-- the final sort of the complex instance is the SAME function as the real symmetric instance's (`argsort` behind the rule guard;
    a permutation by `C18.c18_perm_base`), so `SortPerm` is the same hypothesis for both -/
theorem c05c_sort_same (op : COp α) (opr : Arnoldi.Op α) (eps23 : α) (back : α → α) :
    (hermCplxKern op c eps23).sortIdx = (HermSolver.hermKern opr c eps23 back).sortIdx ∧
    (hermCplxKern op c eps23).select = (HermSolver.hermKern opr c eps23 back).select ∧
    (SortPerm (hermCplxKern op c eps23) c ↔ SortPerm (HermSolver.hermKern opr c eps23 back) c) := ⟨rfl, rfl, Iff.rfl⟩

/-- `c05_counts` for the complex Hermitian solver: return value = `eigenvalues().size()` = `eigenvectors().cols()` ≤ `nev`,
    `eigenvectors(m)` has `min(m, count)` columns, `info()` Successful iff that number is `nev`, NotConverging otherwise -/
theorem c05c_counts (op : COp α) (eps23 : α) (hperm : SortPerm (hermCplxKern op c eps23) c)
    (sel : Int) (maxit : Nat) (tol : α) (sorting : Int) (s : St (CState α) α α (Lin.Vec α)) (r : Nat)
    (h : (compute (hermCplxKern op c eps23) c sel maxit tol sorting s).out = .ok r) :
    r = Orch.countTrue (compute (hermCplxKern op c eps23) c sel maxit tol sorting s).st.ritzConv ∧
    (eigenvalues (hermCplxKern op c eps23) c (compute (hermCplxKern op c eps23) c sel maxit tol sorting s).st).length = r ∧
    (∀ nvec, (eigenvectors (hermCplxKern op c eps23) c nvec (compute (hermCplxKern op c eps23) c sel maxit tol sorting s).st).length
      = min nvec r) ∧
    r ≤ c.nev ∧
    ((compute (hermCplxKern op c eps23) c sel maxit tol sorting s).st.info = .successful ↔ r = c.nev) ∧
    ((compute (hermCplxKern op c eps23) c sel maxit tol sorting s).st.info = .notConverging ↔ r ≠ c.nev) :=
  c05_counts (hermCplxKern op c eps23) c hperm sel maxit tol sorting s r h

/-- `c05_flags_fresh` for the complex Hermitian solver: the flags handed back were computed by the (real) convergence test from the
    Ritz pairs of the final complex factorization, then permuted together with values and vectors -/
theorem c05c_flags_fresh (op : COp α) (eps23 : α)
    (sel : Int) (maxit : Nat) (tol : α) (sorting : Int) (s : St (CState α) α α (Lin.Vec α)) (r : Nat)
    (h : (compute (hermCplxKern op c eps23) c sel maxit tol sorting s).out = .ok r) :
    ∃ s3 : St (CState α) α α (Lin.Vec α), ∃ ind, s3.ritzConv = convFlags (hermCplxKern op c eps23) c tol s3 ∧
      (compute (hermCplxKern op c eps23) c sel maxit tol sorting s).st.fac = s3.fac ∧
      HermSolver.hermSortIdx sorting (mapHead c.nev (fun l => l) s3.ritzVal) c.nev = .ok ind ∧
      (compute (hermCplxKern op c eps23) c sel maxit tol sorting s).st.ritzConv
        = (List.range c.nev).map (fun i => s3.ritzConv.getD (ind.getD i 0) false) ∧
      (compute (hermCplxKern op c eps23) c sel maxit tol sorting s).st.ritzVec
        = (List.range c.nev).map (fun i => s3.ritzVec.getD (ind.getD i 0) (Lin.vzero c.ncv)) :=
  c05_flags_fresh (hermCplxKern op c eps23) c sel maxit tol sorting s r h

/--
  **Real embedding** (exact-field instance; ties the complex model to the real one the C01/C07 theorems are about): on data with
  zero imaginary parts every complex kernel of the model computes the real kernel's result with zero imaginary parts —
  scalar `*`, `conj(·)*·`, `/real`, libgcc's complex `÷` (the `v /= vnorm` of `Arnoldi::init`, for every scaling branch),
  `dot`, `norm`, `cwiseAbs().maxCoeff()`, `Vᴴy`, `f -= V g` (with its `alpha = (-1, 0)` product), `V y` for real `y`
  (`compress_V`, `eigenvectors`), and the explicit-loop operator.
  The assembly of these kernels into `Arnoldi::init` is `c05c_init_embedding` below.  NOT covered: the assembly into
  `cfactorize_from` / `ccompress_V` (array bookkeeping only, no new arithmetic), and `expand_basis` — a complex random draw consumes
  two real draws and has a non-zero imaginary part, so after a breakdown restart the complex solver legitimately leaves the real
  subspace (a whole-run embedding can only hold for runs without breakdown restarts).
-/
theorem c05c_real_embedding {K : Type} [Field K] [LinearOrder K] [IsStrictOrderedRing K] [Sc K] (E : EmbSc K)
    (D : DivK K) (hD : D.rminscal ≠ 0) :
    (∀ a b : K, cmul (emb a) (emb b) = emb (a * b) ∧ cmul (cconj (emb a)) (emb b) = emb (a * b) ∧
        cdivR (emb a) b = emb (a / b) ∧ cdiv D (emb a) (emb b) = emb (a / b) ∧ cabs (emb a) = Sc.abs a) ∧
    (∀ x y : Lin.Vec K, cdot (embV x) (embV y) = emb (Lin.dot x y) ∧ cnorm (embV x) = Lin.norm x ∧
        cmaxAbs (embV x) = Lin.maxAbs x) ∧
    (∀ (V : Lin.Mat K) (k : Nat) (y f : Lin.Vec K),
        cadjoint (embM V) k (embV y) = embV (Arnoldi.tmulVecK0 V k y) ∧
        csubMulVecK0 (embV f) (embM V) k (embV y) = embV (Arnoldi.subMulVecK0 f V k y) ∧
        cmulVecRealK0 (embM V) k y = embV (Arnoldi.mulVecK0 V k y)) ∧
    (∀ (n : Nat) (a : Array K) (x : Lin.Vec K), crowMajorOp n (a.map emb) (embV x) = embV (Arnoldi.rowMajorOp n a x)) :=
  ⟨fun a b => ⟨emb_cmul a b, emb_cmul_conj a b, emb_cdivR a b, emb_cdiv E D hD a b, emb_cabs E a⟩,
   fun x y => ⟨cdot_emb E x y, cnorm_emb E x, cmaxAbs_emb E x⟩,
   fun V k y f => ⟨cadjoint_emb E V k y, csubMulVecK0_emb E f V k y, cmulVecRealK0_emb E V k y⟩,
   fun n a x => crowMajorOp_emb E n a x⟩

/--
  **`init(v0)` through the complex code path on real data is the real `init(v0)`** (exact-field instance): for a real operator
  (`op.A (embV x) = embV (opr.A x)`, identity `B`) and a real start vector, the `facInit` kernel of the complex instance returns the
  embedding of what the `facInit` kernel of the real symmetric instance (`HermSolver.hermKern`, the one C01/C07 are proved about)
  returns: same acceptance decision and exception, same operation count, and `V`, `H`, `f`, `beta`, `k` equal with zero imaginary
  parts — including the complex ÷ complex normalisation `v /= vnorm` (libgcc `__divdc3`) specific to the complex instantiation.
-/
theorem c05c_init_embedding {K : Type} [Field K] [LinearOrder K] [IsStrictOrderedRing K] [Sc K] (E : EmbSc K)
    (op : COp K) (opr : Arnoldi.Op K) (hB : opr.B = none) (hD : op.dk.rminscal ≠ 0)
    (hA : ∀ x : Lin.Vec K, op.A (embV x) = embV (opr.A x)) (eps23 : K) (back : K → K)
    (s : Arnoldi.State K) (v0 : Lin.Vec K) :
    ((hermCplxKern op c eps23).facInit (embV v0) (embS s)).fac = embS ((HermSolver.hermKern opr c eps23 back).facInit v0 s).fac ∧
    ((hermCplxKern op c eps23).facInit (embV v0) (embS s)).ops = ((HermSolver.hermKern opr c eps23 back).facInit v0 s).ops ∧
    ((hermCplxKern op c eps23).facInit (embV v0) (embS s)).exn = ((HermSolver.hermKern opr c eps23 back).facInit v0 s).exn := by
  have h := cinit_emb E op opr hB hD hA { s with ops := 0 } v0
  have hs : ({ embS s with ops := 0 } : CState K) = embS { s with ops := 0 } := rfl
  simp only [hermCplxKern, HermSolver.hermKern, hs, h]
  cases Arnoldi.init opr { s with ops := 0 } v0 with
  | none => exact ⟨rfl, rfl, rfl⟩
  | some s' => exact ⟨rfl, rfl, rfl⟩

/-- the hypotheses of `c05c_real_embedding` are satisfiable: the exact-field scalar class over ℚ-like fields with `sqrt (x*x) = |x|` -/
example {K : Type} [Field K] [LinearOrder K] [IsStrictOrderedRing K] (F : FieldFns K) (hsqrt : ∀ x : K, F.sqrt (x * x) = |x|) :
    @EmbSc K _ _ _ (scOfField F) := embSc_scOfField F hsqrt

end cplx

end C05c
