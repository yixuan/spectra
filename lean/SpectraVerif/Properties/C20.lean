/-
  C20 — solvers are re-entrant: no hidden shared mutable state; concurrent independent runs are race-free and
  bit-identical to sequential runs.

  Two kinds of theorem:

  (A) structural facts about `Gen.Footprint`, a list literal regenerated on every run from the clang AST of the WHOLE
      include/Spectra tree (both with and without -DSPECTRA_VERIF) plus an independent token scan of the header text.
      They are closed facts about the source as it is now, proved by `decide`/`rfl`; editing the headers (a function-local
      `static`, a `mutable` cache in a product wrapper, a static RNG state, a call to `rand()`/`time()`) changes the literal
      and breaks the theorem.
  (B) non-interference in the model `Par` (any number of threads, any actions, any schedule, any length): if every action
      writes only its own thread's private part and reads only that part and a part nobody writes, then every
      interleaving ends in exactly the states of the solo (sequential) runs.  (A) is what makes the hypotheses of (B)
      true of the library: without static-storage variables and with read-only shared wrappers, every location a solver
      run writes lies inside the objects of that run.

  Not representable in the model, hence NOT proved (observed only, ThreadSanitizer harness `harness/c20.cpp`): data races
  below the granularity of one action — inside Eigen kernels, Eigen's own function-local statics (cache-size query),
  the allocator, libstdc++ — and the C++ memory model itself; `const_cast`-free code is checked (blacklist) but
  a C-style cast that removes constness is not detected.  Bit-identity of each solo run with itself is C06's determinism.
-/
import SpectraVerif.Gen.Footprint
import SpectraVerif.Proofs.C20Par

namespace C20
open Gen.Footprint

/-! ## (A) structural footprint of the source tree -/

/-- no variable with static storage duration (namespace scope, static data member, function-local static) that is
    not const/constexpr exists anywhere in include/Spectra, as shipped -/
theorem c20_no_statics : Gen.Footprint.statics = [] := rfl

/-- the same for the `-DSPECTRA_VERIF` build that every harness uses; its only addition is the per-thread observer slot
    of Util/VerifHooks.h, which is `thread_local` (one instance per thread, not shared); the library as shipped has no
    thread_local at all; nothing in the headers lives outside `namespace Spectra` (where the AST filter would not look) -/
theorem c20_no_statics_verif_build :
    statics_verif = [] ∧ thread_locals = [] ∧ thread_locals_verif.map (·.1) = ["verif::observer::ptr"] ∧
    outside_namespace = [] := ⟨rfl, rfl, rfl, rfl⟩

/-- every `static` / `thread_local` / `mutable` / `extern` / `volatile` keyword of the comment-stripped header text is
    accounted for by a declaration the AST scan classified (nothing hidden in a macro or an unparsed construct) -/
theorem c20_keywords_accounted :
    keyword_text_counts = keyword_ast_counts ∧ static_sites_unaccounted = [] := ⟨rfl, rfl⟩

/-- the six matrix-product wrappers are read-only objects: no `mutable` member, no reference/pointer/Ref/Map to
    non-const data, every member const-qualified, no base class, every operation method const-qualified; and the claim is
    not vacuous: each wrapper has a member and a `perform_op` in the list -/
theorem c20_wrappers_readonly :
    (∀ w ∈ wrappers, w.2.2.1 = false ∧ w.2.2.2.2.1 = false ∧ w.2.2.2.1 = true) ∧
    (∀ m ∈ wrapper_methods, m.2.2 = true) ∧ wrapper_bases = [] ∧
    (∀ n ∈ wrapper_names, wrappers.any (fun w => w.1 == n) = true ∧
        wrapper_methods.any (fun m => m.1 == n && m.2.1 == "perform_op") = true) := by decide +kernel

/-- exactly one data member each: the `const Ref<const Matrix>` handle -/
theorem c20_wrappers_shape : wrappers.map (fun w => (w.1, w.2.1)) =
    [("DenseSymMatProd", "m_mat"), ("DenseGenMatProd", "m_mat"), ("DenseHermMatProd", "m_mat"),
     ("SparseSymMatProd", "m_mat"), ("SparseGenMatProd", "m_mat"), ("SparseHermMatProd", "m_mat")] := rfl

/-- no reference to rand/srand/time/clock/getenv/new-handlers/..., to std::random_device / standard engines / chrono
    clocks / call_once, and no const_cast / reinterpret_cast, anywhere in the tree (AST and token scan) -/
theorem c20_no_global_facilities : blacklist_uses = [] := rfl

/-- classes that may own a `mutable` scratch member: the per-solver operator adaptors (created inside a solver's
    constructor, never handed to the user) -/
def adaptors : List String :=
  ["ArnoldiOp", "SVDTallMatOp", "SVDWideMatOp", "SymGEigsBucklingOp", "SymGEigsCayleyOp", "SymGEigsCholeskyOp",
   "SymGEigsRegInvOp", "SymGEigsShiftInvertOp"]

/-- user-facing operators with state of their own (a factorization that `set_shift` rebuilds, a CG solver): they are
    not matrix-product wrappers and are outside the property's sharing clause ("each with its own operator object") -/
def statefulUserOps : List String := ["DenseGenComplexShiftSolve", "SparseGenComplexShiftSolve", "SparseRegularInverse"]

/-- the `mutable` members of the tree are exactly the documented scratch vectors; each belongs to a per-solver adaptor or
    to a stateful user operator, none to a shareable product wrapper.  A new `mutable` cache anywhere breaks this. -/
theorem c20_scratch_private :
    mutable_members =
      [("ArnoldiOp", "m_cache"), ("DenseGenComplexShiftSolve", "m_x_cache"), ("SVDTallMatOp", "m_cache"),
       ("SVDWideMatOp", "m_cache"), ("SparseGenComplexShiftSolve", "m_x_cache"), ("SparseRegularInverse", "m_info"),
       ("SymGEigsBucklingOp", "m_cache"), ("SymGEigsCayleyOp", "m_cache"), ("SymGEigsCholeskyOp", "m_cache"),
       ("SymGEigsRegInvOp", "m_cache"), ("SymGEigsShiftInvertOp", "m_cache")] ∧
    (∀ m ∈ mutable_members, (m.1 ∈ adaptors ∨ m.1 ∈ statefulUserOps) ∧ m.1 ∉ wrapper_names) := ⟨rfl, by decide +kernel⟩

/-- how the adaptors are held: always inside exactly the solver object that created them — by value (`m_fac` holds the
    `Arnoldi`/`Lanczos` object whose `m_op` member is the `ArnoldiOp` by value), as the operator type of the solver's
    base class (the composite op is constructed as a temporary and moved into `m_op_container`, held by value), or through
    the owning pointer of `PartialSVDSolver`; never through a reference member that could alias another solver's adaptor.
    The stateful user operators are held by nobody inside the library. -/
theorem c20_scratch_held_by_owner :
    holders =
      [("ArnoldiOp", "GenEigsBase", "m_fac", "value"), ("ArnoldiOp", "HermEigsBase", "m_fac", "value"),
       ("SVDTallMatOp", "PartialSVDSolver", "m_eigs", "ptr"), ("SVDTallMatOp", "PartialSVDSolver", "m_op", "ptr"),
       ("SVDWideMatOp", "PartialSVDSolver", "m_eigs", "ptr"), ("SVDWideMatOp", "PartialSVDSolver", "m_op", "ptr"),
       ("SymGEigsBucklingOp", "SymGEigsShiftSolver", "base:HermEigsBase", "base-argument"),
       ("SymGEigsCayleyOp", "SymGEigsShiftSolver", "base:HermEigsBase", "base-argument"),
       ("SymGEigsCholeskyOp", "SymGEigsSolver", "base:HermEigsBase", "base-argument"),
       ("SymGEigsRegInvOp", "SymGEigsSolver", "base:HermEigsBase", "base-argument"),
       ("SymGEigsShiftInvertOp", "SymGEigsShiftSolver", "base:HermEigsBase", "base-argument")] ∧
    (∀ h ∈ holders, h.1 ∈ adaptors ∧ h.2.2.2 ≠ "ref" ∧ h.2.2.2 ≠ "cref") ∧
    (∀ a ∈ adaptors, holders.any (fun h => h.1 == a) = true) ∧
    (∀ p ∈ [("HermEigsBase", "m_op_container", "value"), ("HermEigsBase", "m_fac", "value"), ("GenEigsBase", "m_fac", "value"),
            ("Arnoldi", "m_op", "value")], solver_members.any (fun s => (s.1, s.2.1, s.2.2.1) == p) = true) :=
  ⟨rfl, by decide +kernel⟩

/-! ## (B) non-interference: every interleaving equals the sequential runs -/

section typed
variable {ι : Type} [DecidableEq ι] {S : Type} {σ : ι → Type}

/-- **c20_interleave** (`Par.independent`).  `ι` indexes the threads (any number, finite or not), `σ i` is thread `i`'s
    private state (its solver object, operator, adaptors, workspace), `sh : S` the one shared immutable value (the const
    product wrapper and its matrix).  For arbitrary per-thread programs `progs` (lists of arbitrary actions
    `S → σ i → σ i`), EVERY interleaving `tr` of them (`Par.Merge`, all schedules, all lengths), started in any
    configuration `c`, ends in exactly the configuration in which each thread ran its program alone. -/
theorem c20_interleave (sh : S) (progs : (i : ι) → List (S → σ i → σ i)) (tr : List (Par.Act ι S σ))
    (h : Par.Merge progs tr) (c : (j : ι) → σ j) :
    Par.exec sh tr c = fun i => Par.runSeq sh (progs i) (c i) := by
  funext i; rw [Par.exec_proj, Par.merge_proj h]

/-- `Merge` is not a restricted class of schedules: every global trace whatsoever is an interleaving of its projections -/
theorem c20_every_trace_is_interleaving (tr : List (Par.Act ι S σ)) : Par.Merge (fun i => Par.proj i tr) tr :=
  Par.merge_of_trace tr

/-- corollary for results: whatever is read off the final private states (eigenvalues, eigenvectors, counters, status)
    is the same after any interleaving as after the solo run — and therefore the same for any two interleavings -/
theorem c20_interleave_results {ρ : ι → Type} (out : (i : ι) → σ i → ρ i) (sh : S)
    (progs : (i : ι) → List (S → σ i → σ i)) (tr tr' : List (Par.Act ι S σ))
    (h : Par.Merge progs tr) (h' : Par.Merge progs tr') (c : (j : ι) → σ j) (i : ι) :
    out i (Par.exec sh tr c i) = out i (Par.runSeq sh (progs i) (c i)) ∧
    out i (Par.exec sh tr c i) = out i (Par.exec sh tr' c i) := by
  rw [c20_interleave sh progs tr h, c20_interleave sh progs tr' h']; exact ⟨rfl, rfl⟩

/-- concurrent = sequential: running the threads one after another (in any duplicate-free order that contains every
    thread with a non-empty program) is one of the interleavings, so every interleaving gives the same final configuration
    as the sequential execution -/
theorem c20_concurrent_eq_sequential (sh : S) (progs : (i : ι) → List (S → σ i → σ i)) (tr : List (Par.Act ι S σ))
    (h : Par.Merge progs tr) (order : List ι) (hnd : order.Nodup) (hall : ∀ i, i ∈ order ∨ progs i = [])
    (c : (j : ι) → σ j) :
    Par.exec sh tr c = Par.exec sh (Par.seqTrace progs order) c := by
  funext i
  rw [Par.exec_proj, Par.exec_proj, Par.merge_proj h]
  cases hall i with
  | inl hi => rw [Par.proj_seqTrace progs order hnd i hi]
  | inr he =>
    by_cases hi : i ∈ order
    · rw [Par.proj_seqTrace progs order hnd i hi]
    · rw [Par.proj_seqTrace_notin progs order i hi, he]

end typed

section memory
variable {ι : Type} [DecidableEq ι] {Loc Val : Type}

/-- **c20_interleave_mem** — the same statement without building independence into the types: one global store, actions
    are arbitrary store transformers, and independence is the *hypothesis* `Par.Local` (frame + locality w.r.t. pairwise
    disjoint private sets and a shared set nobody owns).  After ANY trace of local actions: on `priv i` the store equals
    thread `i`'s solo run from the same initial store; the shared part and everything owned by no acting thread is unchanged. -/
theorem c20_interleave_mem (L : Par.Layout ι Loc) (tr : List (Par.MAct ι Loc Val)) (hloc : ∀ a ∈ tr, Par.Local L a)
    (m : Par.Mem Loc Val) :
    (∀ i l, L.priv i l → Par.mexec tr m l = Par.mexec (Par.mproj i tr) m l) ∧
    (∀ l, L.shared l → Par.mexec tr m l = m l) ∧
    (∀ l, (∀ a ∈ tr, ¬ L.priv a.tid l) → Par.mexec tr m l = m l) := by
  refine ⟨fun i l hl => ?_, fun l hs => ?_, fun l hl => Par.mexec_frame L tr hloc m l hl⟩
  · exact Par.agree_mexec L tr hloc i m m (fun _ _ => rfl) l (Or.inl hl)
  · exact Par.mexec_frame L tr hloc m l (fun a _ hp => L.disjS _ _ hp hs)

/-- two schedules of the same per-thread action sequences produce the same store on every private and shared location -/
theorem c20_interleave_mem_schedules (L : Par.Layout ι Loc) (tr tr' : List (Par.MAct ι Loc Val))
    (hloc : ∀ a ∈ tr, Par.Local L a) (hloc' : ∀ a ∈ tr', Par.Local L a)
    (hsame : ∀ i, Par.mproj i tr = Par.mproj i tr') (m : Par.Mem Loc Val) (l : Loc)
    (hl : (∃ i, L.priv i l) ∨ L.shared l) : Par.mexec tr m l = Par.mexec tr' m l := by
  cases hl with
  | inl h =>
    obtain ⟨i, hi⟩ := h
    rw [(c20_interleave_mem L tr hloc m).1 i l hi, (c20_interleave_mem L tr' hloc' m).1 i l hi, hsame i]
  | inr hs => rw [(c20_interleave_mem L tr hloc m).2.1 l hs, (c20_interleave_mem L tr' hloc' m).2.1 l hs]

end memory

/-- the executable schedule runner of the driver (`par_rng` requests): component `i` after any schedule is `count i`
    solo steps — all state counts, all schedules -/
theorem c20_schedule_exec (step : Int → Int → Int) (sh : Int) (sched : List Nat) (st : Array Int) (i : Nat) (hi : i < st.size) :
    (Par.runSchedule step sh sched st)[i]'(by rw [Par.runSchedule_size]; exact hi) =
      Par.runAlone step sh (sched.count i) st[i] :=
  Par.runSchedule_get step sh sched st i hi

/-! ## non-vacuity and necessity of the hypotheses -/

/-- a concrete layout: thread `i` owns location `i + 1`; location `0` is shared -/
def exLayout : Par.Layout Nat Nat where
  priv := fun i l => l = i + 1
  shared := fun l => l = 0
  disj := by intro i j l h h1 h2; omega
  disjS := by intro i l h1 h2; omega

/-- thread `t` adds the shared cell to its own cell: a local action -/
def exAdd (t : Nat) : Par.MAct Nat Nat Nat := ⟨t, fun m l => if l = t + 1 then m (t + 1) + m 0 else m l⟩

example (t : Nat) : Par.Local exLayout (exAdd t) where
  frame := by intro m l h; simp only [exAdd]; rw [if_neg]; exact h
  locality := by
    intro m m' h l hl
    have h0 := h 0 (Or.inr rfl); have h1 := h (t + 1) (Or.inl rfl)
    have hl' : l = t + 1 := hl
    simp only [exAdd]; rw [if_pos hl', if_pos hl', h0, h1]

example : Par.Merge (ι := Nat) (S := Unit) (σ := fun _ => Nat) (fun _ => []) [] := Par.Merge.nil

/-- necessity: if an action writes a cell that another thread reads (what a function-local `static` buffer or a shared
    RNG state would be), two schedules of the same programs give different private results — the frame hypothesis
    (i.e. `c20_no_statics`) cannot be dropped -/
def exBump (t : Nat) : Par.MAct Nat Nat Nat := ⟨t, fun m l => if l = 0 then m 0 + 1 else if l = t + 1 then m 0 else m l⟩

example : Par.mexec [exBump 0, exBump 1] (fun _ => 0) 1 ≠ Par.mexec [exBump 1, exBump 0] (fun _ => 0) 1 := by decide

end C20
