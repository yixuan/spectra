/-
  C19 — the internal random generator is the exact, seed-pure Park–Miller sequence.
  All theorems are about the definitions in `Gen/Rand.lean` (regenerated from /repo/include/Spectra/Util/SimpleRandom.h on every run)
  and the table of generator objects `Gen/RandSites.lean` (regenerated from the whole header tree).  Core Lean only.
-/
import SpectraVerif.Gen.Rand
import SpectraVerif.Gen.RandSites
import SpectraVerif.Proofs.RandLemmas

namespace C19
open Gen.Rand

/-- One step of the generator, for every non-degenerate state, is `16807·s mod (2^31-1)`. -/
theorem c19_step (s : Int) (h1 : 1 ≤ s) (h2 : s ≤ 2147483646) :
    next_long_rand s = (16807 * s) % 2147483647 := by
  have hne : (16807 * s) % 2147483647 ≠ 0 := by have := (RandLemmas.pm_range s h1 h2).1; omega
  rw [RandLemmas.shape, RandLemmas.stageB_eq s h1 h2, RandLemmas.stageH_eq s h1 h2]
  -- s = 65536·h + l with l = s % 65536, h = s / 65536 < 32768;  16807·h = 32768·q + r
  exact RandLemmas.fold_step (l := s % 65536) (r := 16807 * (s / 65536) % 32768) (q := 16807 * (s / 65536) / 32768) (a := 16807 * s)
    (hl0 := by omega) (hl := by omega) (hr0 := by omega) (hr := by omega) (hq0 := by omega) (hq := by omega)
    (ha := by omega) (hne := hne)

/-- The state space `[1, 2^31-2]` is closed: the state never degenerates to 0 or 2^31-1. -/
theorem c19_closed (s : Int) (h1 : 1 ≤ s) (h2 : s ≤ 2147483646) :
    1 ≤ next_long_rand s ∧ next_long_rand s ≤ 2147483646 := by
  rw [c19_step s h1 h2]; exact RandLemmas.pm_range s h1 h2

/-- No signed intermediate of the C++ leaves the range of `long` (no undefined behaviour), and the final
    conversion back to `long` is value-preserving.  `u64` reductions in `next_long_rand` are identities
    on this domain (consequence of `c19_step`, whose right-hand side has no reduction). -/
theorem c19_nowrap (s : Int) (h1 : 1 ≤ s) (h2 : s ≤ 2147483646) : next_long_rand_ub s = true := by
  have hc := c19_closed s h1 h2
  rw [RandLemmas.ub_shape]
  simp only [inS64, u64, Bool.and_eq_true, decide_eq_true_eq]
  -- lower and upper bound of the four checked values, in the order of `ub_shape`; the last pair is `c19_closed`
  refine ⟨⟨⟨⟨?_, ?_⟩, ?_, ?_⟩, ?_, ?_⟩, ?_, ?_⟩ <;> first | omega | (apply decide_eq_true; omega)

/-- iterating: every state reachable from a non-degenerate one is non-degenerate and is the
    Park–Miller orbit `16807^k · s mod (2^31-1)`. -/
def iter : Nat → Int → Int
  | 0, s => s
  | k + 1, s => iter k (next_long_rand s)

theorem c19_orbit_closed (k : Nat) (s : Int) (h1 : 1 ≤ s) (h2 : s ≤ 2147483646) :
    1 ≤ iter k s ∧ iter k s ≤ 2147483646 := by
  induction k generalizing s with
  | zero => exact ⟨h1, h2⟩
  | succ k ih =>
    have := c19_closed s h1 h2
    exact ih _ this.1 this.2

theorem c19_orbit (k : Nat) (s : Int) (h1 : 1 ≤ s) (h2 : s ≤ 2147483646) :
    iter k s = (16807 ^ k * s) % 2147483647 := by
  induction k generalizing s with
  | zero => simp only [iter, Int.pow_zero, Int.one_mul]; omega
  | succ k ih =>
    have hc := c19_closed s h1 h2
    simp only [iter]
    rw [ih _ hc.1 hc.2, c19_step s h1 h2, Int.pow_succ, Int.mul_assoc, Int.mul_emod, Int.emod_emod_of_dvd _ (Int.dvd_refl _), ← Int.mul_emod]

/-- Every seed in `[0, 2^31-2]` is normalised by the constructor to a non-degenerate state; the degenerate normalised
    states come only from nonzero seeds that are `0` or `2^31-1` modulo `2^31`. -/
theorem c19_seeds_general (x : Int) (h0 : 0 ≤ x) (h : x ≤ 2147483646) :
    1 ≤ seed_norm x ∧ seed_norm x ≤ 2147483646 := by
  simp only [seed_norm]
  split <;> simp only [decide_eq_true_eq] at * <;> omega

/-- the seed `0` of the default start vector -/
theorem c19_seeds_zero : seed_norm 0 = 1 := by simp [seed_norm]

/-- the seeds `2i + 123j` of `expand_basis` (`i` the factorization step, `j < 5` the retry; `i < 2^20` is a generous bound on the
    subspace size): all lie in `[0, 2^31-2]` -/
theorem c19_seeds (i j : Int) (hi0 : 0 ≤ i) (hi : i < 1048576) (hj0 : 0 ≤ j) (hj : j < 5) :
    1 ≤ seed_norm (2 * i + 123 * j) ∧ seed_norm (2 * i + 123 * j) ≤ 2147483646 :=
  c19_seeds_general _ (by omega) (by omega)

theorem c19_degenerate_seed_example : seed_norm 2147483648 = 0 ∧ next_long_rand 0 = 0 := by decide

/-- a real draw advances the state by exactly one generator step -/
theorem c19_draw_state {α : Type} [Add α] [Sub α] [Mul α] [Div α] [Neg α] [Sc α] (s : Int) :
    (draw (α := α) s).1 = next_long_rand s := by simp only [draw]

theorem c19_draw_value {α : Type} [Add α] [Sub α] [Mul α] [Div α] [Neg α] [Sc α] (s : Int) :
    (draw (α := α) s).2 = Sc.ofInt (next_long_rand s) / Sc.ofInt 2147483647 - Sc.lit 5 (-1) := rfl

/-- **Where generators are created** (regenerated from the whole header tree on every run): exactly four sites, each a function-local
    object WITHOUT static/thread storage (so no state survives a call or is shared between solvers or threads), seeded with the
    constant `0` (default start vector, complex-shift probe) or with `seed + 123 * iter`, `iter < 5`, where `seed` is the `2 * i` passed
    by the two `factorize_from` loops — the seed forms `0` and `2*i + 123*j` of `c19_seeds`.  A generator made `static`, a new site,
    or a different seed expression changes the generated literal and breaks this theorem. -/
theorem c19_sites :
    Gen.RandSites.sites = [("Arnoldi::expand_basis", false, "seed + 123 * iter"), ("GenEigsBase::init", false, "0"),
      ("GenEigsComplexShiftSolver::sort_ritzpair", false, "0"), ("HermEigsBase::init", false, "0")] ∧
    Gen.RandSites.expandSeeds = [("Arnoldi::factorize_from", "2 * i"), ("Lanczos::factorize_from", "2 * i")] := by
  constructor <;> rfl

theorem c19_no_static_generator : ∀ s ∈ Gen.RandSites.sites, s.2.1 = false := by decide

-- non-vacuity: concrete states in the domain (the smallest, the largest, and 1043618065) and their successors
example : next_long_rand 1 = 16807 := by decide
example : next_long_rand 1043618065 = (16807 * 1043618065) % 2147483647 := by decide
example : next_long_rand 2147483646 = 2147483647 - 16807 := by decide

end C19
