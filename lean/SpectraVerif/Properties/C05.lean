/-
  C05 — result accessors, counts, ordering and status are mutually consistent.

  All theorems are about `Model/Orch.lean`, the one orchestration model shared by `HermEigsBase` and `GenEigsBase`, and hold for
  EVERY kernel record `K` (every way the numerics, the small eigen-solver, the sort and the user's operator could behave,
  including throwing at any call), every configuration, every argument tuple and every prior object state or history, except
  where a hypothesis is spelled out.  The executable instance of the same definitions is what the correspondence check runs
  against the real classes.

  Hypothesis `SortPerm K c`: the index vector `sort_ritzpair` obtains is a permutation of `0..nev-1`.  It is a theorem for the
  real sort (`C18.c18_perm_base` on the source-translated `argsort`/`SortEigenvalue`), stated here as a hypothesis so that the
  orchestration theorems do not depend on which sort is plugged in.
-/
import SpectraVerif.Proofs.C01Orch
import SpectraVerif.Gen.Status
import SpectraVerif.Gen.Restart
import SpectraVerif.Proofs.AccessLemmas
import SpectraVerif.Gen.Conv
import SpectraVerif.Proofs.CopyLemmas
import SpectraVerif.Model.HermSolver
import SpectraVerif.Model.GenSolver

namespace C05
open Orch

variable {φ ρ ε κ β τ ω : Type} (K : Kern φ ρ ε κ β τ ω) (c : Cfg)

/-- the final sort returns a permutation of the index range (true of `argsort`: C18) -/
def SortPerm : Prop := ∀ rule vals ind, K.sortIdx rule vals c.nev = .ok ind → ind.Perm (List.range c.nev)

/--
  **Counts and status** (the full clause, every history, every prior state, every kernel behaviour, every `maxit` including 0):
  the return value equals `eigenvalues().size()` equals `eigenvectors().cols()` and is at most `nev`; `eigenvectors(m)` has
  `min(m, count)` columns; `info()` is Successful exactly when that number is `nev` and NotConverging otherwise.

  The `refresh` step of the model is what makes this unconditional: it is the `if (i >= maxit) nconv = num_converged(tol)` of /repo
  `fix:` c774a83.  Without it the history `init(); compute(); compute(maxit = 0)` returns 0 while one eigenvalue is still handed
  out (replayed on the real classes); the second `example` at the end of this file is that history on the model.
-/
theorem c05_counts (hperm : SortPerm K c) (sel : Int) (maxit : Nat) (tol : τ) (sorting : Int) (s : St φ ρ ε κ) (r : Nat)
    (h : (compute K c sel maxit tol sorting s).out = .ok r) :
    r = Orch.countTrue (compute K c sel maxit tol sorting s).st.ritzConv ∧
    (eigenvalues K c (compute K c sel maxit tol sorting s).st).length = r ∧
    (∀ nvec, (eigenvectors K c nvec (compute K c sel maxit tol sorting s).st).length = min nvec r) ∧
    r ≤ c.nev ∧
    ((compute K c sel maxit tol sorting s).st.info = .successful ↔ r = c.nev) ∧
    ((compute K c sel maxit tol sorting s).st.info = .notConverging ↔ r ≠ c.nev) := by
  revert h
  fun_cases compute K c sel maxit tol sorting s with
  | case5 _ _ _ s2 _ L _ F s4 hs =>
    intro h
    obtain ⟨hn, hlen, _⟩ := refresh_spec K c sel tol maxit s2
    obtain ⟨ind, hind, hconv⟩ := sortRitz_flags K c sorting _ s4 hs
    -- the result's flags are `F`'s, permuted by the sort: still `nev` of them, still `F.2` set
    have hlen' : s4.ritzConv.length = c.nev := by rw [hconv, List.length_map, List.length_range]
    have hcnt : Orch.countTrue s4.ritzConv = F.2 := by
      rw [hconv]; exact (count_perm_index _ ind c.nev hlen (hperm _ _ _ hind)).trans hn.symm
    have hle : F.2 ≤ c.nev := by rw [← hcnt, ← hlen']; exact List.count_le_length
    obtain rfl : min c.nev F.2 = r := Except.ok.inj h
    rw [Nat.min_eq_right hle]
    refine ⟨hcnt.symm, (eigenvalues_length K c _ hlen').trans hcnt, fun nvec => ?_, hle, ?_, ?_⟩
    · exact (eigenvectors_length K c nvec _ hlen').trans (congrArg (min nvec) hcnt)
    · show (if F.2 ≥ c.nev then Info.successful else Info.notConverging) = _ ↔ _
      by_cases hge : F.2 ≥ c.nev
      · rw [if_pos hge]; exact ⟨fun _ => Nat.le_antisymm hle hge, fun _ => rfl⟩
      · rw [if_neg hge]; exact ⟨fun e => (nomatch e), fun e => absurd (Nat.le_of_eq e.symm) hge⟩
    · show (if F.2 ≥ c.nev then Info.successful else Info.notConverging) = _ ↔ _
      by_cases hge : F.2 ≥ c.nev
      · rw [if_pos hge]; exact ⟨fun e => (nomatch e), fun e => absurd (Nat.le_antisymm hle hge) e⟩
      · rw [if_neg hge]; exact ⟨fun _ e => hge (Nat.le_of_eq e.symm), fun _ => rfl⟩
  | _ => intro h; cases h

/-- the same, spelled out for an arbitrary history of `init`/`compute` calls from an arbitrary state before the observed `compute` -/
theorem c05_counts_any_history (hperm : SortPerm K c) (hist : List (Call β τ)) (s0 : St φ ρ ε κ)
    (sel : Int) (maxit : Nat) (tol : τ) (sorting : Int) (r : Nat)
    (h : (compute K c sel maxit tol sorting (run K c s0 hist)).out = .ok r) :
    let s' := (compute K c sel maxit tol sorting (run K c s0 hist)).st
    r = Orch.countTrue s'.ritzConv ∧ (eigenvalues K c s').length = r ∧ (∀ nvec, (eigenvectors K c nvec s').length = min nvec r) ∧
    r ≤ c.nev ∧ (s'.info = .successful ↔ r = c.nev) ∧ (s'.info = .notConverging ↔ r ≠ c.nev) :=
  c05_counts K c hperm sel maxit tol sorting _ r h

/--
  **The status logic is the source's**: on a normal return, the loop counter `i` and the final `nconv` of the model determine
  `num_iterations()`, `info()` and the return value through the functions REGENERATED from the statements that follow the restart
  loop in `HermEigsBase::compute` and `GenEigsBase::compute` (`Gen.Status.*Tail_*`), and the model refreshes the flags exactly when
  the source's condition `i >= maxit` holds.  (An edit of `m_niter += i + 1`, of the `nconv >= m_nev` status test, of the return
  expression or of the refresh condition changes the generated definitions and breaks this theorem.)
-/
theorem c05_status_from_source (sel : Int) (maxit : Nat) (tol : τ) (sorting : Int) (s : St φ ρ ε κ) (r : Nat)
    (h : (compute K c sel maxit tol sorting s).out = .ok r) :
    ∃ (L : LoopRes φ ρ ε κ) (nconv : Nat),
      (compute K c sel maxit tol sorting s).i = L.i ∧
      nconv = (refresh K c tol maxit L).2 ∧
      (L.i ≥ maxit ↔ Gen.Status.hermTail_refresh (L.i : Int) (maxit : Int) = true) ∧
      (((compute K c sel maxit tol sorting s).st.niter : Nat) : Int) = Gen.Status.hermTail_niter (s.niter : Int) (L.i : Int) ∧
      (((compute K c sel maxit tol sorting s).st.info.code : Nat) : Int) = Gen.Status.hermTail_info (c.nev : Int) (nconv : Int) ∧
      ((r : Nat) : Int) = Gen.Status.hermTail_ret (c.nev : Int) (nconv : Int) := by
  obtain ⟨L, _, hi, _, hniter, hinfo, hret⟩ := compute_ok_frame K c sel maxit tol sorting s r h
  refine ⟨L, (refresh K c tol maxit L).2, hi, rfl, ?_, ?_, ?_, ?_⟩
  · simp only [Gen.Status.hermTail_refresh, decide_eq_true_eq, ge_iff_le, Int.ofNat_le]
  · rw [hniter]; rfl
  · rw [hinfo]
    generalize (refresh K c tol maxit L).2 = n
    simp only [Gen.Status.hermTail_info, decide_eq_true_eq]
    by_cases hge : n ≥ c.nev
    · rw [if_pos hge, if_pos (Int.ofNat_le.mpr hge)]; rfl
    · rw [if_neg hge, if_neg (fun h => hge (Int.ofNat_le.mp h))]; rfl
  · rw [hret]; simp only [Gen.Status.hermTail_ret]; omega

/--
  **The loop frame is the source's**: the arguments of the factorization call that opens `compute`, the range of the restart loop
  and its `break` condition, as REGENERATED from both `compute()` functions (`Gen.Restart.*ComputeSkel_*`), are the ones the
  orchestration model uses: it starts from `max 1 subspace_dim()`, factorizes up to `ncv`, counts `i` from 0 while `i < maxit`,
  and leaves the loop exactly when `nconv >= nev`.
-/
theorem c05_loop_from_source (k nev ncv maxit nconv : Nat) :
    Gen.Restart.hermComputeSkel_frame (ncv : Int) (maxit : Int) (k : Int) = (((max 1 k : Nat) : Int), (ncv : Int), 0, (maxit : Int)) ∧
    Gen.Restart.genComputeSkel_frame (ncv : Int) (maxit : Int) (k : Int) = (((max 1 k : Nat) : Int), (ncv : Int), 0, (maxit : Int)) ∧
    (Gen.Restart.hermComputeSkel_break (nev : Int) (nconv : Int) = true ↔ nconv ≥ nev) ∧
    (Gen.Restart.genComputeSkel_break (nev : Int) (nconv : Int) = true ↔ nconv ≥ nev) := by
  refine ⟨?_, ?_, ?_, ?_⟩
  · simp only [Gen.Restart.hermComputeSkel_frame]; congr 1; omega
  · simp only [Gen.Restart.genComputeSkel_frame]; congr 1; omega
  · simp only [Gen.Restart.hermComputeSkel_break, decide_eq_true_eq]; omega
  · simp only [Gen.Restart.genComputeSkel_break, decide_eq_true_eq]; omega

/-- both base classes have the same status logic (the general family's regenerated tail equals the symmetric one's) -/
theorem c05_status_same_both_families (i maxit niter nev nconv : Int) :
    Gen.Status.genTail_refresh i maxit = Gen.Status.hermTail_refresh i maxit ∧
    Gen.Status.genTail_niter niter i = Gen.Status.hermTail_niter niter i ∧
    Gen.Status.genTail_info nev nconv = Gen.Status.hermTail_info nev nconv ∧
    Gen.Status.genTail_ret nev nconv = Gen.Status.hermTail_ret nev nconv := ⟨rfl, rfl, rfl, rfl⟩

/-- **Flags are fresh**: the flags `compute` hands back were computed by the convergence test from the Ritz pairs of the FINAL
    factorization (the one `eigenvectors()` multiplies with), then permuted together with them — whether the loop ended by
    convergence or by exhausting `maxit`.  (For the code before `fix:` c774a83 this failed after exhaustion: finding F1.) -/
theorem c05_flags_fresh (sel : Int) (maxit : Nat) (tol : τ) (sorting : Int) (s : St φ ρ ε κ) (r : Nat)
    (h : (compute K c sel maxit tol sorting s).out = .ok r) :
    ∃ s3 : St φ ρ ε κ, ∃ ind, s3.ritzConv = convFlags K c tol s3 ∧
      (compute K c sel maxit tol sorting s).st.fac = s3.fac ∧
      K.sortIdx sorting (mapHead c.nev K.backTransform s3.ritzVal) c.nev = .ok ind ∧
      (compute K c sel maxit tol sorting s).st.ritzConv = (List.range c.nev).map (fun i => s3.ritzConv.getD (ind.getD i 0) false) ∧
      (compute K c sel maxit tol sorting s).st.ritzVec = (List.range c.nev).map (fun i => s3.ritzVec.getD (ind.getD i 0) K.zeroκ) :=
  have ⟨s3, ind, _, _, h1, h2, h3, _, h5, h6⟩ := C01O.compute_final K c (fun _ => True) (fun _ => True) (fun _ _ _ => trivial)
    (fun _ _ _ _ _ _ _ _ => trivial) sel maxit tol sorting s trivial r h
  ⟨s3, ind, h1, h2, h3, h6, h5⟩

/--
  **Accessor pairing**: `eigenvalues()` and `eigenvectors(nvec)` walk the SAME index list (the flagged positions `< nev`, in stored
  order): the j-th returned value and the j-th returned column come from one stored position whose flag is set, and
  `eigenvectors(m)` is the first `min(m, count)` columns of `eigenvectors()`.
-/
theorem c05_accessor_pairing (s : St φ ρ ε κ) (hlen : s.ritzConv.length = c.nev) (nvec : Nat) :
    eigenvalues K c s = (convIdx c s).map (fun i => s.ritzVal.getD i K.zeroρ) ∧
    eigenvectorCoords K c nvec s = ((convIdx c s).map (fun i => s.ritzVec.getD i K.zeroκ)).take (min nvec (Orch.countTrue s.ritzConv)) ∧
    eigenvectorCoords K c nvec s = (eigenvectorCoords K c c.nev s).take (min nvec (Orch.countTrue s.ritzConv)) ∧
    (∀ i ∈ convIdx c s, i < c.nev ∧ s.ritzConv.getD i false = true) ∧
    (convIdx c s).Pairwise (· < ·) := by
  refine ⟨eigenvalues_eq K c s hlen, ?_, ?_, ?_, ?_⟩
  · unfold eigenvectorCoords; rw [List.map_take]
  · unfold eigenvectorCoords
    have hle : Orch.countTrue s.ritzConv ≤ c.nev := by unfold Orch.countTrue; rw [← hlen]; exact List.count_le_length
    rw [List.map_take, List.map_take, List.take_take]
    congr 1; omega
  · intro i hi
    simp only [convIdx, List.mem_filter, List.mem_range] at hi
    exact hi
  · unfold convIdx
    exact List.Pairwise.filter _ (List.pairwise_lt_range)

/-- **Sort pairing**: values, vectors and flags are permuted by ONE index vector, the one the sorting rule produced on the
    (back-transformed) first `nev` values; with C18 (`c18_sorted`) this is "the values appear in the order named by `sorting`". -/
theorem c05_sort_pairing (hcfg : c.nev ≤ c.ncv) (rule : Int) (s s' : St φ ρ ε κ) (h : sortRitz K c rule s = (s', none)) :
    ∃ ind, K.sortIdx rule (mapHead c.nev K.backTransform s.ritzVal) c.nev = .ok ind ∧
      ∀ i, i < c.nev →
        s'.ritzVal.getD i K.zeroρ = (mapHead c.nev K.backTransform s.ritzVal).getD (ind.getD i 0) K.zeroρ ∧
        s'.ritzVec.getD i K.zeroκ = s.ritzVec.getD (ind.getD i 0) K.zeroκ ∧
        s'.ritzConv.getD i false = s.ritzConv.getD (ind.getD i 0) false :=
  sortRitz_pairing K c hcfg rule s s' h

/-- **Iteration count**: at most `maxit` restarts, whatever the kernels do and however `compute` ends; on a normal return the
    number of restarts equals the loop counter `i ≤ maxit` and `num_iterations()` has grown by exactly `i + 1`. -/
theorem c05_maxit (sel : Int) (maxit : Nat) (tol : τ) (sorting : Int) (s : St φ ρ ε κ) :
    (compute K c sel maxit tol sorting s).restarts ≤ maxit ∧
    (∀ r, (compute K c sel maxit tol sorting s).out = .ok r →
      (compute K c sel maxit tol sorting s).restarts = (compute K c sel maxit tol sorting s).i ∧
      (compute K c sel maxit tol sorting s).i ≤ maxit ∧
      (compute K c sel maxit tol sorting s).st.niter = s.niter + (compute K c sel maxit tol sorting s).i + 1) := by
  refine ⟨(compute_frame K c sel maxit tol sorting s).2, fun r h => ?_⟩
  obtain ⟨L, hle, hi, hres, hniter, _⟩ := compute_ok_frame K c sel maxit tol sorting s r h
  exact ⟨by rw [hres, hi], by rw [hi]; exact hle, by rw [hniter, hi]; rfl⟩

/-- **Before any compute()**: after the constructor and any number of `init` calls, `info()` is NotComputed and the accessors
    return empty objects. -/
theorem c05_before_compute (fac0 : φ) (vs : List β) (nvec : Nat) :
    let s := run K c (construct fac0) (vs.map Call.init)
    s.info = .notComputed ∧ eigenvalues K c s = [] ∧ eigenvectors K c nvec s = [] ∧ s.niter = 0 := by
  let P : St φ ρ ε κ → Prop := fun s => s.info = .notComputed ∧ Orch.countTrue s.ritzConv = 0 ∧ s.niter = 0
  have key : ∀ (vs : List β) (s : St φ ρ ε κ), P s → P (run K c s (vs.map Call.init)) := by
    intro vs
    induction vs with
    | nil => exact fun s h => h
    | cons v vs ih =>
      intro s h
      simp only [List.map_cons, run, List.foldl_cons]
      exact ih _ ⟨h.1, count_true_replicate_false c.nev, rfl⟩
  obtain ⟨h1, h2, h3⟩ := key vs (construct fac0) ⟨rfl, rfl, rfl⟩
  refine ⟨h1, ?_, ?_, h3⟩
  · simp [eigenvalues, h2]
  · simp [eigenvectors, eigenvectorCoords, h2]

/-- **A throwing compute()** (unsupported rule, failing operator, failing small eigen-solver — any exception at any point)
    leaves `info()` and `num_iterations()` exactly as they were. -/
theorem c05_throwing_compute (sel : Int) (maxit : Nat) (tol : τ) (sorting : Int) (s : St φ ρ ε κ) (e : Exn)
    (h : (compute K c sel maxit tol sorting s).out = .error e) :
    (compute K c sel maxit tol sorting s).st.info = s.info ∧ (compute K c sel maxit tol sorting s).st.niter = s.niter :=
  compute_error_info K c sel maxit tol sorting s e h

/-- `init()` never changes `info()`; it resets both counters, and `num_operations()` then holds exactly what the factorization's
    `init` counted. -/
theorem c05_init_counters (v0 : β) (s : St φ ρ ε κ) :
    (init K c v0 s).1.info = s.info ∧ (init K c v0 s).1.niter = 0 ∧ (init K c v0 s).1.nmatop = (K.facInit v0 s.fac).ops := by
  simp [init]

/-- `num_operations()` never decreases during `compute` and grows by exactly the applications the kernels report
    (initial factorization + every restart's factorization); with no restart it is `old + ops(factorize)`. -/
theorem c05_nmatop_monotone (sel : Int) (maxit : Nat) (tol : τ) (sorting : Int) (s : St φ ρ ε κ) :
    s.nmatop ≤ (compute K c sel maxit tol sorting s).st.nmatop :=
  (compute_frame K c sel maxit tol sorting s).1

/-! ### The accessor loops as the source has them (`Gen.Access`, regenerated from /repo on every run) -/

section access
open AccessLemmas

/-- the model's list of flagged indices is the index list the source loops walk -/
theorem convIdx_eq_idx (s : St φ ρ ε κ) :
    convIdx c s = idx (fun i => s.ritzConv.getD i.toNat false) c.nev :=
  AccessLemmas.convIdx_eq_idx c s

/--
  **`eigenvalues()` as written in `HermEigsBase.h`** (loop translated from the source): for every object state, the output
  positions `0 .. j-1` of the translated loop, read back, are exactly the model's `eigenvalues` list (the values at the flagged
  indices among the first `nev`, in increasing index order), `j` is its length, and no position `≥ j` is written.  With
  `c05_counts` this ties "returned count = eigenvalues().size()" to the loop the source contains, not only to the model's
  `filter`/`map`. -/
theorem c05_eigenvalues_loop_from_source {α : Type} [Add α] [Sub α] [Mul α] [Div α] [Neg α] [Sc α]
    {φ ε κ β τ ω : Type} (K : Kern φ α ε κ β τ ω) (c : Cfg) (s : St φ α ε κ) (res0 : Int → α) :
    let r := Gen.Access.hermEigenvalues_loop (c.nev : Int) (fun i => s.ritzConv.getD i.toNat false)
                (fun i => s.ritzVal.getD i.toNat K.zeroρ) res0
    r.1 = ((convIdx c s).length : Int) ∧
    (convIdx c s).map (fun i => s.ritzVal.getD i K.zeroρ) = (List.range (convIdx c s).length).map (fun (t : Nat) => r.2 (t : Int)) ∧
    (∀ x : Int, ¬ (0 ≤ x ∧ x < ((convIdx c s).length : Int)) → r.2 x = res0 x) :=
  eigenvalues_fold K c s res0

/-- the same for `GenEigsBase::eigenvalues()` (complex Ritz values as pairs) -/
theorem c05_eigenvalues_loop_from_source_gen {α : Type} [Add α] [Sub α] [Mul α] [Div α] [Neg α] [Sc α]
    {φ ε κ β τ ω : Type} (K : Kern φ (α × α) ε κ β τ ω) (c : Cfg) (s : St φ (α × α) ε κ) (res0 : Int → α × α) :
    let r := Gen.Access.genEigenvalues_loop (c.nev : Int) (fun i => s.ritzConv.getD i.toNat false)
                (fun i => s.ritzVal.getD i.toNat K.zeroρ) res0
    r.1 = ((convIdx c s).length : Int) ∧
    (convIdx c s).map (fun i => s.ritzVal.getD i K.zeroρ) = (List.range (convIdx c s).length).map (fun (t : Nat) => r.2 (t : Int)) ∧
    (∀ x : Int, ¬ (0 ≤ x ∧ x < ((convIdx c s).length : Int)) → r.2 x = res0 x) :=
  eigenvalues_fold K c s res0

/--
  **`eigenvectors(nvec)` as written in both base classes**: the translated loop copies stored Ritz vector `colsel[t]` into output
  column `t`; for every object state, every `nvec` and every `nconv`, the columns it fills are `0 .. j-1` with
  `j = min(min(nvec, nconv), #flagged)`, and the stored vectors it picks are, in order, the first `j` flagged indices — the
  model's `eigenvectorCoords` selection `(convIdx).take (min nvec nconv)`. -/
theorem c05_eigenvectors_loop_from_source (s : St φ ρ ε κ) (nvec : Nat) (c0 : Int → Int) :
    let r := Gen.Access.hermEigenvectors_loop (c.nev : Int) (fun i => s.ritzConv.getD i.toNat false) (nvec : Int)
                ((Orch.countTrue s.ritzConv : Nat) : Int) c0
    let m := min (min nvec (Orch.countTrue s.ritzConv)) (convIdx c s).length
    r.2.1 = (m : Int) ∧
    (convIdx c s).take (min nvec (Orch.countTrue s.ritzConv)) = (List.range m).map (fun (t : Nat) => (r.2.2 (t : Int)).toNat) ∧
    (∀ x : Int, ¬ (0 ≤ x ∧ x < (m : Int)) → r.2.2 x = c0 x) ∧
    Gen.Access.genEigenvectors_loop (c.nev : Int) (fun i => s.ritzConv.getD i.toNat false) (nvec : Int)
                ((Orch.countTrue s.ritzConv : Nat) : Int) c0 = r := by
  intro r m
  have hr : r = _ := hermEigenvectors_loop_eq c.nev _ nvec (Orch.countTrue s.ritzConv) c0
  rw [ListFold.intRange_zero, colFold_spec, ← AccessLemmas.convIdx_eq_idx] at hr
  have hm : ((convIdx c s).take (min nvec (Orch.countTrue s.ritzConv))).length = m := List.length_take
  refine ⟨by rw [hr, ← hm], ?_, ?_, rfl⟩
  · have := readback ((convIdx c s).take (min nvec (Orch.countTrue s.ritzConv))) (fun i => i) (fun x => (r.2.2 x).toNat)
      (by intro x hx; rw [hr]; exact congrArg Int.toNat (if_pos hx))
    rw [List.map_id', hm] at this
    exact this
  · intro x hx; rw [hr]; exact laidOut_outside _ _ _ x (by rw [hm]; exact hx)

end access

/-! ### `num_converged` as the source has it (`Gen.Conv`, the Eigen array expressions translated elementwise on every run) -/

section conv
variable {α : Type} [Add α] [Sub α] [Mul α] [Div α] [Neg α] [Sc α]

/--
  **The convergence flags of the symmetric family are the source's** : for every operator, configuration, tolerance and object
  state, the flag list the numeric instance of the orchestration model stores (`Orch.convFlags (hermKern …)`, the list every
  theorem about `ritzConv` talks about) is, entry by entry, the array `HermEigsBase::num_converged` assigns to `m_ritz_conv`:
  `abs(ritz_est[i]) * f_norm < tol * max(abs(ritz_val[i]), eps23)` over `head(m_nev)` with `f_norm() = beta`, and it has `m_nev`
  entries. -/
theorem c05_flags_from_source_herm (op : Arnoldi.Op α) (c : Cfg) (eps23 : α) (back : α → α) (tol : α)
    (s : St (Arnoldi.State α) α α (Lin.Vec α)) :
    convFlags (HermSolver.hermKern op c eps23 back) c tol s =
      (List.range c.nev).map (fun (j : Nat) => Gen.Conv.hermNumConverged_flag tol eps23 s.fac.beta
        (fun i => s.ritzVal.getD i.toNat Lin.zero) (fun i => s.ritzEst.getD i.toNat Lin.zero) (j : Int)) ∧
    Gen.Conv.hermNumConverged_len (c.nev : Int) = (c.nev : Int) := by
  refine ⟨?_, rfl⟩
  simp [convFlags, HermSolver.hermKern, HermSolver.convTest, Gen.Conv.hermNumConverged_flag]

/-- the same for the general family (`GenEigsBase::num_converged`, complex `abs`) -/
theorem c05_flags_from_source_gen (op : Arnoldi.Op α) (c : Cfg) (eps23 : α) (back : GenSolver.Cx α → GenSolver.Cx α) (tol : α)
    (s : St (Arnoldi.State α) (GenSolver.Cx α) (GenSolver.Cx α) (Lin.Vec (GenSolver.Cx α))) :
    convFlags (GenSolver.genKern op c eps23 back) c tol s =
      (List.range c.nev).map (fun (j : Nat) => Gen.Conv.genNumConverged_flag tol eps23 s.fac.beta
        (fun i => s.ritzVal.getD i.toNat GenSolver.czero) (fun i => s.ritzEst.getD i.toNat GenSolver.czero) (j : Int)) ∧
    Gen.Conv.genNumConverged_len (c.nev : Int) = (c.nev : Int) := by
  refine ⟨?_, rfl⟩
  simp [convFlags, GenSolver.genKern, GenSolver.convTest, Gen.Conv.genNumConverged_flag]

end conv

/-! ### The copy loops of `retrieve_ritzpair` / `sort_ritzpair` as the source has them (`Gen.Copy`) -/

section copy
open CopyLemmas

/--
  **`retrieve_ritzpair` as written in `HermEigsBase.h`**: whenever the small eigen-solver and the selection sort succeed, the
  Ritz values, the Ritz estimates (last row of the eigenvector matrix, row `m_ncv - 1`) and the choice of eigenvector columns the
  model's `retrieve` stores are exactly what the source's two loops leave in `m_ritz_val[0..ncv)`, `m_ritz_est[0..ncv)` and
  `m_ritz_vec.col(0..nev)` — for every kernel behaviour, every index vector and every prior content of the targets. -/
theorem c05_retrieve_from_source {α : Type} [Add α] [Sub α] [Mul α] [Div α] [Neg α] [Sc α]
    {φ κ β τ ω : Type} (K : Kern φ α α κ β τ ω) (c : Cfg) (sel : Int) (s : St φ α α κ)
    (evals lastRow : List α) (cols : List κ) (ind : List Nat)
    (he : K.eig s.fac = .ok (evals, lastRow, cols)) (hs : K.select sel evals c.ncv = .ok ind)
    (v0 e0 : Int → α) (s0 : Int → Int) :
    let r := Gen.Copy.hermRetrieve_loops (c.nev : Int) (c.ncv : Int) (fun i => evals.getD i.toNat K.zeroρ)
                (fun i => lastRow.getD i.toNat K.zeroε) (fun i => ((ind.getD i.toNat 0 : Nat) : Int)) v0 e0 s0
    (retrieve K c sel s).1.ritzVal = (List.range c.ncv).map (fun (i : Nat) => r.1 i) ∧
    (retrieve K c sel s).1.ritzEst = (List.range c.ncv).map (fun (i : Nat) => r.2.1 i) ∧
    (retrieve K c sel s).1.ritzVec = (List.range c.nev).map (fun (i : Nat) => cols.getD (r.2.2 i).toNat K.zeroκ) ∧
    Gen.Copy.hermRetrieve_loops_estRow (c.ncv : Int) = (c.ncv : Int) - 1 := by
  intro r
  have h := retrieve_arrays K c sel s evals lastRow cols ind he hs r v0 e0 s0 (retrieveFolds_spec c.nev c.ncv (fun i => evals.getD i.toNat K.zeroρ) (fun i => lastRow.getD i.toNat K.zeroε)
      (fun i => ((ind.getD i.toNat 0 : Nat) : Int)) v0 e0 s0)
  exact ⟨h.1, h.2.1, h.2.2, rfl⟩

/-- the same for `GenEigsBase::retrieve_ritzpair` -/
theorem c05_retrieve_from_source_gen {α : Type} [Add α] [Sub α] [Mul α] [Div α] [Neg α] [Sc α]
    {φ κ β τ ω : Type} (K : Kern φ (α × α) (α × α) κ β τ ω) (c : Cfg) (sel : Int) (s : St φ (α × α) (α × α) κ)
    (evals lastRow : List (α × α)) (cols : List κ) (ind : List Nat)
    (he : K.eig s.fac = .ok (evals, lastRow, cols)) (hs : K.select sel evals c.ncv = .ok ind)
    (v0 e0 : Int → α × α) (s0 : Int → Int) :
    let r := Gen.Copy.genRetrieve_loops (c.nev : Int) (c.ncv : Int) (fun i => evals.getD i.toNat K.zeroρ)
                (fun i => lastRow.getD i.toNat K.zeroε) (fun i => ((ind.getD i.toNat 0 : Nat) : Int)) v0 e0 s0
    (retrieve K c sel s).1.ritzVal = (List.range c.ncv).map (fun (i : Nat) => r.1 i) ∧
    (retrieve K c sel s).1.ritzEst = (List.range c.ncv).map (fun (i : Nat) => r.2.1 i) ∧
    (retrieve K c sel s).1.ritzVec = (List.range c.nev).map (fun (i : Nat) => cols.getD (r.2.2 i).toNat K.zeroκ) ∧
    Gen.Copy.genRetrieve_loops_estRow (c.ncv : Int) = (c.ncv : Int) - 1 := by
  intro r
  have h := retrieve_arrays K c sel s evals lastRow cols ind he hs r v0 e0 s0 (retrieveFolds_spec c.nev c.ncv (fun i => evals.getD i.toNat K.zeroρ) (fun i => lastRow.getD i.toNat K.zeroε)
      (fun i => ((ind.getD i.toNat 0 : Nat) : Int)) v0 e0 s0)
  exact ⟨h.1, h.2.1, h.2.2, rfl⟩

/--
  **`sort_ritzpair` as written in `HermEigsBase.h`**: when the final sort succeeds with index vector `ind`, the values, the
  vector columns and the convergence flags the model's `sortRitz` stores are what the source's single loop writes to
  `new_ritz_val[0..nev)`, `new_ritz_vec.col(0..nev)`, `new_ritz_conv[0..nev)` (which the three `swap`s — checked by the
  translator — then install): one index vector for all three, for every kernel and every state. -/
theorem c05_sort_from_source {α : Type} [Add α] [Sub α] [Mul α] [Div α] [Neg α] [Sc α]
    {φ ε κ β τ ω : Type} (K : Kern φ α ε κ β τ ω) (c : Cfg) (rule : Int) (s : St φ α ε κ) (ind : List Nat)
    (hs : K.sortIdx rule (mapHead c.nev K.backTransform s.ritzVal) c.nev = .ok ind)
    (v0 : Int → α) (s0 : Int → Int) (c0 : Int → Bool) :
    let vals := mapHead c.nev K.backTransform s.ritzVal
    let r := Gen.Copy.hermSort_loop (c.nev : Int) (c.ncv : Int) (fun i => vals.getD i.toNat K.zeroρ)
                (fun i => s.ritzConv.getD i.toNat false) (fun i => ((ind.getD i.toNat 0 : Nat) : Int)) v0 s0 c0
    (sortRitz K c rule s).1.ritzVal = (List.range c.ncv).map (fun (i : Nat) => if i < c.nev then r.1 i else K.zeroρ) ∧
    (sortRitz K c rule s).1.ritzVec = (List.range c.nev).map (fun (i : Nat) => s.ritzVec.getD (r.2.1 i).toNat K.zeroκ) ∧
    (sortRitz K c rule s).1.ritzConv = (List.range c.nev).map (fun (i : Nat) => r.2.2 i) := by
  intro vals r
  exact sortRitz_arrays K c rule s ind hs r v0 s0 c0 (sortFold_spec c.nev (fun i => vals.getD i.toNat K.zeroρ) (fun i => s.ritzConv.getD i.toNat false)
      (fun i => ((ind.getD i.toNat 0 : Nat) : Int)) v0 s0 c0)

/-- the same for `GenEigsBase::sort_ritzpair` -/
theorem c05_sort_from_source_gen {α : Type} [Add α] [Sub α] [Mul α] [Div α] [Neg α] [Sc α]
    {φ ε κ β τ ω : Type} (K : Kern φ (α × α) ε κ β τ ω) (c : Cfg) (rule : Int) (s : St φ (α × α) ε κ) (ind : List Nat)
    (hs : K.sortIdx rule (mapHead c.nev K.backTransform s.ritzVal) c.nev = .ok ind)
    (v0 : Int → α × α) (s0 : Int → Int) (c0 : Int → Bool) :
    let vals := mapHead c.nev K.backTransform s.ritzVal
    let r := Gen.Copy.genSort_loop (c.nev : Int) (c.ncv : Int) (fun i => vals.getD i.toNat K.zeroρ)
                (fun i => s.ritzConv.getD i.toNat false) (fun i => ((ind.getD i.toNat 0 : Nat) : Int)) v0 s0 c0
    (sortRitz K c rule s).1.ritzVal = (List.range c.ncv).map (fun (i : Nat) => if i < c.nev then r.1 i else K.zeroρ) ∧
    (sortRitz K c rule s).1.ritzVec = (List.range c.nev).map (fun (i : Nat) => s.ritzVec.getD (r.2.1 i).toNat K.zeroκ) ∧
    (sortRitz K c rule s).1.ritzConv = (List.range c.nev).map (fun (i : Nat) => r.2.2 i) := by
  intro vals r
  exact sortRitz_arrays K c rule s ind hs r v0 s0 c0 (sortFold_spec c.nev (fun i => vals.getD i.toNat K.zeroρ) (fun i => s.ritzConv.getD i.toNat false)
      (fun i => ((ind.getD i.toNat 0 : Nat) : Int)) v0 s0 c0)

end copy

/-! ### Non-vacuity and the refuted full-strength statement -/

/-- a concrete kernel record (everything trivial; every Ritz pair passes the convergence test) -/
def toyK : Kern Unit Nat Nat Nat Unit Unit Nat :=
  { zeroρ := 0, zeroε := 0, zeroκ := 0,
    facInit := fun _ f => ⟨f, 1, none⟩, factorize := fun _ _ f => ⟨f, 1, none⟩, facDim := fun _ => 1,
    eig := fun _ => .ok ([5, 7], [0, 0], [1, 2]), select := fun _ _ n => .ok (List.range n),
    convTest := fun _ _ _ _ => true, nevAdj := fun c _ _ _ => c.nev, restartFac := fun _ _ f => ⟨f, 1, none⟩,
    backTransform := id, sortIdx := fun _ _ n => .ok (List.range n), assemble := fun _ k => k }
def toyC : Cfg := ⟨3, 1, 2⟩

/-- the hypotheses of the theorems above are satisfiable, and a run through them gives a consistent answer -/
example : SortPerm toyK toyC ∧
    (compute toyK toyC 0 5 () 0 (init toyK toyC () (construct ())).1).out = .ok 1 ∧
    (eigenvalues toyK toyC (compute toyK toyC 0 5 () 0 (init toyK toyC () (construct ())).1).st) = [5] := by
  refine ⟨?_, rfl, rfl⟩
  intro rule vals ind h
  simp only [toyK, Except.ok.injEq] at h
  subst h; exact List.Perm.refl _

/-- the history `init(); compute(); compute(maxit = 0)`, which needs the post-loop refresh: the second call re-evaluates the flags
    (return value 1, one eigenvalue) -/
example :
    (compute toyK toyC 0 0 () 0 (compute toyK toyC 0 5 () 0 (init toyK toyC () (construct ())).1).st).out = .ok 1 ∧
    (eigenvalues toyK toyC (compute toyK toyC 0 0 () 0 (compute toyK toyC 0 5 () 0 (init toyK toyC () (construct ())).1).st).st).length = 1 :=
  ⟨rfl, rfl⟩

end C05
