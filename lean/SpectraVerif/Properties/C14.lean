/-
  C14 — a failing user operator is contained: the exception propagates unchanged, the solver stays usable.

  Orchestration level (all kernels, all fault positions): the model of `init`/`compute` contains no `catch` and no `throw` of its
  own, so (1) an exception reported by any kernel call is the outcome of the public call, unchanged, and no later kernel call is
  made (`c14_propagates_*`), (2) every exception that leaves the public call is one a kernel reported (`c14_no_invention`), and
  (3) from ANY state — in particular the state an interrupted call left behind, at whatever point — a new `init(v); compute(args)`
  is observationally identical to the same calls on a solver that never saw the fault (`c14_recover`).
  Kernel level (`Model/FaultOp.lean`: the Arnoldi/Lanczos kernels written once as computations over an operator that may fail):
  with an operator that never fails they ARE the total models of C07/C05 (`c14_kernel_faultfree*`); if the k-th application
  fails with `e` the kernel call ends with exactly `e`, makes no later application and leaves the operation counter at k-1
  (`c14_kernel_propagates`, `c14_opcount_prefix`) — proved for EVERY computation over the operator, hence for every kernel, size,
  input and fault index; lifted through `Orch.init`/`Orch.compute` to the whole solver for every fault index from 1 to the number
  of applications of the fault-free run (`c14_propagates`).
  General family (`Model/FaultOpGen.lean`: `genKernF` = `GenSolver.genKern` with `Arnoldi::init`, `Arnoldi::factorize_from` and the
  re-factorization that ends `GenEigsBase::restart` routed through the fallible operator): `c14_gen_kernel_faultfree`
  (`genKernF op (never op.A) = genKern op`), `c14_gen_propagates` (every fault index 1 ≤ k ≤ `num_operations()` of the fault-free
  `init; compute`, from any prior object state), `c14_gen_opcount_at_throw`, `c14_gen_recover` (recovery with `Respects`
  discharged by C06's `gen_respects`: unconditional).
  Source facts regenerated on every run (`Gen.FaultFootprint`): no raw allocation in any function of the solver, factorization and
  helper classes, and the only try/catch is a catch-all `catch (...)` that restores the operator's shift and rethrows the same exception
  object with a bare `throw;`; no caught object is re-thrown by value anywhere (`c14_no_leak`, `c14_rethrow_same_object`), `SparseRegularInverse::solve` is a conforming thrower (`c14_lib_thrower`).
-/
import SpectraVerif.Properties.C06
import SpectraVerif.Properties.C12
import SpectraVerif.Proofs.C14Orch
import SpectraVerif.Gen.FaultFootprint

set_option linter.unusedSectionVars false

namespace C14
open Orch

variable {φ ρ ε κ β τ ω : Type} (K : Kern φ ρ ε κ β τ ω) (c : Cfg) {R : φ → φ → Prop}

/-- a fault in `m_fac.init` is the outcome of `init()` -/
theorem c14_propagates_init (v0 : β) (s : St φ ρ ε κ) : (init K c v0 s).2 = (K.facInit v0 s.fac).exn :=
  init_propagates K c v0 s

/-- a fault in the initial factorization is the outcome of `compute()` -/
theorem c14_propagates_factorize (sel : Int) (maxit : Nat) (tol : τ) (sorting : Int) (s : St φ ρ ε κ) (e : Exn)
    (h : (K.factorize (max 1 (K.facDim s.fac)) c.ncv s.fac).exn = some e) : (compute K c sel maxit tol sorting s).out = .error e :=
  compute_propagates_factorize K c sel maxit tol sorting s e h

/-- a fault inside a restart's re-factorization is the outcome of that restart (and thereby of the loop and of `compute`) -/
theorem c14_propagates_restart (k : Nat) (sel : Int) (s : St φ ρ ε κ) (e : Exn) (hk : k < c.ncv)
    (h : (K.restartFac k s.ritzVal s.fac).exn = some e) : (restart K c k sel s).2 = some e :=
  restart_propagates K c k sel s e hk h

/-- nothing is invented or translated: whatever leaves `compute` was reported by a kernel -/
theorem c14_no_invention (sel : Int) (maxit : Nat) (tol : τ) (sorting : Int) (s : St φ ρ ε κ) (e : Exn)
    (h : (compute K c sel maxit tol sorting s).out = .error e) : Raised K e :=
  compute_raised K c sel maxit tol sorting s e h

/-- **recovery**: for EVERY state `sFault` (reachable or not — in particular whatever an interrupted `init`/`compute` left
    behind, after one fault or several) a new `init(v); compute(args)` is observationally identical to the same calls on a
    solver whose history `hist` never saw a fault. -/
theorem c14_recover (hK : Respects K R) (sFault : St φ ρ ε κ) (fac0 : φ) (hist : List (Call β τ))
    (v0 : β) (sel : Int) (maxit : Nat) (tol : τ) (sorting : Int) (nvecs : List Nat) :
    C06.SameObs K c nvecs
      (compute K c sel maxit tol sorting (init K c v0 sFault).1)
      (compute K c sel maxit tol sorting (init K c v0 (run K c (construct fac0) hist)).1) :=
  (C06.c06_init_total K c hK sFault _ v0 sel maxit tol sorting nvecs).2

/-- the state at the throw point keeps `info()` and `num_iterations()` of before the call (nothing half-updated is visible there) -/
theorem c14_fault_keeps_status (sel : Int) (maxit : Nat) (tol : τ) (sorting : Int) (s : St φ ρ ε κ) (e : Exn)
    (h : (compute K c sel maxit tol sorting s).out = .error e) :
    (compute K c sel maxit tol sorting s).st.info = s.info ∧ (compute K c sel maxit tol sorting s).st.niter = s.niter :=
  compute_error_info K c sel maxit tol sorting s e h

/-! ### kernel level: operator that throws at its k-th application -/

section kernel
open FaultOp FaultOp.Prog Lin Arnoldi
variable {α : Type} [Add α] [Sub α] [Mul α] [Div α] [Neg α] [Sc α]

/-- **fault-free = the existing total models** (every computation over the operator): the run with an operator that never
    fails returns the total evaluation, the counter advances by the number of applications, the operator sees the same vectors -/
theorem c14_kernel_faultfree {β : Type} (A : Vec α → Vec α) (p : Prog α β) (c0 : Nat) :
    p.runF (never A) c0 = ⟨.ok (p.evalT A), c0 + p.count A, p.log A⟩ :=
  runF_never A p c0

/-- … and the total evaluation of the fault-aware kernels is `Arnoldi.init`, `Arnoldi.expand_basis`, `Arnoldi.factorize_from`,
    `Lanczos.factorize_from` of `Model/Arnoldi.lean` / `Model/Lanczos.lean` (the models tied bit-exactly to the C++ by C07/C05),
    with the state's operation counter advanced by exactly the number of applications -/
theorem c14_kernel_faultfree_models (op : Op α) (s : State α) (v0 : Vec α) (a b : Nat) (eps : α) (V : Mat α) (i : Nat) (seed : Int)
    (f0 : Vec α) (fn0 : α) (ops0 : Nat) :
    (initF op s v0).evalT op.A = Arnoldi.init op s v0 ∧
    (expand_basisF op eps V i seed f0 fn0 ops0).evalT op.A = Arnoldi.expand_basis op eps V i seed f0 fn0 ops0 ∧
    (arnoldiFactorizeF op s a b).evalT op.A = Arnoldi.factorize_from op s a b ∧
    (lanczosFactorizeF op s a b).evalT op.A = Lanczos.factorize_from op s a b ∧
    (∀ s', Arnoldi.init op s v0 = some s' → s'.ops = s.ops + (initF op s v0).count op.A) ∧
    (∀ s', Arnoldi.factorize_from op s a b = some s' → s'.ops = s.ops + (arnoldiFactorizeF op s a b).count op.A) ∧
    (∀ s', Lanczos.factorize_from op s a b = some s' → s'.ops = s.ops + (lanczosFactorizeF op s a b).count op.A) :=
  ⟨initF_eval op s v0, expand_basisF_eval op eps V i seed f0 fn0 ops0, arnoldiFactorizeF_eval op s a b,
    lanczosFactorizeF_eval op s a b, initF_count op s v0, arnoldiFactorizeF_count op s a b,
    lanczosFactorizeF_count op s a b⟩

/-- … and so are the solver's kernels: `hermKernF` with an operator that never fails IS `HermSolver.hermKern` -/
theorem c14_kernel_faultfree_solver (op : Op α) (c : Cfg) (eps23 : α) (back : α → α) :
    hermKernF op (never op.A) c eps23 back = HermSolver.hermKern op c eps23 back :=
  hermKernF_never op c eps23 back

/-- **propagation at kernel level**, every computation `p` over the operator (in particular `initF`, `expand_basisF`,
    `arnoldiFactorizeF`, `lanczosFactorizeF`, `restartFacF`), every start value `c0` of the application counter, every fault index `k` in the window of the
    call (`c0 < k ≤ c0 + number of applications the fault-free call makes`): the call ends with exactly `e` — nothing is caught,
    nothing else is thrown — and the vectors handed to the operator are the first `k - c0` of the fault-free call: no later
    application is made -/
theorem c14_kernel_propagates {β : Type} (A : Vec α → Vec α) (k : Nat) (e : Exn) (p : Prog α β) (c0 : Nat)
    (h1 : c0 < k) (h2 : k ≤ c0 + p.count A) :
    (p.runF (faultAt A k e) c0).out = .error e ∧
    (p.runF (faultAt A k e) c0).entered = (p.log A).take (k - c0) ∧
    (p.runF (faultAt A k e) c0).entered.length = k - c0 := by
  rw [runF_faultAt_hit A k e p c0 h1 h2]
  refine ⟨rfl, rfl, ?_⟩
  simp only [List.length_take, log_length]
  omega

/-- **the counter passed by reference** holds `k - 1` when the exception of the `k`-th application leaves the call
    (`op_counter++` follows `perform_op`), while the operator has been entered `k` times (previous theorem) -/
theorem c14_opcount_prefix {β : Type} (A : Vec α → Vec α) (k : Nat) (e : Exn) (p : Prog α β) (c0 : Nat)
    (h1 : c0 < k) (h2 : k ≤ c0 + p.count A) : (p.runF (faultAt A k e) c0).cnt = k - 1 := by
  rw [runF_faultAt_hit A k e p c0 h1 h2]

/-- a fault index outside the window of a call leaves the call exactly as the fault-free one -/
theorem c14_kernel_unaffected {β : Type} (A : Vec α → Vec α) (k : Nat) (e : Exn) (p : Prog α β) (c0 : Nat)
    (h : k ≤ c0 ∨ c0 + p.count A < k) : p.runF (faultAt A k e) c0 = p.runF (never A) c0 :=
  runF_faultAt_miss A k e p c0 h

/-- **propagation through the whole solver**: symmetric solver built from the fault-aware kernels, operator whose `k`-th
    application since `init()` throws `e`, ANY object state `s` before the call, any arguments.  If the fault-free `init(v)`
    succeeds and `1 ≤ k ≤` the number of applications of the fault-free `init(v); compute(args)` (its `num_operations()`),
    then the faulted `init(v)` ends with `e`, or it returns normally and the faulted `compute(args)` ends with `e`. -/
theorem c14_propagates (op : Op α) (c : Cfg) (eps23 : α) (back : α → α) (k : Nat) (e : Exn) (hk : 1 ≤ k)
    (s : St (State α) α α (Vec α)) (v0 : Vec α) (sel : Int) (maxit : Nat) (tol : α) (sorting : Int)
    (hinit : (init (HermSolver.hermKern op c eps23 back) c v0 s).2 = none)
    (hK : k ≤ (compute (HermSolver.hermKern op c eps23 back) c sel maxit tol sorting
      (init (HermSolver.hermKern op c eps23 back) c v0 s).1).st.nmatop) :
    (init (hermKernF op (faultAt op.A k e) c eps23 back) c v0 s).2 = some e ∨
    ((init (hermKernF op (faultAt op.A k e) c eps23 back) c v0 s).2 = none ∧
      (compute (hermKernF op (faultAt op.A k e) c eps23 back) c sel maxit tol sorting
        (init (hermKernF op (faultAt op.A k e) c eps23 back) c v0 s).1).out = .error e) := by
  rw [hermKernF_eq]
  exact init_compute_faulted _ c _ _ _ (hermKernF_faultedBy op c eps23 back k e hk) v0 sel maxit tol sorting s hinit hK

/-- the same for EVERY kernel record (general solvers, generalized solvers, B-operator faults): kernels that agree with the
    fault-free ones or report `e`, and never complete a `k`-th application -/
theorem c14_propagates_any_kernels (fi : β → φ → FacRes φ) (fz : Nat → Nat → φ → FacRes φ) (rf : Nat → List ρ → φ → FacRes φ)
    (cnt : φ → Nat) (k : Nat) (e : Exn) (hF : FaultedBy K fi fz rf cnt k e)
    (s : St φ ρ ε κ) (v0 : β) (sel : Int) (maxit : Nat) (tol : τ) (sorting : Int)
    (hinit : (init K c v0 s).2 = none) (hK : k ≤ (compute K c sel maxit tol sorting (init K c v0 s).1).st.nmatop) :
    (init (withFac K fi fz rf) c v0 s).2 = some e ∨
    ((init (withFac K fi fz rf) c v0 s).2 = none ∧
      (compute (withFac K fi fz rf) c sel maxit tol sorting (init (withFac K fi fz rf) c v0 s).1).out = .error e) :=
  init_compute_faulted K c fi fz rf hF v0 sel maxit tol sorting s hinit hK

end kernel


/-! ### the general family: GenEigsSolver / GenEigsRealShiftSolver with an operator that throws at its k-th application -/

section genkernel
open FaultOp FaultOpGen Lin Arnoldi
variable {α : Type} [Add α] [Sub α] [Mul α] [Div α] [Neg α] [Sc α]

/-- **fault-free = the existing total model**: `genKernF` with an operator that never fails IS `GenSolver.genKern` (the record
    tied bit for bit to `GenEigsSolver` / `GenEigsRealShiftSolver` by C02/C05/C06) -/
theorem c14_gen_kernel_faultfree (op : Op α) (c : Cfg) (eps23 : α) (back : GenSolver.Cx α → GenSolver.Cx α) :
    genKernF op (never op.A) c eps23 back = GenSolver.genKern op c eps23 back :=
  genKernF_never op c eps23 back

/-- … and the re-factorization of the general family's restart under a total operator is `GenSolver.restartFac`; the shift loop
    (single and double shifts), `compress_H` and `compress_V` apply no operator and do not move the counter -/
theorem c14_gen_kernel_faultfree_restart (op : Op α) (c : Cfg) (k : Nat) (ritzVal : List (GenSolver.Cx α)) (s : State α) :
    GenSolver.restartFac op c.ncv k ritzVal s =
      (match (restartFacGF op c.ncv k ritzVal s).evalT op.A with
       | some s3 => ⟨s3, s3.ops - s.ops, none⟩
       | none => ⟨restartPreG op c.ncv k ritzVal s, 0,
           some (.invalidArgument "Arnoldi: from_k is larger than the current subspace dimension")⟩) ∧
    (restartPreG op c.ncv k ritzVal s).ops = s.ops :=
  ⟨restartFacGF_eval op c k ritzVal s, restartPreG_ops op c.ncv k ritzVal s⟩

/-- **propagation through the whole solver, general family**: solver built from the fault-aware kernels, operator whose `k`-th
    application since `init()` throws `e`, ANY object state `s` before the call, any arguments.  If the fault-free `init(v)`
    succeeds and `1 ≤ k ≤` the number of applications of the fault-free `init(v); compute(args)` (its `num_operations()`), then
    the faulted `init(v)` ends with `e`, or it returns normally and the faulted `compute(args)` ends with `e`. -/
theorem c14_gen_propagates (op : Op α) (c : Cfg) (eps23 : α) (back : GenSolver.Cx α → GenSolver.Cx α) (k : Nat) (e : Exn) (hk : 1 ≤ k)
    (s : St (State α) (GenSolver.Cx α) (GenSolver.Cx α) (Vec (GenSolver.Cx α))) (v0 : Vec α)
    (sel : Int) (maxit : Nat) (tol : α) (sorting : Int)
    (hinit : (init (GenSolver.genKern op c eps23 back) c v0 s).2 = none)
    (hK : k ≤ (compute (GenSolver.genKern op c eps23 back) c sel maxit tol sorting
      (init (GenSolver.genKern op c eps23 back) c v0 s).1).st.nmatop) :
    (init (genKernF op (faultAt op.A k e) c eps23 back) c v0 s).2 = some e ∨
    ((init (genKernF op (faultAt op.A k e) c eps23 back) c v0 s).2 = none ∧
      (compute (genKernF op (faultAt op.A k e) c eps23 back) c sel maxit tol sorting
        (init (genKernF op (faultAt op.A k e) c eps23 back) c v0 s).1).out = .error e) := by
  rw [genKernF_eq]
  exact c14_propagates_any_kernels _ c _ _ _ (fun s => s.ops) k e (genKernF_faultedBy op c eps23 back k e hk)
    s v0 sel maxit tol sorting hinit hK

/-- **the counter at the throw**: a `factorize_from` call of the general family whose window contains the fault index reports
    exactly `e`, counts `k - 1 - (counter before)` applications into `m_nmatop` and leaves the counter at `k - 1` -/
theorem c14_gen_opcount_at_throw (op : Op α) (c : Cfg) (eps23 : α) (back : GenSolver.Cx α → GenSolver.Cx α) (k : Nat) (e : Exn)
    (a b : Nat) (s : State α) (h1 : s.ops < k) (h2 : k ≤ s.ops + (arnoldiFactorizeF op s a b).count op.A) :
    ((genKernF op (faultAt op.A k e) c eps23 back).factorize a b s).exn = some e ∧
    ((genKernF op (faultAt op.A k e) c eps23 back).factorize a b s).ops = k - 1 - s.ops ∧
    ((genKernF op (faultAt op.A k e) c eps23 back).factorize a b s).fac.ops = k - 1 := by
  rw [genKernF_factorize_hit op c eps23 back k e a b s h1 h2]
  exact ⟨rfl, rfl, rfl⟩

/-- **recovery, general family, no hypothesis on the kernels**: for EVERY well-formed state `sFault` (whatever an interrupted
    `init`/`compute` left behind: the faulted kernels never write the `const` members) a new `init(v); compute(args)` with the
    fault cleared is observationally identical to the same calls on a solver whose history never saw a fault. -/
theorem c14_gen_recover (op : Op α) (c : Cfg) (eps23 : α) (back : GenSolver.Cx α → GenSolver.Cx α) (near0 eps : α)
    (sFault : C06Footprint.GSt α) (hwf : C06Footprint.WfG c near0 eps sFault) (hist : List (Call (Vec α) α))
    (v0 : Vec α) (sel : Int) (maxit : Nat) (tol : α) (sorting : Int) (nvecs : List Nat)
    (hacc : (init (GenSolver.genKern op c eps23 back) c v0 sFault).2 = none) :
    C06.SameObs (GenSolver.genKern op c eps23 back) c nvecs
      (compute (GenSolver.genKern op c eps23 back) c sel maxit tol sorting (init (GenSolver.genKern op c eps23 back) c v0 sFault).1)
      (compute (GenSolver.genKern op c eps23 back) c sel maxit tol sorting (init (GenSolver.genKern op c eps23 back) c v0
        (run (GenSolver.genKern op c eps23 back) c (construct (State.mk0 c.n c.ncv near0 eps)) hist)).1) :=
  (C06.c06_gen_init_total op c eps23 back near0 eps sFault _ hwf
    (C06Footprint.gen_run_wf op c eps23 back near0 eps hist (C06Footprint.gen_construct_wf c near0 eps))
    v0 sel maxit tol sorting nvecs).2 hacc

/-- the faulted kernels keep the object well formed (so `c14_gen_recover` applies to whatever a faulted call leaves behind):
    on the exception path `facRes` returns the object of before the call with only the counter changed -/
theorem c14_gen_fault_keeps_consts (op : Op α) (c : Cfg) (eps23 : α) (back : GenSolver.Cx α → GenSolver.Cx α) (k : Nat) (e : Exn)
    (a b : Nat) (s : State α) (h1 : s.ops < k) (h2 : k ≤ s.ops + (arnoldiFactorizeF op s a b).count op.A) :
    C06Footprint.consts ((genKernF op (faultAt op.A k e) c eps23 back).factorize a b s).fac = C06Footprint.consts s := by
  rw [genKernF_factorize_hit op c eps23 back k e a b s h1 h2]
  rfl

end genkernel

/-! ### nothing leaks, nothing swallows: source facts regenerated on every run -/

open Gen.FaultFootprint in
/-- in every function (constructors, destructors, all members) of every solver, factorization, decomposition and wrapper class
    of namespace Spectra outside the contrib/Davidson families there is NO raw `new`/`delete`/`malloc`/`free` expression; every
    member function the property names was found and scanned; the ONLY `try`/`catch` is the one in
    `GenEigsComplexShiftSolver::sort_ritzpair` (repair of C14-F1), whose single handler is a catch-all `catch (...)` with exactly
    two statements: the call `m_op.set_shift(m_sigmar, m_sigmai)` (re-install the constructor's shift in the user's operator) and
    a bare `throw;` as the LAST statement — a rethrow of the SAME exception object — and no other throw; the only rethrow in the
    scanned classes is that one, every other thrown type is one of the three standard ones.
    So every local of `restart`/`compute`/`factorize_from`/`expand_basis`/`retrieve_ritzpair`/`sort_ritzpair` is an automatic
    object (unwinding destroys it: `c14_unwind_frees_all`), and nothing between the operator and the caller swallows the user's
    exception or replaces it by another one (any other handler, a handler that does not end in `throw;`, a typed handler, or
    any further call inside the handler changes the regenerated lists and breaks this theorem).
    The handler IS A CATCH-ALL: the third component `true` of `catch_handlers` and the exception-declaration `"..."` in
    `catch_handler_decl` say `catch (...)`, not `catch (const std::exception&)` — the user's operator may signal failure with
    ANY type (`throw 42;`, a struct that is not derived from `std::exception`), and a typed handler lets those pass without
    re-installing the shift (seeded change seeded/C14-shift-restoring-catch-narrowed-to-std-exception; failing input: harness fault kinds raw_struct / int / cstring in a
    probing solve).  The re-throw is the BARE `throw;` (fourth component `true`, the handler's only throw expression), and
    `rethrow_by_value = []`: nowhere in the scanned classes is a caught object thrown again by value (`throw e;` creates a new
    object of the handler's declared type: the user's exception is sliced, dynamic type and payload are lost; seeded change
    seeded/C14-gen-compute-catch-rethrow-slices, failing input: `exception-sliced`), nor transported through `std::exception_ptr`/`throw_with_nested`.
    `catch_handler_decl` lists the exception-declaration of EVERY catch clause of the scanned classes with its function, so a
    typed handler anywhere — e.g. `catch (const std::invalid_argument&) { throw std::invalid_argument("friendlier text"); }`
    around `m_fac.init()` in `HermEigsBase::init`, which also intercepts a USER exception derived from `std::invalid_argument`
    thrown by the operator during `init()` and replaces it by another object (seeded change seeded/C14-init-catch-invalid-argument-replaces-user-exception; failing input:
    harness fault kind invalid_argument_rich at an application inside `init()`, `exception-replaced`) — adds an entry
    (and entries to `try_catch`, `catch_handlers`, `throws`) and breaks this theorem and `c14_rethrow_same_object`. -/
theorem c14_no_leak :
    raw_alloc = [] ∧ required_missing = [] ∧
    try_catch = [("GenEigsComplexShiftSolver", "sort_ritzpair", "catch"), ("GenEigsComplexShiftSolver", "sort_ritzpair", "try")] ∧
    catch_handlers = [("GenEigsComplexShiftSolver", "sort_ritzpair", true, true, ["m_op.set_shift(m_sigmar,m_sigmai)"])] ∧
    catch_handler_shape = [("GenEigsComplexShiftSolver", "sort_ritzpair", 2, 1)] ∧
    catch_handler_decl = [("GenEigsComplexShiftSolver", "sort_ritzpair", "...")] ∧
    rethrow_by_value = [] ∧
    (∀ t ∈ throws, t.2.2 = "std::invalid_argument" ∨ t.2.2 = "std::logic_error" ∨ t.2.2 = "std::runtime_error" ∨
      t = ("GenEigsComplexShiftSolver", "sort_ritzpair", "rethrow")) ∧
    (throws.filter (fun t => t.2.2 == "rethrow")).length = catch_handlers.length ∧
    scanned.length ≥ 40 :=
  ⟨by decide, by decide, by decide, by decide, by decide, by decide, by decide, by decide, by decide, by decide⟩

open Gen.FaultFootprint in
/-- the same facts in the form the property uses them, for EVERY handler of the scanned classes (however many there are): each
    handler is a catch-all `catch (...)` — it runs for an exception of ANY type, derived from `std::exception` or not —, its last
    statement is a bare `throw;` and that is its only throw expression, so the exception object that entered the handler is the
    one that leaves it (same dynamic type, same payload, no copy); no `throw <caught variable>;` and no exception-transport call
    exists in any scanned function; and every `throw;` of the scanned classes sits in a function that has such a handler. -/
theorem c14_rethrow_same_object :
    (∀ h ∈ catch_handlers, h.2.2.1 = true ∧ h.2.2.2.1 = true) ∧
    (∀ d ∈ catch_handler_decl, d.2.2 = "...") ∧
    (∀ sh ∈ catch_handler_shape, sh.2.2.2 = 1) ∧
    rethrow_by_value = [] ∧
    (∀ t ∈ throws, t.2.2 = "rethrow" → ∃ h ∈ catch_handlers, h.1 = t.1 ∧ h.2.1 = t.2.1) ∧
    catch_handlers.length = catch_handler_decl.length :=
  ⟨by decide +kernel, by decide +kernel, by decide +kernel, by decide +kernel, by decide +kernel, by decide +kernel⟩

/-- unwinding model (the one of C12): if every resource acquired before the throw point is owned by an automatic object,
    nothing is live after unwinding, wherever the exception is raised -/
theorem c14_unwind_frees_all (acts : List (C12.Own × Nat)) (h : ∀ a ∈ acts, a.1 = C12.Own.raii) (j : Nat) :
    C12.leakedAt acts j = [] :=
  C12.c12_no_raw_no_leak acts h j

open Gen.FaultFootprint in
/-- `SparseRegularInverse::solve` is a conforming thrower: it throws `std::runtime_error` exactly when CG did not converge,
    returns normally otherwise, assigns no member but its own (mutable) status `m_info` (`Successful` / `NotConverging`), and no
    solver/factorization class ever reads an operator's `info()` — so a failed solve leaves nothing behind the solver depends on -/
theorem c14_lib_thrower :
    (∀ ok, sri_solve_outcome ok = if ok then Res.ok () else Res.throw "std::runtime_error") ∧
    (∀ ok, sri_solve_info ok = if ok then 0 else 2) ∧
    sri_solve_assigned = ["m_info"] ∧ sri_mutable_members = ["m_info"] ∧ solver_reads_op_info = [] := by decide

-- non-vacuity of the kernel-level hypotheses: a two-application computation, fault at the second application
example : (((FaultOp.Prog.app #[(1 : Nat)] (fun y => FaultOp.Prog.app y (fun z => FaultOp.Prog.ret z.size))).runF
    (FaultOp.faultAt (fun x => x.push 0) 2 (Exn.user 7)) 0).out = Except.error (Exn.user 7)) := rfl
example : C12.leakedAt [(C12.Own.raii, 1), (C12.Own.raii, 2)] 1 = [] := by decide

end C14
