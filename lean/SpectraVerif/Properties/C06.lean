/-
  C06 — results depend only on the arguments; reruns are bit-identical; the operator is left untouched.

  1. Orchestration level (all kernels, all states, all histories): `init(v)` followed by `compute(args)` gives the same outcome,
     eigenvalues, eigenvectors, iteration count and operation count from ANY two object states — a freshly constructed solver, one
     reused after any history (including runs that did not converge or threw), or a second solver — provided the kernels read only
     the part of the factorization object that the factorization's own `init` rebuilds (`Orch.Respects K R`):
     `c06_init_total`, `c06_history_independent`, `c06_fresh_vs_reused`.
  2. The hypothesis is DISCHARGED for the numeric kernel record of the symmetric family (`HermSolver.hermKern`: the executable
     Lanczos / TridiagQR / TridiagEigen models that the driver runs bit for bit against `SymEigsSolver`/`SymEigsShiftSolver`) in
     `Proofs/C06Footprint.lean` (`herm_respects`), giving the UNCONDITIONAL `c06_herm_*` theorems: every operator, every
     (n, nev, ncv), every pair of object states carrying the constructor's constants (in particular: after every two histories),
     every argument tuple.  Bit-identity follows because every model function is a function: equal inputs give equal outputs
     (determinism of each hardware operation is in the trusted base).  The trace counters (`nexpand`, `nreorth`) are inert
     (`c06_trace_counters_inert`).
  2b. … and for the numeric kernel record of the GENERAL family (`GenSolver.genKern`: `Arnoldi.init`, `Arnoldi.factorize_from`, the
     single/double-shift loop with `UpperHessenbergQR`/`DoubleShiftQR`, `compress_H/V`, `HessEigen`, complex convergence test and
     `V*y`; run bit for bit against `GenEigsSolver`/`GenEigsRealShiftSolver` by `drv_c02`/`drv_c06`) in `Proofs/C06Gen.lean`
     (`gen_respects`), giving the UNCONDITIONAL `c06_gen_init_total`, `c06_gen_history_independent`, `c06_gen_fresh_vs_reused`,
     `c06_gen_two_solvers_*`; and for `GenEigsComplexShiftSolver` (`GenSolver.computeCS`, whose `sort_ritzpair` prologue reads the
     basis, the Ritz vectors and the user's operator at a probe shift) `c06_gencs_init_total`, `c06_gencs_history_independent`
     (the operator at the probe shift is a fixed function there: that the solver leaves the INSTALLED shift alone is item 4).
     The stale-columns argument is proved for `Arnoldi.factorize_from` as well (`c06_gen_stale_basis_columns_harmless`,
     `c06_gen_factorize_writes_before_reads`, Proofs/C06GenStaleV.lean).
     The one place where the model is NOT a transliteration — `Arnoldi.init` zero-fills `V` while the C++ `resize()` keeps the stale
     columns >= 1 of a reused object — is closed by `c06_stale_basis_columns_harmless`: `factorize_from` writes every column
     before reading it, so the C++-faithful `init` and the model's give the identical object after the first factorization.
  3. Two solvers over one operator (`c06_two_solvers_one_op`): in any interleaving of calls on two solver objects built over the same
     operator value each object evolves as if the other did not exist, and the observed pair agrees with a fresh solver.
  4. Operator-side state (`Model/OpShift.lean`): the installed shift after any history of `init`/`compute` calls equals the
     constructor's for the real-shift classes (`c06_op_shift_real`) and for `GenEigsComplexShiftSolver` as the code is now
     (`c06_op_shift_complex`) UNCONDITIONALLY — converging or not, rejected rules, the user's operator throwing at ANY application
     including the root-selection probe (the probe loop's `catch (...)` handler re-installs the shift).  The two earlier versions of
     the code are refuted on the model: no restore at all (F3, `c06_op_shift_complex_old_refuted`) and restore on the normal path
     only (F3b, `c06_op_shift_complex_unguarded_refuted`).
  5. Structural facts regenerated from the headers on every run: every random generator is a non-static local seeded by a
     constant expression (`c06_seed_pure`), no variable with static storage, and the only `mutable` members are the scratch
     caches that are written before they are read (`c06_no_hidden_state`).
-/
import SpectraVerif.Proofs.C06Gen
import SpectraVerif.Proofs.C06OpShift
import SpectraVerif.Proofs.C06GenStaleV
import SpectraVerif.Properties.C05
import SpectraVerif.Gen.RandSites
import SpectraVerif.Gen.Footprint

namespace C06
open Orch

variable {φ ρ ε κ β τ ω : Type} (K : Kern φ ρ ε κ β τ ω) (c : Cfg) {R : φ → φ → Prop}

/-- what a caller can observe after `compute`: return value or exception, accessors, counters (and `info` on a normal return) -/
structure SameObs (nvecs : List Nat) (r1 r2 : CompRes φ ρ ε κ) : Prop where
  out : r1.out = r2.out
  eigenvalues : eigenvalues K c r1.st = eigenvalues K c r2.st
  eigenvectors : ∀ nvec ∈ nvecs, eigenvectors K c nvec r1.st = eigenvectors K c nvec r2.st
  niter : r1.st.niter = r2.st.niter
  nmatop : r1.st.nmatop = r2.st.nmatop
  info : ∀ r, r2.out = .ok r → r1.st.info = r2.st.info

/-- **init is total**: from ANY two states of one solver object (same constructor arguments), `init(v); compute(args)` is
    observationally identical. -/
theorem c06_init_total (hK : Respects K R) (s1 s2 : St φ ρ ε κ) (v0 : β) (sel : Int) (maxit : Nat) (tol : τ) (sorting : Int)
    (nvecs : List Nat) :
    (init K c v0 s1).2 = (init K c v0 s2).2 ∧
    SameObs K c nvecs (compute K c sel maxit tol sorting (init K c v0 s1).1) (compute K c sel maxit tol sorting (init K c v0 s2).1) := by
  obtain ⟨hs, he⟩ := init_sim K c hK v0 s1 s2
  obtain ⟨h1, h2, _, _, h5⟩ := compute_sim K c hK sel maxit tol sorting _ _ hs
  exact ⟨he, h2, (accessors_sim K c hK _ _ h1 0).1, fun nvec _ => (accessors_sim K c hK _ _ h1 nvec).2.1, h1.niter, h1.nmatop, h5⟩

/-- **fresh vs reused vs any history**: whatever sequences of `init`/`compute` calls (with any arguments, converging or not,
    throwing or not) were performed on two objects before, the observed `init(v); compute(args)` pair behaves identically. -/
theorem c06_history_independent (hK : Respects K R) (fac1 fac2 : φ) (hist1 hist2 : List (Call β τ))
    (v0 : β) (sel : Int) (maxit : Nat) (tol : τ) (sorting : Int) (nvecs : List Nat) :
    SameObs K c nvecs
      (compute K c sel maxit tol sorting (init K c v0 (run K c (construct fac1) hist1)).1)
      (compute K c sel maxit tol sorting (init K c v0 (run K c (construct fac2) hist2)).1) :=
  (c06_init_total K c hK _ _ v0 sel maxit tol sorting nvecs).2

/-- in particular a fresh solver and a reused one agree -/
theorem c06_fresh_vs_reused (hK : Respects K R) (fac0 : φ) (hist : List (Call β τ))
    (v0 : β) (sel : Int) (maxit : Nat) (tol : τ) (sorting : Int) (nvecs : List Nat) :
    SameObs K c nvecs
      (compute K c sel maxit tol sorting (init K c v0 (construct fac0)).1)
      (compute K c sel maxit tol sorting (init K c v0 (run K c (construct fac0) hist)).1) :=
  c06_history_independent K c hK fac0 fac0 [] hist v0 sel maxit tol sorting nvecs

/-- the hypothesis is satisfiable: kernels that ignore the old factorization object in `facInit` respect equality -/
example : Respects C05.toyK (fun a b => a = b) :=
  { facInit := fun _ _ _ => ⟨rfl, rfl, rfl⟩,
    factorize := fun _ _ _ _ h => by subst h; exact ⟨rfl, rfl, rfl⟩,
    facDim := fun _ _ h => by subst h; rfl,
    eig := fun _ _ h => by subst h; rfl,
    convTest := fun _ _ _ _ _ h => by subst h; rfl,
    restartFac := fun _ _ _ _ h => by subst h; exact ⟨rfl, rfl, rfl⟩,
    assemble := fun _ _ _ h => by subst h; rfl }

/--
  What does NOT hold (and is not claimed): `compute()` NOT preceded by `init()` depends on the earlier history (it continues the
  factorization it finds).  The property quantifies over histories *before* the observed `init(v); compute(args)` pair, which is
  exactly what `c06_history_independent` covers.
-/
theorem c06_scope_note : True := trivial

/-! ## the symmetric family: unconditional statements on the numeric kernel record -/

section herm
open Lin Arnoldi C06Footprint
variable {α : Type} [Add α] [Sub α] [Mul α] [Div α] [Neg α] [Sc α]
variable (op : Arnoldi.Op α) (c : Cfg) (eps23 : α) (back : α → α) (near0 eps : α)

/-- observations do not mention `facInit` -/
theorem c06_obs_ignores_facInit {φ ρ ε κ β τ ω : Type} (K : Kern φ ρ ε κ β τ ω) (g : β → φ → FacRes φ) (nvecs : List Nat)
    (r1 r2 : CompRes φ ρ ε κ) (h : SameObs (withFacInit K g) c nvecs r1 r2) : SameObs K c nvecs r1 r2 :=
  ⟨h.out, h.eigenvalues, h.eigenvectors, h.niter, h.nmatop, h.info⟩

/-- **init is total, symmetric family, no hypothesis on the kernels**: from ANY two states of solver objects with the same
    constructor arguments (`Wf`: the `const` members hold what the constructor put there; everything else — `V`, `H`, `f`, `beta`,
    `k`, Ritz data, flags, counters, `info` — is arbitrary, so torn states left by exceptions are included), `init(v)` throws the
    same or not at all, and then `compute(args)` is observationally identical: return value or exception, eigenvalues,
    eigenvectors, `num_iterations`, `num_operations`, `info`. -/
theorem c06_herm_init_total (s1 s2 : HSt α) (h1 : Wf c near0 eps s1) (h2 : Wf c near0 eps s2) (v0 : Vec α)
    (sel : Int) (maxit : Nat) (tol : α) (sorting : Int) (nvecs : List Nat) :
    (init (HermSolver.hermKern op c eps23 back) c v0 s1).2 = (init (HermSolver.hermKern op c eps23 back) c v0 s2).2 ∧
    ((init (HermSolver.hermKern op c eps23 back) c v0 s1).2 = none →
      SameObs (HermSolver.hermKern op c eps23 back) c nvecs
        (compute (HermSolver.hermKern op c eps23 back) c sel maxit tol sorting (init (HermSolver.hermKern op c eps23 back) c v0 s1).1)
        (compute (HermSolver.hermKern op c eps23 back) c sel maxit tol sorting (init (HermSolver.hermKern op c eps23 back) c v0 s2).1)) :=
  have ⟨he, h⟩ := init_total_of _ op c near0 eps (herm_respects op c eps23 back near0 eps) rfl _
    (compute_sim_of _ op c near0 eps (herm_respects op c eps23 back near0 eps) sel maxit tol sorting) s1 s2 h1 h2 v0
  ⟨he, fun hn => have ⟨o, ev, evec, ni, nm, inf⟩ := h hn; ⟨o, ev, fun nvec _ => evec nvec, ni, nm, inf⟩⟩

/-- **fresh vs reused vs any history, symmetric family**: for every operator, every `(n, nev, ncv)`, every two histories of
    `init`/`compute` calls with any arguments (converging or not, rejected rules, rejected start vectors) on two solver objects, and
    every argument tuple, the observed `init(v); compute(args)` pair behaves identically. -/
theorem c06_herm_history_independent (hist1 hist2 : List (Call (Vec α) α)) (v0 : Vec α)
    (sel : Int) (maxit : Nat) (tol : α) (sorting : Int) (nvecs : List Nat) :
    (init (HermSolver.hermKern op c eps23 back) c v0
        (run (HermSolver.hermKern op c eps23 back) c (construct (State.mk0 c.n c.ncv near0 eps)) hist1)).2 =
    (init (HermSolver.hermKern op c eps23 back) c v0
        (run (HermSolver.hermKern op c eps23 back) c (construct (State.mk0 c.n c.ncv near0 eps)) hist2)).2 ∧
    ((init (HermSolver.hermKern op c eps23 back) c v0
        (run (HermSolver.hermKern op c eps23 back) c (construct (State.mk0 c.n c.ncv near0 eps)) hist1)).2 = none →
      SameObs (HermSolver.hermKern op c eps23 back) c nvecs
        (compute (HermSolver.hermKern op c eps23 back) c sel maxit tol sorting (init (HermSolver.hermKern op c eps23 back) c v0
          (run (HermSolver.hermKern op c eps23 back) c (construct (State.mk0 c.n c.ncv near0 eps)) hist1)).1)
        (compute (HermSolver.hermKern op c eps23 back) c sel maxit tol sorting (init (HermSolver.hermKern op c eps23 back) c v0
          (run (HermSolver.hermKern op c eps23 back) c (construct (State.mk0 c.n c.ncv near0 eps)) hist2)).1)) :=
  c06_herm_init_total op c eps23 back near0 eps _ _
    (run_wf op c eps23 back near0 eps hist1 (construct_wf c near0 eps))
    (run_wf op c eps23 back near0 eps hist2 (construct_wf c near0 eps)) v0 sel maxit tol sorting nvecs

/-- in particular a fresh solver and a reused one agree -/
theorem c06_herm_fresh_vs_reused (hist : List (Call (Vec α) α)) (v0 : Vec α)
    (sel : Int) (maxit : Nat) (tol : α) (sorting : Int) (nvecs : List Nat)
    (hacc : (init (HermSolver.hermKern op c eps23 back) c v0 (construct (State.mk0 c.n c.ncv near0 eps))).2 = none) :
    SameObs (HermSolver.hermKern op c eps23 back) c nvecs
      (compute (HermSolver.hermKern op c eps23 back) c sel maxit tol sorting
        (init (HermSolver.hermKern op c eps23 back) c v0 (construct (State.mk0 c.n c.ncv near0 eps))).1)
      (compute (HermSolver.hermKern op c eps23 back) c sel maxit tol sorting (init (HermSolver.hermKern op c eps23 back) c v0
        (run (HermSolver.hermKern op c eps23 back) c (construct (State.mk0 c.n c.ncv near0 eps)) hist)).1) :=
  (c06_herm_history_independent op c eps23 back near0 eps [] hist v0 sel maxit tol sorting nvecs).2 hacc

/-- the model-side trace counters (`nexpand`, `nreorth`; they exist only for the correspondence check) influence nothing -/
theorem c06_trace_counters_inert (s : HSt α) (h : Wf c near0 eps s) (a b : Nat)
    (sel : Int) (maxit : Nat) (tol : α) (sorting : Int) (nvecs : List Nat) :
    SameObs (HermSolver.hermKern op c eps23 back) c nvecs
      (compute (HermSolver.hermKern op c eps23 back) c sel maxit tol sorting s)
      (compute (HermSolver.hermKern op c eps23 back) c sel maxit tol sorting { s with fac := { s.fac with nexpand := a, nreorth := b } }) := by
  obtain ⟨q1, q2, _, _, q5⟩ := (compute_sim_of _ op c near0 eps (herm_respects op c eps23 back near0 eps) sel maxit tol sorting
    s { s with fac := { s.fac with nexpand := a, nreorth := b } } ⟨⟨h, h, rfl⟩, rfl, rfl, rfl, rfl, rfl, rfl⟩).sim
  exact ⟨q2, (accessors_sim _ c (herm_respects op c eps23 back near0 eps) _ _ q1 0).1,
    fun nvec _ => (accessors_sim _ c (herm_respects op c eps23 back near0 eps) _ _ q1 nvec).2.1, q1.niter, q1.nmatop, q5⟩

/-! ### two solvers sharing one operator -/

/-- a call on solver 1 (`false`) or solver 2 (`true`) -/
def step2 (p : HSt α × HSt α) (tc : Bool × Call (Vec α) α) : HSt α × HSt α :=
  if tc.1 then (p.1, step (HermSolver.hermKern op c eps23 back) c p.2 tc.2)
  else (step (HermSolver.hermKern op c eps23 back) c p.1 tc.2, p.2)

/-- any interleaving of calls on two solver objects built over the SAME operator value -/
def run2 (p : HSt α × HSt α) (h : List (Bool × Call (Vec α) α)) : HSt α × HSt α := h.foldl (step2 op c eps23 back) p

/-- each solver evolves exactly as if the other did not exist: the operator value is all they share and nothing writes it
    (the operator-side state, i.e. the installed shift, is the subject of `c06_op_shift_*`) -/
theorem c06_two_solvers_independent (h : List (Bool × Call (Vec α) α)) : ∀ (p : HSt α × HSt α),
    (run2 op c eps23 back p h).1 = run (HermSolver.hermKern op c eps23 back) c p.1 ((h.filter (fun tc => !tc.1)).map (·.2)) ∧
    (run2 op c eps23 back p h).2 = run (HermSolver.hermKern op c eps23 back) c p.2 ((h.filter (fun tc => tc.1)).map (·.2)) :=
  fun p => Prod.mk.inj (foldl_interleave (step (HermSolver.hermKern op c eps23 back) c) h p)

/-- **a second solver sharing the operator**: after ANY interleaved history on two solver objects over the same operator, the
    observed `init(v); compute(args)` on either of them is observationally identical to the same pair on a fresh solver -/
theorem c06_two_solvers_one_op (h : List (Bool × Call (Vec α) α)) (which : Bool) (v0 : Vec α)
    (sel : Int) (maxit : Nat) (tol : α) (sorting : Int) (nvecs : List Nat)
    (hacc : (init (HermSolver.hermKern op c eps23 back) c v0 (construct (State.mk0 c.n c.ncv near0 eps))).2 = none) :
    SameObs (HermSolver.hermKern op c eps23 back) c nvecs
      (compute (HermSolver.hermKern op c eps23 back) c sel maxit tol sorting
        (init (HermSolver.hermKern op c eps23 back) c v0 (construct (State.mk0 c.n c.ncv near0 eps))).1)
      (compute (HermSolver.hermKern op c eps23 back) c sel maxit tol sorting (init (HermSolver.hermKern op c eps23 back) c v0
        (if which then (run2 op c eps23 back (construct (State.mk0 c.n c.ncv near0 eps), construct (State.mk0 c.n c.ncv near0 eps)) h).2
         else (run2 op c eps23 back (construct (State.mk0 c.n c.ncv near0 eps), construct (State.mk0 c.n c.ncv near0 eps)) h).1)).1) := by
  rw [show run2 op c eps23 back _ h = _ from foldl_interleave _ h _]
  cases which <;> exact c06_herm_fresh_vs_reused op c eps23 back near0 eps _ v0 sel maxit tol sorting nvecs hacc

end herm


/-! ## the general family: unconditional statements on the numeric kernel record -/

section gen
open Lin Arnoldi C06Footprint
variable {α : Type} [Add α] [Sub α] [Mul α] [Div α] [Neg α] [Sc α]
variable (op : Arnoldi.Op α) (c : Cfg) (eps23 : α) (back : GenSolver.Cx α → GenSolver.Cx α) (near0 eps : α)

/-- **init is total, general family (GenEigsSolver: `back = id`; GenEigsRealShiftSolver: `back = realShiftBack sigma`), no
    hypothesis on the kernels**: from ANY two states of solver objects with the same constructor arguments (`WfG`: the `const`
    members of the factorization object hold what the constructor put there; `V`, `H`, `f`, `beta`, `k`, complex Ritz data, flags,
    counters, `info` arbitrary — torn states left by exceptions included), `init(v)` throws the same or not at all, and then
    `compute(args)` is observationally identical: return value or exception, eigenvalues, eigenvectors, `num_iterations`,
    `num_operations`, `info`. -/
theorem c06_gen_init_total (s1 s2 : GSt α) (h1 : WfG c near0 eps s1) (h2 : WfG c near0 eps s2) (v0 : Vec α)
    (sel : Int) (maxit : Nat) (tol : α) (sorting : Int) (nvecs : List Nat) :
    (init (GenSolver.genKern op c eps23 back) c v0 s1).2 = (init (GenSolver.genKern op c eps23 back) c v0 s2).2 ∧
    ((init (GenSolver.genKern op c eps23 back) c v0 s1).2 = none →
      SameObs (GenSolver.genKern op c eps23 back) c nvecs
        (compute (GenSolver.genKern op c eps23 back) c sel maxit tol sorting (init (GenSolver.genKern op c eps23 back) c v0 s1).1)
        (compute (GenSolver.genKern op c eps23 back) c sel maxit tol sorting (init (GenSolver.genKern op c eps23 back) c v0 s2).1)) :=
  have ⟨he, h⟩ := init_total_of _ op c near0 eps (gen_respects op c eps23 back near0 eps) rfl _
    (compute_sim_of _ op c near0 eps (gen_respects op c eps23 back near0 eps) sel maxit tol sorting) s1 s2 h1 h2 v0
  ⟨he, fun hn => have ⟨o, ev, evec, ni, nm, inf⟩ := h hn; ⟨o, ev, fun nvec _ => evec nvec, ni, nm, inf⟩⟩

/-- **fresh vs reused vs any history, general family**: for every operator, every `(n, nev, ncv)`, every two histories of
    `init`/`compute` calls with any arguments (converging or not, rejected rules, rejected start vectors, failed Schur
    decompositions) on two solver objects, and every argument tuple, the observed `init(v); compute(args)` pair behaves identically. -/
theorem c06_gen_history_independent (hist1 hist2 : List (Call (Vec α) α)) (v0 : Vec α)
    (sel : Int) (maxit : Nat) (tol : α) (sorting : Int) (nvecs : List Nat) :
    (init (GenSolver.genKern op c eps23 back) c v0
        (run (GenSolver.genKern op c eps23 back) c (construct (State.mk0 c.n c.ncv near0 eps)) hist1)).2 =
    (init (GenSolver.genKern op c eps23 back) c v0
        (run (GenSolver.genKern op c eps23 back) c (construct (State.mk0 c.n c.ncv near0 eps)) hist2)).2 ∧
    ((init (GenSolver.genKern op c eps23 back) c v0
        (run (GenSolver.genKern op c eps23 back) c (construct (State.mk0 c.n c.ncv near0 eps)) hist1)).2 = none →
      SameObs (GenSolver.genKern op c eps23 back) c nvecs
        (compute (GenSolver.genKern op c eps23 back) c sel maxit tol sorting (init (GenSolver.genKern op c eps23 back) c v0
          (run (GenSolver.genKern op c eps23 back) c (construct (State.mk0 c.n c.ncv near0 eps)) hist1)).1)
        (compute (GenSolver.genKern op c eps23 back) c sel maxit tol sorting (init (GenSolver.genKern op c eps23 back) c v0
          (run (GenSolver.genKern op c eps23 back) c (construct (State.mk0 c.n c.ncv near0 eps)) hist2)).1)) :=
  c06_gen_init_total op c eps23 back near0 eps _ _
    (gen_run_wf op c eps23 back near0 eps hist1 (gen_construct_wf c near0 eps))
    (gen_run_wf op c eps23 back near0 eps hist2 (gen_construct_wf c near0 eps)) v0 sel maxit tol sorting nvecs

/-- in particular a fresh solver and a reused one agree -/
theorem c06_gen_fresh_vs_reused (hist : List (Call (Vec α) α)) (v0 : Vec α)
    (sel : Int) (maxit : Nat) (tol : α) (sorting : Int) (nvecs : List Nat)
    (hacc : (init (GenSolver.genKern op c eps23 back) c v0 (construct (State.mk0 c.n c.ncv near0 eps))).2 = none) :
    SameObs (GenSolver.genKern op c eps23 back) c nvecs
      (compute (GenSolver.genKern op c eps23 back) c sel maxit tol sorting
        (init (GenSolver.genKern op c eps23 back) c v0 (construct (State.mk0 c.n c.ncv near0 eps))).1)
      (compute (GenSolver.genKern op c eps23 back) c sel maxit tol sorting (init (GenSolver.genKern op c eps23 back) c v0
        (run (GenSolver.genKern op c eps23 back) c (construct (State.mk0 c.n c.ncv near0 eps)) hist)).1) :=
  (c06_gen_history_independent op c eps23 back near0 eps [] hist v0 sel maxit tol sorting nvecs).2 hacc

/-- a call on solver 1 (`false`) or solver 2 (`true`) -/
def gstep2 (p : GSt α × GSt α) (tc : Bool × Call (Vec α) α) : GSt α × GSt α :=
  if tc.1 then (p.1, step (GenSolver.genKern op c eps23 back) c p.2 tc.2)
  else (step (GenSolver.genKern op c eps23 back) c p.1 tc.2, p.2)

/-- any interleaving of calls on two solver objects built over the SAME operator value -/
def grun2 (p : GSt α × GSt α) (h : List (Bool × Call (Vec α) α)) : GSt α × GSt α := h.foldl (gstep2 op c eps23 back) p

/-- each solver evolves exactly as if the other did not exist -/
theorem c06_gen_two_solvers_independent (h : List (Bool × Call (Vec α) α)) : ∀ (p : GSt α × GSt α),
    (grun2 op c eps23 back p h).1 = run (GenSolver.genKern op c eps23 back) c p.1 ((h.filter (fun tc => !tc.1)).map (·.2)) ∧
    (grun2 op c eps23 back p h).2 = run (GenSolver.genKern op c eps23 back) c p.2 ((h.filter (fun tc => tc.1)).map (·.2)) :=
  fun p => Prod.mk.inj (foldl_interleave (step (GenSolver.genKern op c eps23 back) c) h p)

/-- **a second solver sharing the operator, general family**: after ANY interleaved history on two solver objects over the same
    operator, the observed `init(v); compute(args)` on either of them is observationally identical to the same pair on a fresh
    solver -/
theorem c06_gen_two_solvers_one_op (h : List (Bool × Call (Vec α) α)) (which : Bool) (v0 : Vec α)
    (sel : Int) (maxit : Nat) (tol : α) (sorting : Int) (nvecs : List Nat)
    (hacc : (init (GenSolver.genKern op c eps23 back) c v0 (construct (State.mk0 c.n c.ncv near0 eps))).2 = none) :
    SameObs (GenSolver.genKern op c eps23 back) c nvecs
      (compute (GenSolver.genKern op c eps23 back) c sel maxit tol sorting
        (init (GenSolver.genKern op c eps23 back) c v0 (construct (State.mk0 c.n c.ncv near0 eps))).1)
      (compute (GenSolver.genKern op c eps23 back) c sel maxit tol sorting (init (GenSolver.genKern op c eps23 back) c v0
        (if which then (grun2 op c eps23 back (construct (State.mk0 c.n c.ncv near0 eps), construct (State.mk0 c.n c.ncv near0 eps)) h).2
         else (grun2 op c eps23 back (construct (State.mk0 c.n c.ncv near0 eps), construct (State.mk0 c.n c.ncv near0 eps)) h).1)).1) := by
  rw [show grun2 op c eps23 back _ h = _ from foldl_interleave _ h _]
  cases which <;> exact c06_gen_fresh_vs_reused op c eps23 back near0 eps _ v0 sel maxit tol sorting nvecs hacc

/-! ### GenEigsComplexShiftSolver (`GenSolver.computeCS`) -/

variable (probe : Vec α → Vec α) (sigmar sigmai : α)

/-- **init is total, complex-shift class**: `compute` is `GenSolver.computeCS` — `Orch.compute` with the state-dependent prologue of
    `GenEigsComplexShiftSolver::sort_ritzpair` (probe shift, two roots per Ritz value, root selection by the residual of the
    operator `probe` at the probe shift on `V * y`, conjugate-pair loop).  From ANY two well-formed object states `init(v)` throws
    the same or not at all, and then `compute(args)` is observationally identical. -/
theorem c06_gencs_init_total (s1 s2 : GSt α) (h1 : WfG c near0 eps s1) (h2 : WfG c near0 eps s2) (v0 : Vec α)
    (sel : Int) (maxit : Nat) (tol : α) (sorting : Int) (nvecs : List Nat) :
    (init (GenSolver.genKern op c eps23 id) c v0 s1).2 = (init (GenSolver.genKern op c eps23 id) c v0 s2).2 ∧
    ((init (GenSolver.genKern op c eps23 id) c v0 s1).2 = none →
      SameObs (GenSolver.genKern op c eps23 id) c nvecs
        (GenSolver.computeCS op probe c eps23 sigmar sigmai sel maxit tol sorting (init (GenSolver.genKern op c eps23 id) c v0 s1).1)
        (GenSolver.computeCS op probe c eps23 sigmar sigmai sel maxit tol sorting (init (GenSolver.genKern op c eps23 id) c v0 s2).1)) :=
  have ⟨he, h⟩ := init_total_of _ op c near0 eps (gen_respects op c eps23 id near0 eps) rfl _
    (computeCS_rel op probe c eps23 sigmar sigmai near0 eps sel maxit tol sorting) s1 s2 h1 h2 v0
  ⟨he, fun hn => have ⟨o, ev, evec, ni, nm, inf⟩ := h hn; ⟨o, ev, fun nvec _ => evec nvec, ni, nm, inf⟩⟩

/-- **fresh vs reused vs any history, complex-shift class** (histories of `init` / `computeCS` calls) -/
theorem c06_gencs_history_independent (hist1 hist2 : List (Call (Vec α) α)) (v0 : Vec α)
    (sel : Int) (maxit : Nat) (tol : α) (sorting : Int) (nvecs : List Nat)
    (hacc : (init (GenSolver.genKern op c eps23 id) c v0
      (runCS op probe c eps23 sigmar sigmai (construct (State.mk0 c.n c.ncv near0 eps)) hist1)).2 = none) :
    SameObs (GenSolver.genKern op c eps23 id) c nvecs
      (GenSolver.computeCS op probe c eps23 sigmar sigmai sel maxit tol sorting (init (GenSolver.genKern op c eps23 id) c v0
        (runCS op probe c eps23 sigmar sigmai (construct (State.mk0 c.n c.ncv near0 eps)) hist1)).1)
      (GenSolver.computeCS op probe c eps23 sigmar sigmai sel maxit tol sorting (init (GenSolver.genKern op c eps23 id) c v0
        (runCS op probe c eps23 sigmar sigmai (construct (State.mk0 c.n c.ncv near0 eps)) hist2)).1) :=
  (c06_gencs_init_total op c eps23 near0 eps probe sigmar sigmai _ _
    (runCS_wf op probe c eps23 sigmar sigmai near0 eps hist1 (gen_construct_wf c near0 eps))
    (runCS_wf op probe c eps23 sigmar sigmai near0 eps hist2 (gen_construct_wf c near0 eps)) v0 sel maxit tol sorting nvecs).2 hacc

end gen

/-- the hypotheses are satisfiable at the executable instance of the general family: a freshly constructed `Float` object is well formed -/
example (n nev ncv : Nat) (near0 eps : Float) :
    C06Footprint.WfG ⟨n, nev, ncv⟩ near0 eps (construct (Arnoldi.State.mk0 n ncv near0 eps) : C06Footprint.GSt Float) := rfl

/-! ### the stale columns of a reused basis matrix -/

section stale
open Lin Arnoldi C06StaleV C08Mat
variable {α : Type} [Add α] [Sub α] [Mul α] [Div α] [Neg α] [Sc α]

/-- **column i of V is written before it is read.**  `m_fac_V.resize(m_n, m_m)` in `Arnoldi::init` keeps the old contents of an
    already allocated matrix, so on a reused solver columns `1 .. ncv-1` hold what the previous run left (`initKeepV`), whereas the
    model's `Arnoldi.init` starts from zeros.  For EVERY old matrix of the right shape, every operator that returns vectors of the
    problem dimension and every start vector, the first factorization of `compute()` — `factorize_from(1, ncv)` — produces
    exactly the same object from both: all `ncv` columns are overwritten before anything reads them.  After that step no datum of
    the object's earlier history is left anywhere in the factorization. -/
theorem c06_stale_basis_columns_harmless (op : Arnoldi.Op α) (s : State α) (v0 : Vec α) (hw : WF s.V) (hr : s.V.rows = s.n)
    (hc : s.V.cols = s.m) (hm : 1 ≤ s.m) (hop : OpWF op s.n) :
    (initKeepV op s v0).bind (fun s' => Lanczos.factorize_from op s' 1 s.m) =
    (Arnoldi.init op s v0).bind (fun s' => Lanczos.factorize_from op s' 1 s.m) :=
  init_stale_columns_harmless op s v0 hw hr hc hm hop

/-- more generally `factorize_from(from_k, ncv)` ignores (and overwrites) the columns `>= from_k` -/
theorem c06_factorize_writes_before_reads (op : Arnoldi.Op α) (s : State α) (B : Mat α) (from_k : Nat) (h : AgreeCols from_k s.V B)
    (hn : s.n ≤ s.V.rows) (hop : OpWF op s.V.rows) :
    Lanczos.factorize_from op { s with V := B } from_k s.V.cols = Lanczos.factorize_from op s from_k s.V.cols :=
  factorize_overwrites op s B from_k h hn hop

/-- **the same for the general family** (`Arnoldi::factorize_from`, which `GenEigsBase::compute()` calls): `V.col(i) = f / beta` is
    assigned before `expand_basis` (reads `leftCols(i)`), the Gram–Schmidt step and the re-orthogonalisation (read
    `leftCols(i + 1)`) see it, so for EVERY old matrix of the right shape the C++-faithful `init` (stale columns `>= 1` kept) and
    the model's zero-filling `Arnoldi.init` give the identical object after the first factorization: `c06_gen_*` speak about the
    code as it is -/
theorem c06_gen_stale_basis_columns_harmless (op : Arnoldi.Op α) (s : State α) (v0 : Vec α) (hw : WF s.V) (hr : s.V.rows = s.n)
    (hc : s.V.cols = s.m) (hm : 1 ≤ s.m) (hop : OpWF op s.n) :
    (initKeepV op s v0).bind (fun s' => Arnoldi.factorize_from op s' 1 s.m) =
    (Arnoldi.init op s v0).bind (fun s' => Arnoldi.factorize_from op s' 1 s.m) :=
  arnoldi_init_stale_columns_harmless op s v0 hw hr hc hm hop

/-- `Arnoldi::factorize_from(from_k, ncv)` ignores (and overwrites) the columns `>= from_k` -/
theorem c06_gen_factorize_writes_before_reads (op : Arnoldi.Op α) (s : State α) (B : Mat α) (from_k : Nat) (h : AgreeCols from_k s.V B)
    (hop : OpWF op s.V.rows) :
    Arnoldi.factorize_from op { s with V := B } from_k s.V.cols = Arnoldi.factorize_from op s from_k s.V.cols :=
  arnoldi_factorize_overwrites op s B from_k h hop

/-- **rows/columns of H at or beyond `from_k` are zeroed before anything reads them**: both factorizations start with
    `m_fac_H.rightCols(m - from_k).setZero(); m_fac_H.block(from_k, 0, m - from_k, from_k).setZero()`, so only the leading
    `from_k x from_k` block of the `H` they find matters (so whether `Arnoldi::init` zeroes `H` or not is
    not observable: after `init`, `from_k = 1` and `H(0,0)` is assigned) -/
theorem c06_factorize_zeroes_H_first (op : Arnoldi.Op α) (s : State α) (H' : Mat α) (from_k to_m : Nat)
    (h : keepTopLeft H' from_k = keepTopLeft s.H from_k) :
    Lanczos.factorize_from op { s with H := H' } from_k to_m = (Lanczos.factorize_from op s from_k to_m).map (fun r => if to_m ≤ from_k then { r with H := H' } else r) ∧
    Arnoldi.factorize_from op { s with H := H' } from_k to_m = (Arnoldi.factorize_from op s from_k to_m).map (fun r => if to_m ≤ from_k then { r with H := H' } else r) := by
  constructor
  · unfold Lanczos.factorize_from
    dsimp only
    by_cases hle : to_m ≤ from_k
    · simp only [if_pos hle, Option.map_some]
    · simp only [if_neg hle, h]
      split <;> rfl
  · unfold Arnoldi.factorize_from
    dsimp only
    by_cases hle : to_m ≤ from_k
    · simp only [if_pos hle, Option.map_some]
    · simp only [if_neg hle, h]
      split <;> rfl

/-- the hypotheses are satisfiable: the harness's explicit row-major operator returns vectors of length `n`, and a constructed
    object has a well-formed `n x m` basis matrix -/
example (n : Nat) (a : Array Float) : OpWF ({ n := n, A := Arnoldi.rowMajorOp n a, B := none } : Arnoldi.Op Float) n :=
  ⟨rfl, fun _ => ListFold.size_vofFn _ _⟩
example (n m : Nat) (near0 eps : Float) : WF (State.mk0 n m near0 eps).V ∧ (State.mk0 n m near0 eps).V.rows = n ∧
    (State.mk0 n m near0 eps).V.cols = m := ⟨zeros_WF _ _, rfl, rfl⟩

end stale

/-- the hypotheses are satisfiable at the executable instance: a freshly constructed `Float` solver object is well formed -/
example (n nev ncv : Nat) (near0 eps : Float) :
    C06Footprint.Wf ⟨n, nev, ncv⟩ near0 eps (construct (Arnoldi.State.mk0 n ncv near0 eps) : C06Footprint.HSt Float) := rfl

/-! ## operator-side state: the installed shift -/

section opshift
open OpShift
variable {σ : Type}

/-- a public call of a real-shift class (`SymEigsShiftSolver`, `GenEigsRealShiftSolver`, `SymGEigsShiftSolver`): operator
    applications only, the user's operator may throw at any of them -/
def RealCall (ce : CallEv σ) : Prop := NoSet ce.evs

/-- **real-shift classes**: `set_shift` is called in the constructor and nowhere else, so after `construct` and ANY history of
    `init`/`compute` calls — converging or not, throwing at any operator application or not — the installed shift is the
    constructor's, whatever was installed in the operator before. -/
theorem c06_op_shift_real (sigma old : σ) (hist : List (CallEv σ)) (h : ∀ ce ∈ hist, RealCall ce) :
    runCalls (⟨ctor sigma, none⟩ :: hist) old = sigma := by
  rw [runCalls_cons]
  show runCalls hist sigma = sigma
  exact ListFold.foldl_inv (· = sigma) _ hist sigma rfl fun s ce hce hs => (exec_noSet _ _ _ (h ce hce)).trans hs

/-- a public call of `GenEigsComplexShiftSolver` (code as it is now): operator applications only (`init`, or a `compute` whose
    events are not further described), or a `compute` — with the user's operator throwing anywhere or nowhere -/
def ComplexCall (sigma : σ) (ce : CallEv σ) : Prop :=
  NoSet ce.evs ∨ ∃ probe nIter nProbe rs, ce.evs = computeComplex sigma probe nIter nProbe rs

/-- one `compute()` of `GenEigsComplexShiftSolver` entered with the constructor's shift installed leaves it installed on EVERY
    path: normal return (any iteration count, any number of probes), exception of the iteration before `sort_ritzpair`
    (`rs = false`), unsupported sorting rule (thrown by the base class AFTER the restore), user's operator throwing during the
    iteration, and user's operator throwing during the root-selection probe (the `catch (...)` handler re-installs it) -/
theorem c06_op_shift_complex_compute (sigma probe : σ) (nIter nProbe : Nat) (rs : Bool) (th : Option Nat) :
    (exec (computeComplex sigma probe nIter nProbe rs) th sigma).1 = sigma := by
  rw [exec_computeComplex]
  split <;> rfl

/-- **complex-shift class, as the code is now**: after `construct` and any history of calls the installed shift is the
    constructor's -/
theorem c06_op_shift_complex (sigma old : σ) (hist : List (CallEv σ)) (h : ∀ ce ∈ hist, ComplexCall sigma ce) :
    runCalls (⟨ctor sigma, none⟩ :: hist) old = sigma := by
  rw [runCalls_cons]
  show runCalls hist sigma = sigma
  refine ListFold.foldl_inv (· = sigma) _ hist sigma rfl fun s ce hce hs => ?_
  rw [hs]
  rcases h ce hce with hn | ⟨probe, nIter, nProbe, rs, he⟩
  · exact exec_noSet _ _ _ hn
  · rw [he]; exact c06_op_shift_complex_compute sigma probe nIter nProbe rs _

/-- in particular a throw of the user's operator inside the probe now leaves the constructor's shift installed -/
theorem c06_op_shift_complex_throw_in_probe (sigma probe : σ) (nIter nProbe k : Nat) (_h1 : nIter ≤ k) (_h2 : k < nIter + nProbe) :
    (exec (computeComplex sigma probe nIter nProbe true) (some k) sigma).1 = sigma :=
  c06_op_shift_complex_compute sigma probe nIter nProbe true (some k)

/-- F3b (repaired in /repo: probe loop wrapped in `try { … } catch (...) { set_shift(sigmar, sigmai); throw; }`): the code BEFORE
    that repair — restore on the normal path only — violates the property on the model whenever the user's operator throws during
    one of the probe applications: the probe shift stays installed, for every shift, probe and count -/
theorem c06_op_shift_complex_unguarded_refuted (sigma probe old : σ) (nInit nIter nProbe k : Nat) (hne : probe ≠ sigma)
    (h1 : nIter ≤ k) (h2 : k < nIter + nProbe) :
    runCalls [⟨ctor sigma, none⟩, ⟨initEv nInit, none⟩, ⟨computeComplexUnguarded sigma probe nIter nProbe true, some k⟩] old ≠ sigma := by
  rw [runCalls_cons, runCalls_cons, runCalls_cons]
  show (exec (computeComplexUnguarded sigma probe nIter nProbe true) (some k) (exec (initEv nInit) none sigma).1).1 ≠ sigma
  rw [exec_computeComplexUnguarded_inProbe sigma probe nIter nProbe k _ h1 h2]
  exact hne

example : (runCalls [⟨ctor (3 : Nat), none⟩, ⟨initEv 2, none⟩, ⟨computeComplexUnguarded 3 7 20 4 true, some 22⟩] 0) = 7 ∧ (7 : Nat) ≠ 3 := by
  decide

/-- F3 (repaired in /repo, commit ddaf8d1): the code BEFORE the repair violates the property on the model — one converged
    `compute()` leaves the probe shift installed -/
example : (runCalls [⟨ctor (3 : Nat), none⟩, ⟨initEv 2, none⟩, ⟨computeComplexOld 7 20 4 true, none⟩] 0) = 7 ∧ (7 : Nat) ≠ 3 := by
  decide

/-- … for every shift, probe and count, not just this witness -/
theorem c06_op_shift_complex_old_refuted (sigma probe old : σ) (nInit nIter nProbe : Nat) (hne : probe ≠ sigma) :
    runCalls [⟨ctor sigma, none⟩, ⟨initEv nInit, none⟩, ⟨computeComplexOld probe nIter nProbe true, none⟩] old ≠ sigma := by
  rw [runCalls_cons, runCalls_cons, runCalls_cons]
  show (exec (computeComplexOld probe nIter nProbe true) none (exec (initEv nInit) none sigma).1).1 ≠ sigma
  rw [exec_computeComplexOld_none]
  exact hne

/-- the hypotheses are satisfiable: a history with a non-converging run, a run whose operator throws in the iteration, one whose
    operator throws inside the probe, and an ordinary run -/
example : ∀ ce ∈ [(⟨initEv 2, none⟩ : CallEv Nat), ⟨computeComplex 3 7 11 0 false, none⟩, ⟨computeComplex 3 7 40 6 true, some 5⟩,
    ⟨initEv 2, some 1⟩, ⟨computeComplex 3 7 25 4 true, some 27⟩, ⟨computeComplex 3 7 25 4 true, none⟩], ComplexCall 3 ce := by
  intro ce hm
  simp only [List.mem_cons, List.not_mem_nil, or_false] at hm
  rcases hm with rfl | rfl | rfl | rfl | rfl | rfl
  · exact Or.inl (noSet_applications 2)
  · exact Or.inr ⟨7, 11, 0, false, rfl⟩
  · exact Or.inr ⟨7, 40, 6, true, rfl⟩
  · exact Or.inl (noSet_applications 2)
  · exact Or.inr ⟨7, 25, 4, true, rfl⟩
  · exact Or.inr ⟨7, 25, 4, true, rfl⟩

end opshift

/-! ## structural facts regenerated from the headers -/

/-- every random generator of the library is a function-local object WITHOUT static/thread storage, seeded by the constant `0` or by
    `seed + 123 * iter` (with `seed = 2 * i` from the factorization loops): default start vectors, restart vectors and the probe
    shift are functions of `(n, i, iter)` resp. of `sigmar` alone and cannot carry anything from one run to the next
    (the generator itself is C19) -/
theorem c06_seed_pure : ∀ s ∈ Gen.RandSites.sites, s.2.1 = false ∧ (s.2.2 = "0" ∨ s.2.2 = "seed + 123 * iter") := by decide

/-- no variable with static storage anywhere in the library — not even a `const` one (a function-local `static const` with a
    run-time initialiser is frozen to the values of the FIRST object that reaches it: hidden state across solvers) —, and the `mutable` data members are exactly the scratch caches of the
    operator adaptors (each is assigned in full before it is read inside one `perform_op`/`inner_product` call) and the CG status
    of `SparseRegularInverse`: a new `mutable` member (a call counter, a cached vector) changes the regenerated list and breaks this -/
theorem c06_no_hidden_state :
    Gen.Footprint.statics = [] ∧ Gen.Footprint.const_statics = [] ∧
    Gen.Footprint.mutable_members = [("ArnoldiOp", "m_cache"), ("DenseGenComplexShiftSolve", "m_x_cache"), ("SVDTallMatOp", "m_cache"),
      ("SVDWideMatOp", "m_cache"), ("SparseGenComplexShiftSolve", "m_x_cache"), ("SparseRegularInverse", "m_info"),
      ("SymGEigsBucklingOp", "m_cache"), ("SymGEigsCayleyOp", "m_cache"), ("SymGEigsCholeskyOp", "m_cache"),
      ("SymGEigsRegInvOp", "m_cache"), ("SymGEigsShiftInvertOp", "m_cache")] := by
  refine ⟨rfl, rfl, rfl⟩

/-- **Nothing but the operator and the matrix is held by reference.**  `Gen.Footprint.handle_members` lists, for EVERY class of
    the library (regenerated from the clang AST on every run), each data member that does not own its value: raw references and
    pointers, Eigen `Ref`/`Map` handles (the `ConstGeneric*` aliases), `reference_wrapper`, smart pointers, `std::function`.
    Every one of them is the user's operator / B-operator (`m_op`, `m_Bop`, `m_matrix_operator`), the user's matrix seen by a
    product or solve wrapper (`m_mat`, `m_matA`, `m_matB`), the SVD solver's owning pointers to its own operator and inner solver,
    or the array pointer of the transient `SortEigenvalue` object.  In particular NO argument of a constructor other than the
    operator/matrix — shift, sizes, tolerances — is kept by reference: the values `compute()` uses are the ones the constructor
    received, whatever the caller does with its variables afterwards (the hidden dependency a `const Scalar& m_sigma` member would
    create breaks this theorem). -/
theorem c06_only_documented_handles :
    ∀ h ∈ Gen.Footprint.handle_members,
      h.2.1 ∈ ["m_op", "m_Bop", "m_mat", "m_matA", "m_matB", "m_matrix_operator"] ∨
      (h.1, h.2.1) ∈ [("PartialSVDSolver", "m_eigs"), ("PartialSVDSolver", "m_op"), ("SortEigenvalue", "m_evals")] := by
  decide +kernel

end C06
