/-
  C15 — Davidson solver: `Successful` means true residuals below tol, never NaN.

  Objects: the kernel-generic model `Dav` (Model/Davidson.lean) of `SearchSpace`, `RitzPairs`, `JDSymEigsBase::compute_with_guess`
  and `DavidsonSymEigsSolver`; the size logic `Gen.JD.*` and the ordering primitive `Gen.Sort.argsort` are regenerated from the
  headers on every run.  "For ALL kernels" = for every function put in the places of Eigen's `SelfAdjointEigenSolver`
  (`K.eig`), `twice_is_enough_orthogonalisation`/`HouseholderQR` (`K.orth`), `argsort` (`K.argsort`), the CRTP correction
  (`corr`), and of `dot`, `norm`, `<`.  Exact arithmetic = a module `M` over any commutative ring `R` with a linear operator `A`
  (in particular `Matrix (Fin n) (Fin n) R` acting on `Fin n → R`), resp. any linearly ordered field for ordering.

  Clauses of the property that are FALSE of the code as it is (recorded in known_findings/C15.json, each with a witness
  below and a replay in the harness corpus):
    * "unit norm, mutually orthonormal" for a user-supplied non-orthonormal space                   -> `c15_unit_orth` needs the hypothesis; counter-model (F16)
  Repaired in /repo (known_findings/C15.json, status fixed) and now theorems about the repaired code:
    * "never NaN": the DPR correction used to divide by `θ - a_ii` unguarded (F11); it now applies the pseudo-inverse of the
      diagonal preconditioner (component 0 where `θ = a_ii`)                                        -> `c15_correction_defined`
    * "compute() returns nev": the sizes could be reset below `nev` and `nev` entries of shorter arrays were read (F18);
      `initialize()` now keeps `initial ≥ nev`, `check_convergence` requires `nev` pairs            -> `c15_sizes`, `c15_successful`
    * "a second compute() on the same object": `compute_with_guess` used to reset the search space and `niter_` only, so the
      Ritz pairs, flags and `info()` of the PREVIOUS call were handed out by a call with `maxit = 0` (F21), fed the restart of a
      first iteration with a too wide initial space (F21b) and survived a throwing call (F21c).  Since /repo 6587027 the prologue
      is `m_ritz_pairs = RitzPairs<Scalar>(); m_info = CompInfo::NotComputed; initialize_search_space(…); niter_ = 0;`
      — every result member is reset — and a call on a used object IS the call on a fresh one, for every state, `maxit`,
      initial space and kernel outcome                                       -> `c15_compute_resets`, `c15_recompute`, `c15_maxit0_not_computed`
  Not provable (rounding / convergence; oracle only): the strict inequality on the computed residual norm transfers to the
  true residual only up to rounding of the cached products (slack stated in harness/c15.cpp); orthonormality of the basis
  produced by the real `HouseholderQR` passes is a specification hypothesis here (`OrthSpec` in `c15_unit_orth_spec`); the real
  passes violate it in floating point when the block of corrections is numerically rank deficient after projection against
  the space (finding F19: Successful with vectors of norm 1e-15).
  What the real passes DO guarantee for every input — the appended block is the leading part of a Householder Q factor, orthonormal
  in itself, no zero column — is `OrthBlockSpec` (`c15_extension_block_orthonormal`); that the extension step really is the
  Householder-QR routine is read off the regenerated call footprint `Gen.JDOrth` (`c15_extension_uses_householder_qr`), and every
  recorded kernel output is checked against it in the step replay (field `blockok`) and by the harness oracle.
-/
import SpectraVerif.Proofs.C15Order
import SpectraVerif.Proofs.C15Orth
import SpectraVerif.Proofs.C15Sizes
import SpectraVerif.Proofs.Rows
import SpectraVerif.Gen.Guard
import SpectraVerif.Gen.JDOrth
import SpectraVerif.Gen.JDMembers
import Mathlib.Data.Matrix.Mul
import Mathlib.Tactic.FieldSimp

namespace C15
open Dav C15L
set_option linter.unusedSectionVars false

section ring
variable {R M : Type} [CommRing R] [AddCommGroup M] [Module R M] (K : Kern R M) (A : M →ₗ[R] M)

/-- `update_operator_basis_product` turns a valid partial cache into `op_basis_product = A · basis` (all columns) -/
theorem c15_cached_products_update (hL : Linear K A) (s : St R M)
    (h : s.opBasis = (s.basis.take s.opBasis.length).map A) :
    (updateOperatorBasisProduct K s).opBasis = (updateOperatorBasisProduct K s).basis.map A :=
  update_cachedFull hL h

/-- `restart` keeps `op_basis_product = A · basis`, provided the stored Ritz vectors are `V y` for the multiplied columns `V` -/
theorem c15_cached_products_restart (hL : Linear K A) (s : St R M) (size : Nat)
    (h : s.opBasis = (s.basis.take s.opBasis.length).map A)
    (hr : ∀ p ∈ s.pairs, p.vector = lincomb K p.small (s.basis.take s.opBasis.length)) :
    (restart K size s).opBasis = (restart K size s).basis.map A :=
  restart_cachedFull hL h hr size

/-- `extend_basis` keeps the cache valid on the columns already multiplied: it orthogonalises only the new columns
    (`OrthKeepsLeft`: the orthogonaliser does not write the first `left_cols_to_skip` columns) -/
theorem c15_cached_products_extend (hO : OrthKeepsLeft K) (s : St R M) (newv : List M) (h : s.opBasis = s.basis.map A) :
    (extendBasis K newv s).opBasis = ((extendBasis K newv s).basis.take (extendBasis K newv s).opBasis.length).map A :=
  extend_cached hO h newv

/-- **c15_cached_products.**  For every linear operator, every eigen-solver, orthogonaliser (that leaves the old columns
    alone), sort, correction function, dot, norm and comparison, every selection rule, tolerance, `maxit`, sizes and EVERY
    initial space (orthonormal or not, dependent or not), on a solver object in ANY state `s` (fresh or left behind by any
    history of earlier calls): after `compute_with_guess` the cached products are `A · basis` and every stored residue is the
    true residual `A x - θ x` of its Ritz pair. -/
theorem c15_cached_products (hL : Linear K A) (hO : OrthKeepsLeft K) (c : Cfg) (corr : List (Pair R M) → List M)
    (guess : List M) (sel : Int) (maxit : Nat) (tol : R) (s : St R M) :
    let r := (computeWithGuess K c corr guess sel maxit tol s).1
    r.opBasis = (r.basis.take r.opBasis.length).map A ∧ ∀ p ∈ r.pairs, p.residue = A p.vector - p.value • p.vector := by
  have := loop_inv hL hO c corr sel tol maxit maxit _ (inv_start K A guess)
  exact ⟨this.1, this.2.2⟩

/-- the same for a matrix acting on coordinate vectors (Mathlib `Matrix.mulVec`) -/
theorem c15_cached_products_matrix {n : Nat} (Am : Matrix (Fin n) (Fin n) R) (K : Kern R (Fin n → R))
    (hz : K.zero = 0) (hadd : ∀ u v, K.add u v = u + v) (hsub : ∀ u v, K.sub u v = u - v)
    (hsmul : ∀ (a : R) v, K.smul a v = a • v) (happ : ∀ v, K.apply v = Am.mulVec v) (hO : OrthKeepsLeft K)
    (c : Cfg) (corr : List (Pair R (Fin n → R)) → List (Fin n → R)) (guess : List (Fin n → R)) (sel : Int) (maxit : Nat) (tol : R) :
    let r := (computeWithGuess K c corr guess sel maxit tol construct).1
    r.opBasis = (r.basis.take r.opBasis.length).map Am.mulVec ∧
    ∀ p ∈ r.pairs, p.residue = Am.mulVec p.vector - p.value • p.vector := by
  let L : (Fin n → R) →ₗ[R] (Fin n → R) :=
    { toFun := Am.mulVec, map_add' := Am.mulVec_add, map_smul' := fun a v => by simp [Matrix.mulVec_smul] }
  have hL : Linear K L := ⟨hz, hadd, hsub, hsmul, happ⟩
  exact c15_cached_products K L hL hO c corr guess sel maxit tol construct

/-- **the headline clause.**  `Successful` ⇒ the convergence test was passed BY THE TRUE RESIDUALS: for every linear operator
    and all kernels as above, fresh solver: if `info() == Successful` then for each of the first `nev` stored pairs
    `‖A x - θ x‖ < tol` holds (as evaluated by the model's `norm` and `<`), where `x`, `θ` are what `eigenvectors()`,
    `eigenvalues()` return — not merely for the cached products. -/
theorem c15_successful_true_residuals (hL : Linear K A) (hO : OrthKeepsLeft K) (c : Cfg) (corr : List (Pair R M) → List M)
    (guess : List M) (sel : Int) (maxit : Nat) (tol : R)
    (h : (computeWithGuess K c corr guess sel maxit tol construct).1.info = .successful) :
    ∀ p ∈ (computeWithGuess K c corr guess sel maxit tol construct).1.pairs.take c.nev,
      K.lt (K.norm (A p.vector - p.value • p.vector)) tol = true := by
  intro p hp
  have h1 := (c15_cached_products K A hL hO c corr guess sel maxit tol construct).2 p (List.mem_of_mem_take hp)
  have hp0 := loop_successful K c corr sel tol maxit maxit (start guess) (by simp [start]) h
  have h2 := (succPost_consequences K c tol _ hp0).1 p hp
  rw [← h1]; exact h2

end ring

section anytype
variable {σ ν : Type} (K : Kern σ ν)

/-- **c15_successful.**  For ALL kernels and arbitrary scalar/vector types, a solver object in ANY state `s` (whatever `info()`
    it reported before the call: the prologue resets it to `NotComputed`), every `maxit` (0 included): if `compute_with_guess`
    ends with `info() == Successful`, then the search space holds at least `nev` Ritz pairs, the test `‖residue‖ < tol` of THIS
    call passed for each of the first `nev` of them, and `compute` returns `nev`. -/
theorem c15_successful (c : Cfg) (corr : List (Pair σ ν) → List ν) (guess : List ν) (sel : Int) (maxit : Nat) (tol : σ)
    (s : St σ ν)
    (h : (computeWithGuess K c corr guess sel maxit tol s).1.info = .successful) :
    let r := computeWithGuess K c corr guess sel maxit tol s
    (∀ p ∈ r.1.pairs.take c.nev, K.lt (K.norm p.residue) tol = true) ∧
    r.2 = c.nev ∧ c.nev ≤ r.1.pairs.length ∧ (eigenvalues c r.1).length = c.nev ∧ (eigenvectors c r.1).length = c.nev := by
  have hp := loop_successful K c corr sel tol maxit maxit (start guess) (by simp [start]) h
  have := succPost_consequences K c tol _ hp
  refine ⟨this.1, this.2.1, this.2.2, ?_, ?_⟩
  · simp only [eigenvalues, List.length_map, List.length_take]
    exact Nat.min_eq_left this.2.2
  · simp only [eigenvectors, List.length_map, List.length_take]
    exact Nat.min_eq_left this.2.2

/-- **c15_iterations.**  For ALL kernels, `maxit ≥ 1`: the loop stops with `num_iterations() < maxit`, performs exactly
    `num_iterations() + 1` Rayleigh–Ritz steps, every step (after the restart bookkeeping) sees a search space of at most
    `max_search_space_size` columns (given `initial ≤ max`), and the space at exit has at most that many columns. -/
theorem c15_iterations (c : Cfg) (corr : List (Pair σ ν) → List ν) (guess : List ν) (sel : Int) (maxit : Nat) (tol : σ)
    (s : St σ ν) (hm : 1 ≤ maxit) (hc : c.initSize ≤ c.maxSize) :
    let r := (computeWithGuess K c corr guess sel maxit tol s).1
    r.niter < maxit ∧ r.sizes.length = r.niter + 1 ∧ (∀ z ∈ r.sizes, z ≤ c.maxSize) ∧ r.basis.length ≤ c.maxSize := by
  have h1 := loop_niter K c corr sel tol maxit maxit (start guess) (by simp [start]) (by omega)
  have h2 := loop_sizes K c corr sel tol maxit maxit (start guess) hc (by simp [start])
  have h3 := loop_exit_size K c corr sel tol maxit maxit (start guess) hc (by omega) (by simp [start])
  refine ⟨h1.1, ?_, h2, h3⟩
  have := h1.2.1
  have e1 : (start guess : St σ ν).sizes.length = 0 := rfl
  have e2 : (start guess : St σ ν).niter = 0 := rfl
  rw [e1, e2] at this
  simp only [computeWithGuess_eq]
  omega

/-- **c15_iterations, restart bookkeeping.**  If the kernels keep lengths (`LenSpec`: the orthogonaliser returns as many
    columns as it was given, the correction has `correction_size` columns, the eigen-solver returns one pair per column of
    the small matrix, sorting keeps the number of pairs) and the initial space has between `initial` and `max` columns, then
    EVERY Rayleigh–Ritz step — whatever the convergence tests and the numbers — sees a search space of size in
    `[initial_search_space_size, max_search_space_size]`: growth by `correction_size`, reset to `initial` by `restart`. -/
theorem c15_iterations_bookkeeping (c : Cfg) (corr : List (Pair σ ν) → List ν) (guess : List ν)
    (sel : Int) (hS : LenSpec K c corr sel) (maxit : Nat) (tol : σ) (s : St σ ν) (hc : c.initSize ≤ c.maxSize)
    (hg1 : c.initSize ≤ guess.length) (hg2 : guess.length ≤ c.maxSize) :
    ∀ z ∈ (computeWithGuess K c corr guess sel maxit tol s).1.sizes, c.initSize ≤ z ∧ z ≤ c.maxSize := by
  apply loop_sizes_between K c corr sel hS tol maxit maxit (start guess) hc
  · refine ⟨⟨by simp [start], by simp [start]⟩, by simpa [start] using hg1, ?_⟩
    intro h; simp only [start] at h; omega
  · intro z hz; simp [start] at hz

end anytype

/-- the orthogonaliser of the EXECUTABLE model (the instance the correspondence check runs) meets the structural hypothesis
    `OrthKeepsLeft` of the theorems above: it never writes the first `left_cols_to_skip` columns -/
theorem c15_exec_orth_keeps_left {α : Type} [Add α] [Sub α] [Mul α] [Div α] [Neg α] [Sc α]
    (cols : List (Lin.Vec α)) (skip : Nat) : (Exec.orthTwice cols skip).take skip = cols.take skip := by
  unfold Exec.orthTwice
  rw [jwPass_keepsLeft, jwPass_keepsLeft]

/-- sizes after the translated constructor initialisers and `initialize()`: `max ≤ n`, `initial + correction ≤ n` and
    (repair of F18) `nev ≤ initial`, for every requested size
    (part of **c15_iterations**: the guards the loop relies on, proved about the regenerated `Gen.JD`) -/
theorem c15_sizes (nev ni nm n : Int) (hn : 0 ≤ n) :
    let c := Gen.JD.jd_ctor_sizes nev ni nm n
    let i := Gen.JD.jd_initialize c.1 c.2.1 c.2.2 nev n
    i.1 ≤ n ∧ i.2.1 + i.2.2 ≤ n ∧ nev ≤ i.2.1 :=
  jd_initialize_bounds _ _ _ nev n

/-- for the arguments `check_argument` admits (`1 ≤ nev ≤ n - 1`), no size is negative: the constructor sets `correction = nev` -/
theorem c15_sizes_nonneg (nev ni nm n : Int) (hnev : 1 ≤ nev) (hnev2 : nev ≤ n - 1) :
    let c := Gen.JD.jd_ctor_sizes nev ni nm n
    let i := Gen.JD.jd_initialize c.1 c.2.1 c.2.2 nev n
    0 ≤ i.2.1 ∧ 0 ≤ i.2.2 :=
  jd_initialize_nonneg _ _ nev nev n (by omega) (by omega) (by omega)

/-- the same on the configuration record the model uses -/
theorem c15_sizes_cfg (nev ni nm n : Int) (hnev : 1 ≤ nev) (hnev2 : nev ≤ n - 1) :
    ((cfgOf nev ni nm n).maxSize : Int) ≤ n ∧ ((cfgOf nev ni nm n).initSize : Int) + (cfgOf nev ni nm n).corrSize ≤ n ∧
    (cfgOf nev ni nm n).nev ≤ (cfgOf nev ni nm n).initSize := by
  have h1 := c15_sizes nev ni nm n (by omega)
  have h2 := c15_sizes_nonneg nev ni nm n hnev hnev2
  simp only at h1 h2
  simp only [cfgOf]
  omega

/-- the input of finding F18: the library's own defaults for `n = 10`, `nev = 6` pass `check_argument` and give an initial space of
    `6 = nev` columns and a correction of 3 (the C++ code before the repair of F18 gave 3 and 3) -/
example :
    Gen.Guard.jd_check_argument 6 10 = Res.ok () ∧ cfgOf 6 12 60 10 = { nev := 6, maxSize := 10, initSize := 6, corrSize := 3 } := by
  decide

section order
variable {F : Type} [Field F] [LinearOrder F] [IsStrictOrderedRing F] (Fn : FieldFns F) {ν : Type}

/-- **c15_order.**  With the library's `argsort` (translated from SelectionRule.h) in the place of the sort kernel and every
    other kernel arbitrary: unless the small eigenproblem failed (`NumericalIssue`), the Ritz values stored at exit — hence
    `eigenvalues()`, their first `nev` — are ordered by the selection rule: descending `|x|` (LargestMagn 0), descending `x`
    (LargestAlge 3), ascending `|x|` (SmallestMagn 4), ascending `x` (SmallestAlge 7); ties allowed. -/
theorem c15_order (K : Kern F ν) (hK : K.argsort = @Exec.argsortList F _ _ _ _ _ (scOfField Fn))
    (sel : Int) (hsel : sel = 0 ∨ sel = 3 ∨ sel = 4 ∨ sel = 7)
    (c : Cfg) (corr : List (Pair F ν) → List ν) (guess : List ν) (maxit : Nat) (tol : F) (s : St F ν) (hm : 1 ≤ maxit) :
    let r := (computeWithGuess K c corr guess sel maxit tol s).1
    r.info = .numericalIssue ∨
    (r.pairs.map (fun p => p.value)).Pairwise (fun x y =>
      (sel = 0 → |y| ≤ |x|) ∧ (sel = 3 → y ≤ x) ∧ (sel = 4 → |x| ≤ |y|) ∧ (sel = 7 → x ≤ y)) := by
  exact loop_pairs_sorted K
    (fun ps => (ps.map (fun p => p.value)).Pairwise (fun x y =>
      (sel = 0 → |y| ≤ |x|) ∧ (sel = 3 → y ≤ x) ∧ (sel = 4 → |x| ≤ |y|) ∧ (sel = 7 → x ≤ y)))
    c corr sel tol (fun s' => sortPairs_ordered Fn K hK sel hsel s') maxit maxit
    (start guess) (by simp [start]) (by omega)

/-- the translated `argsort` meets the specifications assumed of the sort kernel elsewhere: it repeats no index
    (`ArgsortSpec` in `c15_unit_orth_spec`) and `RitzPairs::sort` keeps the number of pairs (`LenSpec.sort` in
    `c15_iterations_bookkeeping`), for the four rules of the symmetric solvers -/
theorem c15_argsort_spec (K : Kern F ν) (hK : K.argsort = @Exec.argsortList F _ _ _ _ _ (scOfField Fn))
    (sel : Int) (hsel : sel = 0 ∨ sel = 3 ∨ sel = 4 ∨ sel = 7) :
    (∀ vals : List F, (K.argsort sel vals).Nodup) ∧
    (∀ ps : List (Pair F ν), ((K.argsort sel (ps.map (fun p => p.value))).filterMap (fun i => ps[i]?)).length = ps.length) :=
  ⟨fun vals => by rw [hK]; exact argsortList_nodup Fn sel vals hsel, fun ps => sortPairs_length Fn K hK sel hsel ps⟩

/-- the length hypotheses of `c15_iterations_bookkeeping` are satisfiable with the library's own `argsort` as sort kernel -/
example (sel : Int) (hsel : sel = 0 ∨ sel = 3 ∨ sel = 4 ∨ sel = 7) (c : Cfg) :
    ∃ (K : Kern F F) (corr : List (Pair F F) → List F), LenSpec K c corr sel :=
  ⟨{ zero := 0, add := (· + ·), sub := (· - ·), smul := (· * ·), dot := (· * ·), norm := fun x => x * x, lt := fun x y => decide (x < y),
     apply := id, eig := fun G => (true, G.map (fun col => col.headD 0), G.map (fun _ => [1])), orth := fun l _ => l,
     argsort := @Exec.argsortList F _ _ _ _ _ (scOfField Fn) },
   fun _ => List.replicate c.corrSize 0,
   ⟨fun _ _ => rfl, fun _ => by simp, fun G => by simp, fun ps => (c15_argsort_spec Fn _ rfl sel hsel).2 ps⟩⟩

/-- `eigenvalues()` is a prefix of the stored values, so it inherits the order -/
theorem c15_order_eigenvalues (c : Cfg) (s : St F ν) (P : F → F → Prop)
    (h : (s.pairs.map (fun p => p.value)).Pairwise P) : (eigenvalues c s).Pairwise P := by
  unfold eigenvalues
  rw [List.map_take]
  exact h.sublist (List.take_sublist _ _)

end order

section gram
variable {R M : Type} [CommRing R] [AddCommGroup M] [Module R M] (K : Kern R M) (A : M →ₗ[R] M)

/-- **c15_unit_orth.**  For every symmetric bilinear form `ip` (the Euclidean dot product in the application), all kernels
    as in `c15_cached_products`, `maxit ≥ 1`, solver object in any state: IF the search-space basis at exit is orthonormal w.r.t. `ip`
    and the small eigenvectors have one coefficient per basis column, THEN the Gram matrix of the stored Ritz vectors equals
    the Gram matrix of the small eigenvectors: `⟨x_p, x_q⟩ = y_p · y_q`.  So orthonormal small eigenvectors (the
    specification of `SelfAdjointEigenSolver`) give `‖x‖ = 1` and mutual orthogonality.  The hypothesis on the basis is
    exactly what a non-orthonormal user space violates (counter-model below). -/
theorem c15_unit_orth (ip : M → M → R) (hip : IsSymBilin ip) (hL : Linear K A) (hO : OrthKeepsLeft K)
    (c : Cfg) (corr : List (Pair R M) → List M) (guess : List M) (sel : Int) (maxit : Nat) (tol : R) (s : St R M)
    (hm : 1 ≤ maxit) :
    let r := (computeWithGuess K c corr guess sel maxit tol s).1
    ON ip r.basis → (∀ p ∈ r.pairs, p.small.length = r.basis.length) →
    ∀ p ∈ r.pairs, ∀ q ∈ r.pairs, ip p.vector q.vector = sdot p.small q.small := by
  intro r hON hlen p hp q hq
  have hI := loop_invFull hL hO c corr sel tol maxit maxit _ (inv_start K A guess) (Nat.zero_add _) hm
  have hp' := hI.2.1 p hp
  have hq' := hI.2.1 q hq
  rw [hp', hq']
  exact gram ip hip hL _ hON _ _ (hlen p hp) (hlen q hq)

/-- unit norm and orthogonality spelled out -/
theorem c15_unit_orth_corollary (ip : M → M → R) (p q : Pair R M)
    (hg : ip p.vector q.vector = sdot p.small q.small) (hpp : ip p.vector p.vector = sdot p.small p.small) :
    (sdot p.small p.small = 1 → ip p.vector p.vector = 1) ∧ (sdot p.small q.small = 0 → ip p.vector q.vector = 0) :=
  ⟨fun h => hpp.trans h, fun h => hg.trans h⟩

/-- **c15_unit_orth, guaranteed case.**  If in addition the kernels meet their SPECIFICATION — the eigen-solver returns
    orthonormal eigenvector columns of the right length (`EigSpec`), the orthogonaliser returns an orthonormal list whenever
    the columns it must keep are orthonormal (`OrthSpec`), `argsort` repeats no index (`ArgsortSpec`) — and the initial space
    is orthonormal (the default one is: `c15_default_space_orthonormal`), then at exit the search-space basis is orthonormal
    and the stored Ritz vectors (hence `eigenvectors()`) have unit norm and are mutually orthogonal.  Restart, extension,
    sorting and every outcome of the convergence tests are covered. -/
theorem c15_unit_orth_spec (ip : M → M → R) (hip : IsSymBilin ip) (hL : Linear K A) (hO : OrthKeepsLeft K)
    (hQ : OrthSpec ip K) (hE : EigSpec K) (hS : ArgsortSpec K)
    (c : Cfg) (corr : List (Pair R M) → List M) (guess : List M) (sel : Int) (maxit : Nat) (tol : R) (s : St R M)
    (hm : 1 ≤ maxit) (hG : ON ip guess) :
    let r := (computeWithGuess K c corr guess sel maxit tol s).1
    ON ip r.basis ∧ r.pairs.Pairwise (fun p q => ip p.vector q.vector = 0) ∧ ∀ p ∈ r.pairs, ip p.vector p.vector = 1 := by
  have h0 : InvON ip K A (start guess) :=
    show Inv K A _ ∧ _ from ⟨inv_start K A guess, hG, List.Pairwise.nil, fun _ hp => absurd hp List.not_mem_nil⟩
  have hI := loop_invFullON ip hip hL hO hQ hE hS c corr sel tol maxit maxit _ h0 (Nat.zero_add _) hm
  exact ⟨hI.2.1, hI.2.2.1, hI.2.2.2⟩

end gram

/-- the Euclidean dot product of coordinate vectors is a symmetric bilinear form -/
theorem c15_dotProduct_symBilin {R : Type} [CommRing R] {n : Nat} :
    IsSymBilin (fun u v : Fin n → R => dotProduct u v) :=
  ⟨fun u v w => add_dotProduct u v w, fun a u w => by simp [smul_dotProduct], fun u v => dotProduct_comm u v⟩

/-- the default initial space of `DavidsonSymEigsSolver` — unit coordinate vectors at pairwise distinct rows (the first
    `m_initial_search_space_size` entries of an argsort permutation) — is orthonormal -/
theorem c15_default_space_orthonormal {R : Type} [CommRing R] {n : Nat} (rows : List (Fin n)) (h : rows.Nodup) :
    ON (fun u v : Fin n → R => dotProduct u v) (rows.map (fun i => Pi.single i (1 : R))) := by
  constructor
  · rw [List.pairwise_map]
    refine List.Pairwise.imp ?_ h
    intro i j hij
    simp [hij]
  · intro u hu
    obtain ⟨i, _, rfl⟩ := List.mem_map.mp hu
    simp


/-! ### the extension step: which orthogonaliser runs, and what it guarantees for every input -/

open Gen.JDOrth in
/-- **the extension step is project + Householder QR.**  Decided over the call footprint `Gen.JDOrth.orth_calls` (every free-function
    call, member call and class-typed local of every function template of `LinAlg/Orthogonalization.h` and of
    `SearchSpace::append_new_vectors_to_basis` / `extend_basis`, regenerated from the clang AST of the working tree on every run):
    (1) `extend_basis` calls `twice_is_enough_orthogonalisation(m_basis_vectors, left_cols_to_skip)` and no other free function;
    (2) that is two calls of `JensWehner_orthogonalisation(in_output, left_cols_to_skip)`;
    (3) which is `assert_left_cols_to_skip; subspace_orthogonalisation(in_output, left_cols_to_skip);` then
        `QR_orthogonalisation(right_cols)` on `right_cols = in_output.rightCols(right_cols_to_ortho)`;
    (4) `QR_orthogonalisation` builds an `Eigen::HouseholderQR<Matrix>` of the block and assigns `qr.householderQ() * I` to it;
    (5) no function on this path calls `MGS_orthogonalisation`, `GS_orthogonalisation`, `treat_first_col` or any `normalize` — the
        Gram–Schmidt routines of the same header, whose `normalize()` leaves a ZERO column when the new columns are linearly
        dependent — and the only free functions called on the path are the ones named here (+ `std::min`, `Identity`);
    (6) all of these are function templates of the header.
    So the kernel `K.orth` of the model stands for a Householder Q factor, whose specification `OrthBlockSpec`
    (`c15_extension_block_orthonormal`) the step replay checks on every recorded output. -/
theorem c15_extension_uses_householder_qr :
    (orth_calls.filter (fun c => c.fn = "SearchSpace::extend_basis" ∧ c.kind ≠ "member")).map (fun c => (c.kind, c.callee, c.args)) =
      [("call", "twice_is_enough_orthogonalisation", "m_basis_vectors, left_cols_to_skip")] ∧
    (orth_calls.filter (fun c => c.fn = "twice_is_enough_orthogonalisation")).map (fun c => (c.kind, c.callee, c.args)) =
      [("call", "JensWehner_orthogonalisation", "in_output, left_cols_to_skip"), ("call", "JensWehner_orthogonalisation", "in_output, left_cols_to_skip")] ∧
    (orth_calls.filter (fun c => c.fn = "JensWehner_orthogonalisation" ∧ c.kind ≠ "member")).map (fun c => (c.kind, c.callee, c.args)) =
      [("call", "assert_left_cols_to_skip", "in_output, left_cols_to_skip"),
       ("call", "subspace_orthogonalisation", "in_output, left_cols_to_skip"),
       ("local", "Eigen::Ref<Matrix>", "right_cols := in_output.rightCols(right_cols_to_ortho)"),
       ("call", "QR_orthogonalisation", "right_cols")] ∧
    (orth_calls.filter (fun c => c.fn = "QR_orthogonalisation" ∧ (c.kind = "local" ∨ c.callee = "householderQ" ∨ c.callee = "noalias"))).map
        (fun c => (c.kind, c.callee, c.args)) =
      [("local", "Eigen::HouseholderQR<Matrix>", "qr := (in_output)"), ("member", "noalias", "in_output.leftCols(ncols) | "), ("member", "householderQ", "qr | ")] ∧
    (∀ c ∈ orth_calls, c.fn ∈ ["SearchSpace::extend_basis", "SearchSpace::append_new_vectors_to_basis", "twice_is_enough_orthogonalisation",
        "JensWehner_orthogonalisation", "subspace_orthogonalisation", "QR_orthogonalisation", "assert_left_cols_to_skip"] →
      c.callee ∉ ["MGS_orthogonalisation", "GS_orthogonalisation", "treat_first_col", "normalize", "normalized", "stableNormalize"] ∧
      (c.kind = "call" → c.callee ∈ ["twice_is_enough_orthogonalisation", "JensWehner_orthogonalisation", "subspace_orthogonalisation",
        "QR_orthogonalisation", "assert_left_cols_to_skip", "min", "InternalMatrix::Identity"])) ∧
    (∀ f ∈ ["twice_is_enough_orthogonalisation", "JensWehner_orthogonalisation", "subspace_orthogonalisation", "QR_orthogonalisation",
        "assert_left_cols_to_skip"], f ∈ orth_functions) := by
  decide +kernel

section block
variable {R M : Type} [CommRing R] [AddCommGroup M] [Module R M] (K : Kern R M)

/-- **c15_extension_block_orthonormal.**  For every orthogonaliser that leaves the old columns alone and meets the Q-factor
    specification `OrthBlockSpec … d` in dimension `d` (as many columns out as in; the columns behind the first `left_cols_to_skip`
    orthonormal among themselves — what the leading columns of a Householder Q factor are for EVERY block of at most `d` columns,
    linearly dependent or not), every state (orthonormal basis or not) and every list of at most `d` corrections (dependent,
    repeated, zero; `correction_size ≤ n` by `c15_sizes`): `extend_basis` keeps the old columns,
    appends exactly as many columns as corrections, the appended block is orthonormal, and (in a non-trivial ring) NO appended
    column is the zero vector.  The harness checks `OrthBlockSpec` on every recorded kernel output (`blockok`). -/
theorem c15_extension_block_orthonormal (ip : M → M → R) (hip : IsSymBilin ip) {d : Nat} (hO : OrthKeepsLeft K)
    (hB : OrthBlockSpec ip K d) (s : St R M) (newv : List M) (hd : newv.length ≤ d) (h01 : (1 : R) ≠ 0) :
    let b := (extendBasis K newv s).basis
    b.take s.basis.length = s.basis ∧ b.length = s.basis.length + newv.length ∧
    ON ip (b.drop s.basis.length) ∧ ∀ v ∈ b.drop s.basis.length, ip v v = 1 ∧ v ≠ 0 := by
  intro b
  obtain ⟨h1, h2, h3⟩ := extend_block ip hO hB s newv hd
  refine ⟨?_, ?_, h3, ?_⟩
  · show (extendBasis K newv s).basis.take s.basis.length = s.basis
    rw [h1]; simp
  · show (extendBasis K newv s).basis.length = _
    rw [h1, List.length_append, h2]
  · intro v hv
    refine ⟨h3.2 v hv, ?_⟩
    intro hz
    have := h3.2 v hv
    rw [hz, hip.zero_left] at this
    exact h01 this.symm

end block

section dpr
variable {F : Type} [Field F]

/-- the raw DPR quotient `r_i / (θ - a_ii)` solves the DPR equation `(θ - a_ii) t_i = r_i` for every residue iff `θ ≠ a_ii`
    for all `i` — nothing in the solver establishes the right-hand side, which is why the quotient must be guarded -/
theorem c15_dpr_quotient_defined_iff (n : Nat) (d : Nat → F) (θ : F) :
    (∀ r : Nat → F, ∀ i < n, (θ - d i) * (r i / (θ - d i)) = r i) ↔ ∀ i < n, θ ≠ d i := by
  constructor
  · intro h i hi heq
    have := h (fun _ => 1) i hi
    rw [heq, sub_self, zero_mul] at this
    exact zero_ne_one this
  · intro h r i hi
    have : θ - d i ≠ 0 := sub_ne_zero.mpr (h i hi)
    field_simp

end dpr

section dprfix
variable {F : Type} [Field F] [LinearOrder F] [IsStrictOrderedRing F] (Fn : FieldFns F)
open Lin

/-- **c15_correction_defined** (repaired code).  `calculate_correction_vector` is `(tmp == 0).select(0, residue / tmp)` with
    `tmp = θ - diagonal`.  For EVERY `θ`, diagonal and residue:
    (1) the result does not depend on what a division by zero evaluates to — computed with any division function that agrees
        with the field's on non-zero denominators (IEEE: NaN, ±inf for `x/0`) it is the same vector, so no entry is ever the
        outcome of `0/0` or `x/0`: the correction is finite whenever its inputs are;
    (2) entry `i` is the DPR quotient `r_i / (θ - a_ii)`, i.e. solves `(θ - a_ii) t_i = r_i`, wherever `θ ≠ a_ii`;
    (3) entry `i` is `0` where `θ = a_ii` (pseudo-inverse of the singular diagonal preconditioner). -/
theorem c15_correction_defined (diag : Vec F) (θ : F) (r : Vec F) :
    (∀ dv : F → F → F, (∀ a b : F, b ≠ 0 → dv a b = a / b) →
      @Exec.dprColumn F _ ⟨dv⟩ (scOfField Fn) diag θ r = @Exec.dprColumn F _ _ (scOfField Fn) diag θ r) ∧
    (∀ i < diag.size, θ ≠ @vget F (scOfField Fn) diag i →
      (θ - @vget F (scOfField Fn) diag i) * @vget F (scOfField Fn) (@Exec.dprColumn F _ _ (scOfField Fn) diag θ r) i
        = @vget F (scOfField Fn) r i) ∧
    (∀ i < diag.size, θ = @vget F (scOfField Fn) diag i →
      @vget F (scOfField Fn) (@Exec.dprColumn F _ _ (scOfField Fn) diag θ r) i = 0) := by
  refine ⟨fun dv hdv => dprColumn_indep Fn dv hdv diag θ r, ?_, ?_⟩
  · intro i hi hne
    rw [dprColumn_entry Fn diag θ r i hi]
    have : θ - @vget F (scOfField Fn) diag i ≠ 0 := sub_ne_zero.mpr hne
    simp only [this, if_false]
    field_simp
  · intro i hi heq
    rw [dprColumn_entry Fn diag θ r i hi]
    simp [heq]

end dprfix

/-! ### ownership and reset footprint of the solver object (regenerated tables `Gen.JDMembers`) -/

/-- every `break` of a flattened body is directly preceded, in the same block, by an assignment to `m_info` -/
def breaksAfterInfo : List Gen.JDMembers.Stmt → Bool
  | a :: b :: rest => (b.kind != "break" || (a.kind == "assign" && a.target == "m_info" && a.depth == b.depth)) && breaksAfterInfo (b :: rest)
  | [b] => b.kind != "break"
  | [] => true

open Gen.JDMembers in
/-- **the object owns everything but the operator.**  Decided over `Gen.JDMembers.members` / `aliases` / `flow` (every data member and
    type alias of `JDSymEigsBase`, `DavidsonSymEigsSolver`, `SearchSpace`, `RitzPairs` and the flattened bodies of `compute`,
    `compute_with_guess`, the accessors and `initialize_search_space`, regenerated from the clang AST of the working tree on every run):
    (1) these are ALL the data members, with these declared types: no cache of earlier results, no copy of a caller's argument other than
        the ones below;
    (2) the only member that is a reference, a pointer or a non-owning handle (`Eigen::Ref` / `Map`, `reference_wrapper`, smart pointer,
        `std::function`) is `JDSymEigsBase::m_matrix_operator`; no member is `mutable`;
    (3) the aliases the members are declared with (`Matrix`, `Vector`, `Array`, `BoolArray`) are owning `Eigen::Matrix` / `Eigen::Array` types;
    (4) the caller's initial space reaches the object through `m_search_space.initialize_search_space(initial_space)` only, where it is
        COPIED into the owning `m_basis_vectors`; `compute()` builds its own `Matrix intial_space`; `selection`, `maxit`, `tol` are
        by-value parameters;
    (5) the accessors return by value (`CompInfo`, `Index`, `Vector`, `Matrix`) and are `const`.
    So destroying or overwriting the guess matrix, the rule, `maxit`, `tol` or the constructor's size arguments after the call cannot change
    what the accessors return; only the operator object must outlive the solver. -/
theorem c15_members_owning :
    members.map (fun m => (m.cls, m.name, m.type)) =
      [("JDSymEigsBase", "m_matrix_operator", "const OpType&"), ("JDSymEigsBase", "niter_", "Index"),
       ("JDSymEigsBase", "m_number_eigenvalues", "const Index"), ("JDSymEigsBase", "m_max_search_space_size", "Index"),
       ("JDSymEigsBase", "m_initial_search_space_size", "Index"), ("JDSymEigsBase", "m_correction_size", "Index"),
       ("JDSymEigsBase", "m_ritz_pairs", "RitzPairs<Scalar>"), ("JDSymEigsBase", "m_search_space", "SearchSpace<Scalar>"),
       ("JDSymEigsBase", "m_info", "CompInfo"), ("DavidsonSymEigsSolver", "m_diagonal", "Vector"),
       ("SearchSpace", "m_basis_vectors", "Matrix"), ("SearchSpace", "m_op_basis_product", "Matrix"),
       ("RitzPairs", "m_values", "Vector"), ("RitzPairs", "m_small_vectors", "Matrix"), ("RitzPairs", "m_vectors", "Matrix"),
       ("RitzPairs", "m_residues", "Matrix"), ("RitzPairs", "m_root_converged", "BoolArray")] ∧
    (members.filter (fun m => m.isRef || m.isPtr)).map (fun m => (m.cls, m.name)) = [("JDSymEigsBase", "m_matrix_operator")] ∧
    (∀ m ∈ members, m.isMutable = false) ∧
    (∀ a ∈ aliases, a.2.1 ∈ ["Matrix", "Vector", "Array", "BoolArray"] →
      a.2.2 ∈ ["Eigen::Matrix<Scalar, Eigen::Dynamic, Eigen::Dynamic>", "Eigen::Matrix<Scalar, Eigen::Dynamic, 1>",
               "Eigen::Array<Scalar, Eigen::Dynamic, 1>", "Eigen::Array<bool, Eigen::Dynamic, 1>"]) ∧
    (flow.filter (fun r => r.fn = "JDSymEigsBase::compute")).map (fun r => (r.kind, r.target, r.text)) =
      [("signature", "Index", "(Spectra::SortRule, Spectra::JDSymEigsBase::Index, Spectra::JDSymEigsBase::Scalar)"),
       ("decl", "derived", "Derived& := static_cast<Derived&>(*this)"),
       ("decl", "intial_space", "Matrix := derived.setup_initial_search_space(selection)"),
       ("return", "", "compute_with_guess(intial_space, selection, maxit, tol)")] ∧
    (flow.filter (fun r => r.fn = "JDSymEigsBase::compute_with_guess" ∧ (r.kind = "signature" ∨ r.text = "initial_space"))).map
        (fun r => (r.kind, r.target, r.text)) =
      [("signature", "Index", "(const Eigen::Ref<const Matrix> &, Spectra::SortRule, Spectra::JDSymEigsBase::Index, Spectra::JDSymEigsBase::Scalar)"),
       ("call", "m_search_space.initialize_search_space", "initial_space")] ∧
    (flow.filter (fun r => r.fn = "SearchSpace::initialize_search_space")).map (fun r => (r.depth, r.kind, r.target, r.text)) =
      [(0, "signature", "void", "(const Eigen::Ref<const Matrix> &)"), (0, "assign", "m_basis_vectors", "initial_vectors"),
       (0, "assign", "m_op_basis_product", "Matrix(initial_vectors.rows(), 0)")] ∧
    (flow.filter (fun r => r.fn ∈ ["JDSymEigsBase::info", "JDSymEigsBase::num_iterations", "JDSymEigsBase::eigenvalues",
        "JDSymEigsBase::eigenvectors"])).map (fun r => (r.fn, r.kind, r.target, r.text)) =
      [("JDSymEigsBase::info", "signature", "CompInfo", "() const"), ("JDSymEigsBase::info", "return", "", "m_info"),
       ("JDSymEigsBase::num_iterations", "signature", "Index", "() const"), ("JDSymEigsBase::num_iterations", "return", "", "niter_"),
       ("JDSymEigsBase::eigenvalues", "signature", "Vector", "() const"),
       ("JDSymEigsBase::eigenvalues", "return", "", "m_ritz_pairs.ritz_values().head((std::min)(m_number_eigenvalues, m_ritz_pairs.size()))"),
       ("JDSymEigsBase::eigenvectors", "signature", "Matrix", "() const"),
       ("JDSymEigsBase::eigenvectors", "return", "", "m_ritz_pairs.ritz_vectors().leftCols((std::min)(m_number_eigenvalues, m_ritz_pairs.size()))")] :=
  by
  -- The member list is read off by unfolding `map`.  For each clause about `flow` the predicate is evaluated row by row (`marks`) and
  -- the rows at the marked positions are read off: deciding their equality with the rows written here would compare long equal
  -- texts through `String.decEq`, which is quadratic in their length for the kernel (Proofs/Rows.lean).
  refine ⟨rfl, rfl, by decide +kernel, by decide +kernel, ?_, ?_, ?_, ?_⟩
  · exact (congrArg _ (Rows.filter_eq_pick _ (· < 4) 0 _ (by decide +kernel))).trans rfl
  · exact (congrArg _ (Rows.filter_eq_pick _ (fun i => i == 4 || i == 7) 0 _ (by decide +kernel))).trans rfl
  · exact (congrArg _ (Rows.filter_eq_pick _ (fun i => 39 ≤ i && i < 42) 0 _ (by decide +kernel))).trans rfl
  · exact (congrArg _ (Rows.filter_eq_pick _ (fun i => 31 ≤ i && i < 39) 0 _ (by decide +kernel))).trans rfl

open Gen.JDMembers in
/-- **what a second `compute` resets** — the full clause: "`compute_with_guess` begins by resetting every result member", true of the code
    since /repo 6587027 (before it the prologue was `initialize_search_space(…); niter_ = 0;` only: findings F21, F21b, F21c).  Proved by
    decision over the regenerated tables `Gen.JDMembers.flow` / `members` / `special_members`:
    (1) the body of `compute_with_guess` is exactly this statement sequence (nesting depth, kind, target, text);
    (2) the statements before the `for`, all at nesting depth 0 (unconditional), are, in this order,
        `m_ritz_pairs = RitzPairs<Scalar>(); m_info = CompInfo::NotComputed; m_search_space.initialize_search_space(initial_space); niter_ = 0;`;
    (3) `initialize_search_space` assigns, unconditionally and as a whole, EVERY data member of `SearchSpace`;
    (4) the data members of `JDSymEigsBase` are the configuration (operator reference, `nev`, the three sizes) and the four result members
        `niter_`, `m_ritz_pairs`, `m_search_space`, `m_info`; the prologue names EVERY ONE of them (none is left out), and
        `compute_with_guess` assigns no other member (the configuration is not touched);
    (5) `RitzPairs<Scalar>()` is the empty object: the only constructor `RitzPairs` declares is `RitzPairs() = default`, no data member of
        `RitzPairs` has a default member initialiser, and it declares no assignment operator (the assignment in (2) is the implicit
        member-wise one) — with (3) of `c15_members_owning` (the members are dynamic-size `Eigen::Matrix` / `Eigen::Array`) all five
        arrays have size 0 after the assignment: no Ritz pair, no flag;
    (6) inside the loop `compute_eigen_pairs` and `check_convergence` together assign, unconditionally and as a whole, EVERY data member of
        `RitzPairs` (`m_root_converged` is then filled entry by entry for all `j < norms.size()`);
    (7) every `break` of the loop is directly preceded by an assignment to `m_info`; the statements made ON `m_ritz_pairs` are the reset at
        depth 0 and `m_ritz_pairs.sort(selection)` inside the loop.
    With the model theorem `c15_recompute` (same statement order, all kernels): a call on a used object leaves the object a fresh one would
    be left in — for every `maxit`, initial space and kernel outcome. -/
theorem c15_compute_resets :
    (flow.filter (fun r => r.fn = "JDSymEigsBase::compute_with_guess" ∧ r.kind ≠ "signature")).map (fun r => (r.depth, r.kind, r.target, r.text)) =
      [(0, "assign", "m_ritz_pairs", "RitzPairs<Scalar>()"),
       (0, "assign", "m_info", "CompInfo::NotComputed"),
       (0, "call", "m_search_space.initialize_search_space", "initial_space"),
       (0, "assign", "niter_", "0"),
       (0, "for", "", "niter_ = 0; niter_ < maxit; niter_++"),
       (1, "decl", "do_restart", "bool := (m_search_space.size() > m_max_search_space_size)"),
       (1, "if", "", "do_restart"),
       (2, "call", "m_search_space.restart", "m_ritz_pairs, m_initial_search_space_size"),
       (1, "call", "m_search_space.update_operator_basis_product", "m_matrix_operator"),
       (1, "decl", "small_problem_info", "Eigen::ComputationInfo := m_ritz_pairs.compute_eigen_pairs(m_search_space)"),
       (1, "if", "", "small_problem_info != Eigen::ComputationInfo::Success"),
       (2, "assign", "m_info", "CompInfo::NumericalIssue"),
       (2, "break", "", ""),
       (1, "call", "m_ritz_pairs.sort", "selection"),
       (1, "decl", "converged", "bool := m_ritz_pairs.check_convergence(tol, m_number_eigenvalues)"),
       (1, "if", "", "converged"),
       (2, "assign", "m_info", "CompInfo::Successful"),
       (2, "break", "", ""),
       (1, "else", "", ""),
       (2, "if", "", "niter_ == maxit - 1"),
       (3, "assign", "m_info", "CompInfo::NotConverging"),
       (3, "break", "", ""),
       (1, "decl", "derived", "Derived& := static_cast<Derived&>(*this)"),
       (1, "decl", "corr_vect", "Matrix := derived.calculate_correction_vector()"),
       (1, "call", "m_search_space.extend_basis", "corr_vect"),
       (0, "return", "", "(m_ritz_pairs.converged_eigenvalues()).template cast<Index>().head((std::min)(m_number_eigenvalues, m_ritz_pairs.converged_eigenvalues().size())).sum()")] ∧
    ((flow.filter (fun r => r.fn = "JDSymEigsBase::compute_with_guess" ∧ r.kind ≠ "signature")).takeWhile (fun r => r.kind ≠ "for")).map
        (fun r => (r.depth, r.kind, r.target, r.text, r.root)) =
      [(0, "assign", "m_ritz_pairs", "RitzPairs<Scalar>()", "m_ritz_pairs"), (0, "assign", "m_info", "CompInfo::NotComputed", "m_info"),
       (0, "call", "m_search_space.initialize_search_space", "initial_space", "m_search_space"), (0, "assign", "niter_", "0", "niter_")] ∧
    (flow.filter (fun r => r.fn = "SearchSpace::initialize_search_space" ∧ r.kind = "assign" ∧ r.depth = 0)).map (fun r => r.target) =
      (members.filter (fun m => m.cls = "SearchSpace")).map (fun m => m.name) ∧
    (members.filter (fun m => m.cls = "JDSymEigsBase")).map (fun m => m.name) =
      ["m_matrix_operator", "niter_", "m_number_eigenvalues", "m_max_search_space_size", "m_initial_search_space_size", "m_correction_size",
       "m_ritz_pairs", "m_search_space", "m_info"] ∧
    (["niter_", "m_ritz_pairs", "m_search_space", "m_info"].filter (fun m =>
        ((flow.filter (fun r => r.fn = "JDSymEigsBase::compute_with_guess" ∧ r.kind ≠ "signature")).takeWhile (fun r => r.kind ≠ "for")).all
          (fun r => r.root ≠ m))) = [] ∧
    (∀ r ∈ flow, r.fn = "JDSymEigsBase::compute_with_guess" → r.kind = "assign" → r.root ∈ ["m_ritz_pairs", "m_info", "niter_"]) ∧
    special_members.filter (fun r => r.1 = "RitzPairs") = [("RitzPairs", "RitzPairs", "void ()", "default")] ∧
    (∀ m ∈ members, m.cls = "RitzPairs" → m.init = "") ∧
    (flow.filter (fun r => (r.fn = "RitzPairs::compute_eigen_pairs" ∨ r.fn = "RitzPairs::check_convergence") ∧ r.kind = "assign" ∧ r.depth = 0)).map
        (fun r => r.target) = (members.filter (fun m => m.cls = "RitzPairs")).map (fun m => m.name) ∧
    (flow.filter (fun r => r.fn = "RitzPairs::check_convergence" ∧ (r.kind = "for" ∨ r.target = "m_root_converged[j]"))).map
        (fun r => (r.depth, r.kind, r.target, r.text)) =
      [(0, "for", "", "Index j = 0; j < norms.size(); j++"), (1, "assign", "m_root_converged[j]", "(norms[j] < tol)")] ∧
    (flow.filter (fun r => r.fn = "JDSymEigsBase::compute_with_guess" ∧ r.root = "m_ritz_pairs")).map (fun r => (r.depth, r.target)) =
      [(0, "m_ritz_pairs"), (1, "m_ritz_pairs.sort")] ∧
    breaksAfterInfo (flow.filter (fun r => r.fn = "JDSymEigsBase::compute_with_guess")) = true :=
  by
  -- the body of `compute_with_guess` without its signature is rows 5–30 of `flow` (evaluated); the two statement sequences are then
  -- read off those rows, their texts compared as literals, and the remaining clauses are evaluated
  rw [Rows.filter_eq_pick (m := fun i => 5 ≤ i && i < 31) (i := 0) (l := flow)]
  · exact ⟨rfl, rfl, by decide +kernel⟩
  · decide +kernel

/-! ### object reuse: every history of calls on ONE solver object -/
section reuse
variable {σ ν : Type} (K : Kern σ ν)

/-- **c15_recompute.**  For ALL kernels, EVERY state `s` an earlier history of calls (successful, not converging, ended by
    `NumericalIssue`, with other rules / tolerances / initial spaces, …) can have left in the object, EVERY `maxit` (0 included),
    EVERY initial space (also one wider than `max_search_space_size`, which restarts in the first trip) and every outcome of the
    small eigenproblems: a call `compute_with_guess(guess, sel, maxit, tol)` leaves EXACTLY the object, and returns exactly the
    value, that the same call produces on a freshly constructed solver: search space, cached products, Ritz pairs, flags,
    `num_iterations()`, `info()`.  Hence `eigenvalues()` / `eigenvectors()` and every theorem of this file hold after any
    history.  (Before /repo 6587027 this needed `maxit ≥ 1`, at most `max` columns and a first small eigenproblem that
    succeeds; the exceptions were findings F21, F21b, F21c.) -/
theorem c15_recompute (c : Cfg) (corr : List (Pair σ ν) → List ν) (guess : List ν) (sel : Int) (maxit : Nat) (tol : σ)
    (s : St σ ν) :
    computeWithGuess K c corr guess sel maxit tol s = computeWithGuess K c corr guess sel maxit tol construct :=
  rfl

/-- the same for the accessors: what `info()`, `num_iterations()`, `eigenvalues()`, `eigenvectors()` return after the call does not
    depend on the object's past -/
theorem c15_recompute_accessors (c : Cfg) (corr : List (Pair σ ν) → List ν) (guess : List ν) (sel : Int) (maxit : Nat) (tol : σ)
    (s : St σ ν) :
    let r := (computeWithGuess K c corr guess sel maxit tol s).1
    let f := (computeWithGuess K c corr guess sel maxit tol (construct : St σ ν)).1
    r.info = f.info ∧ r.niter = f.niter ∧ eigenvalues c r = eigenvalues c f ∧ eigenvectors c r = eigenvectors c f := by
  rw [c15_recompute K c corr guess sel maxit tol s]
  exact ⟨rfl, rfl, rfl, rfl⟩

/-- **`maxit = 0` on ANY object** (the case of finding F21): the loop body never runs, and whatever the object
    held — a `Successful` result of an earlier call included — it reports `NotComputed`, `compute` returns 0,
    `num_iterations()` is 0, `eigenvalues()` / `eigenvectors()` are empty, no Ritz pair and no flag is stored, and the search
    space holds the new initial space with no cached product. -/
theorem c15_maxit0_not_computed (c : Cfg) (corr : List (Pair σ ν) → List ν) (guess : List ν) (sel : Int) (tol : σ) (s : St σ ν) :
    let r := computeWithGuess K c corr guess sel 0 tol s
    r.1.info = .notComputed ∧ r.2 = 0 ∧ r.1.niter = 0 ∧ eigenvalues c r.1 = [] ∧ eigenvectors c r.1 = [] ∧
    r.1.pairs = [] ∧ r.1.conv = [] ∧ r.1.basis = guess ∧ r.1.opBasis = [] := by
  simp only [computeWithGuess_eq, loop_zero]
  simp [start, returnValue, eigenvalues, eigenvectors]

/-- **the status is this call's own**: after `compute_with_guess` with `maxit ≥ 1` on ANY object `info()` is one of `Successful`,
    `NotConverging`, `NumericalIssue` — never `NotComputed` — and with `maxit = 0` it is `NotComputed`: `info()` never carries over
    from an earlier call. -/
theorem c15_info_of_this_call (c : Cfg) (corr : List (Pair σ ν) → List ν) (guess : List ν) (sel : Int) (maxit : Nat) (tol : σ)
    (s : St σ ν) :
    (maxit = 0 → (computeWithGuess K c corr guess sel maxit tol s).1.info = .notComputed) ∧
    (1 ≤ maxit → (computeWithGuess K c corr guess sel maxit tol s).1.info ≠ .notComputed) := by
  refine ⟨?_, ?_⟩
  · rintro rfl; exact (c15_maxit0_not_computed K c corr guess sel tol s).1
  · intro hm
    rw [computeWithGuess_eq]
    exact loop_info_written K c corr sel tol maxit maxit (start guess) (by simp [start]) (by omega)

/-- **c15_successful after ANY history** (the same statement as `c15_successful`, which since the repair needs no hypothesis on the
    object's state; kept under this name as the clause "a reused object"): whatever the object held before, every `maxit`, every
    initial space: `Successful` means the test `‖residue‖ < tol` of THIS call passed for each of the first `nev` pairs of THIS call,
    at least `nev` pairs exist and `compute` returns `nev`. -/
theorem c15_successful_reused (c : Cfg) (corr : List (Pair σ ν) → List ν) (guess : List ν) (sel : Int) (maxit : Nat) (tol : σ)
    (s : St σ ν)
    (h : (computeWithGuess K c corr guess sel maxit tol s).1.info = .successful) :
    let r := computeWithGuess K c corr guess sel maxit tol s
    (∀ p ∈ r.1.pairs.take c.nev, K.lt (K.norm p.residue) tol = true) ∧
    r.2 = c.nev ∧ c.nev ≤ r.1.pairs.length ∧ (eigenvalues c r.1).length = c.nev ∧ (eigenvectors c r.1).length = c.nev :=
  c15_successful K c corr guess sel maxit tol s h

end reuse

section reuse_ring
variable {R M : Type} [CommRing R] [AddCommGroup M] [Module R M] (K : Kern R M) (A : M →ₗ[R] M)

/-- **the headline clause after ANY history**: for every linear operator, all kernels, every state `s` of a used object, every
    `maxit` and every initial space: `info() == Successful` ⇒ `‖A x - θ x‖ < tol` for each of the first `nev` pairs
    `eigenvalues()` / `eigenvectors()` return, with THIS call's `tol`. -/
theorem c15_successful_true_residuals_reused (hL : Linear K A) (hO : OrthKeepsLeft K) (c : Cfg) (corr : List (Pair R M) → List M)
    (guess : List M) (sel : Int) (maxit : Nat) (tol : R) (s : St R M)
    (h : (computeWithGuess K c corr guess sel maxit tol s).1.info = .successful) :
    ∀ p ∈ (computeWithGuess K c corr guess sel maxit tol s).1.pairs.take c.nev,
      K.lt (K.norm (A p.vector - p.value • p.vector)) tol = true := by
  rw [c15_recompute K c corr guess sel maxit tol s] at h ⊢
  exact c15_successful_true_residuals K A hL hO c corr guess sel maxit tol h

end reuse_ring

/-! ### examples: hypotheses are satisfiable; witnesses for the clauses that fail -/

/-- 1-dimensional kernels over the commutative ring ℤ: `M = ℤ`, operator `x ↦ a x`, squared norm; the eigen-solver returns
    the (orthonormal) eigen-decomposition of a 1×1 small matrix `[g]`: value `g`, vector `[1]`. -/
def K1 (a : ℤ) : Kern ℤ ℤ :=
  { zero := 0, add := (· + ·), sub := (· - ·), smul := (· * ·), dot := (· * ·), norm := fun x => x * x, lt := fun x y => decide (x < y),
    apply := fun x => a * x,
    eig := fun G => (true, [(G.headD []).headD 0], [[1]]),
    orth := fun l _ => l, argsort := fun _ vs => List.range vs.length }

def A1 (a : ℤ) : ℤ →ₗ[ℤ] ℤ := a • LinearMap.id

theorem c15_example_K1_linear (a : ℤ) : Linear (K1 a) (A1 a) :=
  ⟨rfl, fun _ _ => rfl, fun _ _ => rfl, fun _ _ => rfl, fun v => by simp [K1, A1]⟩

theorem c15_example_K1_orth (a : ℤ) : OrthKeepsLeft (K1 a) := fun _ _ => rfl

/-- hypotheses of `c15_cached_products` / `c15_unit_orth` are satisfiable -/
example : ∃ (K : Kern ℤ ℤ) (A : ℤ →ₗ[ℤ] ℤ), Linear K A ∧ OrthKeepsLeft K := ⟨K1 3, A1 3, c15_example_K1_linear 3, c15_example_K1_orth 3⟩

/-- a kernel record that meets ALL specification hypotheses at once (so `c15_unit_orth_spec` is not vacuous): like `K1`, but
    the eigen-solver answers only 1×1 problems and the orthogonaliser keeps just the columns it must not touch -/
def K2 (a : ℤ) : Kern ℤ ℤ :=
  { K1 a with eig := fun G => if G.length = 1 then (true, [(G.headD []).headD 0], [[1]]) else (true, [], []),
              orth := fun l k => l.take k }

example (a : ℤ) : Linear (K2 a) (A1 a) ∧ OrthKeepsLeft (K2 a) ∧ EigSpec (K2 a) ∧ OrthSpec (fun x y : ℤ => x * y) (K2 a) ∧
    ArgsortSpec (K2 a) ∧ IsSymBilin (fun x y : ℤ => x * y) ∧ ON (fun x y : ℤ => x * y) [1] := by
  have h := c15_example_K1_linear a
  refine ⟨⟨h.zero, h.add, h.sub, h.smul, h.apply⟩, ?_, ?_, ?_, ?_, isSymBilin_mul, ?_⟩
  · intro l k; simp [K2]
  · intro G
    by_cases h : G.length = 1
    · simp [K2, h, sdot]
    · simp [K2, h]
  · intro l k h; simpa [K2] using h
  · intro sel vals; simp only [K2, K1]; exact List.nodup_range
  · simp [ON]

/-- (in the examples below the arguments after the initial space are `sel maxit tol`: `7 5 1000` is rule 7 = SmallestAlge, at most 5
    iterations, tolerance 1000; `loop` takes `sel tol maxit fuel`) -/
def cfg1 : Cfg := { nev := 1, maxSize := 1, initSize := 1, corrSize := 1 }

/-- counter-model for "Successful ⇒ unit norm" with a user-supplied NON-orthonormal space (finding F16): operator `3·`,
    initial space `[2]` (squared norm 4), all kernels meet their specification, yet `info = Successful`, `compute` returns
    `nev = 1`, the returned vector has `⟨x, x⟩ = 4`, and the returned value 12 is not the eigenvalue 3 -/
example :
    (computeWithGuess (K1 3) cfg1 (fun _ => [1]) [2] 7 5 1000 construct).1.info = .successful ∧
    (computeWithGuess (K1 3) cfg1 (fun _ => [1]) [2] 7 5 1000 construct).2 = 1 ∧
    (eigenvectors cfg1 (computeWithGuess (K1 3) cfg1 (fun _ => [1]) [2] 7 5 1000 construct).1).map (fun x => x * x) = [4] ∧
    eigenvalues cfg1 (computeWithGuess (K1 3) cfg1 (fun _ => [1]) [2] 7 5 1000 construct).1 = [12] := by
  decide

/-- with the orthonormal space `[1]` the same kernels return the eigenpair (3, 1) with unit norm -/
example :
    (computeWithGuess (K1 3) cfg1 (fun _ => [1]) [1] 7 5 1 construct).1.info = .successful ∧
    (eigenvectors cfg1 (computeWithGuess (K1 3) cfg1 (fun _ => [1]) [1] 7 5 1 construct).1).map (fun x => x * x) = [1] ∧
    eigenvalues cfg1 (computeWithGuess (K1 3) cfg1 (fun _ => [1]) [1] 7 5 1 construct).1 = [3] := by
  decide

/-- the situation that used to produce `0/0` (F11, repaired): the decoupled coordinate of `diag(2, …)`, i.e. the 1-dimensional
    run with `a = 2` from the unit vector `[1]`: the Ritz value equals the diagonal entry (`θ - a_00 = 0`) and the residue
    is exactly `0`; with `tol = 0` the pair does not count as converged (`0 < 0` is false) and the loop goes on to form the
    correction, whose entry in that row is now `0` by `c15_correction_defined` (3) instead of the quotient `0/0` -/
example :
    (computeWithGuess (K1 2) cfg1 (fun _ => [1]) [1] 7 1 0 construct).1.info = .notConverging ∧
    (computeWithGuess (K1 2) cfg1 (fun _ => [1]) [1] 7 1 0 construct).1.pairs.map (fun p => (p.value - 2, p.residue)) = [(0, 0)] := by
  decide

/-- 2-dimensional kernels for the operator `[[2,1],[1,2]]` (eigenvalues 1 and 3) on `ℤ × ℤ` whose orthogonaliser keeps the old
    columns and the column count but REPLACES THE NEW COLUMNS BY ZERO (what a Gram–Schmidt sweep with `normalize()` leaves of a
    column that depends on the others); the eigen-solver returns the exact decomposition of the small matrix `diag(2, 0)`. -/
def K3 : Kern ℤ (ℤ × ℤ) :=
  { zero := (0, 0), add := fun u v => (u.1 + v.1, u.2 + v.2), sub := fun u v => (u.1 - v.1, u.2 - v.2),
    smul := fun c v => (c * v.1, c * v.2), dot := fun u v => u.1 * v.1 + u.2 * v.2, norm := fun v => v.1 * v.1 + v.2 * v.2,
    lt := fun x y => decide (x < y), apply := fun v => (2 * v.1 + v.2, v.1 + 2 * v.2),
    eig := fun G => if G.length = 2 then (true, [0, 2], [[0, 1], [1, 0]]) else (true, [(G.headD []).headD 0], [[1]]),
    orth := fun l k => l.take k ++ (l.drop k).map (fun _ => (0, 0)), argsort := fun _ vs => List.range vs.length }

def cfg3 : Cfg := { nev := 1, maxSize := 2, initSize := 1, corrSize := 1 }

/-- counter-model showing that `OrthBlockSpec` is needed (and what replacing the Householder-QR kernel by a routine that can leave a
    zero column does): the orthogonaliser of `K3` keeps the old columns and the column count, the initial space `[(1,0)]` is
    orthonormal, yet after one expansion the basis is `[(1,0), (0,0)]`, `info = Successful`, `compute` returns `nev = 1`, the returned
    eigenvalue is `0` — not an eigenvalue: `A v = 0·v` only for `v = 0` — and the returned eigenvector is the zero vector. -/
example :
    (∀ (l : List (ℤ × ℤ)) (k : Nat), (K3.orth l k).take k = l.take k ∧ (K3.orth l k).length = l.length) ∧
    (computeWithGuess K3 cfg3 (fun _ => [(0, 1)]) [(1, 0)] 7 5 1 construct).1.info = .successful ∧
    (computeWithGuess K3 cfg3 (fun _ => [(0, 1)]) [(1, 0)] 7 5 1 construct).2 = 1 ∧
    (computeWithGuess K3 cfg3 (fun _ => [(0, 1)]) [(1, 0)] 7 5 1 construct).1.basis = [(1, 0), (0, 0)] ∧
    eigenvalues cfg3 (computeWithGuess K3 cfg3 (fun _ => [(0, 1)]) [(1, 0)] 7 5 1 construct).1 = [0] ∧
    eigenvectors cfg3 (computeWithGuess K3 cfg3 (fun _ => [(0, 1)]) [(1, 0)] 7 5 1 construct).1 = [(0, 0)] ∧
    (∀ v : ℤ × ℤ, K3.apply v = K3.smul 0 v → v = (0, 0)) := by
  refine ⟨fun l k => ⟨take_take_append l _ k (fun h => by rw [h]; rfl), ?_⟩, by decide, by decide, by decide, by decide, by decide, ?_⟩
  · simp only [K3, List.length_append, List.length_take, List.length_map, List.length_drop]; omega
  · intro v h
    have h1 := congrArg Prod.fst h
    have h2 := congrArg Prod.snd h
    simp only [K3] at h1 h2
    ext <;> simp only <;> omega

/-- like `K1`, with an orthogonaliser that keeps the old columns and overwrites every new column by the unit vector `1` of the
    1-dimensional space `ℤ` -/
def K4 (a : ℤ) : Kern ℤ ℤ := { K1 a with orth := fun l k => l.take k ++ (l.drop k).map (fun _ => 1) }

/-- the hypotheses of `c15_extension_block_orthonormal` are satisfiable (dimension `d = 1`) -/
example (a : ℤ) : OrthKeepsLeft (K4 a) ∧ OrthBlockSpec (fun x y : ℤ => x * y) (K4 a) 1 ∧ IsSymBilin (fun x y : ℤ => x * y) ∧ (1 : ℤ) ≠ 0 := by
  refine ⟨fun l k => take_take_append l _ k (fun h => by rw [h]; rfl), fun l k h => ⟨?_, ?_⟩, isSymBilin_mul, by decide⟩
  · simp only [K4, K1, List.length_append, List.length_take, List.length_map, List.length_drop]; omega
  · simp only [K4, K1]
    rw [List.drop_append, List.length_take]
    have h1 : List.drop k (List.take k l) = [] := by simp
    rw [h1, List.nil_append, ← List.map_drop]
    generalize hm : List.drop (k - min k l.length) (List.drop k l) = t
    have h2 : t.length ≤ 1 := by rw [← hm]; simp; omega
    match t, h2 with
    | [], _ => simp [ON]
    | [x], _ => simp [ON]

/-- object reuse on a concrete history (the input of finding F21): the used object `sUsed` — the state after
    `compute_with_guess([1], rule 7, maxit 5, tol 1)` with the operator `3·`: `Successful`, returned 1, eigenvalue 3 — is called again
    with tolerance 0, under which nothing converges.  With `maxit = 1` it reports `NotConverging` and returns 0; with `maxit = 0` it
    reports `NotComputed`, returns 0 and hands out NO eigenvalue (the C++ code before /repo 6587027 reported `Successful`, returned 1 and handed out
    the pair of the previous call) — in both cases exactly what a fresh object does. -/
def sUsed : St ℤ ℤ := (computeWithGuess (K1 3) cfg1 (fun _ => [1]) [1] 7 5 1 construct).1

example :
    sUsed.info = .successful ∧ eigenvalues cfg1 sUsed = [3] ∧ returnValue cfg1 sUsed = 1 ∧
    (computeWithGuess (K1 3) cfg1 (fun _ => [1]) [1] 7 1 0 sUsed).1.info = .notConverging ∧
    (computeWithGuess (K1 3) cfg1 (fun _ => [1]) [1] 7 1 0 sUsed).2 = 0 ∧
    (computeWithGuess (K1 3) cfg1 (fun _ => [1]) [1] 7 0 0 sUsed).1.info = .notComputed ∧
    (computeWithGuess (K1 3) cfg1 (fun _ => [1]) [1] 7 0 0 sUsed).2 = 0 ∧
    eigenvalues cfg1 (computeWithGuess (K1 3) cfg1 (fun _ => [1]) [1] 7 0 0 sUsed).1 = [] ∧
    (computeWithGuess (K1 3) cfg1 (fun _ => [1]) [1] 7 0 0 construct).1.info = .notComputed ∧
    (computeWithGuess (K1 3) cfg1 (fun _ => [1]) [1] 7 0 0 construct).2 = 0 := by
  decide

/-- why the two reset statements are needed (the loop itself does not forget): entered with the state of the USED object and no
    iteration allowed — what the prologue `initialize_search_space(…); niter_ = 0;` alone amounted to — the loop hands the stale
    status and pair through; entered in the state the repaired prologue produces (`C15L.start`) it does not -/
example :
    (loop (K1 3) cfg1 (fun _ => [1]) 7 0 0 0 { initializeSearchSpace [1] sUsed with niter := 0, sizes := [] }).info = .successful ∧
    eigenvalues cfg1 (loop (K1 3) cfg1 (fun _ => [1]) 7 0 0 0 { initializeSearchSpace [1] sUsed with niter := 0, sizes := [] }) = [3] ∧
    (loop (K1 3) cfg1 (fun _ => [1]) 7 0 0 0 (start [1])).info = .notComputed ∧
    eigenvalues cfg1 (loop (K1 3) cfg1 (fun _ => [1]) 7 0 0 0 (start [1])) = [] := by
  decide

end C15
