/-
  C04 — the converged set is the part of the spectrum the selection rule asks for.

  WHAT IS AND IS NOT PROVED.  "When the solver reports Successful, the k eigenvalues returned are the k the rule names" has two
  ingredients.  (a) The iteration converges to the END of the spectrum the rule names.  That is a generic-position statement
  about Krylov methods — false for a start vector orthogonal to a wanted eigenvector — and is NOT provable for all inputs; it is
  NOT claimed here.  "Successful ⇒ the right k" itself is established ONLY ON THE EXPLORED INPUTS, by the acceptance oracle
  (`harness/c04.cpp`: prescribed spectra, every rule × every solver family, dense long-double reference).
  (b) Everything the CODE contributes to it, which is what the theorems below establish for all inputs:

    1. `c04_wanted_first*`   after `retrieve_ritzpair` (model `Orch.retrieve`, its `select` kernel being the source-translated
                             `argsort` resp. the general family's `SortEigenvalue` switch) the Ritz values are a permutation of
                             the eigenvalues of the projected matrix in which, for EVERY k (so for `nev` and for every adjusted
                             restart size), no value at a position ≥ k has a strictly better key than one at a position < k;
                             BothEnds: the first k positions hold the ⌈k/2⌉ largest and the ⌊k/2⌋ smallest; values, estimates
                             and vectors are permuted by ONE index vector.
    2. `c04_shifts_unwanted*` the shifts of a symmetric restart are a permutation of the Ritz values at positions k..ncv-1
                             (ordered by decreasing magnitude), ncv-k of them; the general family's shift loop consumes exactly
                             the positions k..ncv-1, each once, a conjugate pair by one double shift, provided complex values sit
                             in adjacent conjugate pairs.
    3. `c04_filter*`         one exact shift μ multiplies the start vector by (A - μI) (polynomial filter): the first column of
                             V⁺ = VQ is (A - μI)v₁ / R₁₁; steps compose.  So exactly the unwanted Ritz values are damped.
    4. `c04_rule_space*`     in the shift modes the rule acts on ν; what "largest ν" means in terms of λ for shift-invert,
                             buckling and Cayley (sign cases); the FINAL sorting rule acts on the back-transformed values.
    5. `c04_interlace*`      every Ritz value of a symmetric matrix lies between its smallest and largest eigenvalue
                             (any ordered field, for a matrix given with an orthogonal eigen-decomposition; over ℝ for every
                             symmetric matrix, through Mathlib's spectral theorem).

  Exact arithmetic: any linearly ordered field `K` (`scOfField F`); `Gen.Sort`, `Gen.Restart` are regenerated from the headers
  on every run.

  FULL-STRENGTH CLAUSE (not a theorem; not counted as an obligation):
      ∀ A with simple eigenvalues whose keys are ≥ 0.5 % of the spread apart, ∀ rule, nev, ncv ≥ 2 nev + 1, default start vector:
        info() = Successful  →  eigenvalues() = the top-nev of spec(A) (resp. of the transformed spectrum) under the rule's key.
  It is not provable (generic-position statement) and, on the implementation, it is FALSE for some inputs: the acceptance
  oracle finds runs of GenEigsSolver / GenEigsRealShiftSolver / GenEigsComplexShiftSolver (all six rules, a few per cent of
  the cases with ncv = 2 nev + 1 … 2 nev + 7) and, rarely, of the symmetric family with SmallestMagn on an indefinite spectrum,
  that report Successful with nev GENUINE eigenvalues which are not the ones the rule names, while the same problem with
  ncv = n returns the right set: `compute()` stops as soon as the current wanted Ritz pairs have small residuals, i.e. before
  the wanted eigenvalue has emerged in the Krylov space (known_findings/C04.json, signature `misconverged`; e.g. replay
  {fam 3, rule 2, rep 0, seed 1, tier quick}: n = 30, nev = 2, ncv = 6, LargestImag returns -10.30 ± 26.01i although
  4.49 ± 27.59i exists).  What the theorems below guarantee is that in every such run the code did what it is meant to do with
  the Ritz values it had: ordered them by the rule, kept the best k, filtered with the others.
-/
import SpectraVerif.Proofs.C04Lemmas
import SpectraVerif.Proofs.C04Filter
import SpectraVerif.Proofs.Spectral
import SpectraVerif.Properties.C05

namespace C04
open Orch C04L Gen.Sort

/-! ## 1. wanted Ritz values first -/
section wanted
variable {K : Type} [Field K] [LinearOrder K] [IsStrictOrderedRing K] (F : FieldFns K)
variable {φ ε κ β τ ω : Type}

/-- "`a` is at least as good as `b`" under a one-sided rule for real values -/
def betterReal (sel : Int) (a b : K) : Prop :=
  (sel = 0 → |b| ≤ |a|) ∧ (sel = 3 → b ≤ a) ∧ (sel = 4 → |a| ≤ |b|) ∧ (sel = 7 → a ≤ b)

/-- **Wanted first (symmetric family, LargestMagn / LargestAlge / SmallestMagn / SmallestAlge).**  For every kernel record whose
    `select` is the translated `argsort` and every outcome `evals` of the small eigen-solver: `retrieve` succeeds, stores a
    permutation of `evals` that is sorted by the rule's key, hence for EVERY k no value at a position ≥ k is strictly better than
    one at a position < k; values, estimates and vectors are gathered through one index vector. -/
theorem c04_wanted_first (Kn : Kern φ K ε κ β τ ω) (c : Cfg) (sel : Int) (s : St φ K ε κ)
    (evals : List K) (lastRow : List ε) (cols : List κ)
    (hsel : Kn.select = @HermSolver.argsortIdx K _ _ _ _ _ (scOfField F)) (hz : Kn.zeroρ = 0)
    (he : Kn.eig s.fac = .ok (evals, lastRow, cols)) (hlen : evals.length = c.ncv)
    (hrule : sel = 0 ∨ sel = 3 ∨ sel = 4 ∨ sel = 7) :
    (retrieve Kn c sel s).2 = none ∧
    (retrieve Kn c sel s).1.ritzVal.Perm evals ∧
    (retrieve Kn c sel s).1.ritzVal.Pairwise (betterReal sel) ∧
    (∀ k, ∀ a ∈ (retrieve Kn c sel s).1.ritzVal.take k, ∀ b ∈ (retrieve Kn c sel s).1.ritzVal.drop k, betterReal sel a b) ∧
    (∃ ind : List Nat,
      (retrieve Kn c sel s).1.ritzVal = (List.range c.ncv).map (fun i => evals.getD (ind.getD i 0) 0) ∧
      (retrieve Kn c sel s).1.ritzEst = (List.range c.ncv).map (fun i => lastRow.getD (ind.getD i 0) Kn.zeroε) ∧
      (retrieve Kn c sel s).1.ritzVec = (List.range c.nev).map (fun i => cols.getD (ind.getD i 0) Kn.zeroκ)) := by
  have hacc : argsort_rule sel ≠ -1 := (C18.c18_dispatch_real sel).mpr (by omega)
  have h8 : sel ≠ 8 := by omega
  obtain ⟨idx, hidx, hord⟩ := argsortIdx_ok F sel evals c.ncv hacc
  have hs : Kn.select sel evals c.ncv = .ok idx := by rw [hsel]; exact hidx
  obtain ⟨h1, h2, h3, h4⟩ := retrieve_ok Kn c sel s evals lastRow cols idx he hs
  rw [hz] at h2
  have hv : (retrieve Kn c sel s).1.ritzVal = (C18.baseOrder F sel (lf F evals) c.ncv).map (lf F evals) := by
    rw [h2, vals_of_order F sel evals c.ncv idx hord, order_map F sel evals c.ncv h8]
  obtain ⟨hperm, hsorted⟩ := base_vals F sel evals c.ncv hlen.ge
  rw [List.take_of_length_le hlen.le, ← hv] at hperm
  rw [← hv] at hsorted
  exact ⟨h1, hperm, hsorted, fun k => pairwise_split _ hsorted k, idx, h2, h3, h4⟩

/-- **Wanted first, BothEnds.**  With `desc` = the eigenvalues of the projected matrix in descending order, for EVERY k ≤ ncv the
    first k stored Ritz values are `desc[0], …, desc[⌈k/2⌉-1]` (the ⌈k/2⌉ largest) together with
    `desc[ncv-1], …, desc[ncv-⌊k/2⌋]` (the ⌊k/2⌋ smallest): the odd one comes from the TOP. -/
theorem c04_wanted_first_bothends (Kn : Kern φ K ε κ β τ ω) (c : Cfg) (s : St φ K ε κ)
    (evals : List K) (lastRow : List ε) (cols : List κ)
    (hsel : Kn.select = @HermSolver.argsortIdx K _ _ _ _ _ (scOfField F)) (hz : Kn.zeroρ = 0)
    (he : Kn.eig s.fac = .ok (evals, lastRow, cols)) (hlen : evals.length = c.ncv) :
    (retrieve Kn c 8 s).2 = none ∧
    ∃ desc : List K, desc.Perm evals ∧ desc.Pairwise (fun a b => b ≤ a) ∧
      ∀ k, k ≤ c.ncv →
        ((List.range k).map (fun i => (retrieve Kn c 8 s).1.ritzVal.getD i 0)).Perm
          ((List.range ((k + 1) / 2)).map (fun j => desc.getD j 0) ++
           (List.range (k / 2)).map (fun j => desc.getD (c.ncv - 1 - j) 0)) := by
  have hacc : argsort_rule 8 ≠ -1 := by decide
  obtain ⟨idx, hidx, hord⟩ := argsortIdx_ok F 8 evals c.ncv hacc
  have hs : Kn.select 8 evals c.ncv = .ok idx := by rw [hsel]; exact hidx
  obtain ⟨h1, h2, _, _⟩ := retrieve_ok Kn c 8 s evals lastRow cols idx he hs
  rw [hz] at h2
  have hv : (retrieve Kn c 8 s).1.ritzVal = (List.range c.ncv).map (fun i => lf F evals (order F 8 evals c.ncv i)) := by
    rw [h2, vals_of_order F 8 evals c.ncv idx hord]
  have hbl := base_length F 8 (lf F evals) c.ncv
  refine ⟨h1, (C18.baseOrder F 8 (lf F evals) c.ncv).map (lf F evals), ?_, ?_, ?_⟩
  · have := (base_vals F 8 evals c.ncv hlen.ge).1
    rwa [List.take_of_length_le hlen.le] at this
  · rw [List.pairwise_map]
    exact (C18.c18_sorted F 8 (lf F evals) c.ncv).imp (fun hab => hab.2.1 (Or.inr rfl))
  · intro k hk
    -- the first k stored values are the interleaved base order, read through the values
    have e1 : (List.range k).map (fun i => (retrieve Kn c 8 s).1.ritzVal.getD i 0) =
        (List.range k).map (fun i : Nat => lf F evals
          (C18.interleave (fun j => (C18.baseOrder F 8 (lf F evals) c.ncv).getD j.toNat 0) c.ncv i)) := by
      refine List.map_congr_left fun i hi => ?_
      have hik : i < c.ncv := by have := List.mem_range.mp hi; omega
      rw [hv, ListFold.getD_map_range _ _ _ _ hik]
      simp [order]
    rw [e1]
    exact bothends_vals _ _ 0 c.ncv k hbl hk

/-- "`a` is at least as good as `b`" under one of the six rules of the general family (complex values as pairs);
    `|z|` is `F.sqrt (re² + im²)` -/
def betterCplx (r : Int) (a b : K × K) : Prop :=
  (r = 0 → F.sqrt (b.1 * b.1 + b.2 * b.2) ≤ F.sqrt (a.1 * a.1 + a.2 * a.2)) ∧ (r = 1 → b.1 ≤ a.1) ∧ (r = 2 → |b.2| ≤ |a.2|) ∧
  (r = 4 → F.sqrt (a.1 * a.1 + a.2 * a.2) ≤ F.sqrt (b.1 * b.1 + b.2 * b.2)) ∧ (r = 5 → a.1 ≤ b.1) ∧ (r = 6 → |a.2| ≤ |b.2|)

/-- **Wanted first, general family** (LargestMagn/Real/Imag, SmallestMagn/Real/Imag on complex Ritz values). -/
theorem c04_wanted_first_complex (Kn : Kern φ (K × K) ε κ β τ ω) (c : Cfg) (r : Int) (s : St φ (K × K) ε κ)
    (evals : List (K × K)) (lastRow : List ε) (cols : List κ)
    (hsel : Kn.select = @C04M.genSelectIdx K _ _ _ _ _ (scOfField F)) (hz : Kn.zeroρ = (0, 0))
    (he : Kn.eig s.fac = .ok (evals, lastRow, cols)) (hlen : evals.length = c.ncv)
    (hrule : r = 0 ∨ r = 1 ∨ r = 2 ∨ r = 4 ∨ r = 5 ∨ r = 6) :
    (retrieve Kn c r s).2 = none ∧
    (retrieve Kn c r s).1.ritzVal.Perm evals ∧
    (retrieve Kn c r s).1.ritzVal.Pairwise (betterCplx F r) ∧
    (∀ k, ∀ a ∈ (retrieve Kn c r s).1.ritzVal.take k, ∀ b ∈ (retrieve Kn c r s).1.ritzVal.drop k, betterCplx F r a b) ∧
    (∃ ind : List Nat,
      (retrieve Kn c r s).1.ritzVal = (List.range c.ncv).map (fun i => evals.getD (ind.getD i 0) (0, 0)) ∧
      (retrieve Kn c r s).1.ritzEst = (List.range c.ncv).map (fun i => lastRow.getD (ind.getD i 0) Kn.zeroε) ∧
      (retrieve Kn c r s).1.ritzVec = (List.range c.nev).map (fun i => cols.getD (ind.getD i 0) Kn.zeroκ)) := by
  have hs : Kn.select r evals c.ncv = .ok ((C18.baseOrderC F r (clf F evals) c.ncv).map Int.toNat) := by
    rw [hsel]; exact genSelectIdx_ok F r evals c.ncv hrule
  obtain ⟨h1, h2, h3, h4⟩ := retrieve_ok Kn c r s evals lastRow cols _ he hs
  rw [hz] at h2
  have hv : (retrieve Kn c r s).1.ritzVal = (C18.baseOrderC F r (clf F evals) c.ncv).map (clf F evals) := by
    rw [h2]
    exact vals_of_base F _ c.ncv (sortIdxList_len _ _) (sortIdxList_mem _ _) evals
  have hperm : (retrieve Kn c r s).1.ritzVal.Perm evals := by
    rw [hv]
    have := (C18.c18_perm_complex F r (clf F evals) c.ncv).map (clf F evals)
    rwa [map_view evals (0, 0) _ (clf_nat F evals) c.ncv hlen] at this
  have hsorted : (retrieve Kn c r s).1.ritzVal.Pairwise (betterCplx F r) := by
    rw [hv, List.pairwise_map]
    exact (C18.c18_sorted_complex F r (clf F evals) c.ncv).imp (fun hab => hab)
  exact ⟨h1, hperm, hsorted, fun k => pairwise_split _ hsorted k, _, h2, h3, h4⟩

omit [Field K] [LinearOrder K] [IsStrictOrderedRing K] in
/-- every restart that completes re-establishes the ordering: `restart` = the factorization update followed by `retrieve` -/
theorem c04_restart_reorders (Kn : Kern φ K ε κ β τ ω) (c : Cfg) (k : Nat) (sel : Int) (s : St φ K ε κ) (hk : k < c.ncv)
    (hex : (Kn.restartFac k s.ritzVal s.fac).exn = none) :
    restart Kn c k sel s =
      retrieve Kn c sel { s with fac := (Kn.restartFac k s.ritzVal s.fac).fac,
                                 nmatop := s.nmatop + (Kn.restartFac k s.ritzVal s.fac).ops } := by
  have : ¬ k ≥ c.ncv := by omega
  simp [restart, this, hex]

end wanted

/-! ## 2. the shifts are the unwanted Ritz values -/
section shifts
variable {K : Type} [Field K] [LinearOrder K] [IsStrictOrderedRing K] (F : FieldFns K)

/-- **Symmetric restart.**  `restart(k)` applies `restartShifts ncv k m_ritz_val` (this IS the shift list of the solver model:
    `restartFac` folds over it, first clause), which is a permutation of the Ritz values at positions k..ncv-1 — the ones
    `c04_wanted_first` puts behind the k wanted ones —, has ncv-k entries and is ordered by decreasing magnitude. -/
theorem c04_shifts_unwanted (ncv k : Nat) (ritzVal : List K) (hlen : ritzVal.length = ncv) :
    (@HermSolver.restartShifts K (scOfField F) ncv k ritzVal).Perm (ritzVal.drop k) ∧
    (@HermSolver.restartShifts K (scOfField F) ncv k ritzVal).length = ncv - k ∧
    (@HermSolver.restartShifts K (scOfField F) ncv k ritzVal).Pairwise (fun a b => |b| ≤ |a|) ∧
    (∀ x ∈ ritzVal.take k, (ritzVal.take k).count x + (@HermSolver.restartShifts K (scOfField F) ncv k ritzVal).count x = ritzVal.count x) := by
  have hp := restartShifts_perm F ncv k ritzVal hlen
  refine ⟨hp, ?_, restartShifts_sorted F ncv k ritzVal, ?_⟩
  · rw [hp.length_eq]; simp [hlen]
  · intro x _
    rw [hp.count_eq, ← List.count_append, List.take_append_drop]

/-- the solver model's restart uses exactly that list (definitional) and the translated loop frame applies ncv-k shifts -/
theorem c04_shifts_model {α : Type} [Add α] [Sub α] [Mul α] [Div α] [Neg α] [Sc α]
    (op : Arnoldi.Op α) (c : Cfg) (eps23 : α) (back : α → α) (k : Nat) (ritzVal : List α) (s : Arnoldi.State α) :
    (HermSolver.hermKern op c eps23 back).restartFac k ritzVal s = HermSolver.restartFac op c.ncv k ritzVal s ∧
    (∀ ncv kk : Int, kk < ncv → Gen.Restart.hermShiftSkel ncv kk = (false, ncv - kk, kk, ncv)) :=
  ⟨rfl, fun ncv kk h => RestartIdx.hermShiftSkel_lt ncv kk h⟩

/-- **General restart.**  The translated loop body of `GenEigsBase::restart`, iterated from `k` to the loop bound: if the complex
    Ritz values from position k on sit in adjacent conjugate pairs (`AdjacentConj`; what `retrieve_ritzpair`'s ordering delivers
    for keys that are symmetric under conjugation and what `nev_adjusted`'s last clause protects at position k), then the
    positions consumed as shifts are exactly k, k+1, …, ncv-1, each once and in this order; a pass is a double shift exactly when
    the value it reads is complex, and then it consumes that value AND its conjugate at the next position; the total degree of the
    filter is ncv-k. -/
theorem c04_shifts_unwanted_gen {α : Type} [Add α] [Sub α] [Mul α] [Div α] [Neg α] [Sc α]
    (ritz : Int → α × α) (ncv k : Int) (hadj : RestartIdx.AdjacentConj ritz ncv k) :
    (RestartIdx.genPasses ritz ncv k).flatMap consumed = intRange k ncv ∧
    (∀ p ∈ RestartIdx.genPasses ritz ncv k, p.double = Gen.Restart.is_complex (ritz p.i) ∧
      (p.double = true → Gen.Restart.is_conj (ritz p.i) (ritz (p.i + 1)) = true ∧ p.i + 1 < ncv)) ∧
    (k ≤ ncv → RestartIdx.degree (RestartIdx.genPasses ritz ncv k) = ncv - k) ∧
    -- the translated loop header: `if (k >= m_ncv) return; for (Index i = k; i < m_ncv; …)`, then `factorize_from(k, m_ncv, …)`
    Gen.Restart.genShiftSkel_frame ncv k = (decide (k ≥ ncv), k, ncv, k, ncv) := by
  obtain ⟨h1, h2⟩ := genPasses_cover ritz ncv k hadj
  refine ⟨h1, h2, ?_, rfl⟩
  intro hk
  -- degree = number of consumed positions
  have hdeg : ∀ ps : List RestartIdx.Pass, RestartIdx.degree ps = ((ps.flatMap consumed).length : Int) := by
    intro ps
    induction ps with
    | nil => simp [RestartIdx.degree]
    | cons p ps ih =>
      rw [RestartIdx.degree_cons, ih, List.flatMap_cons, List.length_append]
      cases hd : p.double <;> simp [consumed, hd]
  rw [hdeg, h1, intRange_length]; omega

end shifts

/-! ## 3. polynomial filter -/
section filter
open Matrix
variable {n m : Type} [Fintype n] [Fintype m] [DecidableEq n] [DecidableEq m] {R : Type} [CommRing R]

/-- **One exact shift is one factor of the filter polynomial.**  If `A V = V H + f gᵀ` (`g = e_last` for a Krylov factorization;
    only `g first = 0` is used), `H - μI = Q R` with `R` upper triangular in its first column, then the first column of
    `V⁺ = V Q` satisfies `(A - μI) v₁ = R₁₁ · v₁⁺`: the new start vector is the old one multiplied by `(A - μI)` and rescaled.
    An eigen-component of `v₁` belonging to the eigenvalue λ is multiplied by (λ - μ): components at the shifts (the unwanted
    Ritz values) are damped, nothing else happens to the start vector. -/
theorem c04_filter (A : Matrix n n R) (V : Matrix n m R) (H Q Rm : Matrix m m R) (f : n → R) (g : m → R) (first : m) (μ : R)
    (hfac : A * V = V * H + vecMulVec f g) (hg : g first = 0)
    (hqr : H - μ • (1 : Matrix m m R) = Q * Rm) (hR : ∀ i, i ≠ first → Rm i first = 0) :
    (A - μ • (1 : Matrix n n R)) *ᵥ (V *ᵥ Pi.single first 1) = Rm first first • ((V * Q) *ᵥ Pi.single first 1) :=
  C04Filter.filter_step A V H Q Rm f g first μ hfac hg hqr hR

/-- the relation is handed on in the same shape (`V⁺ = VQ`, `H⁺ = Q⁻¹HQ`, `g⁺ = gᵀQ`), so the steps compose … -/
theorem c04_filter_relation (A : Matrix n n R) (V : Matrix n m R) (H Q Qinv : Matrix m m R) (f : n → R) (g : m → R)
    (hfac : A * V = V * H + vecMulVec f g) (hQ : Q * Qinv = 1) :
    A * (V * Q) = (V * Q) * (Qinv * H * Q) + vecMulVec f (g ᵥ* Q) :=
  C04Filter.filter_relation A V H Q Qinv f g hfac hQ

/-- … two shifts give `(A - μ₂I)(A - μ₁I) v₁ = R¹₁₁ R²₁₁ · v₁⁺⁺` (and so on: `C04Filter.filter_list` for any number) -/
theorem c04_filter_two (A : Matrix n n R) (V : Matrix n m R) (H Q₁ Qinv₁ R₁ Q₂ R₂ : Matrix m m R) (f : n → R) (g : m → R)
    (first : m) (μ₁ μ₂ : R)
    (hfac : A * V = V * H + vecMulVec f g) (hg : g first = 0) (hQ : Q₁ * Qinv₁ = 1)
    (hqr₁ : H - μ₁ • (1 : Matrix m m R) = Q₁ * R₁) (hR₁ : ∀ i, i ≠ first → R₁ i first = 0)
    (hg₂ : (g ᵥ* Q₁) first = 0)
    (hqr₂ : Qinv₁ * H * Q₁ - μ₂ • (1 : Matrix m m R) = Q₂ * R₂) (hR₂ : ∀ i, i ≠ first → R₂ i first = 0) :
    (A - μ₂ • (1 : Matrix n n R)) *ᵥ ((A - μ₁ • (1 : Matrix n n R)) *ᵥ (V *ᵥ Pi.single first 1)) =
      (R₁ first first * R₂ first first) • ((V * Q₁ * Q₂) *ᵥ Pi.single first 1) := by
  rw [C04Filter.filter_step A V H Q₁ R₁ f g first μ₁ hfac hg hqr₁ hR₁, mulVec_smul,
    C04Filter.filter_step A (V * Q₁) (Qinv₁ * H * Q₁) Q₂ R₂ f (g ᵥ* Q₁) first μ₂
      (C04Filter.filter_relation A V H Q₁ Qinv₁ f g hfac hQ) hg₂ hqr₂ hR₂, smul_smul]

end filter

/-! ## 4. the space the rule acts on -/
section rulespace
variable {K : Type} [Field K] [LinearOrder K] [IsStrictOrderedRing K]

/-- **Shift-and-invert** (`SymEigsShiftSolver`, `GenEigsRealShiftSolver`, `SymGEigsShiftSolver<ShiftInvert>`): the iteration sees
    ν = 1/(λ-σ); LargestMagn on ν ⇔ closest to σ; and on one side of σ "larger ν" ⇔ "smaller λ" (LargestAlge on ν picks the
    eigenvalues just ABOVE σ, nearest first). -/
theorem c04_rule_space (σ l1 l2 : K) (h1 : l1 - σ ≠ 0) (h2 : l2 - σ ≠ 0) :
    (|(l2 - σ)⁻¹| < |(l1 - σ)⁻¹| ↔ |l1 - σ| < |l2 - σ|) ∧
    (0 < (l1 - σ) * (l2 - σ) → ((l2 - σ)⁻¹ < (l1 - σ)⁻¹ ↔ l1 < l2)) ∧
    (l2 - σ < 0 → 0 < l1 - σ → (l2 - σ)⁻¹ < (l1 - σ)⁻¹) := by
  refine ⟨Spectral.shift_invert_monotone σ l1 l2 h1 h2, fun hside => ?_, fun hn hp => (inv_lt_zero.mpr hn).trans (inv_pos.mpr hp)⟩
  have := (C04L.recip_lt_same_side 1 _ _ hside).1 one_pos
  rwa [one_div, one_div, sub_lt_sub_iff_right] at this

/-- **Buckling** (`SymGEigsShiftSolver<Buckling>`): ν = λ/(λ-σ) = 1 + σ/(λ-σ).  For two eigenvalues on the SAME side of σ:
    σ > 0: ν₁ > ν₂ ⇔ λ₁ < λ₂;  σ < 0: ν₁ > ν₂ ⇔ λ₁ > λ₂.  On different sides (λ₂ < σ < λ₁): ν₂ < 1 < ν₁ if σ > 0 and
    ν₁ < 1 < ν₂ if σ < 0.  Magnitudes: |ν₁| > |ν₂| ⇔ |λ₁|·|λ₂-σ| > |λ₂|·|λ₁-σ| (largest |λ|/|λ-σ|), and the distance of ν from 1
    is large exactly when λ is close to σ. -/
theorem c04_rule_space_buckling (σ l1 l2 : K) (h1 : l1 - σ ≠ 0) (h2 : l2 - σ ≠ 0) :
    (l1 / (l1 - σ) = 1 + σ / (l1 - σ)) ∧
    (0 < (l1 - σ) * (l2 - σ) → (0 < σ → (l2 / (l2 - σ) < l1 / (l1 - σ) ↔ l1 < l2)) ∧
                                (σ < 0 → (l2 / (l2 - σ) < l1 / (l1 - σ) ↔ l2 < l1))) ∧
    (l2 - σ < 0 → 0 < l1 - σ → (0 < σ → l2 / (l2 - σ) < 1 ∧ 1 < l1 / (l1 - σ)) ∧ (σ < 0 → l1 / (l1 - σ) < 1 ∧ 1 < l2 / (l2 - σ))) ∧
    (|l2 / (l2 - σ)| < |l1 / (l1 - σ)| ↔ |l2| * |l1 - σ| < |l1| * |l2 - σ|) ∧
    (σ ≠ 0 → (|l2 / (l2 - σ) - 1| < |l1 / (l1 - σ) - 1| ↔ |l1 - σ| < |l2 - σ|)) := by
  have e1 : l1 / (l1 - σ) = 1 + σ / (l1 - σ) := sub_eq_iff_eq_add'.mp (Spectral.buckling_key σ l1 h1)
  have e2 : l2 / (l2 - σ) = 1 + σ / (l2 - σ) := sub_eq_iff_eq_add'.mp (Spectral.buckling_key σ l2 h2)
  obtain ⟨a, b, d⟩ := C04L.nu_table σ (l1 - σ) (l2 - σ) h1 h2
  rw [← e1, ← e2] at a b d
  simp only [sub_lt_sub_iff_right] at a
  exact ⟨e1, a, b, C04L.abs_div_lt_abs_div _ _ _ _ h1 h2, d⟩

/-- **Cayley** (`SymGEigsShiftSolver<Cayley>`): ν = (λ+σ)/(λ-σ) = 1 + 2σ/(λ-σ): the same case table as buckling with 2σ in place
    of σ; |ν₁| > |ν₂| ⇔ |λ₁+σ|·|λ₂-σ| > |λ₂+σ|·|λ₁-σ|. -/
theorem c04_rule_space_cayley (σ l1 l2 : K) (h1 : l1 - σ ≠ 0) (h2 : l2 - σ ≠ 0) :
    ((l1 + σ) / (l1 - σ) = 1 + 2 * σ / (l1 - σ)) ∧
    (0 < (l1 - σ) * (l2 - σ) → (0 < σ → ((l2 + σ) / (l2 - σ) < (l1 + σ) / (l1 - σ) ↔ l1 < l2)) ∧
                                (σ < 0 → ((l2 + σ) / (l2 - σ) < (l1 + σ) / (l1 - σ) ↔ l2 < l1))) ∧
    (l2 - σ < 0 → 0 < l1 - σ → (0 < σ → (l2 + σ) / (l2 - σ) < 1 ∧ 1 < (l1 + σ) / (l1 - σ)) ∧
                               (σ < 0 → (l1 + σ) / (l1 - σ) < 1 ∧ 1 < (l2 + σ) / (l2 - σ))) ∧
    (|(l2 + σ) / (l2 - σ)| < |(l1 + σ) / (l1 - σ)| ↔ |l2 + σ| * |l1 - σ| < |l1 + σ| * |l2 - σ|) ∧
    (σ ≠ 0 → (|(l2 + σ) / (l2 - σ) - 1| < |(l1 + σ) / (l1 - σ) - 1| ↔ |l1 - σ| < |l2 - σ|)) := by
  have e1 : (l1 + σ) / (l1 - σ) = 1 + 2 * σ / (l1 - σ) := sub_eq_iff_eq_add'.mp (Spectral.cayley_key σ l1 h1)
  have e2 : (l2 + σ) / (l2 - σ) = 1 + 2 * σ / (l2 - σ) := sub_eq_iff_eq_add'.mp (Spectral.cayley_key σ l2 h2)
  obtain ⟨a, b, d⟩ := C04L.nu_table (2 * σ) (l1 - σ) (l2 - σ) h1 h2
  rw [← e1, ← e2] at a b d
  simp only [sub_lt_sub_iff_right] at a
  have pos : 0 < σ → 0 < 2 * σ := mul_pos two_pos
  have neg : σ < 0 → 2 * σ < 0 := mul_neg_of_pos_of_neg two_pos
  exact ⟨e1, fun hs => ⟨fun h => (a hs).1 (pos h), fun h => (a hs).2 (neg h)⟩,
    fun hn hp => ⟨fun h => (b hn hp).1 (pos h), fun h => (b hn hp).2 (neg h)⟩,
    C04L.abs_div_lt_abs_div _ _ _ _ h1 h2, fun hσ => d (mul_ne_zero two_ne_zero hσ)⟩

variable (F : FieldFns K) {φ ε κ β τ ω : Type}

/-- **The FINAL sorting rule acts on the back-transformed values.**  `sort_ritzpair` (model `Orch.sortRitz`) first replaces the
    first `nev` Ritz values ν by `back ν` (`1/ν + σ` in `SymEigsShiftSolver`, `σν/(ν-1)`, `σ(ν+1)/(ν-1)` in buckling / Cayley mode,
    identity in the plain solvers) and only THEN calls `argsort(sorting, …, nev)`: for every kernel record whose `backTransform`
    is `map back` and whose `sortIdx` is the guarded translated `argsort`, the `nev` values handed out are a permutation of the
    back-transformed wanted values, sorted by the sorting rule's key evaluated on λ (not on ν). -/
theorem c04_rule_space_final_sort (Kn : Kern φ K ε κ β τ ω) (c : Cfg) (back : K → K) (rule : Int) (s s' : St φ K ε κ)
    (hback : Kn.backTransform = fun l => l.map back)
    (hsort : Kn.sortIdx = @HermSolver.hermSortIdx K _ _ _ _ _ (scOfField F)) (hz : Kn.zeroρ = 0)
    (hcfg : c.nev ≤ c.ncv) (hlen : s.ritzVal.length = c.ncv)
    (hrule : rule = 0 ∨ rule = 3 ∨ rule = 4 ∨ rule = 7)
    (h : sortRitz Kn c rule s = (s', none)) :
    (s'.ritzVal.take c.nev).Perm ((s.ritzVal.take c.nev).map back) ∧
    (s'.ritzVal.take c.nev).Pairwise (betterReal rule) := by
  obtain ⟨ind, hind, hpair⟩ := C05.c05_sort_pairing Kn c hcfg rule s s' h
  have hL : mapHead c.nev Kn.backTransform s.ritzVal = (s.ritzVal.take c.nev).map back ++ s.ritzVal.drop c.nev := by
    simp only [mapHead, hback]
    rw [List.take_of_length_le (by simp)]
  set L := mapHead c.nev Kn.backTransform s.ritzVal with hLdef
  have hLlen : c.nev ≤ L.length := by rw [hL]; simp [hlen]; omega
  have hLtake : L.take c.nev = (s.ritzVal.take c.nev).map back := by
    rw [hL, List.take_left' (by simp [hlen]; omega)]
  have hacc : argsort_rule rule ≠ -1 := (C18.c18_dispatch_real rule).mpr (by omega)
  have h8 : rule ≠ 8 := by omega
  have hguard : herm_sort_guard rule = Res.ok () := ((C18.c18_herm_sorting_guard rule).1).mpr hrule
  obtain ⟨idx, hidx, hord⟩ := argsortIdx_ok F rule L c.nev hacc
  have hind' : ind = idx := by
    rw [hsort] at hind
    simp only [HermSolver.hermSortIdx, hguard] at hind
    rw [hidx] at hind
    exact (Except.ok.inj hind).symm
  subst hind'
  have hs'len : c.nev ≤ s'.ritzVal.length := by
    have hfr := h
    simp only [sortRitz] at hfr
    rw [← hLdef] at hfr
    simp only [hind] at hfr
    have := (Prod.mk.inj hfr).1
    rw [← this]; simp [hcfg]
  have hvals : s'.ritzVal.take c.nev = (C18.baseOrder F rule (lf F L) c.nev).map (lf F L) := by
    have e0 := (ListFold.map_range_getD_take s'.ritzVal 0 c.nev hs'len).symm
    rw [e0, ← order_map F rule L c.nev h8, ← vals_of_order F rule L c.nev ind hord]
    apply List.map_congr_left
    intro i hi
    have := (hpair i (List.mem_range.mp hi)).1
    rw [hz] at this; exact this
  rw [hvals, ← hLtake]
  exact base_vals F rule L c.nev hLlen

/-- the back-transformations invert the spectral maps (so "mapped back to λ" is the identity on the true eigenvalues) -/
theorem c04_rule_space_back (σ lam : K) (h : lam - σ ≠ 0) (hσ : σ ≠ 0) :
    σ + ((lam - σ)⁻¹)⁻¹ = lam ∧ σ * (lam / (lam - σ)) / (lam / (lam - σ) - 1) = lam ∧
    σ * ((lam + σ) / (lam - σ) + 1) / ((lam + σ) / (lam - σ) - 1) = lam :=
  ⟨Spectral.shift_invert_inverse σ lam h, Spectral.buckling_inverse σ lam h hσ, Spectral.cayley_inverse σ lam h hσ two_ne_zero⟩

end rulespace

/-! ## 5. Ritz values lie inside the spectrum (symmetric case) -/
section interlace
open Matrix
variable {n m : Type} [Fintype n] [Fintype m] [DecidableEq n] [DecidableEq m]
variable {K : Type} [Field K] [LinearOrder K] [IsStrictOrderedRing K]

/-- **Interlacing, outer bounds.**  `A = U diag(d) Uᵀ` with `U` orthogonal (a symmetric matrix with its eigenvalues `d`), `V` with orthonormal columns,
    `H = Vᵀ A V`, `H y = θ y`, `y ≠ 0`: then `min d ≤ θ ≤ max d`.  So a Ritz value can never lie outside the spectrum, and by the
    residual identity (`Ritz.residual`, C01) a converged Ritz pair is a true eigenpair; what no theorem excludes is convergence
    to an eigenvalue that is not the extreme one — that is the part decided by the oracle. -/
theorem c04_interlace (A U : Matrix n n K) (d : n → K) (V : Matrix n m K) (H : Matrix m m K) (y : m → K) (θ lo hi : K)
    (hA : A = U * diagonal d * Uᵀ) (hU : U * Uᵀ = 1)
    (hV : Vᵀ * V = 1) (hH : H = Vᵀ * A * V) (hy : H *ᵥ y = θ • y) (hy0 : 0 < y ⬝ᵥ y)
    (hlo : ∀ i, lo ≤ d i) (hhi : ∀ i, d i ≤ hi) : lo ≤ θ ∧ θ ≤ hi := by
  have hb := C04Filter.rayleigh_bounds A U d hA hU (V *ᵥ y) lo hi hlo hhi
  rw [← C04Filter.ritz_is_rayleigh A V H hH y, C04Filter.ritz_norm V hV y, hy, dotProduct_smul, smul_eq_mul] at hb
  exact ⟨le_of_mul_le_mul_right hb.1 hy0, le_of_mul_le_mul_right hb.2 hy0⟩

/-- the same over ℝ with Mathlib's spectral theorem supplying the decomposition: for EVERY real symmetric `A`, every Ritz value of
    every orthonormal basis lies between the smallest and the largest eigenvalue of `A` -/
theorem c04_interlace_real (A : Matrix n n ℝ) (hA : A.IsHermitian) (V : Matrix n m ℝ) (H : Matrix m m ℝ) (y : m → ℝ) (θ lo hi : ℝ)
    (hV : Vᵀ * V = 1) (hH : H = Vᵀ * A * V) (hy : H *ᵥ y = θ • y) (hy0 : 0 < y ⬝ᵥ y)
    (hlo : ∀ i, lo ≤ hA.eigenvalues i) (hhi : ∀ i, hA.eigenvalues i ≤ hi) : lo ≤ θ ∧ θ ≤ hi :=
  c04_interlace A _ hA.eigenvalues V H y θ lo hi (C04Filter.spectral_real A hA) (C04Filter.eigenvectorUnitary_mul_transpose A hA)
    hV hH hy hy0 hlo hhi

end interlace

/-! ## non-vacuity (tests on concrete data, labelled as such) -/

-- BothEnds on five descending values: positions 0..4 hold desc[0], desc[4], desc[1], desc[3], desc[2]
example : (List.range 5).map (fun i : Nat => C18.interleave (fun j => j) 5 i) = [0, 4, 1, 3, 2] := by decide
section witness
attribute [local instance] RestartIdx.scInt
open RestartIdx in
-- the hypothesis of c04_shifts_unwanted_gen is satisfiable with a genuine pair: [5, a, ā, 7] from k = 1; the schedule is then
-- [double at 1, single at 3] and consumes positions 1, 2, 3
example : AdjacentConj (ofL [(5, 0), (1, 2), (1, -2), (7, 0)]) 4 1 ∧
    (genPasses (ofL [(5, 0), (1, 2), (1, -2), (7, 0)]) 4 1).flatMap consumed = [1, 2, 3] := by
  have hadj : AdjacentConj (ofL [(5, 0), (1, 2), (1, -2), (7, 0)]) 4 1 := by
    rw [adj_lt _ _ _ (by decide), if_pos (by decide)]; refine ⟨by decide, by decide, ?_⟩
    rw [adj_lt _ _ _ (by decide), if_neg (by decide)]
    exact adj_ge _ _ _ (by decide)
  refine ⟨hadj, ?_⟩
  rw [(c04_shifts_unwanted_gen _ 4 1 hadj).1]; decide
end witness

-- shift-invert, σ = 0: λ = 1/2 is closer to σ than λ = 3, and indeed ν = 2 is larger in magnitude than ν = 1/3
example : |((3 : ℚ) - 0)⁻¹| < |((1 / 2 : ℚ) - 0)⁻¹| := (c04_rule_space (0 : ℚ) (1 / 2) 3 (by norm_num) (by norm_num)).1.mpr (by norm_num)

end C04
