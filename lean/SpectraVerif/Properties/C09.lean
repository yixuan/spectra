/-
  C09 — small dense eigen-decompositions (TridiagEigen, UpperHessenbergSchur, UpperHessenbergEigen).

  The theorems are about the hand-written executable models `Model/TridiagEigen.lean`, `Model/HessSchur.lean`,
  `Model/HessEigen.lean` (the same text runs at `Float` in the driver and is compared bit-for-bit with the real classes).

  Proved here (all sizes, all inputs):
  * loop structure, with EVERY floating comparison an arbitrary boolean (any `Sc` instance, DESIGN §3.2):
    `c09_trideig_exit`, `c09_iteration_cap`, `c09_trideig_fuel`, `c09_schur_iteration_cap`, `c09_schur_exit`, `c09_schur_quasi_triangular`, `c09_hesseig_throw_iff`;
  * exact-arithmetic (ordered field) content of the pairing convention: `c09_conj_exact` (full strength: z > 0 for unsplit blocks), `c09_conj_blocks`, `c09_conj_unsplit_pos`, `c09_conj_kinds`,
    `c09_backsub_branch`, `c09_conj_scale`, `c09_conj_compute`, `c09_hesseig_zero`,
    `c09_cdiv_spec` (the `__divdc3` port is complex division), `c09_eigvec_unit` (normalisation is exact);
  * whole-run exact-arithmetic statement: `c09_trideig_orth` (ZᵀZ = I for ideal rotations, with `c09_givens_unit`),
    `c09_schur_orth` (UᵀU = I for ideal reflectors and rotations, with `c09_householder_ideal`);
  * ring identities: `c09_trideig_step`, `c09_trideig_step_GtTG`, `c09_trideig_step_Q`, `c09_rot_orth`,
    `c09_householder_apply_left/right`, `c09_householder_kernel`, `c09_wilkinson_shift`;
  * translator tie: `c09_wilkinson_gen` (hand model prologue = `Gen.Wilk.wilkinson_mu`, regenerated from the header every run).
  * whole-run similarity of `TridiagEigen::compute` in exact arithmetic (field instance, exact `sqrt`, all `n`, all inputs, every
    outcome of every comparison): `c09_trideig_decomp` / `c09_trideig_decomp_matrix`: `(T₀ − P) Z = Z diag(evals)` with `ZᵀZ = ZZᵀ = I`,
    `P` symmetric and `|Pᵢⱼ| ≤ 2·totalDrop` where `totalDrop` = `scale ·` Σ over all deflation passes of the magnitudes of the
    sub-diagonal entries the pass overwrote (`c09_trideig_deflate`: each was replaced by exactly `0` after passing the code's
    negligibility test on its current value); building blocks `c09_givens_annihilate`, `c09_trideig_qrstep_similarity` (one
    `tridiagonal_qr_step` is an orthogonal similarity that loses NO entry); corollaries `c09_trideig_exact` (`T₀ Z = Z D` exactly when
    the budget is `0`) and `c09_trideig_eigH_spec` (the `eig_spec` obligation of `C01E.ExactKernels` for `HermSolver.eigH`).
  * whole-run similarity of `UpperHessenbergSchur::compute` in exact arithmetic (field instance, exact `sqrt ≥ 0`, `min ≥ 0`, all `n`, all
    upper Hessenberg inputs, every run that returns normally): `c09_schur_similarity`: `Uᵀ H U = T + E`, `UᵀU = UUᵀ = 1`, `E` bounded (as a
    bilinear form on unit vectors, hence entrywise) by the explicit ghost budget `C09SS.schurDrop` = the sum over the run of the entries the
    algorithm overwrites with `0` or does not transform: the negligible sub-diagonal entries at 1x1 / 2x2 deflations, the first column of
    each sweep (`T(im, im−1)` is kept or only negated), the bulge entries of skipped / degenerate reflectors and of a skipped closing rotation;
    what the 2x2 standardisation and every applied ideal reflector / rotation overwrite are EXACT zeros.  `c09_schur_exact`: budget `0` ⇒
    `Uᵀ H U = T` and `H = U T Uᵀ` exactly.  Per-step structure (`T ← QᵀTQ − D`, `U ← UQ`, composed over the loop by induction on the
    iteration counter with the invariant `Uᵀ H U = T + ex·D_m + E`): `c09_schur_loop`, `c09_schur_step_reflector` (incl. the WINDOW
    argument), `c09_schur_step_francis`, `c09_schur_step_split`, `c09_schur_step_shift`, `c09_schur_budget`, `c09_schur_drop_reflector`,
    `c09_schur_drop_first_zero`, `c09_schur_drop_nonneg`; building blocks `c09_schur_similarity_partial_reflect/standardise/shift`.
    Machinery: `Proofs/C09SchurMat.lean` (matrices, budget), `C09SchurFn.lean` (windows, bulge pattern), `C09SchurArr.lean`,
    `C09SchurSweep.lean`, `C09SchurFrancis.lean`, `C09SchurDefl.lean`, `C09SchurMain.lean`.
    NOT proved for the Schur model: that `schurDrop = O(eps·‖H‖)` (each term passed a negligibility test or Wilkinson's start criterion,
    but the criterion-to-bound step and convergence are not formalised).
  * `UpperHessenbergEigen` on top of the Schur similarity (exact arithmetic): the reported eigenvalues are the eigenvalues of the diagonal
    blocks of `T` — every block left unsplit has a negative discriminant (loop invariant, `c09_schur_unsplit_negdisc`) and `block2` then
    returns the roots of its characteristic polynomial (`c09_hesseig_block_eigenvalues`, `c09_hesseig_eigenvalues`, `c09_hesseig_evok`);
    the back-substitution for a real eigenvalue solves `T y = λ y` exactly, 2x2 blocks by Cramer's rule, overflow rescaling included
    (`c09_hesseig_backsub_real`), the back transformation is `U y` (`c09_hesseig_backtransform`), hence for the whole
    `UpperHessenbergEigen::compute` `H x = λ x + scale·(U E) y` for every real pair without `w == 0` fallback
    (`c09_hesseig_real_eigvec_partial`); the complex-pair branch likewise solves `T y = (p − i q) y` exactly in (re, im) pairs
    (`c09_hesseig_backsub_cplx`), hence `H (xr + i xi) = λ (xr + i xi) + scale·(U E)(yr + i yi)` for every complex pair without
    `vr == vi == 0` fallback (`c09_hesseig_cplx_eigvec_partial`).  Machinery `Proofs/C09EigBlock.lean`, `C09EigReal.lean`, `C09EigBack.lean`,
    `C09EigCplx.lean`, `C09EigMain.lean`.
    NOT proved there: eigenvalues repeated in another diagonal block above (the code perturbs the zero divisor by `eps·norm` on purpose,
    so the exact statement is false there), the `tnorm == 0` exit, the composition with `eigenvectors()` (pairing + `normalize`).

  NOT proved (stated at full strength here, out of reach of this method — rounding and convergence):
    "T Z = Z diag(d), ZᵀZ = I, U T Uᵀ = H, ‖Hx − λx‖ small, all within a modest multiple of n·eps·norm" IN FLOATING POINT
    (the exact-arithmetic statement above bounds the defect of `T Z = Z D` by the dropped entries only; that the dropped entries
    are `O(eps·‖T‖)` and that rounding adds `O(n·eps·‖T‖)` is not proved) and
    "the QR iterations converge within the iteration limit".
  These clauses are checked only by the long-double oracle of `harness/c09.cpp` on the real classes.
-/
import SpectraVerif.Proofs.C09Lemmas
import SpectraVerif.Proofs.C09Step
import SpectraVerif.Proofs.C09House
import SpectraVerif.Proofs.C09Schur
import SpectraVerif.Proofs.C09Orth
import SpectraVerif.Proofs.C09Hess
import SpectraVerif.Proofs.C09Cdiv
import SpectraVerif.Proofs.C09OrthU
import SpectraVerif.Proofs.C09SimEig
import SpectraVerif.Proofs.C09SimU
import SpectraVerif.Proofs.C09SchurMain
import SpectraVerif.Proofs.C09EigMain
import SpectraVerif.Proofs.C09Reuse
import Mathlib.Analysis.Real.Sqrt
import SpectraVerif.Gen.Wilk

namespace C09
open Lin EigenPrims C09Lemmas

section loops
variable {α : Type} [Add α] [Sub α] [Mul α] [Div α] [Neg α] [Sc α]

/-- **Exit condition of `TridiagEigen::compute`.**  If the model returns normally then either the zero-matrix early exit was
    taken (`scale < near_0`: eigenvalues 0, eigenvectors I), or the main loop was left through `end <= 0` and in the final state
    EVERY sub-diagonal entry tests `== 0` (they were all explicitly set to 0 or found equal to 0), the returned eigenvalues are
    the final diagonal times `scale` and the eigenvectors the accumulated rotations. -/
theorem c09_trideig_exit (n : Nat) (d e : Vec α) (r : TridiagEigen.Decomp α)
    (h : TridiagEigen.compute n d e = Res.ok r) :
    (Sc.lt (TridiagEigen.scaleOf d e) (Sc.minPos * Sc.ofInt 10 : α) = true ∧ r.evals = vzero n ∧ r.evecs = Mat.identity n) ∨
    ((TridiagEigen.core n d e).exit = TridiagEigen.Exit.done ∧
      (∀ j, j < n - 1 → Sc.eq (vget (TridiagEigen.core n d e).sub j) (zero : α) = true) ∧
      r.evals = vscale (TridiagEigen.scaleOf d e) (TridiagEigen.core n d e).diag ∧
      r.evecs = (TridiagEigen.core n d e).q ∧ r.sub = (TridiagEigen.core n d e).sub) := by
  simp only [TridiagEigen.compute] at h
  split at h
  · rename_i hs
    left; cases h; exact ⟨hs, rfl, rfl⟩
  · split at h
    · rename_i hd
      right; cases h
      refine ⟨hd, ?_, rfl, rfl, rfl⟩
      simp only [TridiagEigen.core] at hd ⊢
      exact C09Loop.mainLoop_done n (n - 1) _ _ _ _ _ _ _ _ _ (fun j hj hb => by omega) hd
    · cases h

/-- the model's recursion budget is never the reason for leaving the loop (so `Exit.fuel` is unreachable and the model's
    `while` is the C++ `while`) -/
theorem c09_trideig_fuel (n : Nat) (d e : Vec α) : (TridiagEigen.core n d e).exit ≠ TridiagEigen.Exit.fuel := by
  simp only [TridiagEigen.core]
  exact C09Loop.mainLoop_fuel n _ _ _ _ _ _ _ _ _ (by omega) (by omega)

/-- **Iteration cap of `TridiagEigen::compute`.**  The model returns `throw runtime_error` if and only if the loop was left because
    `iter > 30 n` (and then indeed `30 n < iter`); in every other case it returns normally, and then `c09_trideig_exit` applies:
    wrong numbers are never returned *because the cap was hit*. -/
theorem c09_iteration_cap (n : Nat) (d e : Vec α) :
    ((∃ msg, TridiagEigen.compute n d e = Res.throw msg) ↔
      (Sc.lt (TridiagEigen.scaleOf d e) (Sc.minPos * Sc.ofInt 10 : α) = false ∧
       (TridiagEigen.core n d e).exit = TridiagEigen.Exit.capped)) ∧
    ((TridiagEigen.core n d e).exit = TridiagEigen.Exit.capped → 30 * n < (TridiagEigen.core n d e).iter) := by
  constructor
  · have hf := c09_trideig_fuel n d e
    simp only [TridiagEigen.compute]
    constructor
    · rintro ⟨msg, h⟩
      split at h
      · cases h
      · rename_i hs
        split at h
        · cases h
        · rename_i hd
          refine ⟨by simpa using hs, ?_⟩
          cases hx : (TridiagEigen.core n d e).exit <;> simp_all
    · rintro ⟨hs, hc⟩
      rw [if_neg (by simp [hs]), if_neg (by simp [hc])]
      exact ⟨_, rfl⟩
  · intro hc
    simp only [TridiagEigen.core] at hc ⊢
    exact C09Loop.mainLoop_capped n _ _ _ _ _ _ _ _ _ hc

/-- **Iteration cap of `UpperHessenbergSchur::compute`.**  The model returns normally iff the loop was left through `iu < 0`
    (or `norm == 0`), returns `throw` iff `total_iter > 40 n` stopped it, and its recursion budget is never exhausted. -/
theorem c09_schur_iteration_cap (n : Nat) (h : Mat α) :
    (HessSchur.core n h).exit ≠ HessSchur.Exit.fuel ∧
    ((∃ r, HessSchur.compute n h = Res.ok r) ↔ (HessSchur.core n h).exit = HessSchur.Exit.done) ∧
    ((∃ msg, HessSchur.compute n h = Res.throw msg) ↔ (HessSchur.core n h).exit = HessSchur.Exit.capped) ∧
    ((HessSchur.core n h).exit = HessSchur.Exit.capped → 40 * n < (HessSchur.core n h).total) := by
  have hf : (HessSchur.core n h).exit ≠ HessSchur.Exit.fuel := by
    simp only [HessSchur.core]
    split
    · exact C09LoopSchur.mainLoop_fuel n _ _ _ _ _ _ _ (by omega) (by omega)
    · simp
  refine ⟨hf, ?_, ?_, ?_⟩
  · simp only [HessSchur.compute]
    constructor
    · rintro ⟨r, hr⟩; split at hr
      · assumption
      · cases hr
    · intro hd; rw [if_pos hd]; exact ⟨_, rfl⟩
  · simp only [HessSchur.compute]
    constructor
    · rintro ⟨m, hm⟩; split at hm
      · cases hm
      · cases hx : (HessSchur.core n h).exit <;> simp_all
    · intro hc; rw [if_neg (by simp [hc])]; exact ⟨_, rfl⟩
  · intro hc
    simp only [HessSchur.core] at hc ⊢
    split at hc
    · rename_i hn; rw [if_pos hn]; exact C09LoopSchur.mainLoop_capped n _ _ _ _ _ _ _ hc
    · simp at hc

/-- **Exit condition of `UpperHessenbergSchur::compute`: block structure of the returned `T`.**  If the model returns normally on a
    well-formed `n × n` input then (unless `norm == 0`, where `T` is the untouched input) the returned `T` has NO TWO CONSECUTIVE
    non-zero sub-diagonal entries: for every `0 < i`, `i + 1 < n`, `T(i, i−1)` or `T(i+1, i)` is exactly the constant `0` the code
    assigned when it split off a 1x1 / 2x2 block — the sub-diagonal pattern of a quasi-upper-triangular matrix.  Proved for every
    scalar type and every outcome of every floating comparison (deflation tests, shift strategy, reflector guards are oracles):
    a loop invariant over the `while (iu >= 0)` loop plus the write footprint of every transformation (rows `> iu` are never
    written).  The entries BELOW the sub-diagonal are not covered: they stay 0 only up to the explicit clean-up of the Francis
    sweep and the Hessenberg shape of the input (checked by the oracle `schur-not-quasi-triangular`). -/
theorem c09_schur_exit (n : Nat) (h : Mat α) (hw : C09Mat.WF h) (hr : h.rows = n) (hc : h.cols = n) (r : HessSchur.Decomp α)
    (hok : HessSchur.compute n h = Res.ok r) :
    (Sc.ne (HessSchur.l1norm n h) (zero : α) = false ∧ r.t = h) ∨
    (∀ i, 0 < i → i + 1 < n → r.t.get i (i - 1) = (zero : α) ∨ r.t.get (i + 1) i = (zero : α)) :=
  C09Schur.compute_struct n h hw hr hc r hok

/-- **`UpperHessenbergSchur::compute` returns a quasi-upper-triangular `T`** (the discrete content of that clause of C09, at full
    strength): for every well-formed `n × n` upper Hessenberg input (entries strictly below the sub-diagonal exactly `0`), if the
    model returns normally then every entry of the returned `T` strictly below the sub-diagonal is exactly `0`, and (unless
    `norm == 0`, where `T` is the input) no two consecutive sub-diagonal entries are non-zero.  Every scalar type, every outcome
    of every floating comparison.  Proof: position-level write footprint of each reflector / rotation / shift (the only
    below-sub-diagonal positions a Francis sweep on the window `im..iu` writes are `(i, i−2)`, `(i, i−3)`, `im+2 ≤ i ≤ iu`) and the
    clean-up loop that zeroes exactly those positions.  That `U T Uᵀ = H` up to rounding is NOT proved (oracle `schur-residual`). -/
theorem c09_schur_quasi_triangular (n : Nat) (h : Mat α) (hw : C09Mat.WF h) (hr : h.rows = n) (hc : h.cols = n)
    (hH : C09Hess.Hess n h) (r : HessSchur.Decomp α) (hok : HessSchur.compute n h = Res.ok r) :
    C09Hess.Hess n r.t ∧
    ((Sc.ne (HessSchur.l1norm n h) (zero : α) = false ∧ r.t = h) ∨
     (∀ i, 0 < i → i + 1 < n → r.t.get i (i - 1) = (zero : α) ∨ r.t.get (i + 1) i = (zero : α))) :=
  C09Hess.compute_quasi n h hw hr hc hH r hok

/-- `UpperHessenbergEigen::compute` throws exactly when the input is not the zero matrix (`scale != 0`) and its Schur step throws
    (it adds no other non-normal exit). -/
theorem c09_hesseig_throw_iff (n : Nat) (h : Mat α) :
    (∃ msg, HessEigen.compute n h = Res.throw msg) ↔
    (Sc.eq (TridiagEigen.maxAbs1 h.d) (zero : α) = false ∧
     ∃ msg, HessSchur.compute n ⟨h.rows, h.cols, vdivs h.d (TridiagEigen.maxAbs1 h.d)⟩ = Res.throw msg) := by
  simp only [HessEigen.compute]
  by_cases hz : Sc.eq (TridiagEigen.maxAbs1 h.d) (zero : α) = true
  · rw [if_pos hz]
    constructor
    · rintro ⟨m, hm⟩; cases hm
    · rintro ⟨hf, _⟩; rw [hz] at hf; cases hf
  · rw [if_neg hz]
    constructor
    · rintro ⟨m, hm⟩
      refine ⟨by simpa using hz, ?_⟩
      split at hm
      · exact ⟨_, by assumption⟩
      · cases hm
    · rintro ⟨_, m, hm⟩; rw [hm]; exact ⟨_, rfl⟩

/-- **zero matrix (repair of F15)**: when `scale = max|a_ij|` tests `== 0`, `UpperHessenbergEigen::compute` returns normally with
    all eigenvalues `(0, 0)` and the identity as eigenvector storage — no division by `scale`, no Schur step (the unrepaired code
    divided by 0: `runtime_error` for `n ≥ 3`, NaN results for `n ≤ 2`). -/
theorem c09_hesseig_zero (n : Nat) (h : Mat α) (hz : Sc.eq (TridiagEigen.maxAbs1 h.d) (zero : α) = true) :
    HessEigen.compute n h = Res.ok ⟨n, Array.replicate n (zero, zero), Mat.identity n⟩ := by
  simp only [HessEigen.compute, if_pos hz]

end loops

section conj
variable {K : Type} [Field K] [LinearOrder K] [IsStrictOrderedRing K] (F : FieldFns K)

/-- **Exact pairing convention of the eigenvalue extraction, full strength** (UpperHessenbergEigen.h, after the repair of F20), exact
    arithmetic over any ordered field, `eps > 0`, `sqrt` ANY function: walking the block structure of `T` from row `i`, a row
    whose sub-diagonal entry below it is `0` (or the last row) emits `(T(i,i), 0)` — imaginary part exactly 0 — and a 2x2 block
    left UNSPLIT (`T(i+1,i) ≠ 0`) emits `(x, z)` then `(x, −z)` with `z > 0`: adjacent exact conjugates, STRICTLY positive
    imaginary part first.  Before the repair only `z ≥ 0` held and `z = 0` (scaled discriminant exactly 0) made both values look
    real while `T` kept its 2x2 block (finding F20). -/
theorem c09_conj_exact (heps : 0 < F.eps) (n : Nat) (t : Mat K) (fuel i : Nat) (hf : n ≤ i + fuel) :
    ConjBlocksAt F n t i (@HessEigen.extract K _ _ _ _ _ (scOfField F) n t fuel i) := by
  let _ : Sc K := scOfField F
  fun_induction HessEigen.extract n t fuel i with
  | case1 i => exact ConjBlocksAt.nil i (by omega)
  | case2 f i h => exact ConjBlocksAt.nil i h
  | case3 f i hlt hcond ih =>
    rw [show (zero : K) = 0 by simp [zero]]
    refine ConjBlocksAt.real i _ (by omega) ?_ (ih (by omega))
    simpa only [ScF.eq, zero, ScF.ofInt, Int.cast_zero, Bool.or_eq_true, decide_eq_true_eq] using hcond
  | case4 f i hlt hcond b ih =>
    have hc := extract_cond F hcond
    obtain ⟨x, z, hz, he⟩ := block2_pos F heps (t.get i i) (t.get (i + 1) (i + 1)) (t.get (i + 1) i) (t.get i (i + 1)) hc.2
    rw [show b = _ from he]
    exact ConjBlocksAt.pair i x z _ (by omega) hc.2 hz (ih (by omega))

/-- the same without the structure: the list is a concatenation of `[(t, 0)]` and `[(x, z), (x, −z)]`, `z > 0`, for any fuel -/
theorem c09_conj_blocks (heps : 0 < F.eps) (n : Nat) (t : Mat K) (fuel i : Nat) :
    ConjBlocks (@HessEigen.extract K _ _ _ _ _ (scOfField F) n t fuel i) := by
  let _ : Sc K := scOfField F
  fun_induction HessEigen.extract n t fuel i with
  | case1 => exact ConjBlocks.nil
  | case2 => exact ConjBlocks.nil
  | case3 f i _ _ ih => rw [show (zero : K) = 0 by simp [zero]]; exact ConjBlocks.real _ _ ih
  | case4 f i _ hcond b ih =>
    obtain ⟨x, z, hz, he⟩ := block2_pos F heps (t.get i i) (t.get (i + 1) (i + 1)) (t.get (i + 1) i) (t.get i (i + 1)) (extract_cond F hcond).2
    rw [show b = _ from he]
    exact ConjBlocks.pair x z _ hz ih

/-- **an unsplit block always yields a strictly positive imaginary part**: for `T(i+1,i) = c ≠ 0`
    and `eps > 0` the value `z` emitted by `compute()` is `> 0`, whatever the (scaled) discriminant and whatever
    `sqrt` returns: the guard `if (!(z > 0)) z = maxval * eps` decides, and `maxval ≥ |c| > 0`. -/
theorem c09_conj_unsplit_pos (heps : 0 < F.eps) (a b c d : K) (hc : c ≠ 0) :
    ∃ x z : K, 0 < z ∧ @HessEigen.block2 K _ _ _ _ _ (scOfField F) a b c d = ((x, z), (x, -z)) := block2_pos F heps a b c d hc

/-- **row kinds**: the sign of the emitted imaginary part is determined by the block structure of `T` alone — `= 0` exactly on the
    rows of 1x1 blocks, `> 0` on the first and `< 0` on the second row of every unsplit 2x2 block (`kinds` walks `T` only). -/
theorem c09_conj_kinds (heps : 0 < F.eps) (n : Nat) (t : Mat K) (fuel i : Nat) :
    List.Forall₂ kindSign (kinds F n t fuel i) (@HessEigen.extract K _ _ _ _ _ (scOfField F) n t fuel i) := by
  let _ : Sc K := scOfField F
  fun_induction HessEigen.extract n t fuel i with
  | case1 => exact List.Forall₂.nil
  | case2 f i h => rw [kinds, if_pos h]; exact List.Forall₂.nil
  | case3 f i hlt hcond ih =>
    have hc : i + 1 = n ∨ t.get (i + 1) i = 0 := by
      simpa only [ScF.eq, zero, ScF.ofInt, Int.cast_zero, Bool.or_eq_true, decide_eq_true_eq] using hcond
    rw [kinds, if_neg hlt, if_pos hc]
    exact List.Forall₂.cons (by simp [kindSign, zero]) ih
  | case4 f i hlt hcond b ih =>
    have hc := extract_cond F hcond
    obtain ⟨x, z, hz, he⟩ := block2_pos F heps (t.get i i) (t.get (i + 1) (i + 1)) (t.get (i + 1) i) (t.get i (i + 1)) hc.2
    rw [kinds, if_neg hlt, if_neg (not_or.mpr hc), show b = _ from he]
    exact List.Forall₂.cons hz (List.Forall₂.cons (neg_neg_of_pos hz) ih)

/-- **the back-substitution takes the complex branch for exactly the unsplit blocks**: at row `n` the loop of
    `doComputeEigenvectors` takes the real-eigenvalue branch iff the emitted imaginary part is `0`, the complex-pair branch
    (columns `n−1, n`) iff it is `< 0` (and `n > 0`), and skips the row iff it is `> 0`; by `c09_conj_kinds` these are exactly
    the rows of 1x1 blocks, the second rows and the first rows of the unsplit blocks. -/
theorem c09_backsub_branch (size : Nat) (norm : K) (ev : Vec (K × K)) (f n : Nat) (t : Mat K) :
    let _ : Sc K := scOfField F
    ((HessEigen.evGet ev n).2 = 0 →
      HessEigen.backSub size norm ev (f + 1) (n + 1) t =
        HessEigen.backSub size norm ev f n
          (HessEigen.realInner size n (HessEigen.evGet ev n).1 norm ev n ⟨zero, zero, n, t.set n n one⟩).t) ∧
    ((HessEigen.evGet ev n).2 < 0 → 0 < n → ∃ t', HessEigen.backSub size norm ev (f + 1) (n + 1) t =
        HessEigen.backSub size norm ev f (n - 1)
          (HessEigen.cplxInner size n (HessEigen.evGet ev n).1 (HessEigen.evGet ev n).2 norm ev (n - 1) ⟨zero, zero, zero, n - 1, t'⟩).t) ∧
    (0 < (HessEigen.evGet ev n).2 → HessEigen.backSub size norm ev (f + 1) (n + 1) t = HessEigen.backSub size norm ev f n t) := by
  intro _
  refine ⟨?_, ?_, ?_⟩
  · intro h0
    simp only [HessEigen.backSub, ScF.eq, zero, ScF.ofInt, Int.cast_zero, h0, decide_true, if_true]
  · intro hneg hn
    have hne : ¬ (HessEigen.evGet ev n).2 = 0 := ne_of_lt hneg
    simp only [HessEigen.backSub, ScF.eq, ScF.lt, zero, ScF.ofInt, Int.cast_zero, hne, decide_false, Bool.false_eq_true, if_false,
      hneg, hn, decide_true, Bool.and_self, if_true]
    exact ⟨_, rfl⟩
  · intro hpos
    have hne : ¬ (HessEigen.evGet ev n).2 = 0 := ne_of_gt hpos
    have hnl : ¬ (HessEigen.evGet ev n).2 < 0 := not_lt.mpr (le_of_lt hpos)
    simp only [HessEigen.backSub, ScF.eq, ScF.lt, zero, ScF.ofInt, Int.cast_zero, hne, hnl, decide_false, Bool.false_eq_true, if_false,
      Bool.false_and]

/-- scaling back by a positive real (`m_eivalues *= scale`, performed as `complex * complex(scale, 0)`) keeps the exact zero,
    exact conjugacy and strict positivity — what `GenEigsBase::is_complex` / `is_conj` and the restart shift loop rely on -/
theorem c09_conj_scale (s : K) (hs : 0 < s) (l : List (K × K)) (h : ConjBlocks l) :
    ConjBlocks (l.map (fun z => @HessEigen.cmulReal K _ _ _ (scOfField F) z s)) := by
  induction h with
  | nil => exact ConjBlocks.nil
  | real t l _ ih =>
    simp only [List.map_cons, cmulReal_field, zero_mul]
    exact ConjBlocks.real _ _ (by simpa [cmulReal_field] using ih)
  | pair x z l hz _ ih =>
    simp only [List.map_cons, cmulReal_field, neg_mul]
    exact ConjBlocks.pair _ _ _ (mul_pos hz hs) (by simpa [cmulReal_field] using ih)

/-- hence the eigenvalues returned by the model of `UpperHessenbergEigen::compute` have the block shape with `z > 0`, for every
    input including the zero matrix (all `(0, 0)`) -/
theorem c09_conj_compute (heps : 0 < F.eps) (n : Nat) (h : Mat K) (r : HessEigen.Decomp K)
    (hr : @HessEigen.compute K _ _ _ _ _ (scOfField F) n h = Res.ok r) : ConjBlocks r.evals.toList := by
  simp only [HessEigen.compute] at hr
  by_cases hz : @Sc.eq K (scOfField F) (@TridiagEigen.maxAbs1 K (scOfField F) h.d) (@zero K (scOfField F)) = true
  · rw [if_pos hz] at hr
    cases hr
    simp only [Array.toList_replicate]
    have : ((@zero K (scOfField F)), (@zero K (scOfField F))) = ((0 : K), (0 : K)) := by simp [zero]
    rw [this]; exact conj_replicate n
  · rw [if_neg hz] at hr
    split at hr
    · cases hr
    · cases hr
      simp only [Array.toList_map, HessEigen.evalsOf]
      have hne : @TridiagEigen.maxAbs1 K (scOfField F) h.d ≠ 0 := by
        simpa [zero] using hz
      have hpos : 0 < @TridiagEigen.maxAbs1 K (scOfField F) h.d := lt_of_le_of_ne (maxAbs1_nonneg F _) (Ne.symm hne)
      exact c09_conj_scale F _ hpos _ (c09_conj_blocks F heps _ _ _ _)

/-- the hypotheses are satisfiable and the shape is not vacuous: a 1x1 block then a 2x2 block -/
example : ConjBlocks [((3 : ℚ), 0), (1, 2), (1, -2)] :=
  ConjBlocks.real 3 _ (ConjBlocks.pair 1 2 _ (by norm_num) ConjBlocks.nil)

/-- **the model's complex division (port of libgcc `__divdc3`) is complex division**: for `(c, d) ≠ (0, 0)` the returned `(x, y)`
    satisfies `(x + iy)(c + id) = a + ib`, in every scaling branch and for both orders of evaluation (field instance, `eps ≠ 0`).
    So the back-substitution of `doComputeEigenvectors` and `normalize()` divide by what the C++ text says they divide by. -/
theorem c09_cdiv_spec (heps : F.eps ≠ 0) (a b c d : K) (hcd : c ≠ 0 ∨ d ≠ 0) :
    let _ : Sc K := scOfField F
    (HessEigen.cdiv a b c d).1 * c - (HessEigen.cdiv a b c d).2 * d = a ∧
    (HessEigen.cdiv a b c d).1 * d + (HessEigen.cdiv a b c d).2 * c = b := C09Cdiv.cdiv_spec F heps a b c d hcd

/-- **unit norm is exact in exact arithmetic**: `col.normalize()` of `eigenvectors()` maps a complex column with squared norm
    `z > 0` (and `sqrt z · sqrt z = z`) to a column of squared norm exactly `1`.  (In floating point `|‖x‖ − 1| ≤ C n eps` is what
    the oracle `hesseig-unit` checks; the rounding bound is not proved.) -/
theorem c09_eigvec_unit (heps : F.eps ≠ 0) (c : Vec (K × K)) :
    let _ : Sc K := scOfField F
    0 < HessEigen.csqNorm c → F.sqrt (HessEigen.csqNorm c) * F.sqrt (HessEigen.csqNorm c) = HessEigen.csqNorm c →
      HessEigen.csqNorm (HessEigen.cnormalize c) = 1 := C09Cdiv.cnormalize_unit F heps c

end conj

section step
variable {K : Type} [Field K] [LinearOrder K] [IsStrictOrderedRing K] (F : FieldFns K)
open TridiagEigen C09Step

/-- **One Givens step of `tridiagonal_qr_step`, array level** (field instance; `c, s` = `makeGivens(x, z)`, any values).
    The model stores exactly: `diag[k], diag[k+1], subdiag[k]` = the 2x2 block of `GᵀTG`; `subdiag[k-1] = c·e − s·z` (when
    `k > start`); the new bulge `z' = −s·subdiag[k+1]` and `subdiag[k+1] = c·subdiag[k+1]` (when `k < end−1`); `x' = subdiag[k]`;
    every other entry of `diag`/`subdiag` is unchanged; `Q' = Q.applyOnTheRight(k, k+1, rot)`.
    `c09_trideig_step_GtTG` shows these are the entries of `GᵀTG`, `c09_trideig_step_Q` that `Q'` is `QG` entrywise. -/
theorem c09_trideig_step (n start end_ k : Nat) (st : QRSt K)
    (hd : k + 1 < st.diag.size) (hs : k < st.sub.size) (hs1 : k + 1 < end_ → k + 1 < st.sub.size) :
    let _ : Sc K := scOfField F
    let c := (makeGivens st.x st.z).c
    let s := (makeGivens st.x st.z).s
    let st' := qrBody n start end_ k st
    vget st'.diag k = c * c * vget st.diag k - 2 * c * s * vget st.sub k + s * s * vget st.diag (k + 1) ∧
    vget st'.diag (k + 1) = s * s * vget st.diag k + 2 * c * s * vget st.sub k + c * c * vget st.diag (k + 1) ∧
    vget st'.sub k = c * s * (vget st.diag k - vget st.diag (k + 1)) + (c * c - s * s) * vget st.sub k ∧
    (start < k → vget st'.sub (k - 1) = c * vget st.sub (k - 1) - s * st.z) ∧
    (k + 1 < end_ → st'.z = -(s * vget st.sub (k + 1)) ∧ vget st'.sub (k + 1) = c * vget st.sub (k + 1)) ∧
    (¬ k + 1 < end_ → st'.z = st.z) ∧
    st'.x = vget st'.sub k ∧
    (∀ j, j ≠ k → j ≠ k + 1 → vget st'.diag j = vget st.diag j) ∧
    (∀ j, j ≠ k → j + 1 ≠ k → j ≠ k + 1 → vget st'.sub j = vget st.sub j) ∧
    st'.q = applyOnTheRight st.q n k (k + 1) c s := qrBody_spec F n start end_ k st hd hs hs1

/-- the stored expressions ARE the entries of `GᵀTG` (any commutative ring, any `c, s`): `T` symmetric tridiagonal with diagonal
    `d`, sub-diagonal `e` and, after the first rotation, the bulge `z` at `(m+2, m)`; `G` the rotation in the plane `(k, k+1)`.
    The entry `(m+2, m) = s·e_m + c·z` is the one the code does not store: it is `0` for an ideal rotation (`makeGivens`
    annihilates it in exact arithmetic) — that, like `c² + s² = 1`, needs the exact `sqrt` and is not claimed here. -/
theorem c09_trideig_step_GtTG {R : Type} [CommRing R] (d e : Nat → R) (m : Nat) (z c s : R) :
    (conjG (bandT d e none 0) m c s m m = c * c * d m - 2 * c * s * e m + s * s * d (m + 1) ∧
     conjG (bandT d e none 0) m c s (m + 1) (m + 1) = s * s * d m + 2 * c * s * e m + c * c * d (m + 1) ∧
     conjG (bandT d e none 0) m c s (m + 1) m = c * s * (d m - d (m + 1)) + (c * c - s * s) * e m ∧
     conjG (bandT d e none 0) m c s (m + 2) m = -(s * e (m + 1)) ∧
     conjG (bandT d e none 0) m c s (m + 2) (m + 1) = c * e (m + 1)) ∧
    (conjG (bandT d e (some m) z) (m + 1) c s (m + 1) (m + 1) = c * c * d (m + 1) - 2 * c * s * e (m + 1) + s * s * d (m + 2) ∧
     conjG (bandT d e (some m) z) (m + 1) c s (m + 2) (m + 2) = s * s * d (m + 1) + 2 * c * s * e (m + 1) + c * c * d (m + 2) ∧
     conjG (bandT d e (some m) z) (m + 1) c s (m + 2) (m + 1) = c * s * (d (m + 1) - d (m + 2)) + (c * c - s * s) * e (m + 1) ∧
     conjG (bandT d e (some m) z) (m + 1) c s (m + 1) m = c * e m - s * z ∧
     conjG (bandT d e (some m) z) (m + 1) c s (m + 2) m = s * e m + c * z ∧
     conjG (bandT d e (some m) z) (m + 1) c s (m + 3) (m + 1) = -(s * e (m + 2)) ∧
     conjG (bandT d e (some m) z) (m + 1) c s (m + 3) (m + 2) = c * e (m + 2)) := by
  open C09Sim in
  rw [bandT_none d e 0 m, bandT_some]
  refine ⟨⟨?_, ?_, ?_, ?_, ?_⟩, ?_, ?_, ?_, ?_, ?_, ?_, ?_⟩
  · rw [conjG_kk]; simp only [band_diag, band_subdiag, band_supdiag]; ring
  · rw [conjG_k1k1]; simp only [band_diag, band_subdiag, band_supdiag]; ring
  · rw [conjG_k1k]; simp only [band_diag, band_subdiag, band_supdiag]; ring
  · rw [conjG_ik _ _ _ _ _ (by omega) (by omega), band_off _ _ _ _ _ _ (by omega), band_subdiag]; ring
  · rw [conjG_ik1 _ _ _ _ _ (by omega) (by omega), band_off _ _ _ _ _ _ (by omega), band_subdiag]; ring
  · rw [conjG_kk]; simp only [band_diag, band_subdiag, band_supdiag]; ring
  · rw [conjG_k1k1]; simp only [band_diag, band_subdiag, band_supdiag]; ring
  · rw [conjG_k1k]; simp only [band_diag, band_subdiag, band_supdiag]; ring
  · rw [conjG_kj _ _ _ _ _ (by omega) (by omega), band_subdiag, band_bulge]
  · rw [conjG_k1j _ _ _ _ _ (by omega) (by omega), band_subdiag, band_bulge]
  · rw [conjG_ik _ _ _ _ _ (by omega) (by omega), band_off _ _ _ _ _ _ (by omega), band_subdiag]; ring
  · rw [conjG_ik1 _ _ _ _ _ (by omega) (by omega), band_off _ _ _ _ _ _ (by omega), band_subdiag]; ring

/-- `Q.applyOnTheRight(p, q, rot)` is `QG` entrywise on the first `nrow` rows (field instance, including Eigen's early exit
    for the identity rotation): column `p` ↦ `c·col_p − s·col_q`, column `q` ↦ `s·col_p + c·col_q`, all else unchanged. -/
theorem c09_trideig_step_Q (m : Mat K) (h : C09Mat.WF m) (nrow p q : Nat) (c s : K) (hpq : p ≠ q)
    (hpc : p < m.cols) (hqc : q < m.cols) (hn : nrow ≤ m.rows) (i j : Nat) (hi : i < m.rows) :
    let _ : Sc K := scOfField F
    (applyOnTheRight m nrow p q c s).get i j =
      if i < nrow then (if j = p then c * m.get i p - s * m.get i q else if j = q then s * m.get i p + c * m.get i q else m.get i j)
      else m.get i j := C09Mat.applyOnTheRight_get F m h nrow p q c s hpq hpc hqc hn i j hi

/-- a plane rotation with `c² + s² = 1` preserves orthonormality of the columns: if `QᵀQ = I` then `(QG)ᵀ(QG) = I`
    (any commutative ring, any number of rows `n`, `mulG Q k c s = QG`). -/
theorem c09_rot_orth {R : Type} [CommRing R] (n k : Nat) (Q : Nat → Nat → R) (c s : R) (hcs : c * c + s * s = 1)
    (horth : ∀ a b, (Finset.range n).sum (fun i => Q i a * Q i b) = if a = b then 1 else 0) (a b : Nat) :
    (Finset.range n).sum (fun i => mulG Q k c s i a * mulG Q k c s i b) = if a = b then 1 else 0 := by
  rw [C09Gram.gram_conjG, funext fun a => funext (horth a), C09Sim.conjG_delta k c s hcs]

/-- the hypothesis `c² + s² = 1` is satisfiable -/
example : ((3 : ℚ) / 5) * (3 / 5) + (4 / 5) * (4 / 5) = 1 := by norm_num

/-- **Wilkinson shift of `tridiagonal_qr_step`** (hand model `TridiagEigen.wilkinsonMu`, field instance): with `td = (a − b)/2`
    the guarded formula is `b − |e|` for `td = 0`, `b` for `e = 0`, and otherwise — in BOTH the `e² == 0` (underflow-safe) and the
    ordinary branch — equals `b − e² / (td + sign(td)·hypot(td, e))` whenever that denominator is non-zero. -/
theorem c09_wilkinson_shift (a b e : K) :
    let _ : Sc K := scOfField F
    let td := (a - b) * (TridiagEigen.half : K)
    let h := hypot td e
    let D := td + (if 0 < td then h else -h)
    (td = 0 → wilkinsonMu a b e = b - |e|) ∧
    (td ≠ 0 → e = 0 → wilkinsonMu a b e = b) ∧
    (td ≠ 0 → e ≠ 0 → D ≠ 0 → wilkinsonMu a b e = b - e * e / D) := by
  intro _ td h D
  refine ⟨?_, ?_, ?_⟩
  · intro h0
    have : (a - b) * (half : K) = 0 := h0
    simp [wilkinsonMu, this, zero]
  · intro h0 he
    have h0' : ¬ (a - b) * (half : K) = 0 := h0
    simp [wilkinsonMu, h0', he, zero, Sc.ne]
  · intro h0 he _
    have h0' : ¬ (a - b) * (half : K) = 0 := h0
    simp only [wilkinsonMu, ScF.eq, zero, ScF.ofInt, Int.cast_zero, h0', decide_false, Bool.false_eq_true, if_false, Sc.ne, he,
      Bool.not_false, if_true, Sc.gt, ScF.lt, decide_eq_true_eq]
    split
    · rename_i he2
      exfalso; exact he (by simpa using he2)
    · show b - e * e / D = b - e * e / D
      rfl

/-- an ideal rotation: with an exact square root (`sqrt x · sqrt x = x` for `x ≥ 0`) Eigen's `makeGivens` returns `c² + s² = 1`
    in all four branches (field instance) -/
theorem c09_givens_unit (hs : ∀ x : K, 0 ≤ x → F.sqrt x * F.sqrt x = x) (p q : K) :
    let _ : Sc K := scOfField F
    (makeGivens p q).c * (makeGivens p q).c + (makeGivens p q).s * (makeGivens p q).s = 1 := C09Orth.makeGivens_unit F hs p q

/-- **`ZᵀZ = I` for the whole run of the TridiagEigen model, in exact arithmetic**: for every size `n ≥ 1`, every input, and every
    outcome of the deflation / shift / loop tests, if the model returns normally then the returned eigenvector matrix is a
    well-formed `n × n` matrix with orthonormal columns (`Σ_i Z(i,a) Z(i,b) = δ_ab`).  This is the `ZᵀZ = I` clause of C09 for ideal
    rotations; in floating point the rotations are unit only up to rounding, and the accumulated defect (≤ C n eps) is what the
    oracle `trideig-orth` measures — the rounding bound itself is not proved. -/
theorem c09_trideig_orth (hs : ∀ x : K, 0 ≤ x → F.sqrt x * F.sqrt x = x) (n : Nat) (hn : 0 < n) (d e : Vec K)
    (r : TridiagEigen.Decomp K) (hok : @TridiagEigen.compute K _ _ _ _ _ (scOfField F) n d e = Res.ok r) :
    C09Orth.ColsOrth F n r.evecs :=
  C09Orth.compute_orth F (C09Orth.makeGivens_unit F hs) n hn d e r hok

/-- the hypothesis on `sqrt` is satisfiable (e.g. by `Real.sqrt`; here: a function that is exact on the two values it is asked) -/
example : ∃ f : ℚ → ℚ, f 4 * f 4 = 4 ∧ f 0 * f 0 = 0 := ⟨fun x => x / 2, by norm_num, by norm_num⟩

/-- an ideal reflector: with an exact non-negative square root (and `minPos ≥ 0`) Eigen's `makeHouseholder` returns `τ = 0` or
    `τ (1 + v1² + v2²) = 2`, in one formula `τ (τ vᵀv − 2) = 0`: `P = I − τ v vᵀ` is orthogonal (field instance) -/
theorem c09_householder_ideal (hs : ∀ x : K, 0 ≤ x → F.sqrt x * F.sqrt x = x) (hs0 : ∀ x : K, 0 ≤ F.sqrt x) (hmin : 0 ≤ F.minPos)
    (c0 t1 t2 : K) :
    let _ : Sc K := scOfField F
    (HessSchur.makeHouseholder c0 t1 t2).tau * ((HessSchur.makeHouseholder c0 t1 t2).tau *
      (1 + (HessSchur.makeHouseholder c0 t1 t2).v1 * (HessSchur.makeHouseholder c0 t1 t2).v1 +
        (HessSchur.makeHouseholder c0 t1 t2).v2 * (HessSchur.makeHouseholder c0 t1 t2).v2) - 2) = 0 :=
  C09OrthU.makeHouseholder_ideal F hs hs0 hmin c0 t1 t2

/-- **`UᵀU = I` for the whole run of the UpperHessenbergSchur model, in exact arithmetic**: for every size, every input and every
    outcome of the deflation / shift / guard tests (including the exceptional shifts), if the model returns normally then the
    returned `U` is a well-formed `n × n` matrix with orthonormal columns.  (Rounding defect `≤ C n eps`: oracle `schur-orth`.) -/
theorem c09_schur_orth (hs : ∀ x : K, 0 ≤ x → F.sqrt x * F.sqrt x = x) (hs0 : ∀ x : K, 0 ≤ F.sqrt x) (hmin : 0 ≤ F.minPos)
    (n : Nat) (h : Mat K) (r : HessSchur.Decomp K) (hok : @HessSchur.compute K _ _ _ _ _ (scOfField F) n h = Res.ok r) :
    C09Orth.ColsOrth F n r.u :=
  C09OrthU.compute_orthU F (C09Orth.makeGivens_unit F hs)
    (C09OrthU.makeHouseholder_ideal F hs hs0 hmin) n h r hok

end step

section similarity
variable {K : Type} [Field K] [LinearOrder K] [IsStrictOrderedRing K] (F : FieldFns K)
open TridiagEigen Finset
open scoped Matrix

/-- `makeGivens(p, q)` annihilates: `s·p + c·q = 0` in all four branches (field instance, ANY `sqrt`): the bulge entry
    `(m+2, m) = s·e_m + c·z` of `c09_trideig_step_GtTG`, which the code does not store, is exactly `0`. -/
theorem c09_givens_annihilate (p q : K) :
    let _ : Sc K := scOfField F
    (makeGivens p q).s * p + (makeGivens p q).c * q = 0 := C09Sim.makeGivens_annih F p q

/-- **One `tridiagonal_qr_step` is an orthogonal similarity that loses no entry** (exact arithmetic, exact `sqrt`).  `TInv F n X d s q`
    says: `d`, `s` have sizes `n`, `n−1`, `q` is a well-formed `n × n` matrix with orthonormal columns and
    `Qᵀ X Q = tridiag(d, s)` (Mathlib matrices, `C09Sim.mat n` = leading `n × n` block of an entry function).  If the window
    `[start, end]` is decoupled (`sub[start−1] = 0` unless `start = 0`, `sub[end] = 0`) the same holds after the step: each rotation's
    bulge is annihilated exactly by the next one (`c09_givens_annihilate`) and the last rotation creates none. -/
theorem c09_trideig_qrstep_similarity (hs : ∀ x : K, 0 ≤ x → F.sqrt x * F.sqrt x = x) (n start end_ : Nat)
    (X : Matrix (Fin n) (Fin n) K) (d s : Vec K) (q : Mat K) (h : C09Sim.TInv F n X d s q) (hse : start ≤ end_) (hend : end_ < n)
    (e1 : ∀ m, m + 1 = start → @vget K (scOfField F) s m = 0) (e2 : @vget K (scOfField F) s end_ = 0) :
    C09Sim.TInv F n X (@qrStep K _ _ _ _ _ (scOfField F) n start end_ d s q).diag
      (@qrStep K _ _ _ _ _ (scOfField F) n start end_ d s q).sub (@qrStep K _ _ _ _ _ (scOfField F) n start end_ d s q).q :=
  C09Sim.qrStep_sim F (C09Orth.makeGivens_unit F hs) n start end_ X d s q h hse hend e1 e2

/-- **What a deflation pass drops** (field instance): every sub-diagonal entry is either unchanged or replaced by exactly `0`, and in
    the latter case its CURRENT value passed the code's test `|eⱼ| ≤ considerAsZero ∨ (precision_inv·eⱼ)² ≤ |dⱼ| + |dⱼ₊₁|`. -/
theorem c09_trideig_deflate (caz pinv : K) (start end_ : Nat) (d s : Vec K) (hsz : end_ ≤ s.size) (j : Nat) :
    let _ : Sc K := scOfField F
    vget (deflatePass caz pinv start end_ d s) j = vget s j ∨
      (vget (deflatePass caz pinv start end_ d s) j = 0 ∧ start ≤ j ∧ j < end_ ∧
        (|vget s j| ≤ caz ∨ (pinv * vget s j) * (pinv * vget s j) ≤ |vget d j| + |vget d (j + 1)|)) := by
  intro _
  have := C09Sim.deflatePass_get F caz pinv start end_ d s hsz j
  simp only at this
  rw [this]
  by_cases h : start ≤ j ∧ j < end_
  · rw [if_pos h]
    rcases C09Sim.deflateEntry_cases F caz pinv (vget d j) (vget d (j + 1)) (vget s j) with h1 | ⟨h1, h2⟩
    · left; exact h1
    · right; exact ⟨h1, h.1, h.2, h2⟩
  · rw [if_neg h]; left; rfl

/-- **`c09_trideig_decomp`: whole-run decomposition of `TridiagEigen::compute` in exact arithmetic** (field instance, exact `sqrt`,
    `min > 0`), for every `n ≥ 1`, every input `(d, e)` of the right sizes and EVERY outcome of the deflation / shift / loop tests.
    If the model returns normally with eigenvalues `λ` and eigenvectors `Z` then there is a SYMMETRIC perturbation `P` with
      `(T₀ − P) Z = Z diag(λ)`   (both orders of the right-hand product are given),
    `T₀ = tridiag(d, e)`, and `|Pᵢⱼ| ≤ 2 · totalDrop` where `C09Sim.totalDrop` is the run's perturbation budget: `scale ·` the sum, over
    all deflation passes of the run, of `Σₖ |old subₖ − new subₖ|` (ghost recursion `C09Sim.mainLoopDrop` mirroring the main loop; by
    `c09_trideig_deflate` each non-zero term is the magnitude of an entry that passed the negligibility test when it was dropped);
    in the tiny-matrix early exit (`scale < 10·min`, result `λ = 0`, `Z = I`) the budget is `Σ|dₖ| + Σ|eₖ|`.
    Together with `c09_trideig_orth` (`ZᵀZ = I`) this is `T₀ = Z D Zᵀ + P`: the columns of `Z` are EXACT orthonormal eigenvectors of
    a matrix within `2·totalDrop` (entrywise) of the input.  Not proved: that `totalDrop = O(eps·‖T₀‖)`, and rounding. -/
theorem c09_trideig_decomp (hs : ∀ x : K, 0 ≤ x → F.sqrt x * F.sqrt x = x) (hmin : 0 < F.minPos) (n : Nat) (hn : 0 < n)
    (d e : Vec K) (hd : d.size = n) (he : e.size = n - 1) (r : TridiagEigen.Decomp K)
    (hok : @TridiagEigen.compute K _ _ _ _ _ (scOfField F) n d e = Res.ok r) :
    let _ : Sc K := scOfField F
    ∃ P : ℕ → ℕ → K, (∀ i j, P i j = P j i) ∧ (∀ i j, i < n → j < n → |P i j| ≤ 2 * C09Sim.totalDrop F n d e) ∧
      (∀ i j, i < n → j < n →
        ∑ a ∈ range n, (C09Sim.tridiag (vget d) (vget e) i a - P i a) * r.evecs.get a j = r.evecs.get i j * vget r.evals j) ∧
      (∀ i j, i < n → j < n →
        ∑ a ∈ range n, (C09Sim.tridiag (vget d) (vget e) i a - P i a) * r.evecs.get a j = vget r.evals j * r.evecs.get i j) :=
  C09Sim.compute_decomp F (C09Orth.makeGivens_unit F hs) hmin n hn d e hd he r hok

/-- the same as Mathlib matrices, with both orthogonality statements: `(T₀ − P) Z = Z D`, `ZᵀZ = 1`, `ZZᵀ = 1`, `Pᵀ = P` -/
theorem c09_trideig_decomp_matrix (hs : ∀ x : K, 0 ≤ x → F.sqrt x * F.sqrt x = x) (hmin : 0 < F.minPos) (n : Nat) (hn : 0 < n)
    (d e : Vec K) (hd : d.size = n) (he : e.size = n - 1) (r : TridiagEigen.Decomp K)
    (hok : @TridiagEigen.compute K _ _ _ _ _ (scOfField F) n d e = Res.ok r) :
    ∃ P : Matrix (Fin n) (Fin n) K, Pᵀ = P ∧ (∀ i j, |P i j| ≤ 2 * C09Sim.totalDrop F n d e) ∧
      (C09Sim.mat n (C09Sim.band (@vget K (scOfField F) d) (@vget K (scOfField F) e) 0 0) - P) *
          C09Sim.mat n (fun i j => @Mat.get K (scOfField F) r.evecs i j) =
        C09Sim.mat n (fun i j => @Mat.get K (scOfField F) r.evecs i j) *
          Matrix.diagonal (fun i : Fin n => @vget K (scOfField F) r.evals i.val) ∧
      (C09Sim.mat n (fun i j => @Mat.get K (scOfField F) r.evecs i j))ᵀ * C09Sim.mat n (fun i j => @Mat.get K (scOfField F) r.evecs i j) = 1 ∧
      C09Sim.mat n (fun i j => @Mat.get K (scOfField F) r.evecs i j) * (C09Sim.mat n (fun i j => @Mat.get K (scOfField F) r.evecs i j))ᵀ = 1 :=
  C09Sim.compute_sim F (C09Orth.makeGivens_unit F hs) hmin n hn d e hd he r hok

/-- the perturbation budget is a sum of magnitudes -/
theorem c09_trideig_drop_nonneg (n : Nat) (caz pinv : K) (f end_ start iter : Nat) (d s : Vec K) (q : Mat K) :
    0 ≤ C09Sim.mainLoopDrop F n caz pinv f end_ start iter d s q := C09Sim.mainLoopDrop_nonneg F n caz pinv f end_ start iter d s q

/-- **exact corollary**: when the budget is `0` (every deflation only overwrote entries that already were `0`, and the tiny-matrix
    exit was not taken on a non-zero input) `T₀ Z = Z D` EXACTLY: column `j` of `Z` is an eigenvector of `T₀` for `λⱼ`. -/
theorem c09_trideig_exact (hs : ∀ x : K, 0 ≤ x → F.sqrt x * F.sqrt x = x) (hmin : 0 < F.minPos) (n : Nat) (hn : 0 < n)
    (d e : Vec K) (hd : d.size = n) (he : e.size = n - 1) (r : TridiagEigen.Decomp K)
    (hok : @TridiagEigen.compute K _ _ _ _ _ (scOfField F) n d e = Res.ok r) (h0 : C09Sim.totalDrop F n d e = 0) :
    let _ : Sc K := scOfField F
    ∀ i j, i < n → j < n →
      ∑ a ∈ range n, C09Sim.tridiag (vget d) (vget e) i a * r.evecs.get a j = vget r.evals j * r.evecs.get i j :=
  C09Sim.compute_exact F (C09Orth.makeGivens_unit F hs) hmin n hn d e hd he r hok h0

/-- the zero-budget hypothesis of `c09_trideig_exact` is satisfiable: for `n = 1` (no sub-diagonal) the budget is `0` whenever the
    tiny-matrix exit is not taken -/
example (d e : Vec K)
    (h : @Sc.lt K (scOfField F) (@TridiagEigen.scaleOf K (scOfField F) d e) (@Sc.minPos K (scOfField F) * @Sc.ofInt K (scOfField F) 10) = false) :
    C09Sim.totalDrop F 1 d e = 0 := by
  simp only [C09Sim.totalDrop, h, C09Sim.coreDrop]
  simp [C09Sim.mainLoopDrop]

/-- **the `eig_spec` obligation of `C01E.ExactKernels` (Proofs/C01Exact.lean) discharged for `HermSolver.eigH`** under the exact
    idealisation (exact `sqrt`, zero perturbation budget): for every returned column `y = cols[j]`, `H y = θ y` with `H` the symmetric
    tridiagonal matrix read from the factorization (`H(i,i)`, `H(i+1,i)`), `θ = evals[j]`, and `lastRow[j]` is the last coordinate of
    `y` — with `vec y a := vget y a`, `val := id`, `est := id`, `(abs fac).H := tridiag …` this is the field `eig_spec` verbatim. -/
theorem c09_trideig_eigH_spec (hs : ∀ x : K, 0 ≤ x → F.sqrt x * F.sqrt x = x) (hmin : 0 < F.minPos) (ncv : Nat) (hn : 0 < ncv)
    (st : Arnoldi.State K) (evals lastRow : List K) (cols : List (Vec K))
    (h : @HermSolver.eigH K _ _ _ _ _ (scOfField F) ncv st = .ok (evals, lastRow, cols))
    (h0 : C09Sim.totalDrop F ncv (vofFn ncv (fun i => @Mat.get K (scOfField F) st.H i i))
      (vofFn (ncv - 1) (fun i => @Mat.get K (scOfField F) st.H (i + 1) i)) = 0) :
    let _ : Sc K := scOfField F
    ∀ j, j < ncv →
      (∀ i, i < ncv → ∑ a ∈ range ncv, C09Sim.tridiag (fun i => st.H.get i i) (fun i => st.H.get (i + 1) i) i a *
            vget (cols.getD j (vzero ncv)) a = evals.getD j zero * vget (cols.getD j (vzero ncv)) i) ∧
      lastRow.getD j zero = vget (cols.getD j (vzero ncv)) (ncv - 1) :=
  C09Sim.eigH_spec F (C09Orth.makeGivens_unit F hs) hmin ncv hn st evals lastRow cols h h0

end similarity

section schur_similarity
variable {K : Type} [Field K] [LinearOrder K] [IsStrictOrderedRing K] (F : FieldFns K)
open HessSchur

/-- **building block of `c09_schur_similarity` (1/3): an ideal reflector reflects.**  With an exact non-negative `sqrt`, either
    `makeHouseholder(c0, t1, t2)` took its degenerate exit (`t1² + t2² ≤ min`: `τ = 0`, `β = c0`, the tail is treated as `0` — a
    dropped quantity), or `P (c0, t1, t2)ᵀ = (β, 0, 0)ᵀ` EXACTLY for `P = I − τ v vᵀ`: after `T(k, k−1) = β` the two entries below it,
    which `perform_francis_qr_step` leaves in place and zeroes in its clean-up loop, are exact zeros of `Pᵀ T P`.
    (Building block of the whole-run statement `c09_schur_similarity` below.) -/
theorem c09_schur_similarity_partial_reflect (hs : ∀ x : K, 0 ≤ x → F.sqrt x * F.sqrt x = x) (hs0 : ∀ x : K, 0 ≤ F.sqrt x)
    (hmin : 0 ≤ F.minPos) (c0 t1 t2 : K) :
    let _ : Sc K := scOfField F
    (t1 * t1 + t2 * t2 ≤ F.minPos ∧ (makeHouseholder c0 t1 t2).tau = 0 ∧ (makeHouseholder c0 t1 t2).beta = c0) ∨
    hhKernel (makeHouseholder c0 t1 t2).v1 (makeHouseholder c0 t1 t2).v2 (makeHouseholder c0 t1 t2).tau c0 t1 t2 =
      ((makeHouseholder c0 t1 t2).beta, 0, 0) := C09SimU.makeHouseholder_reflects F hs hs0 hmin c0 t1 t2

/-- **partial (2/3): the standardisation rotation of `split_off_two_rows` annihilates `T(iu, iu−1)` exactly.**  For the trailing
    2x2 block `[[a, b], [y, d]]` with `p = (a − d)/2`, `q = p² + y·b ≥ 0`, the rotation `makeGivens(p ± √|q|, y)` applied as the code
    applies it (`applyOnTheLeft(adjoint)` on the rows, `applyOnTheRight` on the columns) produces the `(2,1)` entry
    `c·(s·a + c·y) − s·(s·b + c·d) = 0`: the explicit `T(iu, iu−1) = 0` overwrites an exact zero. -/
theorem c09_schur_similarity_partial_standardise (hs : ∀ x : K, 0 ≤ x → F.sqrt x * F.sqrt x = x) (hs0 : ∀ x : K, 0 ≤ F.sqrt x)
    (a b y d : K) (hq : 0 ≤ (1 / 2 * (a - d)) * (1 / 2 * (a - d)) + y * b) :
    let _ : Sc K := scOfField F
    let p : K := 1 / 2 * (a - d)
    let z := F.sqrt |p * p + y * b|
    let rot := makeGivens (if 0 ≤ p then p + z else p - z) y
    rot.c * (rot.s * a + rot.c * y) - rot.s * (rot.s * b + rot.c * d) = 0 := C09SimU.standardise_zero F hs hs0 a b y d hq

/-- `RealScalar(0.5)` of the model is `1/2` in the field instance (ties `p` above to the model's `half * (…)`) -/
theorem c09_half (F : FieldFns K) : (@TridiagEigen.half K (scOfField F)) = 1 / 2 := C09SimU.half_eq F

/-- **partial (3/3): the exceptional shifts are consistent.**  `compute_shift(iu, iter, ex_shift)` returns `(T', ex')` with
    `T' + ex'·D = T + ex·D` ENTRYWISE, `D` = identity on the active rows `0..iu`, whichever exceptional shift (iteration 10, 30)
    fired: what is subtracted from the diagonal of the active window is added to `ex_shift` (and added back by the deflation
    branches `T(iu,iu) += ex_shift`). -/
theorem c09_schur_similarity_partial_shift (t : Mat K) (h : @C09Mat.WF K t) (iu iter : Nat) (ex : K) (hr : iu < t.rows) (hc : iu < t.cols) :
    let _ : Sc K := scOfField F
    ∀ i j, i < t.rows →
      (computeShift iu iter ex t).1.get i j + (if i = j ∧ i ≤ iu then (computeShift iu iter ex t).2.1 else 0) =
        t.get i j + (if i = j ∧ i ≤ iu then ex else 0) := (C09SimU.computeShift_shifted F t h iu iter ex hr hc).2.2.2

end schur_similarity

section deflation_test
variable {α : Type} [Add α] [Sub α] [Mul α] [Div α] [Neg α] [Sc α]

/-- **the sub-diagonal entries a deflation drops passed the code's negligibility test** (any scalar type): `find_small_subdiag(iu)` returns
    `il` with `il = 0` or `|T(il, il−1)| ≤ max(eps·(|T(il−1,il−1)| + |T(il,il)|), near_0)` tested true.  The 1x1 deflation (`il = iu`) drops
    exactly `T(il, il−1)`, the 2x2 split (`il = iu − 1`) drops exactly `T(il, il−1)`, and a Francis sweep starting at `im = il` leaves exactly
    this entry untransformed: the terms (a) and the `im = il` case of (b) of the budget of `c09_schur_similarity` are each at most this
    threshold times the explicit factors there. -/
theorem c09_schur_deflation_negligible (t : Mat α) (near0 : α) (iu : Nat) :
    HessSchur.findSmallSubdiag t near0 iu = 0 ∨
      Sc.le (Sc.abs (t.get (HessSchur.findSmallSubdiag t near0 iu) (HessSchur.findSmallSubdiag t near0 iu - 1)))
        (HessSchur.maxi ((Sc.abs (t.get (HessSchur.findSmallSubdiag t near0 iu - 1) (HessSchur.findSmallSubdiag t near0 iu - 1)) +
          Sc.abs (t.get (HessSchur.findSmallSubdiag t near0 iu) (HessSchur.findSmallSubdiag t near0 iu))) * Sc.eps) near0) = true :=
  C09SS.findSmallSubdiag_spec t near0 iu

end deflation_test

section schur_whole_run
variable {K : Type} [Field K] [LinearOrder K] [IsStrictOrderedRing K] (F : FieldFns K)
open HessSchur C09SS C09Sim
open scoped Matrix

/-- **`c09_schur_similarity`: whole-run similarity of `UpperHessenbergSchur::compute` in exact arithmetic** (field instance
    `scOfField F`, exact non-negative `sqrt`, `min ≥ 0`), for EVERY size `n`, EVERY well-formed `n × n` upper Hessenberg input `H` and
    EVERY run that returns normally (every outcome of the deflation tests, the shift strategy incl. the exceptional shifts at
    iterations 10/30, the start row `im` of each sweep, the reflector/rotation guards).  With `U = matrix_U()`, `T = matrix_T()` as
    Mathlib matrices (`C09Sim.mat n (C09SS.gf F m)` = the `n × n` matrix of the entries `m(i,j)`):
      `Uᵀ · H · U = T + E`,   `UᵀU = UUᵀ = 1`,
    where the error term `E` is bounded, as a bilinear form on vectors of Euclidean norm `≤ 1` (spectral norm) and hence entrywise,
    by the explicit ghost budget `C09SS.schurDrop F n H` = the SUM OVER THE RUN of (`C09SS.mainLoopDrop`, `performFrancisDrop`, `francisDrop`):
      (a) `|T(iu, iu−1)|` at each 1x1 deflation and `|T(iu−1, iu−2)|` at each 2x2 split — the sub-diagonal entries the code judged
          negligible and overwrote with `0`;
      (b) per Francis sweep, first column: `‖P·(x,0,0)ᵀ − (±x,0,0)ᵀ‖₁`, `x = T(im, im−1)` — the code does not transform column `im−1`
          (it keeps `x` when `im = il`, where `x` is the negligible entry found by `find_small_subdiag`, and only negates it when
          `im > il`, Wilkinson's two-small-sub-diagonals start); `0` when `x = 0` (`c09_schur_drop_first_zero`);
      (c) per later reflector: `0` when it is applied and `makeHouseholder` is non-degenerate (`P v = β e₁` exactly), else the two bulge
          entries `|T(k+1,k−1)| + |T(k+2,k−1)|` that the clean-up loop zeroes (skipped reflector `|β| ≤ near_0`, or degenerate exit
          `t1² + t2² ≤ min`) (`c09_schur_drop_reflector`);
      (d) `|T(iu, iu−2)|` when the closing rotation is skipped (`|r| ≤ near_0`).
    What the 2x2 standardisation and the applied closing rotation overwrite with `0` are EXACT zeros (no contribution).
    NOT proved: that the budget is `O(eps·‖H‖)` (needs the convergence analysis), rounding. -/
theorem c09_schur_similarity (hs : ∀ x : K, 0 ≤ x → F.sqrt x * F.sqrt x = x) (hs0 : ∀ x : K, 0 ≤ F.sqrt x) (hmin : 0 ≤ F.minPos)
    (n : Nat) (h : Mat K) (hw : @C09Mat.WF K h) (hr : h.rows = n) (hc : h.cols = n) (hH : @C09Hess.Hess K (scOfField F) n h)
    (r : HessSchur.Decomp K) (hok : @HessSchur.compute K _ _ _ _ _ (scOfField F) n h = Res.ok r) :
    ∃ E : Matrix (Fin n) (Fin n) K,
      (mat n (gf F r.u))ᵀ * mat n (gf F h) * mat n (gf F r.u) = mat n (gf F r.t) + E ∧
      (mat n (gf F r.u))ᵀ * mat n (gf F r.u) = 1 ∧ mat n (gf F r.u) * (mat n (gf F r.u))ᵀ = 1 ∧
      (∀ x y : Fin n → K, x ⬝ᵥ x ≤ 1 → y ⬝ᵥ y ≤ 1 → |x ⬝ᵥ (E *ᵥ y)| ≤ schurDrop F n h) ∧
      (∀ i j, |E i j| ≤ schurDrop F n h) := by
  obtain ⟨E, hE, sim, o1, o2⟩ := compute_sim F hs hs0 hmin n h hw hr hc hH r hok
  exact ⟨E, sim, o1, o2, hE, fun i j => bnd_entry hE i j⟩

/-- **exact corollary**: when the budget is `0` the returned `T` is an EXACT orthogonal similarity transform of `H`:
    `Uᵀ H U = T` and `H = U T Uᵀ` — so the 1x1 / 2x2 diagonal blocks of the quasi-triangular `T` (`c09_schur_quasi_triangular`) carry
    exactly the spectrum of `H`. -/
theorem c09_schur_exact (hs : ∀ x : K, 0 ≤ x → F.sqrt x * F.sqrt x = x) (hs0 : ∀ x : K, 0 ≤ F.sqrt x) (hmin : 0 ≤ F.minPos)
    (n : Nat) (h : Mat K) (hw : @C09Mat.WF K h) (hr : h.rows = n) (hc : h.cols = n) (hH : @C09Hess.Hess K (scOfField F) n h)
    (r : HessSchur.Decomp K) (hok : @HessSchur.compute K _ _ _ _ _ (scOfField F) n h = Res.ok r) (h0 : schurDrop F n h = 0) :
    (mat n (gf F r.u))ᵀ * mat n (gf F h) * mat n (gf F r.u) = mat n (gf F r.t) ∧
    mat n (gf F h) = mat n (gf F r.u) * mat n (gf F r.t) * (mat n (gf F r.u))ᵀ := by
  obtain ⟨E, hE, sim, o1, o2⟩ := compute_sim F hs hs0 hmin n h hw hr hc hH r hok
  rw [h0] at hE
  have hE0 := bnd_eq_zero hE
  rw [hE0, add_zero] at sim
  refine ⟨sim, ?_⟩
  rw [← sim]
  have : mat n (gf F r.u) * ((mat n (gf F r.u))ᵀ * mat n (gf F h) * mat n (gf F r.u)) * (mat n (gf F r.u))ᵀ =
      (mat n (gf F r.u) * (mat n (gf F r.u))ᵀ) * mat n (gf F h) * (mat n (gf F r.u) * (mat n (gf F r.u))ᵀ) := by
    simp only [Matrix.mul_assoc]
  rw [this, o2, Matrix.one_mul, Matrix.mul_one]

/-- the budget is a sum of magnitudes -/
theorem c09_schur_drop_nonneg (n : Nat) (h : Mat K) : 0 ≤ schurDrop F n h := schurDrop_nonneg F n h

/-- **per-step structure, the loop invariant** (`C09SS.MInv F n m H ex s b`: `T` has the block structure and Hessenberg shape,
    `U` orthonormal, and `Uᵀ H U = T + ex·D_m + E` with `E` within the budget `b`; `D_m` = identity on the `m` active rows, `ex` = the
    accumulated exceptional shift): if it holds when the `while (iu >= 0)` loop is entered with ANY state, and the loop ends normally,
    then `Uᵀ H U = T + E'` on exit with `E'` within `b + mainLoopDrop` — proved by induction on the iteration counter, each of the four
    branches being one of the step theorems below. -/
theorem c09_schur_loop (hs : ∀ x : K, 0 ≤ x → F.sqrt x * F.sqrt x = x) (hs0 : ∀ x : K, 0 ≤ F.sqrt x) (hmin : 0 ≤ F.minPos)
    (n : Nat) (near0 : K) (H : Matrix (Fin n) (Fin n) K) (f m iter total : Nat) (ex : K) (s : TU K) (b : K)
    (h : MInv F n m H ex s b)
    (hd : (@mainLoop K _ _ _ _ _ (scOfField F) n near0 f m iter total ex s).exit = Exit.done) :
    ∃ E : Matrix (Fin n) (Fin n) K, Bnd E (b + C09SS.mainLoopDrop F n near0 f m iter total ex s) ∧
      (mat n (gf F (@mainLoop K _ _ _ _ _ (scOfField F) n near0 f m iter total ex s).u))ᵀ * H *
          mat n (gf F (@mainLoop K _ _ _ _ _ (scOfField F) n near0 f m iter total ex s).u) =
        mat n (gf F (@mainLoop K _ _ _ _ _ (scOfField F) n near0 f m iter total ex s).t) + E :=
  mainLoop_sim F hs hs0 hmin n near0 H f m iter total ex s b h hd

/-- **one trip of the reflector loop of `perform_francis_qr_step` is `T ← PᵀTP − D`, `U ← UP`** with `P` the 3x3 reflector in rows /
    columns `k, k+1, k+2` (ideal: `τ(τ vᵀv − 2) = 0`): it keeps the sweep invariant `C09SS.SInv` (`Uᵀ H U = L + S + E`, `L` = the logical
    `T` in which the stale bulge entries of the already chased columns count as `0`, zero pattern = upper Hessenberg + 3-entry bulge)
    and the budget grows by `francisDrop` = the `ℓ¹` norm of the spike `D` in column `k − 1`.  The WINDOW argument is inside: the left
    application restricted to the columns `≥ k` and the right one restricted to the rows `≤ min(iu, k+3)` equal the full products because
    of the zero pattern. -/
theorem c09_schur_step_reflector (hs : ∀ x : K, 0 ≤ x → F.sqrt x * F.sqrt x = x) (hs0 : ∀ x : K, 0 ≤ F.sqrt x) (hmin : 0 ≤ F.minPos)
    (n il im iu : Nat) (near0 : K) (fv : K × K × K) (H : Matrix (Fin n) (Fin n) K) (ex : K)
    (s : TU K) (k : Nat) (b : K) (hik : im ≤ k) (hk2 : k + 2 ≤ iu) (hiu : iu < n) (h : SInv F n im iu k H ex s b) :
    SInv F n im iu (k + 1) H ex (@francisBody K _ _ _ _ _ (scOfField F) n il im iu near0 fv s k)
      (b + francisDrop F il im near0 fv s k) :=
  francisBody_sinv F (C09OrthU.makeHouseholder_ideal F hs hs0 hmin) n il im iu near0 fv H ex s k b hik hk2 hiu h

/-- what a reflector that is not the first of its sweep drops: at most the two bulge entries, nothing in the ideal non-degenerate case -/
theorem c09_schur_drop_reflector (hs : ∀ x : K, 0 ≤ x → F.sqrt x * F.sqrt x = x) (hs0 : ∀ x : K, 0 ≤ F.sqrt x) (hmin : 0 ≤ F.minPos)
    (il im : Nat) (near0 : K) (fv : K × K × K) (s : TU K) (k : Nat) (hk0 : k ≠ 0) (hne : k ≠ im) :
    francisDrop F il im near0 fv s k ≤ |@Mat.get K (scOfField F) s.t (k + 1) (k - 1)| + |@Mat.get K (scOfField F) s.t (k + 2) (k - 1)| ∧
    (F.minPos < @Mat.get K (scOfField F) s.t (k + 1) (k - 1) * @Mat.get K (scOfField F) s.t (k + 1) (k - 1) +
        @Mat.get K (scOfField F) s.t (k + 2) (k - 1) * @Mat.get K (scOfField F) s.t (k + 2) (k - 1) →
      @Sc.gt K (scOfField F) (@Sc.abs K (scOfField F) (@makeHouseholder K _ _ _ _ _ (scOfField F) (@Mat.get K (scOfField F) s.t k (k - 1))
        (@Mat.get K (scOfField F) s.t (k + 1) (k - 1)) (@Mat.get K (scOfField F) s.t (k + 2) (k - 1))).beta) near0 = true →
      francisDrop F il im near0 fv s k = 0) :=
  francisDrop_nonfirst F hs hs0 hmin il im near0 fv s k hk0 hne

/-- a sweep that starts at an exact zero sub-diagonal entry loses nothing at its first column -/
theorem c09_schur_drop_first_zero (il im : Nat) (near0 : K) (fv : K × K × K) (s : TU K)
    (h0 : @Mat.get K (scOfField F) s.t im (im - 1) = 0) (h1 : @Mat.get K (scOfField F) s.t (im + 1) (im - 1) = 0)
    (h2 : @Mat.get K (scOfField F) s.t (im + 2) (im - 1) = 0) : francisDrop F il im near0 fv s im = 0 :=
  francisDrop_first_zero F il im near0 fv s h0 h1 h2

/-- **one `perform_francis_qr_step` (reflector loop + closing 2x2 rotation + clean-up loop) is `T ← QᵀTQ − D`, `U ← UQ`**, `Q` a product
    of ideal 3x3 reflectors and one unit rotation: for an upper Hessenberg `T` with `T(iu+1, iu) = 0`, `Uᵀ H U = T + S + E` is carried
    to the result, the budget of `E` growing by `performFrancisDrop`; `makeGivens` returns `r = c·p − s·q` and annihilates, so an applied
    closing rotation drops nothing, and after the clean-up loop the stored `T` IS the logical one. -/
theorem c09_schur_step_francis (hs : ∀ x : K, 0 ≤ x → F.sqrt x * F.sqrt x = x) (hs0 : ∀ x : K, 0 ≤ F.sqrt x) (hmin : 0 ≤ F.minPos)
    (n il im iu : Nat) (near0 : K) (fv : K × K × K) (H : Matrix (Fin n) (Fin n) K) (ex : K) (s : TU K) (b : K) (him : im + 2 ≤ iu) (hiu : iu < n)
    (hw : @C09Mat.WF K s.t) (hr : s.t.rows = n) (hc : s.t.cols = n) (hH : @C09Hess.Hess K (scOfField F) n s.t)
    (hz : iu + 1 < n → @Mat.get K (scOfField F) s.t (iu + 1) iu = 0) (orth : C09Orth.ColsOrth F n s.u)
    (E : Matrix (Fin n) (Fin n) K) (hE : Bnd E b)
    (sim : (mat n (gf F s.u))ᵀ * H * mat n (gf F s.u) = mat n (gf F s.t) + Sm n (iu + 1) ex + E) :
    ∃ E' : Matrix (Fin n) (Fin n) K, Bnd E' (b + performFrancisDrop F n il im iu near0 fv s) ∧
      (mat n (gf F (@performFrancis K _ _ _ _ _ (scOfField F) n il im iu near0 fv s).u))ᵀ * H *
          mat n (gf F (@performFrancis K _ _ _ _ _ (scOfField F) n il im iu near0 fv s).u) =
        mat n (gf F (@performFrancis K _ _ _ _ _ (scOfField F) n il im iu near0 fv s).t) + Sm n (iu + 1) ex + E' :=
  performFrancis_sim F hs (C09OrthU.makeHouseholder_ideal F hs hs0 hmin) n il im iu near0 fv H ex s b him hiu
    hw hr hc hH hz orth E hE sim

/-- **`split_off_two_rows` is a similarity step** (2x2 standardisation, window rows `p, p+1`): both diagonal entries take the accumulated
    shift, the rotation (if the block has real eigenvalues) is applied to `T` and `U`, the `(2,1)` entry it overwrites with `0` IS `0`,
    the active window shrinks by two rows and the only thing dropped is the sub-diagonal entry `T(iu−1, iu−2)` in front of the block. -/
theorem c09_schur_step_split (hs : ∀ x : K, 0 ≤ x → F.sqrt x * F.sqrt x = x) (hs0 : ∀ x : K, 0 ≤ F.sqrt x) (n p : Nat)
    (H : Matrix (Fin n) (Fin n) K) (ex : K) (s : TU K) (b : K) (hiu : p + 1 < n)
    (hw : @C09Mat.WF K s.t) (hr : s.t.rows = n) (hc : s.t.cols = n) (hH : @C09Hess.Hess K (scOfField F) n s.t)
    (hz : p + 1 + 1 < n → @Mat.get K (scOfField F) s.t (p + 1 + 1) (p + 1) = 0) (orth : C09Orth.ColsOrth F n s.u)
    (E : Matrix (Fin n) (Fin n) K) (hE : Bnd E b)
    (sim : (mat n (gf F s.u))ᵀ * H * mat n (gf F s.u) = mat n (gf F s.t) + Sm n (p + 1 + 1) ex + E) :
    ∃ E' : Matrix (Fin n) (Fin n) K, Bnd E' (b + (if 1 < p + 1 then |@Mat.get K (scOfField F) s.t p (p - 1)| else 0)) ∧
      (mat n (gf F (@splitOffTwoRows K _ _ _ _ _ (scOfField F) n (p + 1) ex s).u))ᵀ * H *
          mat n (gf F (@splitOffTwoRows K _ _ _ _ _ (scOfField F) n (p + 1) ex s).u) =
        mat n (gf F (@splitOffTwoRows K _ _ _ _ _ (scOfField F) n (p + 1) ex s).t) + Sm n p ex + E' :=
  split_sim F hs hs0 n p H ex s b hiu hw hr hc hH hz orth E hE sim

/-- **the exceptional shifts as matrices**: `compute_shift` returns `(T', ex')` with `T' + ex'·D = T + ex·D`, `D` = identity on rows `0..iu` -/
theorem c09_schur_step_shift (n iu iter : Nat) (ex : K) (t : Mat K) (hw : @C09Mat.WF K t) (hr : t.rows = n) (hc : t.cols = n) (hiu : iu < n) :
    mat n (gf F (@computeShift K _ _ _ _ _ (scOfField F) iu iter ex t).1) +
      Sm n (iu + 1) (@computeShift K _ _ _ _ _ (scOfField F) iu iter ex t).2.1 = mat n (gf F t) + Sm n (iu + 1) ex :=
  shift_sim F n iu iter ex t hw hr hc hiu

/-- the budget predicate: invariant under orthogonal conjugation, `+|d|` per added entry, bounds every entry, `0` forces `E = 0` -/
theorem c09_schur_budget {n : Nat} (E Q : Matrix (Fin n) (Fin n) K) (b : K) (hQ : Qᵀ * Q = 1) (h : Bnd E b) (a c : Nat) (d : K) :
    Bnd (Qᵀ * E * Q) b ∧ Bnd (E + mat n (sgl a c d)) (b + |d|) ∧ (∀ i j, |E i j| ≤ b) ∧ (b = 0 → E = 0) :=
  ⟨bnd_conj hQ h, bnd_add_sgl h a c d, fun i j => bnd_entry h i j, fun hb => bnd_eq_zero (hb ▸ h)⟩

/-- the hypotheses on `sqrt` and `min` are satisfiable: `Real.sqrt` -/
example : ∃ F0 : FieldFns ℝ, (∀ x : ℝ, 0 ≤ x → F0.sqrt x * F0.sqrt x = x) ∧ (∀ x : ℝ, 0 ≤ F0.sqrt x) ∧ 0 ≤ F0.minPos :=
  ⟨⟨Real.sqrt, fun _ _ => 0, 0, 1⟩, fun x hx => Real.mul_self_sqrt hx, fun x => Real.sqrt_nonneg x, by norm_num⟩

/-- non-vacuity of the zero-budget hypothesis of `c09_schur_exact` and of the normal return: for `n = 1` every input returns normally
    and the budget is `0` (the single 1x1 deflation has no sub-diagonal entry to drop) -/
example (h : Mat K) : schurDrop F 1 h = 0 ∧ ∃ r, @HessSchur.compute K _ _ _ _ _ (scOfField F) 1 h = Res.ok r := by
  constructor
  · simp only [schurDrop]
    split
    · simp [C09SS.mainLoopDrop, findSmallSubdiag]
    · rfl
  · simp only [HessSchur.compute, HessSchur.core]
    split
    · simp [mainLoop, findSmallSubdiag]
    · simp

end schur_whole_run

section hesseig_on_schur
variable {K : Type} [Field K] [LinearOrder K] [IsStrictOrderedRing K] (F : FieldFns K)
open HessSchur C09SS C09Sim C09Eig
open scoped Matrix

/-- **the pair reported for a 2x2 block with negative discriminant IS its spectrum** (exact non-negative `sqrt`): for the block
    `[[a, b], [c, d]]` with `((a−d)/2)² + c·b < 0`, `block2` returns `(x, z), (x, −z)` with `2x = a + d`, `z > 0`, `z² = −disc`, and `x ± i z`
    are the two roots of the characteristic polynomial `λ² − (a+d) λ + (ad − bc)` (real and imaginary part of `χ(x + i z) = 0`). -/
theorem c09_hesseig_block_eigenvalues (hs : ∀ x : K, 0 ≤ x → F.sqrt x * F.sqrt x = x) (hs0 : ∀ x : K, 0 ≤ F.sqrt x) (a d c b : K)
    (hd : (@TridiagEigen.half K (scOfField F)) * (a - d) * ((@TridiagEigen.half K (scOfField F)) * (a - d)) + c * b < 0) :
    ∃ x z : K, @HessEigen.block2 K _ _ _ _ _ (scOfField F) a d c b = ((x, z), (x, -z)) ∧ 0 < z ∧ 2 * x = a + d ∧
      z * z = -((@TridiagEigen.half K (scOfField F)) * (a - d) * ((@TridiagEigen.half K (scOfField F)) * (a - d)) + c * b) ∧
      (x * x - z * z) - (a + d) * x + (a * d - b * c) = 0 ∧ 2 * x * z - (a + d) * z = 0 :=
  block2_char F hs hs0 a d c b hd

/-- **every 2x2 block `UpperHessenbergSchur::compute` leaves unsplit has a negative discriminant** (complex conjugate eigenvalues): loop
    invariant of the main loop — `split_off_two_rows` rotated every block with `q ≥ 0` to triangular form and set `T(iu,iu−1) = 0`, and
    the finished rows are never written again.  (`C09Eig.disc F T r = ((T(r,r) − T(r+1,r+1))/2)² + T(r+1,r)·T(r,r+1)`.) -/
theorem c09_schur_unsplit_negdisc (n : Nat) (h : Mat K) (hw : @C09Mat.WF K h) (hr : h.rows = n) (hc : h.cols = n)
    (r : HessSchur.Decomp K) (hok : @HessSchur.compute K _ _ _ _ _ (scOfField F) n h = Res.ok r) :
    ∀ i, i + 1 < n → @Mat.get K (scOfField F) r.t (i + 1) i ≠ 0 → disc F r.t i < 0 :=
  fun i hi hne => (compute_negDisc F n h hw hr hc r hok).2 i (Nat.zero_le _) hi hne

/-- **the eigenvalues `UpperHessenbergEigen` reports are the eigenvalues of the diagonal blocks of `T`** (exact `sqrt`, before the
    scaling back by `scale`): walking the Schur `T` of an upper Hessenberg input, the extraction emits `(T(i,i), 0)` for every 1x1 block
    and, for every unsplit 2x2 block, `(x, z), (x, −z)` with `2x = a + d`, `z > 0`, `z² = −disc` — the roots of the block's characteristic
    polynomial (`C09Eig.EigBlocksAt`; with `c09_schur_quasi_triangular` the blocks exhaust the spectrum of `T`, and with `c09_schur_exact`
    that of `H` when the budget is `0`). -/
theorem c09_hesseig_eigenvalues (hs : ∀ x : K, 0 ≤ x → F.sqrt x * F.sqrt x = x) (hs0 : ∀ x : K, 0 ≤ F.sqrt x)
    (n : Nat) (h : Mat K) (hw : @C09Mat.WF K h) (hr : h.rows = n) (hc : h.cols = n)
    (r : HessSchur.Decomp K) (hok : @HessSchur.compute K _ _ _ _ _ (scOfField F) n h = Res.ok r) :
    EigBlocksAt F n r.t 0 (@HessEigen.extract K _ _ _ _ _ (scOfField F) n r.t n 0) :=
  extract_eigAt F hs hs0 n r.t (compute_negDisc F n h hw hr hc r hok).2 n 0 (by omega)

/-- **the back-substitution of `doComputeEigenvectors` for a real eigenvalue solves `T y = λ y` EXACTLY** (exact arithmetic, rows
    `c, c−1, …, 0`; a 1x1 row divides by `T(i,i) − λ`, a 2x2 block is solved by Cramer's rule whose denominator `(re − λ)² + im²` is the
    determinant of the shifted block because `re ± i·im` are its eigenvalues; the overflow rescaling `col.tail /= t` keeps the equations).
    `tc` = the work matrix when column `c` is reached (equal to `T` in the columns `≤ c`), `ev` compatible with the block structure of `T`
    (`C09Eig.EvOK`), `λ = ev_c.re = T(c,c)`.  Result: `y_b` = entry `(b, c)` of the work matrix for `b ≤ c`, `0` below: `Σ_b T(a,b) y_b = λ y_a` for
    EVERY row `a`, `y_c ≠ 0`, and only column `c` was written.  Hypothesis `hnf`: `λ` is not the diagonal entry of another 1x1 block above
    row `c` — otherwise the code replaces the zero divisor by `eps·norm`, a deliberate perturbation. -/
theorem c09_hesseig_backsub_real (n c : Nat) (norm : K) (T tc : Mat K) (ev : Vec (K × K)) (hev : EvOK F n T ev)
    (hw : @C09Mat.WF K tc) (hr : tc.rows = n) (hcl : tc.cols = n) (hc : c < n) (hc0 : (@HessEigen.evGet K (scOfField F) ev c).2 = 0)
    (htc : ∀ a b, a < n → b ≤ c → @Mat.get K (scOfField F) tc a b = @Mat.get K (scOfField F) T a b)
    (hnf : ∀ i, i < c → (@HessEigen.evGet K (scOfField F) ev i).2 = 0 →
      @Mat.get K (scOfField F) T i i ≠ (@HessEigen.evGet K (scOfField F) ev c).1) :
    let _ : Sc K := scOfField F
    let st := HessEigen.realInner n c (HessEigen.evGet ev c).1 norm ev c ⟨zero, zero, c, tc.set c c one⟩
    let y : ℕ → K := fun b => if b ≤ c then st.t.get b c else 0
    (∀ a, a < n → ∑ b ∈ Finset.range n, T.get a b * y b = (HessEigen.evGet ev c).1 * y a) ∧ y c ≠ 0 ∧
    @C09Mat.WF K st.t ∧ st.t.rows = n ∧ st.t.cols = n ∧ (∀ a b, a < n → b ≠ c → st.t.get a b = tc.get a b) :=
  real_column F n c norm T tc ev hev hw hr hcl hc hc0 htc hnf

/-- the eigenvalue vector extracted from the Schur result of an upper Hessenberg matrix IS compatible with the block structure
    (`EvOK`: Hessenberg, real value = diagonal entry of a 1x1 block, pair = spectrum of an unsplit block followed by a zero sub-diagonal) -/
theorem c09_hesseig_evok (hs : ∀ x : K, 0 ≤ x → F.sqrt x * F.sqrt x = x) (hs0 : ∀ x : K, 0 ≤ F.sqrt x)
    (n : Nat) (h : Mat K) (hw : @C09Mat.WF K h) (hr : h.rows = n) (hc : h.cols = n) (hH : @C09Hess.Hess K (scOfField F) n h)
    (r : HessSchur.Decomp K) (hok : @HessSchur.compute K _ _ _ _ _ (scOfField F) n h = Res.ok r) :
    EvOK F n r.t (@HessEigen.evalsOf K _ _ _ _ _ (scOfField F) n r.t) :=
  compute_evOK F hs hs0 n h hw hr hc hH r hok

/-- **the back transformation is `U y`**: column `j` of `backTransform n U t` is `Σ_{k ≤ j} U(:,k)·t(k,j)` -/
theorem c09_hesseig_backtransform (n : Nat) (u t : Mat K) (hw : @C09Mat.WF K u) (hr : u.rows = n) (hc : u.cols = n)
    (a j : Nat) (ha : a < n) (hj : j < n) :
    @Mat.get K (scOfField F) (@HessEigen.backTransform K _ _ (scOfField F) n u t) a j =
      ∑ k ∈ Finset.range (j + 1), @Mat.get K (scOfField F) u a k * @Mat.get K (scOfField F) t k j :=
  backTransform_spec F n u t hw hr hc a j ha hj

/-- **the back-substitution of `doComputeEigenvectors` for a complex pair solves `T y = (p − i q) y` EXACTLY** (exact arithmetic, `eps ≠ 0`,
    `p = ev_c.re`, `q = ev_c.im < 0`, so `p − i q` is the value with positive imaginary part): the complex branch of `backSub` writes the
    2x2 eigenvector `y_c = i`, `y_{c−1} = (q − i(d − p))/T(c,c−1)` (or the `__divdc3` form), then `cplxInner` solves the rows `c−2, …, 0` in
    (re, im) pairs — 1x1 rows by complex division by `T(i,i) − p + i q ≠ 0`, 2x2 blocks by complex Cramer with determinant
    `vr + i·vi = χ_block(p − i q)`, overflow rescaling of both columns.  Result (columns `c−1` = real parts, `c` = imaginary parts, cut
    off below row `c`): `Σ_b T(a,b) yr_b = p yr_a + q yi_a`, `Σ_b T(a,b) yi_b = p yi_a − q yr_a` for EVERY row `a`, `yr_c = 0`, `yi_c ≠ 0`,
    and only the two columns were written.  Hypothesis `GoodC`: `p − i q` is not an eigenvalue of another 2x2 block above (otherwise the
    code replaces `vr = vi = 0` by `eps·norm·(…)`, a deliberate perturbation). -/
theorem c09_hesseig_backsub_cplx (heps : F.eps ≠ 0) (n c : Nat) (norm : K) (T tc : Mat K) (ev : Vec (K × K)) (hev : EvOK F n T ev)
    (hw : @C09Mat.WF K tc) (hr : tc.rows = n) (hcl : tc.cols = n) (hc : c < n)
    (htc : ∀ a b, a < n → b ≤ c → @Mat.get K (scOfField F) tc a b = @Mat.get K (scOfField F) T a b)
    (hg : GoodC F ev c) :
    let _ : Sc K := scOfField F
    let st := HessEigen.cplxInner n c (HessEigen.evGet ev c).1 (HessEigen.evGet ev c).2 norm ev (c - 1)
      ⟨zero, zero, zero, c - 1, ((presetT F tc c (HessEigen.evGet ev c).1 (HessEigen.evGet ev c).2).set c (c - 1) zero).set c c one⟩
    let yr : ℕ → K := fun b => if b ≤ c then st.t.get b (c - 1) else 0
    let yi : ℕ → K := fun b => if b ≤ c then st.t.get b c else 0
    (∀ a, a < n → ∑ b ∈ Finset.range n, T.get a b * yr b = (HessEigen.evGet ev c).1 * yr a + (HessEigen.evGet ev c).2 * yi a ∧
      ∑ b ∈ Finset.range n, T.get a b * yi b = (HessEigen.evGet ev c).1 * yi a - (HessEigen.evGet ev c).2 * yr a) ∧
    (yr c = 0 ∧ yi c ≠ 0) ∧ @C09Mat.WF K st.t ∧ st.t.rows = n ∧ st.t.cols = n ∧
    (∀ a b, a < n → b ≠ c - 1 → b ≠ c → st.t.get a b = tc.get a b) :=
  cplx_columns F heps n c norm T tc ev hev hw hr hcl hc htc hg

/-- **`UpperHessenbergEigen::compute`, real eigenpairs, on top of the Schur similarity** (exact arithmetic, exact `sqrt ≥ 0`, `min ≥ 0`;
    every size, every well-formed non-zero upper Hessenberg input, every run that returns normally): with `Hs = H/scale`,
    `Uᵀ Hs U = T + E` (`E` within `schurDrop` of `Hs`), for every Good real index `c` there is `y` with `y_c ≠ 0`, `T y = λ y`, the returned
    column `c` of `m_eivec` equals `U y`, the returned eigenvalue is `(λ·scale, 0)`, and
      `H x = (λ·scale) x + scale·(U E) y`   — so `H x = λ' x` EXACTLY when the Schur budget is `0`. -/
theorem c09_hesseig_real_eigvec_partial (hs : ∀ x : K, 0 ≤ x → F.sqrt x * F.sqrt x = x) (hs0 : ∀ x : K, 0 ≤ F.sqrt x)
    (hmin : 0 ≤ F.minPos) (n : Nat) (h : Mat K) (hw : @C09Mat.WF K h) (hr : h.rows = n) (hc : h.cols = n)
    (hH : @C09Hess.Hess K (scOfField F) n h) (r : HessEigen.Decomp K)
    (hok : @HessEigen.compute K _ _ _ _ _ (scOfField F) n h = Res.ok r)
    (hsc : @Sc.eq K (scOfField F) (@TridiagEigen.maxAbs1 K (scOfField F) h.d) (@zero K (scOfField F)) = false) :
    ∃ (s : HessSchur.Decomp K) (E : Matrix (Fin n) (Fin n) K),
      @HessSchur.compute K _ _ _ _ _ (scOfField F) n ⟨h.rows, h.cols, vdivs h.d (@TridiagEigen.maxAbs1 K (scOfField F) h.d)⟩ = Res.ok s ∧
      Bnd E (schurDrop F n ⟨h.rows, h.cols, vdivs h.d (@TridiagEigen.maxAbs1 K (scOfField F) h.d)⟩) ∧
      (@Sc.eq K (scOfField F) (@HessEigen.tnorm K _ (scOfField F) n s.t) (@zero K (scOfField F)) = false →
        ∀ c, (hcn : c < n) → Good F s.t (@HessEigen.evalsOf K _ _ _ _ _ (scOfField F) n s.t) c →
          ∃ y : Fin n → K, y ⟨c, hcn⟩ ≠ 0 ∧
            mat n (gf F s.t) *ᵥ y = (@HessEigen.evGet K (scOfField F) (@HessEigen.evalsOf K _ _ _ _ _ (scOfField F) n s.t) c).1 • y ∧
            (fun a : Fin n => @Mat.get K (scOfField F) r.eivec a.val c) = mat n (gf F s.u) *ᵥ y ∧
            @HessEigen.evGet K (scOfField F) r.evals c =
              ((@HessEigen.evGet K (scOfField F) (@HessEigen.evalsOf K _ _ _ _ _ (scOfField F) n s.t) c).1 *
                @TridiagEigen.maxAbs1 K (scOfField F) h.d, 0) ∧
            mat n (gf F h) *ᵥ (fun a : Fin n => @Mat.get K (scOfField F) r.eivec a.val c) =
              (@HessEigen.evGet K (scOfField F) r.evals c).1 • (fun a : Fin n => @Mat.get K (scOfField F) r.eivec a.val c) +
                @TridiagEigen.maxAbs1 K (scOfField F) h.d • ((mat n (gf F s.u) * E) *ᵥ y)) := by
  let _ : Sc K := scOfField F
  obtain ⟨s, E, hsok, hE, hHU, hev, hval, hfin⟩ := compute_core F hs hs0 hmin n h hw hr hc hH r hok hsc
  refine ⟨s, E, hsok, hE, fun hnorm c hcn hg => ?_⟩
  obtain ⟨hB, hx⟩ := hfin hnorm
  obtain ⟨e1, e2⟩ := hB.base.done c (Nat.zero_le _) hcn hg
  generalize HessEigen.backSub n (HessEigen.tnorm n s.t) (HessEigen.evalsOf n s.t) n n s.t = tb at e1 e2 hx
  have hTy : mat n (gf F s.t) *ᵥ (fun b : Fin n => if b.val ≤ c then tb.get b.val c else 0) =
      (HessEigen.evGet (HessEigen.evalsOf n s.t) c).1 • fun b : Fin n => if b.val ≤ c then tb.get b.val c else 0 := by
    funext a
    simp only [Matrix.mulVec, dotProduct, mat, Matrix.of_apply, gf, Pi.smul_apply, smul_eq_mul]
    rw [Fin.sum_univ_eq_sum_range (fun b => s.t.get a.val b * (if b ≤ c then tb.get b c else 0)) n]
    exact e1 a.val a.isLt
  refine ⟨_, (if_pos (le_refl c)).trans_ne e2, hTy, hx c hcn, by rw [hval, hg.1, zero_mul], ?_⟩
  rw [hx c hcn, Matrix.mulVec_mulVec, hHU, Matrix.smul_mulVec, Matrix.mul_add, Matrix.add_mulVec, ← Matrix.mulVec_mulVec, hTy,
    Matrix.mulVec_smul, hval, smul_add, smul_smul, mul_comm]

/-- **`UpperHessenbergEigen::compute`, complex eigenpairs, on top of the Schur similarity** (exact arithmetic, `eps ≠ 0`): for every GoodC
    index `c` the value returned at `c` is `(p·scale, q·scale)` (`q < 0`; its conjugate sits at `c − 1`), the returned columns `c − 1`, `c` are
    `xr = U yr`, `xi = U yi` with `T yr = p yr + q yi`, `T yi = p yi − q yr`, `yi_c ≠ 0`, and with `(λr, λi)` the returned value at `c`:
      `H xr = λr xr + λi xi + scale·(U E) yr`,   `H xi = λr xi − λi xr + scale·(U E) yi`
    — i.e. `H (xr + i xi) = (λr − i λi)(xr + i xi) + scale·(U E)(yr + i yi)`: exactly an eigenpair when the Schur budget is `0`. -/
theorem c09_hesseig_cplx_eigvec_partial (heps : F.eps ≠ 0) (hs : ∀ x : K, 0 ≤ x → F.sqrt x * F.sqrt x = x) (hs0 : ∀ x : K, 0 ≤ F.sqrt x)
    (hmin : 0 ≤ F.minPos) (n : Nat) (h : Mat K) (hw : @C09Mat.WF K h) (hr : h.rows = n) (hc : h.cols = n)
    (hH : @C09Hess.Hess K (scOfField F) n h) (r : HessEigen.Decomp K)
    (hok : @HessEigen.compute K _ _ _ _ _ (scOfField F) n h = Res.ok r)
    (hsc : @Sc.eq K (scOfField F) (@TridiagEigen.maxAbs1 K (scOfField F) h.d) (@zero K (scOfField F)) = false) :
    ∃ (s : HessSchur.Decomp K) (E : Matrix (Fin n) (Fin n) K),
      @HessSchur.compute K _ _ _ _ _ (scOfField F) n ⟨h.rows, h.cols, vdivs h.d (@TridiagEigen.maxAbs1 K (scOfField F) h.d)⟩ = Res.ok s ∧
      Bnd E (schurDrop F n ⟨h.rows, h.cols, vdivs h.d (@TridiagEigen.maxAbs1 K (scOfField F) h.d)⟩) ∧
      (@Sc.eq K (scOfField F) (@HessEigen.tnorm K _ (scOfField F) n s.t) (@zero K (scOfField F)) = false →
        ∀ c, (hcn : c < n) → GoodC F (@HessEigen.evalsOf K _ _ _ _ _ (scOfField F) n s.t) c →
          ∃ yr yi : Fin n → K, yi ⟨c, hcn⟩ ≠ 0 ∧
            mat n (gf F s.t) *ᵥ yr = (@HessEigen.evGet K (scOfField F) (@HessEigen.evalsOf K _ _ _ _ _ (scOfField F) n s.t) c).1 • yr +
              (@HessEigen.evGet K (scOfField F) (@HessEigen.evalsOf K _ _ _ _ _ (scOfField F) n s.t) c).2 • yi ∧
            mat n (gf F s.t) *ᵥ yi = (@HessEigen.evGet K (scOfField F) (@HessEigen.evalsOf K _ _ _ _ _ (scOfField F) n s.t) c).1 • yi -
              (@HessEigen.evGet K (scOfField F) (@HessEigen.evalsOf K _ _ _ _ _ (scOfField F) n s.t) c).2 • yr ∧
            (fun a : Fin n => @Mat.get K (scOfField F) r.eivec a.val (c - 1)) = mat n (gf F s.u) *ᵥ yr ∧
            (fun a : Fin n => @Mat.get K (scOfField F) r.eivec a.val c) = mat n (gf F s.u) *ᵥ yi ∧
            @HessEigen.evGet K (scOfField F) r.evals c =
              ((@HessEigen.evGet K (scOfField F) (@HessEigen.evalsOf K _ _ _ _ _ (scOfField F) n s.t) c).1 * @TridiagEigen.maxAbs1 K (scOfField F) h.d,
               (@HessEigen.evGet K (scOfField F) (@HessEigen.evalsOf K _ _ _ _ _ (scOfField F) n s.t) c).2 * @TridiagEigen.maxAbs1 K (scOfField F) h.d) ∧
            mat n (gf F h) *ᵥ (fun a : Fin n => @Mat.get K (scOfField F) r.eivec a.val (c - 1)) =
              (@HessEigen.evGet K (scOfField F) r.evals c).1 • (fun a : Fin n => @Mat.get K (scOfField F) r.eivec a.val (c - 1)) +
              (@HessEigen.evGet K (scOfField F) r.evals c).2 • (fun a : Fin n => @Mat.get K (scOfField F) r.eivec a.val c) +
                @TridiagEigen.maxAbs1 K (scOfField F) h.d • ((mat n (gf F s.u) * E) *ᵥ yr) ∧
            mat n (gf F h) *ᵥ (fun a : Fin n => @Mat.get K (scOfField F) r.eivec a.val c) =
              (@HessEigen.evGet K (scOfField F) r.evals c).1 • (fun a : Fin n => @Mat.get K (scOfField F) r.eivec a.val c) -
              (@HessEigen.evGet K (scOfField F) r.evals c).2 • (fun a : Fin n => @Mat.get K (scOfField F) r.eivec a.val (c - 1)) +
                @TridiagEigen.maxAbs1 K (scOfField F) h.d • ((mat n (gf F s.u) * E) *ᵥ yi)) := by
  let _ : Sc K := scOfField F
  obtain ⟨s, E, hsok, hE, hHU, hev, hval, hfin⟩ := compute_core F hs hs0 hmin n h hw hr hc hH r hok hsc
  refine ⟨s, E, hsok, hE, fun hnorm c hcn hg => ?_⟩
  obtain ⟨hB, hx⟩ := hfin hnorm
  have hc1 : 1 ≤ c := (hev.second c hcn hg.1).1
  obtain ⟨e1, e2, e3⟩ := hB.doneC heps c (by omega) hcn hg
  generalize HessEigen.backSub n (HessEigen.tnorm n s.t) (HessEigen.evalsOf n s.t) n n s.t = tb at e1 e2 e3 hx
  -- `yr_c = 0`, so column `c − 1` cut off below row `c − 1` is `yr`
  have hxr : (fun a : Fin n => r.eivec.get a.val (c - 1)) =
      mat n (gf F s.u) *ᵥ fun b : Fin n => if b.val ≤ c then tb.get b.val (c - 1) else 0 := by
    rw [hx (c - 1) (by omega)]
    congr 1
    funext b
    by_cases hb : b.val ≤ c - 1
    · rw [if_pos hb, if_pos (by omega)]
    · rw [if_neg hb]
      by_cases hb2 : b.val ≤ c
      · rw [if_pos hb2, show b.val = c by omega, e2]
      · rw [if_neg hb2]
  have hT : ∀ (j : ℕ) (rhs : Fin n → K),
      (∀ a : Fin n, ∑ b ∈ Finset.range n, s.t.get a.val b * (if b ≤ c then tb.get b j else 0) = rhs a) →
      mat n (gf F s.t) *ᵥ (fun b : Fin n => if b.val ≤ c then tb.get b.val j else 0) = rhs := fun j rhs hh => by
    funext a
    simp only [Matrix.mulVec, dotProduct, mat, Matrix.of_apply, gf]
    rw [Fin.sum_univ_eq_sum_range (fun b => s.t.get a.val b * (if b ≤ c then tb.get b j else 0)) n]
    exact hh a
  have hTr := hT (c - 1) ((HessEigen.evGet (HessEigen.evalsOf n s.t) c).1 • (fun b : Fin n => if b.val ≤ c then tb.get b.val (c - 1) else 0) +
    (HessEigen.evGet (HessEigen.evalsOf n s.t) c).2 • fun b : Fin n => if b.val ≤ c then tb.get b.val c else 0) fun a => (e1 a.val a.isLt).1
  have hTi := hT c ((HessEigen.evGet (HessEigen.evalsOf n s.t) c).1 • (fun b : Fin n => if b.val ≤ c then tb.get b.val c else 0) -
    (HessEigen.evGet (HessEigen.evalsOf n s.t) c).2 • fun b : Fin n => if b.val ≤ c then tb.get b.val (c - 1) else 0) fun a => (e1 a.val a.isLt).2
  refine ⟨_, _, (if_pos (le_refl c)).trans_ne e3, hTr, hTi, hxr, hx c hcn, hval c, ?_, ?_⟩
  · rw [hxr, hx c hcn, Matrix.mulVec_mulVec, hHU, Matrix.smul_mulVec, Matrix.mul_add, Matrix.add_mulVec, ← Matrix.mulVec_mulVec, hTr,
      Matrix.mulVec_add, Matrix.mulVec_smul, Matrix.mulVec_smul, hval]
    simp only [smul_add, smul_smul, mul_comm]
  · rw [hxr, hx c hcn, Matrix.mulVec_mulVec, hHU, Matrix.smul_mulVec, Matrix.mul_add, Matrix.add_mulVec, ← Matrix.mulVec_mulVec, hTi,
      Matrix.mulVec_sub, Matrix.mulVec_smul, Matrix.mulVec_smul, hval]
    simp only [smul_add, smul_sub, smul_smul, mul_comm]

/-- `GoodC` is satisfiable: the pair in rows `0, 1` is GoodC as soon as its second value has negative imaginary part (no block above) -/
example (ev : Vec (K × K)) (h1 : (@HessEigen.evGet K (scOfField F) ev 1).2 < 0) : GoodC F ev 1 :=
  ⟨h1, fun i hi => absurd hi (by omega)⟩

/-- `Good` is satisfiable: the first row is Good as soon as its eigenvalue is real (no 1x1 block above it) -/
example (T : Mat K) (ev : Vec (K × K)) (h0 : (@HessEigen.evGet K (scOfField F) ev 0).2 = 0) : Good F T ev 0 :=
  ⟨h0, fun i hi => absurd hi (Nat.not_lt_zero i)⟩

end hesseig_on_schur

section householder
variable {R : Type} [CommRing R] [Div R] [Sc R]
open HessSchur

/-- **`apply_householder_right(_simd)` computes `X P`** for `P = I − τ v vᵀ`, `v = (1, v1, v2)` on the `nrow × 3` block starting at
    column `k` (entry `(i, k+a)` of `X P` is `x_{i,a} − τ (x_i · v) v_a`) and touches nothing else.  Any commutative ring, any
    well-formed matrix; with `EIGEN_DONT_VECTORIZE` the SIMD variant has packet size 1 and is element-wise this loop. -/
theorem c09_householder_apply_right (m : Mat R) (h : C09Mat.WF m) (v1 v2 tau : R) (k nrow : Nat)
    (hk : k + 2 < m.cols) (hn : nrow ≤ m.rows) (i j : Nat) (hi : i < m.rows) :
    (applyHouseholderRight m v1 v2 tau k nrow).get i j =
      if i < nrow then
        (if j = k then m.get i k - tau * (m.get i k + v1 * m.get i (k + 1) + v2 * m.get i (k + 2))
         else if j = k + 1 then m.get i (k + 1) - tau * (m.get i k + v1 * m.get i (k + 1) + v2 * m.get i (k + 2)) * v1
         else if j = k + 2 then m.get i (k + 2) - tau * (m.get i k + v1 * m.get i (k + 1) + v2 * m.get i (k + 2)) * v2
         else m.get i j)
      else m.get i j := C09HH.applyHouseholderRight_get m h v1 v2 tau k nrow hk hn i j hi

/-- **`apply_householder_left` computes `P X`** on the `3 × ncol` block with rows `k, k+1, k+2` and columns `c0 .. c0+ncol−1`
    (entry `(k+a, j)` of `P X` is `x_{a,j} − τ v_a (v · x_j)`) and touches nothing else. -/
theorem c09_householder_apply_left (m : Mat R) (h : C09Mat.WF m) (v1 v2 tau : R) (k c0 ncol : Nat)
    (hk : k + 2 < m.rows) (hn : c0 + ncol ≤ m.cols) (i j : Nat) (hi : i < m.rows) :
    (applyHouseholderLeft m v1 v2 tau k c0 ncol).get i j =
      if c0 ≤ j ∧ j < c0 + ncol then
        (if i = k then m.get k j - tau * (m.get k j + v1 * m.get (k + 1) j + v2 * m.get (k + 2) j)
         else if i = k + 1 then m.get (k + 1) j - tau * (m.get k j + v1 * m.get (k + 1) j + v2 * m.get (k + 2) j) * v1
         else if i = k + 2 then m.get (k + 2) j - tau * (m.get k j + v1 * m.get (k + 1) j + v2 * m.get (k + 2) j) * v2
         else m.get i j)
      else m.get i j := C09HH.applyHouseholderLeft_get m h v1 v2 tau k c0 ncol hk hn i j hi

end householder

/-- **The hand model's Wilkinson-shift prologue IS the C++ source.**  `Gen.Wilk.wilkinson_mu` is regenerated by the translator from
    `TridiagEigen.h: tridiagonal_qr_step` (statements up to the guarded `mu -= …` chain) on every run; the hand-written
    `TridiagEigen.wilkinsonMu` used by `qrStep` equals it definitionally, for every scalar type and every `Sc` instance.
    An edit of the C++ prologue therefore breaks this obligation (and, through `c09_wilkinson_shift`, what is proved about it). -/
theorem c09_wilkinson_gen {α : Type} [Add α] [Sub α] [Mul α] [Div α] [Neg α] [Sc α] (diag subdiag : Int → α) (start end_ n : Int) :
    Gen.Wilk.wilkinson_mu diag subdiag start end_ n =
      TridiagEigen.wilkinsonMu (diag (end_ - 1)) (diag end_) (subdiag (end_ - 1)) := rfl

/-- `apply_householder_left/right(_simd)`: the scalar kernel maps `x = (x0,x1,x2)` to `P x`, `P = I − τ v vᵀ`, `v = (1, v1, v2)`
    (any commutative ring; row `i` of `P x` is `xᵢ − τ vᵢ (vᵀx)`). -/
theorem c09_householder_kernel {R : Type} [CommRing R] (v1 v2 tau x0 x1 x2 : R) :
    @HessSchur.hhKernel R _ _ _ v1 v2 tau x0 x1 x2 =
      (x0 - tau * 1 * (1 * x0 + v1 * x1 + v2 * x2),
       x1 - tau * v1 * (1 * x0 + v1 * x1 + v2 * x2),
       x2 - tau * v2 * (1 * x0 + v1 * x1 + v2 * x2)) := by
  simp only [HessSchur.hhKernel, Prod.mk.injEq]
  refine ⟨by ring, by ring, by ring⟩

/-! ### reuse of ONE decomposition object (`Model/C09Object.lean`, compared with the real classes on whole histories by the `hist` stream)

  All histories, all sizes, any scalar type, every floating comparison an arbitrary boolean.  The object models keep every member the C++
  keeps and write it exactly where `compute()` writes it; the accessors are pure functions of the state. -/
section reuse
variable {α : Type} [Add α] [Sub α] [Mul α] [Div α] [Neg α] [Sc α]
open C09Obj C09Reuse

/-- **No history is visible after a `compute` that returns.**  Whatever was done to the object before (any list of `compute`s that returned or
    threw, non-square calls, `swap_T`/`swap_U` with arbitrary matrices), a `compute(M)` that returns on a fresh object returns on the used one
    and leaves EVERY member — hence the answer of every accessor, in any order, any number of times — equal to the fresh object's. -/
theorem c09_reuse_history_trideig (hs : List (TriOp α)) (n : Nat) (d e : Vec α)
    (hok : ((Tri.fresh : Tri α).compute n d e).2 = none) :
    (hs.foldl Tri.step (Tri.fresh : Tri α)).compute n d e = (Tri.fresh : Tri α).compute n d e := tri_compute_indep _ n d e
theorem c09_reuse_history_schur (hs : List (SchOp α)) (n : Nat) (h : Mat α)
    (hok : ((Sch.fresh : Sch α).compute n h).2 = none) :
    (hs.foldl Sch.step (Sch.fresh : Sch α)).compute n h = (Sch.fresh : Sch α).compute n h := sch_compute_indep _ n h
theorem c09_reuse_history_hesseig (hs : List (EigOp α)) (n : Nat) (h : Mat α)
    (hok : ((Eig.fresh : Eig α).compute n h).2 = none) :
    (hs.foldl Eig.step (Eig.fresh : Eig α)).compute n h = (Eig.fresh : Eig α).compute n h := eig_history hs n h hok

/-- whether `compute(M)` throws, and what, never depends on the object's past -/
theorem c09_reuse_throw_indep (ot : Tri α) (os : Sch α) (oe : Eig α) (n : Nat) (d e : Vec α) (h : Mat α) :
    (ot.compute n d e).2 = ((Tri.fresh : Tri α).compute n d e).2 ∧ (os.compute n h).2 = ((Sch.fresh : Sch α).compute n h).2
      ∧ (oe.compute n h).2 = ((Eig.fresh : Eig α).compute n h).2 :=
  ⟨congrArg Prod.snd (tri_compute_indep ot n d e), congrArg Prod.snd (sch_compute_indep os n h), eig_throw_indep oe n h⟩

/-- **The accessors of a reused object return the results of the one-shot models** — so everything above in this file (exit conditions,
    quasi-triangular `T`, conjugate pairing, similarity) holds for the numbers a reused object hands out. -/
theorem c09_reuse_accessors (ot : Tri α) (os : Sch α) (oe : Eig α) (n : Nat) (d e : Vec α) (h : Mat α) :
    (∀ r, TridiagEigen.compute n d e = Res.ok r →
        (ot.compute n d e).2 = none ∧ (ot.compute n d e).1.eigenvalues = Res.ok (TridiagEigen.eigenvalues r)
          ∧ (ot.compute n d e).1.eigenvectors = Res.ok (TridiagEigen.eigenvectors r)) ∧
    (∀ r, HessSchur.compute n h = Res.ok r →
        (os.compute n h).2 = none ∧ (os.compute n h).1.matrix_T = Res.ok (HessSchur.matrix_T r)
          ∧ (os.compute n h).1.matrix_U = Res.ok (HessSchur.matrix_U r)) ∧
    (∀ r, HessEigen.compute n h = Res.ok r →
        (oe.compute n h).2 = none ∧ (oe.compute n h).1.eigenvalues = Res.ok (HessEigen.eigenvalues r)
          ∧ (oe.compute n h).1.eivec = r.eivec ∧ (oe.compute n h).1.computed = true) :=
  ⟨fun r hr => tri_accessors ot n d e r hr, fun r hr => sch_accessors os n h r hr, fun r hr => eig_accessors oe n h r hr⟩

/-- **After a `compute` that threw (iteration limit) every accessor throws `std::logic_error`**, whatever the object had computed before:
    neither the unfinished iteration nor the previous matrix's results are handed out (`m_computed = false` at the start of `compute`). -/
theorem c09_reuse_after_failure (ot : Tri α) (os : Sch α) (oe : Eig α) (n : Nat) (d e : Vec α) (h : Mat α) :
    ((ot.compute n d e).2 ≠ none → (ot.compute n d e).1.eigenvalues = Res.throw (notComputed "TridiagEigen")
        ∧ (ot.compute n d e).1.eigenvectors = Res.throw (notComputed "TridiagEigen")) ∧
    ((os.compute n h).2 ≠ none → (os.compute n h).1.matrix_T = Res.throw (notComputed "UpperHessenbergSchur")
        ∧ (os.compute n h).1.matrix_U = Res.throw (notComputed "UpperHessenbergSchur")) ∧
    ((oe.compute n h).2 ≠ none → (oe.compute n h).1.eigenvalues = Res.throw (notComputed "UpperHessenbergEigen")
        ∧ (oe.compute n h).1.eigenvectors = Res.throw (notComputed "UpperHessenbergEigen")) := by
  refine ⟨fun hne => ?_, fun hne => ?_, fun hne => ?_⟩
  · have hc := tri_failed_not_computed ot n d e hne
    unfold Tri.eigenvalues Tri.eigenvectors; rw [hc]; exact ⟨rfl, rfl⟩
  · have hc := sch_failed_not_computed os n h hne
    unfold Sch.matrix_T Sch.matrix_U; rw [hc]; exact ⟨rfl, rfl⟩
  · have hc := eig_failed_not_computed oe n h hne
    unfold Eig.eigenvalues Eig.eigenvectors; rw [hc]; exact ⟨rfl, rfl⟩

/-- the hypotheses are satisfiable: the zero matrix returns on every object -/
example (o : Tri α) (n : Nat) (hz : Sc.lt (TridiagEigen.scaleOf (vzero n : Vec α) (vzero (n - 1))) (Sc.minPos * Sc.ofInt 10) = true) :
    (o.compute n (vzero n) (vzero (n - 1))).2 = none := by
  unfold Tri.compute; simp only []; rw [if_pos hz]

end reuse

end C09
