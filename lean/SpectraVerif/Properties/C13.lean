/-
  C13 — compute() is memory-safe, terminates within its work bound and hands the operator valid distinct vectors (NaN-freedom is
  not a theorem, see below).

  Proved for every scalar type α and every `Sc α` instance, i.e. for every outcome of every floating comparison, all sizes, all
  oracle histories: (1)–(3) about definitions regenerated from the headers on every run (`Gen.Restart`: both `nev_adjusted`,
  `is_complex`, `is_conj`, one pass of the general shift loop with its Ritz reads, the frames of both `restart`s and `compute`s);
  (4)–(6) about the hand-written index programs / operator-call skeleton `Model/RestartIdx.lean` built from those pieces; (5b) about
  the regenerated storage table of every `perform_op` call site (`Gen.Restart.opSites`, `opParamBinds`) and its lift to the skeleton.
  What is NOT a theorem (stated, with witnesses, at the end): that `GenEigsBase::restart` gives every complex Ritz value ONE double
  shift together with its conjugate WITHOUT the two hypotheses of c13_gen_restart_pairs_partial (false: `example`s; the Ritz reads
  themselves are in bounds for all data, c13_gen_shift_inbounds), NaN-freedom (false when A·v0 = 0; depends on rounding otherwise).

  History (known_findings/C13.json): before the guard `i + 1 < m_ncv &&` in front of `is_conj` in restart() the loop read
  `m_ritz_val[ncv]` (Eigen index assertion) on matrices with a repeated complex eigenvalue pair — (a) bit-identical duplicated
  pairs: the third witness below (`nev_adjusted` moves k into a pair), GenEigsSolver n=18, nev=1, ncv=15 on nine identical 2x2
  rotation blocks; (b) ncv > 16: key ties + unstable std::sort break adjacency (first witness), n=21, nev=13, ncv=21.
  harness/c13x.cpp runs these inputs through the PUBLIC API on every run.
-/
import SpectraVerif.Proofs.C13Lemmas

namespace C13
open Gen.Restart RestartIdx

section
variable {α : Type} [Add α] [Sub α] [Mul α] [Div α] [Neg α] [Sc α]

/-! ## (1) restart size, symmetric / Hermitian family (translated `HermEigsBase::nev_adjusted`) -/

/-- ∀ 1 ≤ nev < ncv, ∀ Ritz estimates (any values, any comparison outcomes), ∀ nconv ≥ 0:  nev ≤ k ≤ ncv - 1.
    Hence `restart(k)` never takes its `k >= m_ncv` exit, `compress_V` sees 1 ≤ m_k ≤ ncv-1 and at least one shift is applied. -/
theorem c13_herm_k (nev ncv : Int) (est : Int → α) (nconv : Int) (h1 : 1 ≤ nev) (h2 : nev < ncv) (h3 : 0 ≤ nconv) :
    nev ≤ hermNevAdj nev ncv est nconv ∧ hermNevAdj nev ncv est nconv ≤ ncv - 1 :=
  herm_k nev ncv est nconv h1 h2 h3

/-- the Hermitian shift loop (translated frame of `HermEigsBase::restart`) applies exactly `ncv - k` single shifts, so that
    `m_k = k` when `factorize_from(k, ncv)` is entered (its guard `from_k > m_k` cannot fire) -/
theorem c13_herm_shift_count (ncv k : Int) (h : k < ncv) :
    hermShiftSkel ncv k = (false, ncv - k, k, ncv) ∧ ∀ bd, (hermRestartCalls ncv k bd).2 = Stop.none := by
  refine ⟨hermShiftSkel_lt ncv k h, fun bd => ?_⟩
  rw [hermRestartCalls_lt ncv k bd h]

/-! ## (2) restart size, general family (translated `GenEigsBase::nev_adjusted`) -/

/-- ∀ 1 ≤ nev ≤ ncv - 2, ∀ estimates, ∀ Ritz values, ∀ nconv ≥ 0:
    the two reads `m_ritz_val[p-1]`, `m_ritz_val[p]` of the conjugate test (p = `genNevPre`, the value of `nev_new` at that point)
    are inside `[0, ncv)`, and the result satisfies nev ≤ k ≤ ncv - 1 (in particular 1 ≤ k), k ∈ {p, p+1}. -/
theorem c13_gen_k (nev ncv : Int) (est val : Int → α × α) (nconv : Int) (h1 : 1 ≤ nev) (h2 : nev ≤ ncv - 2) (h3 : 0 ≤ nconv) :
    (0 ≤ genNevPre nev ncv est nconv - 1 ∧ genNevPre nev ncv est nconv < ncv) ∧
    (nev ≤ genNevAdj nev ncv est val nconv ∧ genNevAdj nev ncv est val nconv ≤ ncv - 1) ∧
    (genNevAdj nev ncv est val nconv = genNevPre nev ncv est nconv ∨ genNevAdj nev ncv est val nconv = genNevPre nev ncv est nconv + 1) := by
  have hp := gen_pre nev ncv est nconv h1 h2 h3
  have he := gen_adj_eq nev ncv est val nconv
  refine ⟨by omega, ?_, ?_⟩ <;> (rw [he]; split <;> omega)

/-! ## (3) Ritz reads of the general shift loop `for (i = k; i < ncv; i++)` (translated pass `genShiftSkel_step`) -/

/-- with the bounds guard `i + 1 < m_ncv` in front of the conjugate test, EVERY Ritz read of the shift loop is inside [0, ncv),
    for all Ritz data (no pairing hypothesis): the clause "never trips an internal index assertion" for this loop -/
theorem c13_gen_shift_inbounds (ritz : Int → α × α) (ncv k : Int) (hk : 0 ≤ k) : InBounds ncv (genPasses ritz ncv k) := by
  revert hk
  refine genPasses_induction ritz ncv (motive := fun i ps => 0 ≤ i → InBounds ncv ps)
    (fun i _ _ => inBounds_nil ncv) (fun i hlt ih hi => ?_) k
  obtain ⟨hr, hn, _⟩ := step_spec ncv ritz i hlt
  have := genStep_next ncv ritz i
  exact (inBounds_cons ncv _ _).mpr ⟨fun r hr' => ⟨by have := (hr r hr').1; omega, (hr r hr').2⟩, ih (by omega)⟩

/-- when the loop is safe and pairs correctly:
    the Ritz values from k on are adjacent conjugate pairs (`AdjacentConj`)  ⇔  every read `m_ritz_val[i]`, `m_ritz_val[i+1]` is inside
    `[0, ncv)` AND every complex value met is consumed by a double shift together with its successor. -/
theorem c13_gen_shift_reads (ritz : Int → α × α) (ncv k : Int) (hk : 0 ≤ k) :
    AdjacentConj ritz ncv k ↔ InBounds ncv (genPasses ritz ncv k) ∧ AllPaired ritz (genPasses ritz ncv k) := by
  revert hk
  refine genPasses_induction ritz ncv
    (motive := fun i ps => 0 ≤ i → (AdjacentConj ritz ncv i ↔ InBounds ncv ps ∧ AllPaired ritz ps))
    (fun i h _ => ?_) (fun i hlt ih hi => ?_) k
  · exact ⟨fun _ => ⟨inBounds_nil ncv, by simp [AllPaired]⟩, fun _ => adj_ge ritz ncv i h⟩
  · have hb := (inBounds_cons ncv _ _).mp (genPasses_lt ritz ncv i hlt ▸ c13_gen_shift_inbounds ritz ncv i hi)
    rw [adj_lt ritz ncv i hlt, inBounds_cons, allPaired_cons]
    rcases step_cases ncv ritz i with ⟨e, hc⟩ | ⟨hc, hg, ⟨h2, e⟩ | ⟨h2, e⟩⟩ <;> rw [e] at ih hb ⊢ <;> dsimp only at ih hb ⊢
    · cases h : is_complex (ritz i)
      · simp only [Bool.false_eq_true, if_false, false_implies, true_and]
        rw [ih (by omega)]
        exact ⟨fun ⟨a, b⟩ => ⟨⟨hb.1, a⟩, b⟩, fun ⟨⟨_, a⟩, b⟩ => ⟨a, b⟩⟩
      · simp [hc h]
    · simp [hc, h2]
    · simp only [hc, h2, hg, if_true, true_and, imp_self]
      rw [ih (by omega)]
      exact ⟨fun ⟨a, b⟩ => ⟨⟨hb.1, a⟩, b⟩, fun ⟨⟨_, a⟩, b⟩ => ⟨a, b⟩⟩

/-- the shifts applied have total degree exactly `ncv - k`: `m_k = k` afterwards, so that `compress_V` touches `Q(m-1, k-1)`,
    `H(k, k-1)` with 1 ≤ k ≤ ncv-1 and `factorize_from(k, ncv)` does not throw (model: stop = none) — for all Ritz data -/
theorem c13_gen_shift_degree (ritz : Int → α × α) (ncv k : Int) (hk : 0 ≤ k) (hlt : k < ncv) :
    (genRestart ritz ncv k).mkAfter = k ∧ ∀ bd, (genRestartCalls ncv k ritz bd).2 = Stop.none := by
  have hb := c13_gen_shift_inbounds ritz ncv k hk
  have hd := degree_passes ritz ncv k (Int.le_of_lt hlt)
  have hf := genRestart_frame ritz ncv k hlt
  refine ⟨by rw [hf]; show ncv - degree (genPasses ritz ncv k) = k; omega, fun bd => ?_⟩
  simp only [genRestartCalls, hf, Bool.false_eq_true, if_false]
  have : firstOob ncv (allReads (genPasses ritz ncv k)) = none := by
    simp only [firstOob, List.find?_eq_none, decide_eq_true_eq]
    intro r hr; have := hb r hr; omega
  rw [this]; simp only []  -- reduces the `match` on `none`
  rw [if_neg (by omega)]

/-- the chain on the translated code: restart size from `nev_adjusted`, then the shift loop — for ALL Ritz data the
    reads are in bounds, m_k = k, factorize_from does not throw -/
theorem c13_gen_restart_safe (nev ncv : Int) (est ritz : Int → α × α) (nconv : Int)
    (h1 : 1 ≤ nev) (h2 : nev ≤ ncv - 2) (h3 : 0 ≤ nconv) :
    let k := genNevAdj nev ncv est ritz nconv
    InBounds ncv (genPasses ritz ncv k) ∧ (genRestart ritz ncv k).mkAfter = k ∧ ∀ bd, (genRestartCalls ncv k ritz bd).2 = Stop.none := by
  intro k
  have hk := (c13_gen_k nev ncv est ritz nconv h1 h2 h3)
  exact ⟨c13_gen_shift_inbounds ritz ncv k (by have := hk.2.1.1; omega),
         c13_gen_shift_degree ritz ncv k (by have := hk.2.1.1; omega) (by have := hk.2.1.2; omega)⟩

/-- what still needs hypotheses is NUMERICAL adequacy, not safety: every complex Ritz value is treated together with its conjugate
    (one double shift) provided (a) complex values sit next to their conjugates and (b) no complex pair is duplicated across the
    boundary that `nev_adjusted` tests (both needed: witnesses below) -/
theorem c13_gen_restart_pairs_partial (nev ncv : Int) (est ritz : Int → α × α) (nconv : Int)
    (h1 : 1 ≤ nev) (h2 : nev ≤ ncv - 2) (h3 : 0 ≤ nconv)
    (hadj : AdjacentConj ritz ncv 0)
    (hns : let p := genNevPre nev ncv est nconv
           AdjacentConj ritz ncv p → ¬(is_complex (ritz (p - 1)) = true ∧ is_conj (ritz (p - 1)) (ritz p) = true)) :
    AllPaired ritz (genPasses ritz ncv (genNevAdj nev ncv est ritz nconv)) := by
  have hk := (c13_gen_k nev ncv est ritz nconv h1 h2 h3)
  have hp := gen_pre nev ncv est nconv h1 h2 h3
  have hadjk : AdjacentConj ritz ncv (genNevAdj nev ncv est ritz nconv) := by
    rw [gen_adj_eq]
    exact bump_boundary ritz ncv _ (by omega) hadj hns
  exact ((c13_gen_shift_reads ritz ncv _ (by have := hk.2.1.1; omega)).mp hadjk).2

/-! ## (4) work bound: number of operator applications of `init(); compute(maxit)` -/

/-- Hermitian family, every oracle outcome (convergence counts ≥ 0, Ritz estimates, breakdown pattern of every factorization step),
    every subspace dimension `k0` at entry (`k0 = initSubspaceDim = 1` is `init(); compute()`; other values: compute() repeated
    without init(), which since the `fix:` of compute() continues from the existing factorization):
    #perform_op ≤ 2 + 2(ncv-1)(maxit+1) ≤ 2 + 2·ncv·(maxit+1)  (the property's bound) -/
theorem c13_work_bound_herm (nev ncv maxit k0 : Int) (bd0 : Int → Bool) (orc : Nat → IterOracle α α)
    (h1 : 1 ≤ nev) (h2 : nev < ncv) (hnc : ∀ it, 0 ≤ (orc it).nconv) :
    (initCalls ++ (hermCompute nev ncv maxit k0 bd0 orc).calls).length ≤ 2 + 2 * (ncv - 1).toNat * (maxit.toNat + 1) ∧
    2 + 2 * (ncv - 1).toNat * (maxit.toNat + 1) ≤ 2 + 2 * ncv.toNat * (maxit.toNat + 1) :=
  ⟨(herm_calls nev ncv maxit k0 bd0 orc h1 h2 hnc).1, work_bound_mono ncv _⟩

/-- general family, every oracle outcome, INCLUDING runs that stop early by an out-of-range read or a factorize_from throw -/
theorem c13_work_bound_gen (nev ncv maxit k0 : Int) (bd0 : Int → Bool) (orc : Nat → IterOracle (α × α) α)
    (h1 : 1 ≤ nev) (h2 : nev ≤ ncv - 2) (hnc : ∀ it, 0 ≤ (orc it).nconv) :
    (initCalls ++ (genCompute nev ncv maxit k0 bd0 orc).calls).length ≤ 2 + 2 * (ncv - 1).toNat * (maxit.toNat + 1) ∧
    2 + 2 * (ncv - 1).toNat * (maxit.toNat + 1) ≤ 2 + 2 * ncv.toNat * (maxit.toNat + 1) :=
  ⟨(gen_calls nev ncv maxit k0 bd0 orc h1 h2 hnc).1, work_bound_mono ncv _⟩

/-- `GenEigsComplexShiftSolver::sort_ritzpair` applies the operator (at the probe shift) at most 2·nev more times — these calls
    are NOT counted by `num_operations()` and come ON TOP of `c13_work_bound_gen`; its writes `m_ritz_val[i+1]` stay ≤ nev < ncv. -/
theorem c13_cshift_extra_solves (nev : Int) (cplx : Int → Bool) :
    (cshiftLoop nev cplx 0).1.length ≤ 2 * nev.toNat ∧ (∀ w ∈ (cshiftLoop nev cplx 0).2, 0 ≤ w ∧ w ≤ nev) ∧
    (∀ c ∈ (cshiftLoop nev cplx 0).1, c.x ≠ c.y) := by
  obtain ⟨a, b, c⟩ := cshift_spec nev cplx 0 (Int.le_refl 0)
  refine ⟨by simpa using a, b, fun d hd => ?_⟩
  rcases c d hd with rfl | rfl <;> simp

/-! ## (5) arguments of every `perform_op(x, y)` -/

/-- Hermitian family: in every call x and y are different buffers of length n; when x (or y) is a column j of V, 0 ≤ j < ncv
    (V is n × ncv, so the n entries starting at `&V(0,j)` are inside V's allocation) -/
theorem c13_op_args_herm (nev ncv maxit k0 : Int) (bd0 : Int → Bool) (orc : Nat → IterOracle α α)
    (h1 : 1 ≤ nev) (h2 : nev < ncv) (hnc : ∀ it, 0 ≤ (orc it).nconv) :
    ∀ c ∈ initCalls ++ (hermCompute nev ncv maxit k0 bd0 orc).calls, Call.valid ncv c :=
  (herm_calls nev ncv maxit k0 bd0 orc h1 h2 hnc).2

theorem c13_op_args_gen (nev ncv maxit k0 : Int) (bd0 : Int → Bool) (orc : Nat → IterOracle (α × α) α)
    (h1 : 1 ≤ nev) (h2 : nev ≤ ncv - 2) (hnc : ∀ it, 0 ≤ (orc it).nconv) :
    ∀ c ∈ initCalls ++ (genCompute nev ncv maxit k0 bd0 orc).calls, Call.valid ncv c :=
  (gen_calls nev ncv maxit k0 bd0 orc h1 h2 hnc).2

/-! ## (5b) storage class of every buffer handed to the operator -/

/-- STORAGE of every vector handed to the user's operator (the clause "touches no memory outside its own buffers and hands the
    operator only valid, distinct vectors", structural part).  `Gen.Restart.opSites` lists, regenerated from the headers on every run,
    EVERY `perform_op(x, y)` call made by a class that is not itself an operator, with the root object of each pointer (followed through
    `.data()`, `&M(0,i)`, Map views, references, parameters -> `opParamBinds`) and that object's storage class.
    (1) every root is owned by the running call: an AUTOMATIC local of the calling function or the data member m_fac_V / m_fac_f of
        the factorization object (parameters: at every call in the library; `init`'s v0: the vector the user passed) — never
        static / thread_local / global / unresolved storage, so two activations (nested inside perform_op, other solver objects,
        other threads) cannot be handed the same vector;
    (2) the call sites are exactly the seven known ones;
    (3)-(5) lifted to the skeleton: for all sizes, all oracle outcomes, all histories, every call of `init(); compute()` of the
        Hermitian family, of the general family, and every probe solve of the complex-shift post-processing hands buffers that some
        call site of that family's functions hands, and every such call site hands only owned storage.
    Closed facts (1), (2) and the four buffer shapes by `decide` over the finite table; (3)-(5) by the shape lemmas
    `factorizeCalls_shape` / `cshift_spec` and the description of the restart loop's calls (`computeLoop_calls`). -/
theorem c13_op_buffers_owned :
    (∀ s ∈ opSites, siteOwned s = true) ∧
    opSites.map (fun s => (s.cls, s.fn, s.ord)) =
      [("Arnoldi", "expand_basis", 0), ("Arnoldi", "init", 0), ("Arnoldi", "init", 1), ("Arnoldi", "factorize_from", 0),
       ("GenEigsComplexShiftSolver", "sort_ritzpair", 0), ("GenEigsComplexShiftSolver", "sort_ritzpair", 1), ("Lanczos", "factorize_from", 0)] ∧
    (∀ (nev ncv maxit k0 : Int) (bd0 : Int → Bool) (orc : Nat → IterOracle α α),
      ∀ c ∈ initCalls ++ (hermCompute nev ncv maxit k0 bd0 orc).calls, Call.owned .herm c) ∧
    (∀ (nev ncv maxit k0 : Int) (bd0 : Int → Bool) (orc : Nat → IterOracle (α × α) α),
      ∀ c ∈ initCalls ++ (genCompute nev ncv maxit k0 bd0 orc).calls, Call.owned .gen c) ∧
    (∀ (nev : Int) (cplx : Int → Bool), ∀ c ∈ (cshiftLoop nev cplx 0).1, Call.owned .cshift c) := by
  refine ⟨sites_owned, by decide +kernel, ?_, ?_, ?_⟩
  · intro nev ncv maxit k0 bd0 orc
    exact compute_calls_all _ _ _ orc (Call.owned .herm) _ _ (initCalls_owned .herm (Or.inl rfl))
      (factorizeCalls_owned .herm (Or.inl rfl) bd0 _ _)
      (fun it => restartCalls_owned .herm (Or.inl rfl) ncv _ _ _ (Or.inr (hermRestartCalls_eq ncv _ (orc it).bd)))
  · intro nev ncv maxit k0 bd0 orc
    exact compute_calls_all _ _ _ orc (Call.owned .gen) _ _ (initCalls_owned .gen (Or.inr rfl))
      (factorizeCalls_owned .gen (Or.inr rfl) bd0 _ _)
      (fun it => restartCalls_owned .gen (Or.inr rfl) ncv _ _ _ (genRestartCalls_cases ncv _ (orc it).val (orc it).bd))
  · intro nev cplx c hc
    rcases (cshift_spec nev cplx 0 (Int.le_refl 0)).2.2 c hc with rfl | rfl
    · exact owned_probe.1
    · exact owned_probe.2

/-! ## (6) termination: the model functions are total Lean functions without fuel; their explicit loop bounds -/

/-- the general shift loop makes at most `ncv - k` passes; compute's restart loop makes at most `maxit` restarts (`iters ≤ maxit`);
    the complex-shift loop at most `nev` passes (2 solves each).  [`expand_basis` (≤ 5 tries × ≤ 3 corrections), the
    re-orthogonalisation loops (≤ 5), TridiagEigen (≤ 30·n) and UpperHessenbergSchur (≤ 40·n, throw on failure) have constant bounds in
    the source and apply the operator 1 resp. 0 times; they enter the skeleton only through those counts.] -/
theorem c13_termination (ritz : Int → α × α) (nev ncv maxit k k0 : Int) (bd0 : Int → Bool) (orcH : Nat → IterOracle α α)
    (orcG : Nat → IterOracle (α × α) α) (cplx : Int → Bool) :
    (genPasses ritz ncv k).length ≤ (ncv - k).toNat ∧
    (hermCompute nev ncv maxit k0 bd0 orcH).iters ≤ maxit.toNat ∧
    (genCompute nev ncv maxit k0 bd0 orcG).iters ≤ maxit.toNat ∧
    (cshiftLoop nev cplx 0).1.length ≤ 2 * nev.toNat := by
  refine ⟨passes_len ritz ncv k, ?_, ?_, (c13_cshift_extra_solves nev cplx).1⟩
  · have := computeLoop_iters (fun (o : IterOracle α α) => hermComputeSkel_break nev o.nconv) (fun o => hermNevAdj nev ncv o.est o.nconv)
      (fun o k => hermRestartCalls ncv k o.bd) orcH (maxit - 0).toNat 0
    simp only [hermCompute, hermComputeSkel_frame]; simpa using this
  · have := computeLoop_iters (fun (o : IterOracle (α × α) α) => genComputeSkel_break nev o.nconv) (fun o => genNevAdj nev ncv o.est o.val o.nconv)
      (fun o k => genRestartCalls ncv k o.val o.bd) orcG (maxit - 0).toNat 0
    simp only [genCompute, genComputeSkel_frame]; simpa using this
end

/-! ## index programs of compress_V / factorize_from (hand-written access lists, all sizes) -/

/-- every access of `compress_V` is inside its matrix when 1 ≤ m_k ≤ m-1 (guaranteed by c13_herm_k / c13_gen_k + c13_*_shift_*) -/
theorem c13_compress_indices (n m k : Int) (hn : 1 ≤ n) (hk1 : 1 ≤ k) (hk2 : k ≤ m - 1) : ∀ a ∈ compressAcc n m k, a.ok := by
  intro a ha
  simp only [compressAcc, List.mem_append, List.mem_flatMap, List.mem_cons, List.not_mem_nil, or_false] at ha
  rcases ha with ⟨i, hi, ha⟩ | ha
  · rw [mem_intRange] at hi
    rcases ha with rfl | rfl | rfl <;> (simp only [Acc.ok]; omega)
  · rcases ha with rfl | rfl | rfl | rfl | rfl | rfl <;> (simp only [Acc.ok]; omega)

/-- every access of `factorize_from(from_k, to_m)` is inside its matrix when 1 ≤ from_k and to_m ≤ m (= ncv) -/
theorem c13_factorize_indices (n m fromK toM : Int) (hn : 1 ≤ n) (h1 : 1 ≤ fromK) (h2 : toM ≤ m) :
    ∀ a ∈ factorizeAcc n m fromK toM, a.ok := by
  intro a ha
  simp only [factorizeAcc] at ha
  split at ha
  · exact absurd ha (by simp)
  · simp only [List.mem_append, List.mem_flatMap, List.mem_cons, List.not_mem_nil, or_false] at ha
    rcases ha with ha | ⟨i, hi, ha⟩
    · rcases ha with rfl | rfl | rfl <;> (simp only [Acc.ok]; omega)
    · rw [mem_intRange] at hi
      rcases ha with rfl | rfl | rfl | rfl | rfl | rfl | rfl <;> (simp only [Acc.ok]; omega)


end C13

/-! ## witnesses: what is false without the hypotheses, and that the hypotheses are satisfiable -/
namespace C13W
open Gen.Restart RestartIdx

attribute [local instance] scInt

-- notation of the witnesses: 5, 7 real; a = 1+2i, ā = 1-2i, b = 2+i
/-- ncv = 3, k = 1, Ritz values [5, a, b]: with the guard the loop reads only indices 1, 2 —
    but the complex values a, b are each given a single real shift (numerically inadequate, memory-safe) -/
example : InBounds 3 (genPasses (ofL [(5, 0), (1, 2), (2, 1)]) 3 1) ∧ ¬ AllPaired (ofL [(5, 0), (1, 2), (2, 1)]) (genPasses (ofL [(5, 0), (1, 2), (2, 1)]) 3 1) := by
  have h : genPasses (ofL [(5, 0), (1, 2), (2, 1)]) 3 1 = [⟨1, [1, 1, 2], false, 2⟩, ⟨2, [2], false, 3⟩] := by
    rw [genPasses_lt _ _ _ (by decide), genPasses_lt _ _ _ (by decide), genPasses_ge _ _ _ (by decide)]
    decide
  rw [h]; refine ⟨by decide, ?_⟩
  intro hp; have := hp ⟨1, [1, 1, 2], false, 2⟩ (by simp) (by decide); exact absurd this (by decide)

/-- in-bounds does NOT imply adjacency: [a, b, 5] from k = 0 is read in bounds (two single shifts with the real parts of a and b:
    numerically wrong, but memory-safe) although no complex value has its conjugate next to it -/
example : InBounds 3 (genPasses (ofL [(1, 2), (2, 1), (5, 0)]) 3 0) ∧ ¬ AdjacentConj (ofL [(1, 2), (2, 1), (5, 0)]) 3 0 := by
  refine ⟨C13.c13_gen_shift_inbounds _ 3 0 (by decide), ?_⟩
  rw [adj_lt _ _ _ (by decide), if_pos (by decide)]; intro hh; exact absurd hh.2.1 (by decide)

/-- ADJACENCY ALONE IS NOT ENOUGH for correct pairing (hypothesis `hns` of c13_gen_restart_pairs_partial): Ritz values
    [5, a, ā, a, ā] (ncv = 5, nev = 3, nconv = 0) ARE adjacent conjugate pairs, `nev_adjusted` computes p = 3 — a block boundary —
    but m_ritz_val[2] = ā and m_ritz_val[3] = a are conjugates of each other, so it returns k = 4, INSIDE the second pair; with the
    guard the loop is memory-safe (reads index 4 only) but shifts with Re ā alone -/
example : AdjacentConj (ofL [(5, 0), (1, 2), (1, -2), (1, 2), (1, -2)]) 5 0 ∧
    genNevAdj 3 5 (fun _ => ((100 : Int), (100 : Int))) (ofL [(5, 0), (1, 2), (1, -2), (1, 2), (1, -2)]) 0 = 4 ∧
    InBounds 5 (genPasses (ofL [(5, 0), (1, 2), (1, -2), (1, 2), (1, -2)]) 5 4) ∧
    ¬ AllPaired (ofL [(5, 0), (1, 2), (1, -2), (1, 2), (1, -2)]) (genPasses (ofL [(5, 0), (1, 2), (1, -2), (1, 2), (1, -2)]) 5 4) := by
  have h : genPasses (ofL [(5, 0), (1, 2), (1, -2), (1, 2), (1, -2)]) 5 4 = [⟨4, [4], false, 5⟩] := by
    rw [genPasses_lt _ _ _ (by decide), genPasses_ge _ _ _ (by decide)]
    decide
  refine ⟨?_, by decide, by rw [h]; decide, ?_⟩
  · rw [adj_lt _ _ _ (by decide), if_neg (by decide)]
    rw [adj_lt _ _ _ (by decide), if_pos (by decide)]; refine ⟨by decide, by decide, ?_⟩
    rw [adj_lt _ _ _ (by decide), if_pos (by decide)]; refine ⟨by decide, by decide, ?_⟩
    exact adj_ge _ _ _ (by decide)
  · rw [h]; intro hp; have := hp ⟨4, [4], false, 5⟩ (by simp) (by decide); exact absurd this (by decide)

/-- the hypotheses of c13_gen_restart_pairs_partial are satisfiable: [5, a, ā, 7], ncv = 4, nev = 1 (restart size becomes k = 3) -/
example : AdjacentConj (ofL [(5, 0), (1, 2), (1, -2), (7, 0)]) 4 0 ∧
    genNevPre 1 4 (fun _ => ((100 : Int), (100 : Int))) 0 = 2 ∧
    genNevAdj 1 4 (fun _ => ((100 : Int), (100 : Int))) (ofL [(5, 0), (1, 2), (1, -2), (7, 0)]) 0 = 3 ∧
    ¬ AdjacentConj (ofL [(5, 0), (1, 2), (1, -2), (7, 0)]) 4 2 := by
  refine ⟨?_, by decide, by decide, ?_⟩
  · rw [adj_lt _ _ _ (by decide), if_neg (by decide)]
    rw [adj_lt _ _ _ (by decide), if_pos (by decide)]; refine ⟨by decide, by decide, ?_⟩
    rw [adj_lt _ _ _ (by decide), if_neg (by decide)]
    exact adj_ge _ _ _ (by decide)
  · rw [adj_lt _ _ _ (by decide), if_pos (by decide)]; intro hh; exact absurd hh.2.1 (by decide)

/-- hypotheses of c13_herm_k / c13_gen_k / the work bounds are satisfiable; the bounds are attained:
    nev = 1, ncv = 2 (Herm) gives k = 1 = ncv - 1 = nev -/
example : hermNevAdj 1 2 (fun _ => (100 : Int)) 0 = 1 ∧ hermNevAdj 3 8 (fun _ => (0 : Int)) 2 = 7 ∧ hermNevAdj 1 6 (fun _ => (100 : Int)) 0 = 3 := by decide

/-
  NaN-freedom is NOT a theorem.  Where a NaN / Inf can enter (read off the code; the failing-input search targets these):
    1. `Arnoldi::init`:  `v /= vnorm` with vnorm = ‖A·v0‖ — no zero test: A·v0 = 0 (v0 in the null space, zero matrix, nilpotent
       matrix) gives 0/0 = NaN in V(:,0), H(0,0), f  (observed on the real code: the NaN is caught later by TridiagEigen /
       UpperHessenbergEigen → std::runtime_error; see the harness report);
    2. `factorize_from`:  `m_fac_f / m_beta` after `expand_basis` left `fnorm` = 0 (all five tries failed) or tiny;
    3. `UpperHessenbergEigen::compute`: `mat / scale` with scale = 0 (zero H) — handled by throwing;
    4. `GenEigsComplexShiftSolver::sort_ritzpair`: `0.5 / nu` with a zero Ritz value nu.
-/
end C13W
