/-
  C02 — the general (nonsymmetric) solvers `GenEigsSolver`, `GenEigsRealShiftSolver`, `GenEigsComplexShiftSolver` return only genuine
  unit-norm eigenpairs, reported in the spectrum of the user's matrix, distinct pairs distinct.

  What the theorems are about.  `Model/GenSolver.lean` is the executable numeric instance of the shared orchestration model
  (`Orch.compute` with the kernel record `GenSolver.genKern`; `GenSolver.computeWith … csBack` for the complex-shift class, which is
  `Orch.compute` with one state-dependent step, `c02_compute_with_id`).  At `Float` it is run against the real classes bit for bit.
  The theorems below are
    * exact-arithmetic algebra over a field `K` "containing" the real scalar field `R` through a ring homomorphism `ι`
      (the complex numbers abstracted: the Arnoldi relation is real, Ritz values and coefficient vectors are complex), and
    * discrete statements about the two pure loop functions the executable model runs: `GenSolver.pairLoop` (conjugate-pair loop of
      `GenEigsComplexShiftSolver::sort_ritzpair`, `c02_model_pairloop`) and `GenSolver.shiftPasses` (single/double-shift loop of
      `GenEigsBase::restart`, `c02_model_restart`), for every scalar instance and every outcome of every comparison.

  Full-strength clauses that are NOT theorems:
    (R) "‖A x − λ x‖ ≤ tol·scale + (rounding-level)·‖A‖ in floating point" — proved here in exact arithmetic only (`c02_residual`,
        `c02_residual_flag`, `c02_realshift`, `c02_cshift_residual`); the rounding term and the convergence of the restarted iteration
        are checked by the long-double oracle only.  Named `…` without `_partial` where the exact-arithmetic identity IS the clause's
        algebraic content.
    (S) root selection of the complex-shift solver by probing at a random real shift: validated (correspondence + oracle), not proved.
    (P) `c02_pairs_full` / `c02_restart_schedule_full` — the statements of `c02_pairs` and `c02_restart_schedule` WITHOUT hypothesis
        P1 (complex Ritz values of the transformed problem are adjacent exact conjugates) — are FALSE: machine-checked counter-models
        below.  P1 is the convention of `UpperHessenbergEigen` (`C09.c09_conj_compute`) before sorting; `std::sort` keeps pairs
        adjacent except under key ties above 16 elements / duplicated pairs (F9: until /repo commit c0124c3 an Eigen index assertion
        in `restart`, reproduced by this check's harness as `eigen-index-assertion`, then repaired: `c02_restart_reads_in_range`;
        what remains is `c02_restart_unpaired`).
        The pair test of `sort_ritzpair` is made on the TRANSFORMED value (`nu.imag() != 0`, /repo after the repair of finding F14),
        not on the selected root: a REAL transformed value ν with 1 − 4 (Im σ)² ν² < 0 (`c02_quadratic_negative`: at
        |λ − Re σ| = |Im σ| by rounding, or an unconverged real Ritz value with |ν| > 1/(2|Im σ|)) has a selected root with non-zero
        imaginary part, and a test on the root (`|Im λ| > eps`) overwrites the converged neighbour (replays in
        known_findings/C02.json, F14-*).  With the test on ν, `c02_pairs` needs no hypothesis on the selected roots; the `example`
        with `C02L.pickP2` below is that situation on the model.
-/
import SpectraVerif.Proofs.C02Algebra
import SpectraVerif.Proofs.C02Loops

set_option linter.unusedVariables false
open Matrix

namespace C02

/-! ## 1. residual and unit norm (complex Ritz data over a real Arnoldi relation) -/

section residual
variable {n m : Type} [Fintype n] [Fintype m] [DecidableEq m] {R K : Type} [CommRing R] [Field K]

/-- **Ritz estimate = true residual**, complex case: if `A V = V H + f e_lastᵀ` over the reals, `H y = θ y` over `K ⊇ R` and
    `x = V y`, then `A x − θ x = y_last • f`. -/
theorem c02_residual (ι : R →+* K) (A : Matrix n n R) (V : Matrix n m R) (H : Matrix m m R) (f : n → R) (last : m)
    (θ : K) (y : m → K)
    (hfac : A * V = V * H + vecMulVec f (Pi.single last 1)) (hy : (H.map ι) *ᵥ y = θ • y) :
    (A.map ι) *ᵥ ((V.map ι) *ᵥ y) - θ • ((V.map ι) *ᵥ y) = y last • (ι ∘ f) :=
  Ritz.residual _ _ _ _ last θ y (C02A.fac_embedded ι A V H f last hfac) hy

/-- hence the flag test of `num_converged` (`|y_last| ‖f‖ < tol · max(|θ|, eps^{2/3})`) bounds the norm of the true residual, for
    every absolutely homogeneous `nrm` (exact arithmetic; clause (R) of the header for the rounding term) -/
theorem c02_residual_flag {S : Type} [Mul S] [LinearOrder S] (nrm : (n → K) → S) (absK : K → S)
    (hnrm : ∀ (c : K) (v : n → K), nrm (c • v) = absK c * nrm v)
    (ι : R →+* K) (A : Matrix n n R) (V : Matrix n m R) (H : Matrix m m R) (f : n → R) (last : m)
    (θ : K) (y : m → K) (tol eps23 : S)
    (hfac : A * V = V * H + vecMulVec f (Pi.single last 1)) (hy : (H.map ι) *ᵥ y = θ • y)
    (hflag : absK (y last) * nrm (ι ∘ f) < tol * max (absK θ) eps23) :
    nrm ((A.map ι) *ᵥ ((V.map ι) *ᵥ y) - θ • ((V.map ι) *ᵥ y)) < tol * max (absK θ) eps23 := by
  rw [c02_residual ι A V H f last θ y hfac hy, hnrm]
  exact hflag

end residual

section unitnorm
variable {n m : Type} [Fintype n] [Fintype m] [DecidableEq m] {R K : Type} [CommRing R] [Field K] [StarRing K]

/-- **‖x‖ = ‖y‖** when `VᵀV = I` (V real, y complex): `xᴴx = yᴴy` -/
theorem c02_unit_gram (ι : R →+* K) (hι : ∀ r, star (ι r) = ι r) (V : Matrix n m R) (hV : Vᵀ * V = 1) (y : m → K) :
    star ((V.map ι) *ᵥ y) ⬝ᵥ ((V.map ι) *ᵥ y) = star y ⬝ᵥ y :=
  C02A.unit_norm ι hι V hV y

/-- **unit norm**: `‖y‖ = 1` (the normalisation of `UpperHessenbergEigen::eigenvectors`, `C09.c09_eigvec_unit`) and `VᵀV = I` give
    `‖x‖ = 1`.  FALSE on the real code when `VᵀV = I` fails: rank-deficient operators (finding F13). -/
theorem c02_unit (ι : R →+* K) (hι : ∀ r, star (ι r) = ι r) (V : Matrix n m R) (hV : Vᵀ * V = 1) (y : m → K)
    (hy : star y ⬝ᵥ y = 1) :
    star ((V.map ι) *ᵥ y) ⬝ᵥ ((V.map ι) *ᵥ y) = 1 :=
  (c02_unit_gram ι hι V hV y).trans hy

end unitnorm

/-! ## 2. real shift: λ = σ + 1/ν, and only back-transformed values are returned -/

section realshift
variable {K : Type} [Field K]

/-- `ν ↦ σ + 1/ν` is the inverse of `λ ↦ 1/(λ − σ)` (both directions) -/
theorem c02_realshift (σ lam ν : K) (h : lam - σ ≠ 0) (hν : ν ≠ 0) :
    σ + 1 / (1 / (lam - σ)) = lam ∧ 1 / ((σ + 1 / ν) - σ) = ν ∧ 1 / (lam - σ) ≠ 0 :=
  ⟨by rw [one_div_one_div, add_sub_cancel], by rw [add_sub_cancel_left, one_div_one_div], one_div_ne_zero h⟩

/-- residual of the back-transformed pair: if `(A − σI)(ν x + r) = x` (the operator applied to `x` gave `ν x + r`) then
    `A x − (σ + 1/ν) x = −(1/ν)(A − σI) r` -/
theorem c02_realshift_residual {n : Type} [Fintype n] [DecidableEq n] (A : Matrix n n K) (σ ν : K) (x r y : n → K) (hν : ν ≠ 0)
    (hy : y = ν • x + r) (hM : (A - σ • (1 : Matrix n n K)) *ᵥ y = x) :
    A *ᵥ x - (σ + 1 / ν) • x = -(1 / ν) • ((A - σ • (1 : Matrix n n K)) *ᵥ r) := by
  rw [one_div]
  exact Spectral.shift_invert A σ ν x r y hν hy hM

end realshift

/-- **never in the transformed spectrum**, for EVERY kernel record (every way the numerics could come out): after a successful
    `sort_ritzpair`, every value `eigenvalues()` hands back is `back ν` for one of the first `nev` Ritz values `ν` of the iteration.
    (`hidx`: the final sort returns indices `< nev`; a theorem for the real sort, `c02_realshift_model`.) -/
theorem c02_realshift_returned {φ ρ ε κ β τ ω : Type} (K : Orch.Kern φ ρ ε κ β τ ω) (c : Orch.Cfg) (back : ρ → ρ)
    (hback : K.backTransform = List.map back) (rule : Int) (s s' : Orch.St φ ρ ε κ)
    (h : Orch.sortRitz K c rule s = (s', none))
    (hlen : c.nev ≤ s.ritzVal.length) (hcfg : c.nev ≤ c.ncv)
    (hidx : ∀ vals ind, K.sortIdx rule vals c.nev = .ok ind → ∀ i < c.nev, ind.getD i 0 < c.nev) :
    ∀ v ∈ Orch.eigenvalues K c s', ∃ j < c.nev, v = back (s.ritzVal.getD j K.zeroρ) := by
  intro v hv
  unfold Orch.eigenvalues at hv
  split at hv
  · cases hv
  · obtain ⟨i, hi, rfl⟩ := List.mem_map.mp hv
    have hin : i < c.nev := C02A.mem_convIdx_lt c s' i hi
    -- slot `i` of the sorted state is slot `ind[i]` of the back-transformed head
    obtain ⟨ind, hind, hall⟩ := Orch.sortRitz_pairing K c hcfg rule s s' h
    have hj := hidx _ ind hind i hin
    refine ⟨ind.getD i 0, hj, ?_⟩
    rw [(hall i hin).1, hback]
    exact C02A.mapHead_map_getD back c.nev s.ritzVal K.zeroρ _ hj hlen

section concrete
variable {α : Type} [Add α] [Sub α] [Mul α] [Div α] [Neg α] [Sc α]

/-- the same for the executable kernel of `GenEigsRealShiftSolver` at every scalar instance (in particular `Float`): every returned
    value is `realShiftBack sigma ν = Scalar(1) / ν + sigma` of a Ritz value of the iteration -/
theorem c02_realshift_model (op : Arnoldi.Op α) (c : Orch.Cfg) (eps23 sigma : α) (rule : Int)
    (s s' : Orch.St (Arnoldi.State α) (GenSolver.Cx α) (GenSolver.Cx α) (Lin.Vec (GenSolver.Cx α)))
    (h : Orch.sortRitz (GenSolver.genKern op c eps23 (GenSolver.realShiftBack sigma)) c rule s = (s', none))
    (hlen : c.nev ≤ s.ritzVal.length) (hcfg : c.nev ≤ c.ncv) :
    ∀ v ∈ Orch.eigenvalues (GenSolver.genKern op c eps23 (GenSolver.realShiftBack sigma)) c s',
      ∃ j < c.nev, v = GenSolver.realShiftBack sigma (s.ritzVal.getD j GenSolver.czero) :=
  c02_realshift_returned _ c _ rfl rule s s' h hlen hcfg fun vals ind => C02A.sortRuleIdx_lt rule vals c.nev ind

end concrete

/-! ## 3. complex shift: the quadratic, its two roots, the boundary behind F14 -/

section quadratic
variable {K : Type} [Field K]

/-- **the code's quadratic**: for σ = a + b i, `ν = ½ (1/(λ−σ) + 1/(λ−σ̄))` iff `ν ((λ−a)² + b²) = λ − a`; and with a square-root
    witness `s² = 1 − 4 b² ν²` (`sqrt_disc`, `1 + s ≠ 0`: the principal root has a non-negative real part) the solutions are exactly the
    two candidates of the code (as computed since 0117f45),
    `root1 = root_part1 + root_part2 = a + 1/(2ν) + s/(2ν)` and `root2 = m_sigmar + (2 σi σi) ν / (1 + sqrt_disc)`;
    the latter IS `root_part1 − root_part2` (third conjunct: the form used before the repair, `c02_quadratic_root2`). -/
theorem c02_quadratic (a b i lam ν s : K) (hi : i * i = -1) (h2 : (2 : K) ≠ 0)
    (h1 : lam - (a + b * i) ≠ 0) (h1c : lam - (a - b * i) ≠ 0) (hν : ν ≠ 0) (hs : s * s = 1 - 4 * b ^ 2 * ν ^ 2)
    (h1s : 1 + s ≠ 0) :
    (ν = (1 / 2) * (1 / (lam - (a + b * i)) + 1 / (lam - (a - b * i))) ↔ ν * ((lam - a) ^ 2 + b ^ 2) = lam - a) ∧
    (ν * ((lam - a) ^ 2 + b ^ 2) = lam - a ↔
      lam = a + 1 / (2 * ν) + s / (2 * ν) ∨ lam = a + (2 * b * b) * ν / (1 + s)) ∧
    (ν * ((lam - a) ^ 2 + b ^ 2) = lam - a ↔
      lam = a + 1 / (2 * ν) + s / (2 * ν) ∨ lam = a + 1 / (2 * ν) - s / (2 * ν)) :=
  ⟨C02A.cs_nu_iff a b i lam ν hi h2 h1 h1c, C02A.cs_root2_stable a b ν s h2 hν hs h1s ▸ C02A.cs_roots a b lam ν s h2 hν hs,
    C02A.cs_roots a b lam ν s h2 hν hs⟩

/-- **the repaired second root**: `m_sigmar + (Scalar(2) * m_sigmai * m_sigmai) * nu / (Scalar(1) + sqrt_disc)` equals
    `root_part1 − root_part2` over any field (given `sqrt_disc² = 1 − 4 σi² ν²`, `1 + sqrt_disc ≠ 0`, `ν ≠ 0`), and together with
    `root1` it still has product `σi²` with it (Vieta) — so whichever candidate `sort_ritzpair` returns is a root of the quadratic
    (`c02_quadratic`). What the repair changes is rounding only: no difference of two numbers of size `1/(2|ν|)` is formed. -/
theorem c02_quadratic_root2 (a b ν s : K) (h2 : (2 : K) ≠ 0) (hν : ν ≠ 0) (hs : s * s = 1 - 4 * b ^ 2 * ν ^ 2)
    (h1s : 1 + s ≠ 0) :
    a + (2 * b * b) * ν / (1 + s) = a + 1 / (2 * ν) - s / (2 * ν) ∧
    (1 / (2 * ν) + s / (2 * ν)) * ((2 * b * b) * ν / (1 + s)) = b ^ 2 :=
  ⟨C02A.cs_root2_stable a b ν s h2 hν hs h1s, by
    rw [← add_div, div_mul_div_comm, div_eq_iff (mul_ne_zero (mul_ne_zero h2 hν) h1s)]
    ring⟩

/-- **the clause finding C02-resigma-cancellation violated**: for the eigenvalue AT `Re σ` the transformed value is `ν = 0`; the
    code's second candidate is then `Re σ` EXACTLY (for every value of `sqrt_disc`, no hypothesis: nothing is divided by `ν`), and
    `Re σ` is the unique solution of the quadratic for `ν = 0` — before the repair the candidate was `(a + 1/(2ν)) − s/(2ν)`, which is
    not even defined at `ν = 0` and is the difference of two numbers ~ `1/|ν|` next to it. -/
theorem c02_quadratic_nu_zero (a b lam s : K) :
    a + (2 * b * b) * 0 / (1 + s) = a ∧ ((0 : K) * ((lam - a) ^ 2 + b ^ 2) = lam - a ↔ lam = a) :=
  ⟨by rw [mul_zero, zero_div, add_zero], by rw [zero_mul, eq_comm, sub_eq_zero]⟩

/-- the hypotheses are satisfiable: σ = i, ν = 2/5, sqrt_disc = 3/5, root1 = 2, root2 = 1/2 (product 1 = σi²) -/
example : (3 / 5 : ℚ) * (3 / 5) = 1 - 4 * 1 ^ 2 * (2 / 5) ^ 2 ∧ (1 : ℚ) + 3 / 5 ≠ 0 ∧
    (0 : ℚ) + (2 * 1 * 1) * (2 / 5) / (1 + 3 / 5) = 1 / 2 ∧ (0 : ℚ) + 1 / (2 * (2 / 5)) - (3 / 5) / (2 * (2 / 5)) = 1 / 2 := by
  norm_num

/-- Vieta: the two candidates `t = λ − a` have product `b²` and sum `1/ν` (so the "other root" is `a + b²/(λ − a)`) -/
theorem c02_quadratic_roots (b ν s : K) (h2 : (2 : K) ≠ 0) (hν : ν ≠ 0) (hs : s * s = 1 - 4 * b ^ 2 * ν ^ 2) :
    (1 / (2 * ν) + s / (2 * ν)) * (1 / (2 * ν) - s / (2 * ν)) = b ^ 2 ∧
    (1 / (2 * ν) + s / (2 * ν)) + (1 / (2 * ν) - s / (2 * ν)) = 1 / ν := by
  have h2ν : 2 * ν ≠ 0 := mul_ne_zero h2 hν
  rw [← add_div, ← sub_div]
  constructor
  · rw [div_mul_div_comm, div_eq_iff (mul_ne_zero h2ν h2ν)]
    linear_combination (-1 : K) * hs
  · rw [← add_div, add_add_sub_cancel, one_add_one_eq_two, div_mul_cancel_left₀ h2, one_div]

/-- **the boundary configuration of F14**: a real eigenvalue at distance `|Im σ|` from `Re σ` gives `ν = 1/(2(λ−a))` and the
    discriminant `1 − 4b²ν²` is EXACTLY zero (double root: both candidates coincide with λ) -/
theorem c02_quadratic_boundary (a b lam ν : K) (h2 : (2 : K) ≠ 0) (hb : b ≠ 0) (hd : (lam - a) ^ 2 = b ^ 2)
    (hq : ν * ((lam - a) ^ 2 + b ^ 2) = lam - a) :
    (ν = 1 / (2 * (lam - a)) ∧ 1 - 4 * b ^ 2 * ν ^ 2 = 0) ∧
    (lam = a + 1 / (2 * ν) + 0 / (2 * ν) ∧ lam = a + 1 / (2 * ν) - 0 / (2 * ν)) := by
  refine ⟨C02A.cs_boundary a b lam ν h2 hb hd hq, ?_⟩
  obtain ⟨_, hν⟩ := C02A.cs_boundary_nu b ν (lam - a) hb hd hq
  have e : 1 / (2 * ν) = lam - a := by
    rw [div_eq_iff (mul_ne_zero h2 (left_ne_zero_of_mul_eq_one hν))]
    linear_combination -hν
  rw [e, zero_div, add_zero, sub_zero, add_sub_cancel]
  exact ⟨rfl, rfl⟩

/-- residual of the back-transformed pair of the complex-shift operator `Re[(A−σI)⁻¹] = (A−a)((A−a)² + b²)⁻¹`: if the operator
    applied to `x` gave `ν x + r`, λ is a root of the quadratic and λ' the other root, then
    `(A − λ'I)(A − λI) x = −ν⁻¹ ((A−a)² + b²) r`  (the oracle's back-transformation factor is the norm of `(A − λ'I)⁻¹ B / ν`) -/
theorem c02_cshift_residual {n : Type} [Fintype n] [DecidableEq n] (A B : Matrix n n K) (a b ν lam lam' : K) (x y r : n → K)
    (hν : ν ≠ 0)
    (hBdef : B = (A - a • (1 : Matrix n n K)) * (A - a • (1 : Matrix n n K)) + (b ^ 2) • (1 : Matrix n n K))
    (hB : B *ᵥ y = (A - a • (1 : Matrix n n K)) *ᵥ x) (hy : y = ν • x + r)
    (hq : ν * ((lam - a) ^ 2 + b ^ 2) = lam - a) (hp : (lam - a) * (lam' - a) = b ^ 2) (hl : lam - a ≠ 0) :
    (A - lam' • (1 : Matrix n n K)) *ᵥ ((A - lam • (1 : Matrix n n K)) *ᵥ x) = -ν⁻¹ • (B *ᵥ r) :=
  C02A.cs_residual A B a b ν lam lam' x y r hν hBdef hB hy hq hp hl

end quadratic

/-- **why P2 fails**: over an ordered field, ANY real transformed value with `ν'² > 1/(4b²)` — an over-estimate of the boundary value
    by rounding (F14), or an unconverged real Ritz value (F14b) — has a NEGATIVE discriminant: the two candidates are a complex pair
    (on the circle `|λ − a| = |b|`, `c02_quadratic_roots`) although no conjugate partner sits in the next slot -/
theorem c02_quadratic_negative {K : Type} [Field K] [LinearOrder K] [IsStrictOrderedRing K] (b ν' : K) (hb : b ≠ 0)
    (h : ν' ^ 2 > 1 / (4 * b ^ 2)) : 1 - 4 * b ^ 2 * ν' ^ 2 < 0 :=
  C02A.cs_boundary_neg b ν' hb h

/-! ## 4. the conjugate-pair loop of `GenEigsComplexShiftSolver::sort_ritzpair` (pair test on the transformed value ν) -/

/-- the quadratic has real coefficients: conjugation maps a root for `ν` to a root for `conj ν` — so the slot that held `conj ν` may
    be given `conj λ` (what the pair branch does), and a REAL `ν` has `λ`, `conj λ` as the two roots of its OWN slot (nothing to
    write into the next one) -/
theorem c02_quadratic_conj {K : Type} [Field K] (conj : K →+* K) (a b lam ν : K) (ha : conj a = a) (hb : conj b = b)
    (hq : ν * ((lam - a) ^ 2 + b ^ 2) = lam - a) :
    conj ν * ((conj lam - a) ^ 2 + b ^ 2) = conj lam - a ∧
    (conj ν = ν → ν * ((conj lam - a) ^ 2 + b ^ 2) = conj lam - a) :=
  ⟨C02A.cs_conj conj a b lam ν ha hb hq, fun hν => hν ▸ C02A.cs_conj conj a b lam ν ha hb hq⟩

section pairs
open GenSolver C02L
variable {ρ : Type} (pick : Nat → ρ → ρ) (isPair : ρ → Bool) (cj re : ρ → ρ) (nev : Nat) (dflt : ρ)

/-- **c02_pairs** (no P2 any more): under P1 alone (`NBlocks`: from slot 0 the TRANSFORMED values `v[j]` come as singletons on which
    the pair test `isPair` is false and adjacent pairs `(ν, conj ν)` on which it is true), every slot `j < nev` is exactly one of
      (real)    visited, test false: it ends with `re (own j)`, the real part of the root selected for its own `ν`;
      (start)   visited, test true:  it ends with `own j`, the root selected for its own `ν`;
      (partner) the slot after a visited pair start: it HELD `conj v[j−1]` and ends with `conj (own (j−1))`.
    So the only slots overwritten with a conjugate are slots that held the conjugate Ritz value; the length is kept and no slot
    `> nev` is touched. -/
theorem c02_pairs (v : List ρ) (fuel : Nat) (hb : NBlocks isPair cj (fun j => v.getD j dflt) nev 0)
    (hlen : nev ≤ v.length) (hf : nev ≤ fuel) :
    (∀ j, j < nev →
      (j ∈ pairVisits isPair nev dflt v fuel 0 ∧ isPair (v.getD j dflt) = false ∧
        (pairLoop pick isPair cj re nev dflt fuel 0 v).getD j dflt = re (own pick dflt v j)) ∨
      (j ∈ pairVisits isPair nev dflt v fuel 0 ∧ isPair (v.getD j dflt) = true ∧
        (pairLoop pick isPair cj re nev dflt fuel 0 v).getD j dflt = own pick dflt v j) ∨
      (0 < j ∧ j - 1 ∈ pairVisits isPair nev dflt v fuel 0 ∧ isPair (v.getD (j - 1) dflt) = true ∧
        v.getD j dflt = cj (v.getD (j - 1) dflt) ∧
        (pairLoop pick isPair cj re nev dflt fuel 0 v).getD j dflt = cj (own pick dflt v (j - 1)))) ∧
    (pairLoop pick isPair cj re nev dflt fuel 0 v).length = v.length ∧
    (∀ j, nev < j → (pairLoop pick isPair cj re nev dflt fuel 0 v).getD j dflt = v.getD j dflt) := by
  refine ⟨fun j hj => ?_, pairLoop_length pick isPair cj re nev dflt fuel 0 v,
    fun j hj => pairLoop_untouched pick isPair cj re nev dflt (Or.inr hj)⟩
  rcases pairLoop_slot pick isPair cj re nev dflt v fuel hb hlen hf hj with ⟨h, hr, hp⟩ | ⟨j', rfl, h1, h2, h3, h4⟩
  · cases hc : isPair (v.getD j dflt)
    · exact Or.inl ⟨h, rfl, hr hc⟩
    · exact Or.inr (Or.inl ⟨h, rfl, hp hc⟩)
  · exact Or.inr (Or.inr ⟨Nat.succ_pos _, h1, h2, h3, h4⟩)

/-- **every slot ends with its own eigenvalue**, from a property of the ROOT SELECTION, not of the values — if selecting the root commutes with conjugation
    (`hE`: the root picked for `conj ν` in the next slot is the conjugate of the root picked for `ν`; true of the exact roots by
    `c02_quadratic_conj`, validated for the probing by the correspondence and the oracle) and the pair test is conjugation-invariant
    (`hcj`: trivial for `nu.imag() != 0`), then EVERY slot `j < nev` ends with its own eigenvalue -/
theorem c02_pairs_own (v : List ρ) (fuel : Nat) (hb : NBlocks isPair cj (fun j => v.getD j dflt) nev 0)
    (hE : ∀ i, i < nev → isPair (v.getD i dflt) = true → pick (i + 1) (cj (v.getD i dflt)) = cj (pick i (v.getD i dflt)))
    (hcj : ∀ i, i < nev → isPair (v.getD i dflt) = true → isPair (cj (v.getD i dflt)) = true)
    (hlen : nev ≤ v.length) (hf : nev ≤ fuel) :
    ∀ j, j < nev → (pairLoop pick isPair cj re nev dflt fuel 0 v).getD j dflt =
        if isPair (v.getD j dflt) then own pick dflt v j else re (own pick dflt v j) := by
  intro j hj
  rcases pairLoop_slot pick isPair cj re nev dflt v fuel hb hlen hf hj with ⟨_, hr, hp⟩ | ⟨j', rfl, h1, h2, h3, h4⟩
  · cases hc : isPair (v.getD j dflt)
    · exact hr hc
    · exact hp hc
  · -- a partner slot: its own value passes the test (`hcj`) and its own eigenvalue is the stored conjugate (`hE`)
    have hb1 := (pairVisits_mem_bounds isPair nev dflt v fuel 0 j' h1).2
    rw [h3, hcj j' hb1 h2, h4, if_pos rfl, own, own, h3]
    exact (hE j' hb1 h2).symm

/-- **every slot is written exactly once** — UNCONDITIONALLY: the written slots are `i, i+1, …` without gap or repetition, at most
    one slot beyond `nev` (the conjugate of a pair that starts in the last slot; the base class discards it) -/
theorem c02_pairs_once (v : List ρ) (fuel i : Nat) (hi : i ≤ nev) (hf : nev - i ≤ fuel) :
    ∃ k, pairWrites isPair nev dflt v fuel i = List.range' i k ∧ nev - i ≤ k ∧ k ≤ nev - i + 1 :=
  pairWrites_contiguous isPair nev dflt v fuel i hi hf

/-- what the loop does WITHOUT P1 (the exact semantics used by the counter-model): a visited slot whose `ν` fails the test gets the
    real part of its own root and the next slot is NOT touched by this pass; a visited slot whose `ν` passes gets its own root and
    the NEXT slot gets the conjugate of it, whatever that slot held -/
theorem c02_pairs_visited (v : List ρ) (fuel j : Nat) (hj : j ∈ pairVisits isPair nev dflt v fuel 0) (hjl : j < v.length) :
    (isPair (v.getD j dflt) = false →
      (pairLoop pick isPair cj re nev dflt fuel 0 v).getD j dflt = re (own pick dflt v j)) ∧
    (isPair (v.getD j dflt) = true →
      (pairLoop pick isPair cj re nev dflt fuel 0 v).getD j dflt = own pick dflt v j ∧
      (j + 1 < v.length → (pairLoop pick isPair cj re nev dflt fuel 0 v).getD (j + 1) dflt = cj (own pick dflt v j))) :=
  pairLoop_visited_gen pick isPair cj re nev dflt v fuel 0 v rfl (fun _ _ => rfl) j hj hjl

end pairs

/-- the executable model runs exactly this loop (so `c02_pairs` is about the code path the correspondence check validates) -/
theorem c02_model_pairloop {α : Type} [Add α] [Sub α] [Mul α] [Div α] [Neg α] [Sc α]
    (probe : Lin.Vec α → Lin.Vec α) (c : Orch.Cfg) (sigmar sigmai : α)
    (s : Orch.St (Arnoldi.State α) (GenSolver.Cx α) (GenSolver.Cx α) (Lin.Vec (GenSolver.Cx α))) :
    GenSolver.csBack probe c sigmar sigmai s =
      GenSolver.pairLoop (GenSolver.csPick probe c.n c.ncv sigmar sigmai (GenSolver.probeShift sigmar) s.fac.V s.ritzVec)
        (fun nu => Sc.ne nu.2 Lin.zero) Sc.conj (fun lam => (lam.1, Lin.zero)) c.nev GenSolver.czero c.nev 0 s.ritzVal := rfl

/-- `GenEigsComplexShiftSolver::compute` of the model is `Orch.compute` with one extra step; with the identity step it IS `Orch.compute`
    (so the C05 orchestration theorems apply verbatim to `GenEigsSolver` / `GenEigsRealShiftSolver`) -/
theorem c02_compute_with_id {φ ρ ε κ β τ ω : Type} (K : Orch.Kern φ ρ ε κ β τ ω) (c : Orch.Cfg)
    (sel : Int) (maxit : Nat) (tol : τ) (sorting : Int) (s : Orch.St φ ρ ε κ) :
    GenSolver.computeWith K c id sel maxit tol sorting s = Orch.compute K c sel maxit tol sorting s :=
  GenSolver.computeWith_id K c sel maxit tol sorting s

/-- the pair test of the executable model is conjugation-invariant (`hcj` of `c02_pairs_own`) at an ordered field -/
theorem c02_pairtest_conj {K : Type} [Field K] [LinearOrder K] [IsStrictOrderedRing K] (F : FieldFns K) (nu : K × K)
    (h : @Sc.ne K (scOfField F) nu.2 0 = true) : @Sc.ne K (scOfField F) (Sc.conj nu).2 0 = true := by
  simp only [Sc.conj, ScF.ne, Bool.not_eq_true', decide_eq_false_iff_not, neg_eq_zero] at h ⊢
  exact h

/-! ### `c02_pairs_full` (no P1) is false: counter-model; a real transformed value with a complex selected root is harmless -/

/-- P1 is satisfiable: a real value followed by an adjacent conjugate pair -/
example : C02L.NBlocks C02L.zPair C02L.zCj (fun j => [((3 : Int), (0 : Int)), (1, 2), (1, -2)].getD j (0, 0)) 3 0 :=
  .real (by omega) (by decide) (.pair (by omega) (by decide) (by decide) (.done (by omega)))

/-- WITHOUT P1 (a tie of the sort key — here `|1 ± 2i| = |2 ± i|` under LargestMagn — separates the conjugates): the eigenvalues
    `2 ± i` are lost and `1 ± 2i` are handed back twice -/
example :
    GenSolver.pairLoop (fun _ z => z) C02L.zPair C02L.zCj C02L.zRe 4 (0, 0) 4 0 [(1, 2), (2, 1), (1, -2), (2, -1), (0, 0)] =
      [(1, 2), (1, -2), (1, -2), (1, 2), (0, 0)] ∧
    ((2, 1) : Int × Int) ∉
      GenSolver.pairLoop (fun _ z => z) C02L.zPair C02L.zCj C02L.zRe 4 (0, 0) 4 0 [(1, 2), (2, 1), (1, -2), (2, -1), (0, 0)] := by
  refine ⟨by decide, by decide⟩

/-- the situation of finding F14 (the selected root of a REAL transformed value carries a non-zero imaginary part,
    `c02_quadratic_negative`): slot 1 keeps its own eigenvalue `5`, slot 0 gets the real part `2` of its root; nothing is lost,
    nothing is duplicated.  (A pair test on the selected root gives `[(2, -1), (2, 1), (0, 0)]` here: the `5` is overwritten.) -/
example :
    GenSolver.pairLoop C02L.pickP2 C02L.zPair C02L.zCj C02L.zRe 2 (0, 0) 2 0 [(1, 0), (3, 0), (0, 0)] = [(2, 0), (5, 0), (0, 0)] ∧
    C02L.own C02L.pickP2 (0, 0) [(1, 0), (3, 0), (0, 0)] 1 = (5, 0) := by
  refine ⟨by decide, by decide⟩

/-! ## 5. the single/double-shift schedule of `GenEigsBase::restart` -/

section restart
open GenSolver C02L Gen.Restart
variable {α : Type} [Add α] [Sub α] [Mul α] [Div α] [Neg α] [Sc α] (ritz : Int → α × α) (ncv : Nat)

/-- **c02_restart_schedule**: under P1 on the unwanted part (`SBlocks ritz ncv k`: from slot `k` the Ritz values are real singletons
    and adjacent exact conjugate pairs, as decided by the source-translated `is_complex` / `is_conj`), for every scalar instance:
    the passes apply every unwanted slot `k … ncv−1` exactly once and in order, the total degree is `ncv − k` (so `m_k` ends at `k`),
    every index of `m_ritz_val` a pass evaluates is `< ncv`, every double pass sits on a complex value whose successor is its exact
    conjugate, and every single pass sits on a value with zero imaginary part (the real shift `Re ritz_i` is the whole value): each
    unwanted Ritz VALUE is applied exactly once. -/
theorem c02_restart_schedule {k : Nat} (hb : SBlocks ritz ncv k) (fuel : Nat) (hf : ncv - k ≤ fuel) :
    (shiftPasses ritz ncv fuel k).flatMap applied = List.range' k (ncv - k) ∧
    degree (shiftPasses ritz ncv fuel k) = ncv - k ∧
    (∀ p ∈ shiftPasses ritz ncv fuel k, ∀ j ∈ passReads ritz ncv p, j < ncv) ∧
    (∀ i, (i, true) ∈ shiftPasses ritz ncv fuel k →
      is_conj (ritz (i : Int)) (ritz ((i : Int) + 1)) = true ∧ is_complex (ritz (i : Int)) = true) ∧
    (∀ i, (i, false) ∈ shiftPasses ritz ncv fuel k → is_complex (ritz (i : Int)) = false) :=
  ⟨shiftPasses_contiguous ritz ncv fuel k hf, shiftPasses_degree ritz ncv fuel k hf, shiftPasses_reads_in_range ritz ncv fuel k,
    fun i hi => (shiftPasses_double_is_conj ritz ncv fuel k i hi).symm, shiftPasses_single_real ritz ncv hb fuel hf⟩

/-- UNCONDITIONALLY (no P1; the loop as repaired by /repo commit c0124c3, finding F9): every index of `m_ritz_val` the loop evaluates
    is in range, every unwanted SLOT is consumed exactly once and in order, and the degree is exactly `ncv − k` (`m_k` always ends
    at `k`).  Without the bound test `i + 1 < ncv` of that commit a pass reads index `ncv`. -/
theorem c02_restart_reads_in_range (fuel k : Nat) (hf : ncv - k ≤ fuel) :
    (∀ p ∈ shiftPasses ritz ncv fuel k, ∀ j ∈ passReads ritz ncv p, j < ncv) ∧
    (shiftPasses ritz ncv fuel k).flatMap applied = List.range' k (ncv - k) ∧
    degree (shiftPasses ritz ncv fuel k) = ncv - k :=
  ⟨shiftPasses_reads_in_range ritz ncv fuel k, shiftPasses_contiguous ritz ncv fuel k hf, shiftPasses_degree ritz ncv fuel k hf⟩

/-- what is lost WITHOUT P1: a complex value is consumed by a SINGLE pass — i.e. applied as the real shift `Re μ`, not as its own
    value — exactly when it sits in the last slot or its successor is not its exact conjugate -/
theorem c02_restart_unpaired (fuel k i : Nat) (b : Bool) (h : (i, b) ∈ shiftPasses ritz ncv fuel k)
    (hc : is_complex (ritz (i : Int)) = true) :
    b = false ↔ (i + 1 = ncv ∨ is_conj (ritz (i : Int)) (ritz ((i : Int) + 1)) = false) := by
  obtain ⟨_, hi, rfl⟩ := shiftPasses_mem ritz ncv fuel k i b h
  have hlast : ¬ (i + 1 < ncv) ↔ i + 1 = ncv := by omega
  rw [dbl, hc, Bool.true_and, Bool.and_eq_false_iff, decide_eq_false_iff_not, hlast]

/-- the executable model's `restart` folds `shiftStep` (UpperHessenbergQR for `(i, false)`, DoubleShiftQR for `(i, true)`,
    `compress_H`, `Q ← Q Qi`) over exactly these passes, then `compress_V` and `factorize_from(k, ncv)` -/
theorem c02_model_restart (op : Arnoldi.Op α) (k : Nat) (ritzVal : List (Cx α)) (s : Arnoldi.State α) :
    restartFac op ncv k ritzVal s =
      (let r := (shiftPasses (clistFn ritzVal) ncv (ncv - k) k).foldl (shiftStep (clistFn ritzVal)) (s, Lin.Mat.identity ncv)
       let s2 := Arnoldi.compress_V op r.1 r.2
       match Arnoldi.factorize_from op s2 k ncv with
       | some s3 => ⟨s3, s3.ops - s.ops, none⟩
       | none => ⟨s2, 0, some (.invalidArgument "Arnoldi: from_k is larger than the current subspace dimension")⟩) := rfl

end restart

/-- over an ordered field: a double pass uses `s = 2 Re μ`, `t = |μ|²`, and `x² − s x + t = (x − Re μ)² + (Im μ)²` is the product
    `(x − μ)(x − conj μ)` — the pair `μ, conj μ = ritz (i+1)` is applied by ONE real quadratic -/
theorem c02_restart_double_shift {K : Type} [Field K] [LinearOrder K] [IsStrictOrderedRing K] (F : FieldFns K)
    (ritz : Int → K × K) (ncv fuel k i : Nat)
    (h : (i, true) ∈ @GenSolver.shiftPasses K _ _ _ _ _ (scOfField F) ritz ncv fuel k) :
    ritz ((i : Int) + 1) = ((ritz (i : Int)).1, -(ritz (i : Int)).2) ∧ (ritz (i : Int)).2 ≠ 0 ∧
    ∀ x : K, x * x - (@GenSolver.two K (scOfField F) * (ritz (i : Int)).1) * x + Sc.cnorm (ritz (i : Int)) =
      (x - (ritz (i : Int)).1) ^ 2 + (ritz (i : Int)).2 ^ 2 := by
  obtain ⟨h1, h2⟩ := @C02L.shiftPasses_double_is_conj K _ _ _ _ _ (scOfField F) ritz ncv fuel k i h
  exact ⟨(C02L.is_conj_field F _ _).mp h2, (C02L.is_complex_field F _).mp h1, fun x => C02L.double_shift_poly F _ x⟩

/-! ### `c02_restart_schedule_full` (no P1) is false: counter-model = finding F9 -/

/-- P1 is satisfiable on the shift loop: one real value and one conjugate pair, passes `[(0, single), (1, double)]` -/
example : @GenSolver.shiftPasses ℚ _ _ _ _ _ (scOfField C02L.F0) (C02L.ofList [(3, 0), (1, 2), (1, -2)]) 3 3 0 = [(0, false), (1, true)] := by
  decide

/-- conjugates NOT adjacent (`[1+2i, 2+i, 1−2i, 2−i]`, a key tie under LargestMagn): four SINGLE passes although all four values are
    complex — every unwanted complex value is applied as the real shift `Re μ`, none as its own value (before /repo commit c0124c3
    the loop moreover read `m_ritz_val[ncv]` here: F9) -/
example :
    @GenSolver.shiftPasses ℚ _ _ _ _ _ (scOfField C02L.F0) (C02L.ofList [(1, 2), (2, 1), (1, -2), (2, -1)]) 4 4 0 =
      [(0, false), (1, false), (2, false), (3, false)] ∧
    (∀ i : Nat, i < 4 →
      @Gen.Restart.is_complex ℚ _ _ _ _ _ (scOfField C02L.F0) (C02L.ofList [(1, 2), (2, 1), (1, -2), (2, -1)] (i : Int)) = true) := by
  refine ⟨by decide, by decide⟩

end C02
