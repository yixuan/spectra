/-
  C18 — the eigenvalue ordering primitive is a correct permutation for every rule and tie.
  Theorems are about `Gen/Sort.lean` (regenerated from Util/SelectionRule.h, GenEigsBase.h, HermEigsBase.h on every run)
  and the `std::sort` model of `Prelude/Sort.lean`; exact arithmetic = any linearly ordered field `K`.
-/
import SpectraVerif.Gen.Sort
import SpectraVerif.Proofs.SortLemmas
import SpectraVerif.Proofs.ListFold
import SpectraVerif.Proofs.SortDispatch
import SpectraVerif.Proofs.ScField

namespace C18
open Gen.Sort SortLemmas

/-! ### which rules are accepted (pure integer statements about the generated dispatch) -/

/-- `argsort` (real values) accepts exactly LargestMagn(0), LargestAlge(3), SmallestMagn(4), SmallestAlge(7), BothEnds(8) -/
theorem c18_dispatch_real (sel : Int) :
    argsort_rule sel ≠ -1 ↔ (sel = 0 ∨ sel = 3 ∨ sel = 4 ∨ sel = 7 ∨ sel = 8) :=
  SortDispatch.argsort_rule_accepts sel

/-- an accepted rule sorts by its own key (BothEnds by the LargestAlge key), and that key is one the library defines -/
theorem c18_dispatch_real_rule (sel : Int) (h : sel = 0 ∨ sel = 3 ∨ sel = 4 ∨ sel = 7 ∨ sel = 8) :
    argsort_rule sel = (if sel = 8 then 3 else sel) ∧ keyReal_defined (argsort_rule sel) = true := by
  rcases h with (h | h | h | h | h) <;> subst h <;> decide

/-- general (complex Ritz value) solvers accept exactly the six Magn/Real/Imag rules, for selection and for sorting,
    and each accepted rule sorts by its own key -/
theorem c18_dispatch_complex (sel : Int) :
    (gen_select_rule sel ≠ -1 ↔ (sel = 0 ∨ sel = 1 ∨ sel = 2 ∨ sel = 4 ∨ sel = 5 ∨ sel = 6)) ∧
    (gen_sort_rule sel ≠ -1 ↔ (sel = 0 ∨ sel = 1 ∨ sel = 2 ∨ sel = 4 ∨ sel = 5 ∨ sel = 6)) :=
  SortDispatch.gen_rules_accept sel

theorem c18_dispatch_complex_rule (sel : Int) (h : sel = 0 ∨ sel = 1 ∨ sel = 2 ∨ sel = 4 ∨ sel = 5 ∨ sel = 6) :
    gen_select_rule sel = sel ∧ gen_sort_rule sel = sel ∧ keyCplx_defined sel = true := by
  rcases h with (h | h | h | h | h | h) <;> subst h <;> decide

/-- the symmetric solvers' final sorting accepts exactly LargestMagn, LargestAlge, SmallestMagn, SmallestAlge and
    rejects everything else (including BothEnds) with `std::invalid_argument` -/
theorem c18_herm_sorting_guard (r : Int) :
    (herm_sort_guard r = Res.ok () ↔ (r = 0 ∨ r = 3 ∨ r = 4 ∨ r = 7)) ∧
    (herm_sort_guard r ≠ Res.ok () → herm_sort_guard r = Res.throw "std::invalid_argument") :=
  SortDispatch.herm_sort_guard_accepts r

section field
variable {K : Type} [Field K] [LinearOrder K] [IsStrictOrderedRing K] (F : FieldFns K)

/-- a rejected rule throws `std::invalid_argument` instead of producing some order -/
theorem c18_argsort_throws (sel : Int) (values : Int → K) (len : Int) (h : argsort_rule sel = -1) :
    @argsort K _ _ _ _ _ (scOfField F) sel values len = Res.throw "std::invalid_argument" := by
  simp only [argsort, SortDispatch.argsort_rule_eq, h]
  simp

/-- the order `argsort` uses before BothEnds interleaving: the std::sort model on the rule's key -/
def baseOrder (sel : Int) (values : Int → K) (len : Int) : List Int :=
  sortIdxList (fun i j => decide (@keyReal K _ _ _ _ _ (scOfField F) (argsort_rule sel) (values i) <
                                  @keyReal K _ _ _ _ _ (scOfField F) (argsort_rule sel) (values j))) len

theorem c18_perm_base (sel : Int) (values : Int → K) (len : Int) :
    (baseOrder F sel values len).Perm (intRange 0 len) := sortIdxList_perm _ _

/-- along `baseOrder` the rule's key is non-decreasing: descending `|x|` for LargestMagn, descending `x` for LargestAlge
    (and BothEnds before interleaving), ascending `|x|` for SmallestMagn, ascending `x` for SmallestAlge; ties allowed -/
theorem c18_sorted (sel : Int) (values : Int → K) (len : Int) :
    (baseOrder F sel values len).Pairwise (fun a b =>
      (sel = 0 → |values b| ≤ |values a|) ∧ ((sel = 3 ∨ sel = 8) → values b ≤ values a) ∧
      (sel = 4 → |values a| ≤ |values b|) ∧ (sel = 7 → values a ≤ values b)) := by
  have hs := sortIdxList_sorted (fun i => @keyReal K _ _ _ _ _ (scOfField F) (argsort_rule sel) (values i)) len
  refine List.Pairwise.imp ?_ hs
  intro a b hab
  refine ⟨?_, ?_, ?_, ?_⟩
  · rintro rfl; exact neg_le_neg_iff.mp hab
  · rintro (rfl | rfl) <;> exact neg_le_neg_iff.mp hab
  · rintro rfl; exact hab
  · rintro rfl; exact hab

/-- what `argsort` returns for an accepted rule: the base order, interleaved for BothEnds as
    `ind[i] = base[i/2]` (i even) / `base[len-1-i/2]` (i odd) -/
theorem c18_argsort_value (sel : Int) (values : Int → K) (len : Int) (h : argsort_rule sel ≠ -1) :
    ∃ ind, @argsort K _ _ _ _ _ (scOfField F) sel values len = Res.ok ind ∧
      ∀ i, 0 ≤ i → i < len →
        ind i = if sel = 8 then
                  (if i % 2 = 0 then (baseOrder F sel values len).getD (i / 2).toNat 0
                   else (baseOrder F sel values len).getD (len - 1 - i / 2).toNat 0)
                else (baseOrder F sel values len).getD i.toNat 0 := by
  simp only [argsort, SortDispatch.argsort_rule_eq]
  simp only [decide_eq_true_eq, h, ↓reduceIte]
  refine ⟨_, rfl, ?_⟩
  intro i hi0 hi1
  by_cases h8 : sel = 8
  · subst h8
    simp only [↓reduceIte]
    -- push the `if` under `upd`, so that the loop has the shape of `foldl_upd_pointwise`
    have hfold : ∀ (f : Int → Int) (g : Int → Int),
        (intRange 0 len).foldl (fun ind i =>
          (if Int.tmod i 2 = 0 then upd ind i (f (Int.tdiv i 2)) else upd ind i (f (len - 1 - Int.tdiv i 2)))) g
        = (intRange 0 len).foldl (fun ind i => upd ind i (if Int.tmod i 2 = 0 then f (Int.tdiv i 2) else f (len - 1 - Int.tdiv i 2))) g := by
      intro f g; congr 1; funext ind i; by_cases hc : Int.tmod i 2 = 0 <;> simp [hc]
    rw [hfold, ListFold.foldl_upd]
    have hmem : i ∈ intRange 0 len := mem_intRange.mpr ⟨hi0, hi1⟩
    simp only [hmem, ↓reduceIte]
    have e1 : Int.tmod i 2 = i % 2 := by rw [Int.tmod_eq_emod_of_nonneg hi0]
    have e2 : Int.tdiv i 2 = i / 2 := Int.tdiv_eq_ediv_of_nonneg hi0
    rw [e1, e2]
    have hd0 : ¬ (i / 2 < 0) := by omega
    have hd1 : ¬ (len - 1 - i / 2 < 0) := by omega
    simp only [sortIdx_eq, baseOrder, hd0, hd1, if_false]
    rfl
  · have hi0' : ¬ (i < 0) := by omega
    simp only [h8, if_false, sortIdx_eq, baseOrder, hi0']
    rfl

/-- complex values (general solvers): the order used for an accepted rule `r` is a permutation along which
    `|z|` (r=0,4), `Re z` (r=1,5) or `|Im z|` (r=2,6) is descending (Largest*) resp. ascending (Smallest*) -/
def baseOrderC (r : Int) (values : Int → K × K) (len : Int) : List Int :=
  sortIdxList (fun i j => decide (@keyCplx K _ _ _ _ _ (scOfField F) r (values i) <
                                  @keyCplx K _ _ _ _ _ (scOfField F) r (values j))) len

theorem c18_perm_complex (r : Int) (values : Int → K × K) (len : Int) :
    (baseOrderC F r values len).Perm (intRange 0 len) := sortIdxList_perm _ _

theorem c18_sorted_complex (r : Int) (values : Int → K × K) (len : Int) :
    (baseOrderC F r values len).Pairwise (fun a b =>
      (r = 0 → F.sqrt ((values b).1 * (values b).1 + (values b).2 * (values b).2) ≤
               F.sqrt ((values a).1 * (values a).1 + (values a).2 * (values a).2)) ∧
      (r = 1 → (values b).1 ≤ (values a).1) ∧ (r = 2 → |(values b).2| ≤ |(values a).2|) ∧
      (r = 4 → F.sqrt ((values a).1 * (values a).1 + (values a).2 * (values a).2) ≤
               F.sqrt ((values b).1 * (values b).1 + (values b).2 * (values b).2)) ∧
      (r = 5 → (values a).1 ≤ (values b).1) ∧ (r = 6 → |(values a).2| ≤ |(values b).2|)) := by
  have hs := sortIdxList_sorted (fun i => @keyCplx K _ _ _ _ _ (scOfField F) r (values i)) len
  refine List.Pairwise.imp ?_ hs
  intro a b hab
  refine ⟨?_, ?_, ?_, ?_, ?_, ?_⟩ <;> rintro rfl
  · exact neg_le_neg_iff.mp hab
  · exact neg_le_neg_iff.mp hab
  · exact neg_le_neg_iff.mp hab
  · exact hab
  · exact hab
  · exact hab

end field

/-! ### BothEnds: for every k, the first k positions hold ⌈k/2⌉ entries from the top and ⌊k/2⌋ from the bottom -/

/-- the interleaving, as a function of the base order `l` (any function) -/
def interleave (l : Int → Int) (len : Int) (i : Int) : Int := if i % 2 = 0 then l (i / 2) else l (len - 1 - i / 2)

theorem c18_bothends (l : Int → Int) (len : Int) (k : Nat) :
    ((List.range k).map (fun i : Nat => interleave l len i)).Perm
      (((List.range ((k + 1) / 2)).map (fun j : Nat => l j)) ++
       ((List.range (k / 2)).map (fun j : Nat => l (len - 1 - j)))) := by
  induction k with
  | zero => simp
  | succ k ih =>
    rw [List.range_succ, List.map_append, List.map_cons, List.map_nil]
    refine (List.Perm.append_right _ ih).trans ?_
    rcases Nat.mod_two_eq_zero_or_one k with h | h
    · -- k even: the new element is `l (k/2)`, taken from the top
      have e : interleave l len (k : Nat) = l ((k / 2 : Nat) : Int) := by
        simp only [interleave]; rw [if_pos (by omega)]; congr 1
      rw [e, show (k + 1 + 1) / 2 = k / 2 + 1 by omega, show (k + 1) / 2 = k / 2 by omega, List.range_succ, List.map_append,
        List.map_cons, List.map_nil, List.append_assoc, List.append_assoc]
      exact List.Perm.append_left _ List.perm_append_comm
    · -- k odd: the new element is `l (len-1-k/2)`, taken from the bottom
      have e : interleave l len (k : Nat) = l (len - 1 - ((k / 2 : Nat) : Int)) := by
        simp only [interleave]; rw [if_neg (by omega)]; congr 1
      rw [e, show (k + 1 + 1) / 2 = k / 2 + 1 by omega, show (k + 1) / 2 = k / 2 + 1 by omega, List.range_succ]
      simp only [List.map_append, List.map_cons, List.map_nil, List.append_assoc]
      exact List.Perm.refl _

/-- in particular the interleaved array is again a permutation of the base order's entries (k = len) -/
theorem c18_bothends_perm (l : Int → Int) (n : Nat) :
    ((List.range n).map (fun i : Nat => interleave l n i)).Perm ((List.range n).map (fun j : Nat => l j)) := by
  refine (c18_bothends l n n).trans ?_
  -- top ⌈n/2⌉ entries followed by the bottom ⌊n/2⌋ entries (reversed) enumerate 0..n-1
  have hsplit : (List.range n) = (List.range ((n + 1) / 2)) ++ (List.range' ((n + 1) / 2) (n / 2)) := by
    have hn : n = (n + 1) / 2 + n / 2 := by omega
    conv_lhs => rw [hn]
    rw [List.range_eq_range', List.range_eq_range', ← List.range'_append_1]; simp
  have hrev : ((List.range (n / 2)).map (fun j : Nat => l ((n : Int) - 1 - j))).Perm
      ((List.range' ((n + 1) / 2) (n / 2)).map (fun j : Nat => l j)) := by
    have : (List.range (n / 2)).map (fun j : Nat => l ((n : Int) - 1 - j)) =
        ((List.range (n / 2)).map (fun j : Nat => n - 1 - j)).map (fun j : Nat => l j) := by
      rw [List.map_map]; apply List.map_congr_left; intro j hj
      have : j < n / 2 := List.mem_range.mp hj
      simp only [Function.comp]; congr 1; omega
    rw [this]
    apply List.Perm.map
    have hre : (List.range (n / 2)).map (fun j : Nat => n - 1 - j) = (List.range' ((n + 1) / 2) (n / 2)).reverse := by
      rw [List.reverse_range']
      exact List.map_congr_left fun j _ => by omega
    rw [hre]; exact List.reverse_perm _
  conv_rhs => rw [hsplit, List.map_append]
  exact List.Perm.append_left _ hrev

-- non-vacuity / sanity on concrete data
example : interleave (fun i => 10 + i) 5 0 = 10 ∧ interleave (fun i => 10 + i) 5 1 = 14 ∧
    interleave (fun i => 10 + i) 5 2 = 11 ∧ interleave (fun i => 10 + i) 5 3 = 13 ∧ interleave (fun i => 10 + i) 5 4 = 12 := by decide

end C18
