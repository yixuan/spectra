/-
  `GenSolver.computeWith`: `Orch.compute` with a state-dependent step in front of the final sort.  It stands in a module of its
  own, below `Model/GenSolver.lean` (which instantiates it for `GenEigsComplexShiftSolver`) and below the noninterference lemmas
  of `Proofs/OrchNonint.lean` (which are proved about it once, `Orch.compute` being the case `pre = id`).
-/
import SpectraVerif.Model.Orch

namespace GenSolver

/-- `Orch.compute` with one extra, state-dependent step `pre` between the flag refresh and `sort_ritzpair` (the prologue of a
    derived class's `sort_ritzpair` override that needs more than the Ritz values).  Statement for statement the text of `Orch.compute`. -/
def computeWith {φ ρ ε κ β τ ω : Type} (K : Orch.Kern φ ρ ε κ β τ ω) (c : Orch.Cfg) (pre : Orch.St φ ρ ε κ → Orch.St φ ρ ε κ)
    (sel : Int) (maxit : Nat) (tol : τ) (sorting : Int) (s : Orch.St φ ρ ε κ) : Orch.CompRes φ ρ ε κ :=
  let r := K.factorize (max 1 (K.facDim s.fac)) c.ncv s.fac
  let s1 := { s with fac := r.fac, nmatop := s.nmatop + r.ops }
  match r.exn with
  | some e => ⟨s1, .error e, 0, 0⟩
  | none =>
    match Orch.retrieve K c sel s1 with
    | (s2, some e) => ⟨s2, .error e, 0, 0⟩
    | (s2, none) =>
      let L := Orch.loop K c sel tol maxit 0 0 0 s2
      match L.exn with
      | some e => ⟨L.st, .error e, L.i, L.restarts⟩
      | none =>
        let F := Orch.refresh K c tol maxit L
        match Orch.sortRitz K c sorting (pre F.1) with
        | (s4, some e) => ⟨s4, .error e, L.i, L.restarts⟩
        | (s4, none) =>
          ⟨{ s4 with niter := s4.niter + (L.i + 1),
                     info := if F.2 ≥ c.nev then .successful else .notConverging },
            .ok (min c.nev F.2), L.i, L.restarts⟩

theorem computeWith_id {φ ρ ε κ β τ ω : Type} (K : Orch.Kern φ ρ ε κ β τ ω) (c : Orch.Cfg)
    (sel : Int) (maxit : Nat) (tol : τ) (sorting : Int) (s : Orch.St φ ρ ε κ) :
    computeWith K c id sel maxit tol sorting s = Orch.compute K c sel maxit tol sorting s := rfl

end GenSolver
