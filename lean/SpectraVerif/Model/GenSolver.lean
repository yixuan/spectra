/-
  The fully numeric instance of the orchestration model for the GENERAL (nonsymmetric) family: `GenEigsSolver`,
  `GenEigsRealShiftSolver`, `GenEigsComplexShiftSolver` (GenEigsBase.h and the three derived headers), real scalar, complex Ritz data
  as pairs over the real scalar (`std::complex<Scalar>` = `α × α`).

  `genKern` is an `Orch.Kern` built from the executable kernel models
      `Arnoldi.init / factorize_from / compress_H / compress_V`  (Model/Arnoldi)
      `QRModel.UpperHessenbergQR`  (single real shift)            (Model/HessQR)
      `QRModel.DoubleShiftQR`      (conjugate pair of shifts)     (Model/DoubleShiftQR)
      `HessEigen.compute / eigenvalues / eigenvectors`            (Model/HessEigen, Model/HessSchur)
  and from the source-translated decision kernels `Gen.Sort.keyCplx / gen_select_rule / gen_sort_rule`,
  `Gen.Restart.genNevAdj / is_complex / is_conj`, `Gen.Rand.*`.

  * `Orch.compute (genKern …)` is an executable model of `GenEigsBase::compute` for `GenEigsSolver` (`back = id`) and for
    `GenEigsRealShiftSolver` (`back = realShiftBack sigma`: `Scalar(1) / nu + sigma` as libstdc++/libgcc evaluate it).
  * `GenEigsComplexShiftSolver::sort_ritzpair` needs the factorization, the Ritz vectors and the user's operator at a probe shift,
    which `Orch.Kern.backTransform : List ρ → List ρ` cannot see; `computeWith` is `Orch.compute` with one extra state-dependent
    step `pre` in front of `Orch.sortRitz` (`computeWith_id`: with `pre = id` it IS `Orch.compute`), and `csBack` is that step:
    probe shift from `SimpleRandom(0)`, the two roots of the quadratic, root selection by the probe residuals, and the
    conjugate-pair loop `pairLoop` (`if (nu.imag() != 0) { m_ritz_val[i + 1] = conj(lambda); i++; }`: the pair test is on the
    transformed Ritz value, repair of finding F14).  The operator at the probe shift enters as an explicit
    function (`probe`): the harness supplies `Re[(A - r I)^{-1}]` for every shift the solver installs.
  * theorem-facing pieces are separate pure functions: `shiftPasses` (single/double-shift schedule of `restart`), `pairLoop`,
    `csRoots`, `realShiftBack`.

  libstdc++ / libgcc / glibc arithmetic reproduced here (validated bit for bit by the `gen` and `ckern` correspondence streams):
  `std::norm(z) = re² + im²`; `T / complex = __divdc3(T, 0, c, d)` (`HessEigen.cdiv`); `T - complex = (-re + T, -im)`;
  `complex * complex = (ac - bd, ad + bc)` (`__muldc3`, finite path); `T * complex` scales both parts;
  `std::sqrt(complex)` = glibc `csqrt` (2.36; the rescaling branches for |z| > DBL_MAX/4 and |z| < 2 DBL_MIN are not modelled).
  Core Lean only.
-/
import SpectraVerif.Model.Orch
import SpectraVerif.Model.OrchWith
import SpectraVerif.Model.Arnoldi
import SpectraVerif.Model.HessQR
import SpectraVerif.Model.DoubleShiftQR
import SpectraVerif.Model.HessEigen
import SpectraVerif.Gen.Sort
import SpectraVerif.Gen.Restart
import SpectraVerif.Gen.Rand
import SpectraVerif.Prelude.Sort

namespace GenSolver
open Lin

/-! ## pieces that do not depend on the scalar -/

/-- the `for (i = 0; i < nev; i++)` loop of `GenEigsComplexShiftSolver::sort_ritzpair` over the slots of `m_ritz_val`:
    `pick i nu` is the eigenvalue `lambdaj` chosen for slot `i` from the transformed value `nu = m_ritz_val[i]` (root selection),
    `isPair nu` is the pair test `nu.imag() != Scalar(0)` — decided on the TRANSFORMED value (repair of finding F14; before it the
    test was `abs(imag(lambdaj)) > eps` on the selected root) —, `cj` complex conjugation, `re` the projection
    `Complex(real(lambda), 0)`.  First argument: fuel (`nev` suffices: the index grows by at least one per pass). -/
def pairLoop {ρ : Type} (pick : Nat → ρ → ρ) (isPair : ρ → Bool) (cj re : ρ → ρ) (nev : Nat) (dflt : ρ) :
    Nat → Nat → List ρ → List ρ
  | 0, _, v => v
  | fuel + 1, i, v =>
    if i < nev then
      let lam := pick i (v.getD i dflt)
      if isPair (v.getD i dflt) then pairLoop pick isPair cj re nev dflt fuel (i + 2) ((v.set i lam).set (i + 1) (cj lam))
      else pairLoop pick isPair cj re nev dflt fuel (i + 1) (v.set i (re lam))
    else v

/-- the slots the loop body is executed for (the loop index at every evaluation of the body); it no longer depends on the root
    selection -/
def pairVisits {ρ : Type} (isPair : ρ → Bool) (nev : Nat) (dflt : ρ) (v : List ρ) : Nat → Nat → List Nat
  | 0, _ => []
  | fuel + 1, i =>
    if i < nev then
      if isPair (v.getD i dflt) then i :: pairVisits isPair nev dflt v fuel (i + 2)
      else i :: pairVisits isPair nev dflt v fuel (i + 1)
    else []

section
variable {α : Type} [Add α] [Sub α] [Mul α] [Div α] [Neg α] [Sc α]

abbrev Cx (α : Type) := α × α

@[inline] def czero : Cx α := (zero, zero)
@[inline] def two : α := Sc.ofInt 2
@[inline] def half : α := Sc.lit 5 (-1)

/-- array-as-function view used by the translated kernels -/
def clistFn (l : List (Cx α)) : Int → Cx α := fun i => if i < 0 then czero else l.getD i.toNat czero

/-! ## complex arithmetic as libstdc++ / libgcc / glibc perform it -/

def cadd (z w : Cx α) : Cx α := (z.1 + w.1, z.2 + w.2)
def csub (z w : Cx α) : Cx α := (z.1 - w.1, z.2 - w.2)
/-- `__muldc3` (finite path) -/
def cmul (z w : Cx α) : Cx α := (z.1 * w.1 - z.2 * w.2, z.1 * w.2 + z.2 * w.1)
/-- `complex / complex` -/
def cdivc (z w : Cx α) : Cx α := HessEigen.cdiv z.1 z.2 w.1 w.2
/-- `T / complex`: `complex<T> r = x; r /= y` -/
def rdivc (x : α) (w : Cx α) : Cx α := HessEigen.cdiv x zero w.1 w.2
/-- `T * complex` -/
def rmulc (x : α) (w : Cx α) : Cx α := (w.1 * x, w.2 * x)
/-- `T + complex` / `complex + T` -/
def raddc (x : α) (w : Cx α) : Cx α := (w.1 + x, w.2)
/-- `T - complex`: `complex<T> r = -y; r += x` -/
def rsubc (x : α) (w : Cx α) : Cx α := (-w.1 + x, -w.2)

/-- IEEE sign bit of a non-NaN value (distinguishes `-0`: `1 / -0 = -inf`) -/
def signbit (x : α) : Bool := Sc.lt x zero || (Sc.eq x zero && Sc.lt (one / x) zero)
def copysign (v s : α) : α := if signbit s then -(Sc.abs v) else Sc.abs v

/-- glibc 2.36 `csqrt` (math/s_csqrt_template.c), finite arguments, without the rescaling branches -/
def csqrt (z : Cx α) : Cx α :=
  let x := z.1; let y := z.2
  if Sc.eq y zero then
    if Sc.lt x zero then (zero, copysign (Sc.sqrt (-x)) y)
    else (Sc.abs (Sc.sqrt x), copysign zero y)
  else if Sc.eq x zero then
    let r : α := if Sc.ge (Sc.abs y) (two * Sc.minPos) then Sc.sqrt (half * Sc.abs y) else half * Sc.sqrt (two * Sc.abs y)
    (r, copysign r y)
  else
    let d := Sc.cabs (x, y)
    if Sc.gt x zero then
      let r := Sc.sqrt (half * (d + x))
      let s := half * (y / r)
      (r, copysign s y)
    else
      let s := Sc.sqrt (half * (d - x))
      let r := Sc.abs (half * (y / s))
      (r, copysign s y)

/-! ## sorting (the `SortEigenvalue<Complex, Rule>` switches) -/

/-- `SortEigenvalue<Complex, rule>(vals, n)`: `std::sort` of the indices by `key(i) < key(j)` (stable insertion sort model: exact
    for at most 16 elements in libstdc++) -/
def sortEigIdx (rule : Int) (vals : List (Cx α)) (n : Nat) : List Nat :=
  let f := clistFn vals
  (sortIdxList (fun i j => Sc.lt (Gen.Sort.keyCplx rule (f i)) (Gen.Sort.keyCplx rule (f j))) (n : Int)).map Int.toNat

/-- the switch of `retrieve_ritzpair` -/
def selectIdx (sel : Int) (vals : List (Cx α)) (n : Nat) : Except Orch.Exn (List Nat) :=
  let r := Gen.Sort.gen_select_rule sel
  if r = -1 then .error (.invalidArgument "unsupported selection rule") else .ok (sortEigIdx r vals n)

/-- the switch of `sort_ritzpair` -/
def sortRuleIdx (rule : Int) (vals : List (Cx α)) (n : Nat) : Except Orch.Exn (List Nat) :=
  let r := Gen.Sort.gen_sort_rule rule
  if r = -1 then .error (.invalidArgument "unsupported sorting rule") else .ok (sortEigIdx r vals n)

/-! ## restart -/

/-- the passes of the shift loop of `GenEigsBase::restart`: `(i, double)` for every execution of the loop body, `double` = the
    conjugate-pair branch (which ends with the extra `i++`), taken when
    `is_complex(m_ritz_val[i]) && i + 1 < m_ncv && is_conj(m_ritz_val[i], m_ritz_val[i + 1])` (the bound test is the repair of
    finding F9, /repo commit c0124c3: an unpaired complex value in the last slot goes to the single-shift branch).
    First argument: fuel (`ncv - k` suffices). -/
def shiftPasses (ritz : Int → Cx α) (ncv : Nat) : Nat → Nat → List (Nat × Bool)
  | 0, _ => []
  | fuel + 1, i =>
    if i < ncv then
      if Gen.Restart.is_complex (ritz i) && decide (i + 1 < ncv) && Gen.Restart.is_conj (ritz i) (ritz ((i : Int) + 1)) then
        (i, true) :: shiftPasses ritz ncv fuel (i + 2)
      else (i, false) :: shiftPasses ritz ncv fuel (i + 1)
    else []

/-- the indices of `m_ritz_val` a pass evaluates: `i`, and `i + 1` when the first two conjuncts of the branch condition hold -/
def passReads (ritz : Int → Cx α) (ncv : Nat) (p : Nat × Bool) : List Nat :=
  if Gen.Restart.is_complex (ritz p.1) && decide (p.1 + 1 < ncv) then [p.1, p.1 + 1] else [p.1]

/-- one pass: QR step with the shift(s), `Q ← Q Qi`, `H ← Qi' H Qi`, `m_k -= 1 resp. 2` -/
def shiftStep (ritz : Int → Cx α) (acc : Arnoldi.State α × Mat α) (p : Nat × Bool) : Arnoldi.State α × Mat α :=
  let z := ritz p.1
  if p.2 then
    let s : α := two * z.1
    let t : α := Sc.cnorm z
    let d := QRModel.DoubleShiftQR.compute acc.1.H s t
    (Arnoldi.compress_H acc.1 d.matrix_QtHQ 2, d.apply_YQ acc.2)
  else
    let d := QRModel.UpperHessenbergQR.compute acc.1.H z.1
    (Arnoldi.compress_H acc.1 d.matrix_QtHQ 1, d.apply_YQ acc.2)

/-- the part of `GenEigsBase::restart` between the `k >= ncv` guard and `retrieve_ritzpair` -/
def restartFac (op : Arnoldi.Op α) (ncv k : Nat) (ritzVal : List (Cx α)) (s : Arnoldi.State α) : Orch.FacRes (Arnoldi.State α) :=
  let ritz := clistFn ritzVal
  let passes := shiftPasses ritz ncv (ncv - k) k
  let (s1, Q) := passes.foldl (shiftStep ritz) (s, Mat.identity ncv)
  let s2 := Arnoldi.compress_V op s1 Q
  match Arnoldi.factorize_from op s2 k ncv with
  | some s3 => ⟨s3, s3.ops - s.ops, none⟩
  | none => ⟨s2, 0, some (.invalidArgument "Arnoldi: from_k is larger than the current subspace dimension")⟩

/-! ## the other kernels -/

/-- one entry of `num_converged`: `abs(est) * f_norm < tol * max(abs(theta), eps23)` with complex `abs` -/
def convTest (eps23 : α) (tol : α) (s : Arnoldi.State α) (theta est : Cx α) : Bool :=
  let a := Sc.cabs theta
  let thresh := tol * (if Sc.lt a eps23 then eps23 else a)
  let resid := Sc.cabs est * s.beta
  Sc.lt resid thresh

/-- `UpperHessenbergEigen<Scalar> decomp(m_fac.matrix_H())`: eigenvalues, last row of the eigenvector matrix, eigenvector columns -/
def eigH (ncv : Nat) (s : Arnoldi.State α) : Except Orch.Exn (List (Cx α) × List (Cx α) × List (Vec (Cx α))) :=
  match HessEigen.compute ncv s.H with
  | .throw _ => .error (.runtimeError "UpperHessenbergSchur: Schur decomposition failed")
  | .ok r =>
    let cols := HessEigen.eigenvectors r
    .ok ((HessEigen.eigenvalues r).toList, cols.map (fun col => col.getD (ncv - 1) czero), cols)

/-- `m_fac.matrix_V() * y` for a complex coefficient column (real and imaginary parts separately) -/
def assemble (ncv : Nat) (s : Arnoldi.State α) (y : Vec (Cx α)) : Vec (Cx α) :=
  let re := Arnoldi.mulVecK0 s.V ncv (y.map (·.1))
  let im := Arnoldi.mulVecK0 s.V ncv (y.map (·.2))
  Array.ofFn (n := re.size) (fun i => (vget re i.val, vget im i.val))

/-- `GenEigsRealShiftSolver::sort_ritzpair`: `lambda = Scalar(1) / nu + sigma` -/
def realShiftBack (sigma : α) (nu : Cx α) : Cx α := raddc sigma (rdivc one nu)

/-- the kernels of the general family; `back` is the derived class's transformation of each of the first `nev` Ritz values
    (`id` for `GenEigsSolver`, `realShiftBack sigma` for `GenEigsRealShiftSolver`, `id` for `GenEigsComplexShiftSolver`, whose
    transformation is state-dependent: `csBack` through `computeWith`) -/
def genKern (op : Arnoldi.Op α) (c : Orch.Cfg) (eps23 : α) (back : Cx α → Cx α) :
    Orch.Kern (Arnoldi.State α) (Cx α) (Cx α) (Vec (Cx α)) (Vec α) α (Vec (Cx α)) :=
  { zeroρ := czero, zeroε := czero, zeroκ := Array.replicate c.ncv czero,
    facInit := fun v0 s =>
      match Arnoldi.init op { s with ops := 0 } v0 with
      | some s' => ⟨s', s'.ops, none⟩
      | none => ⟨s, 0, some (.invalidArgument "initial residual vector cannot be zero")⟩,
    factorize := fun a b s =>
      match Arnoldi.factorize_from op s a b with
      | some s' => ⟨s', s'.ops - s.ops, none⟩
      | none => ⟨s, 0, some (.invalidArgument "Arnoldi: from_k is larger than the current subspace dimension")⟩,
    facDim := fun s => s.k,
    eig := eigH c.ncv,
    select := selectIdx,
    convTest := convTest eps23,
    nevAdj := fun c nconv ritzVal ritzEst =>
      (Gen.Restart.genNevAdj (c.nev : Int) (c.ncv : Int) (clistFn ritzEst) (clistFn ritzVal) (nconv : Int)).toNat,
    restartFac := fun k ritzVal s => restartFac op c.ncv k ritzVal s,
    backTransform := fun l => l.map back,
    sortIdx := sortRuleIdx,
    assemble := assemble c.ncv }

/-! ## `GenEigsComplexShiftSolver::sort_ritzpair` -/

/-- `SimpleRandom<Scalar> rng(0); shiftr = rng.random() * sigmar + rng.random()` (first call first) -/
def probeShift (sigmar : α) : α :=
  let s0 := Gen.Rand.seed_norm 0
  let (s1, r1) := Gen.Rand.draw (α := α) s0
  let (_, r2) := Gen.Rand.draw (α := α) s1
  r1 * sigmar + r2

/-- the two candidates for one transformed value `nu` (repair 0117f45 of the cancellation at `nu ≈ 0`, finding C02-resigma-cancellation):
    `sqrt_disc = sqrt(1 - 4 σi² nu²)`, `root1 = root_part1 + root_part2 = (σr + 0.5/nu) + 0.5 * sqrt_disc / nu` as before, and
    `root2 = m_sigmar + (Scalar(2) * m_sigmai * m_sigmai) * nu / (Scalar(1) + sqrt_disc)` (product of the roots = σi²; equal to
    `root_part1 - root_part2` over a field, `Properties/C02.c02_quadratic_root2`; exactly `σr` for `nu = 0`), with the C++ association
    `σr + (((2 σi) σi) * nu) / (1 + sqrt_disc)` and ONE square-root value shared by both roots -/
def csRoots (sigmar sigmai : α) (nu : Cx α) : Cx α × Cx α :=
  let c : α := ((Sc.ofInt 4 : α) * sigmai) * sigmai
  let sqrtDisc := csqrt (rsubc one (rmulc c (cmul nu nu)))
  let part1 := raddc sigmar (rdivc half nu)
  let part2 := cdivc (rmulc half sqrtDisc) nu
  let c2 : α := ((Sc.ofInt 2 : α) * sigmai) * sigmai
  (cadd part1 part2, raddc sigmar (cdivc (rmulc c2 nu) (raddc one sqrtDisc)))

/-- `err = Σ_k norm(OPv_k - v_k / (root - shift))` -/
def probeErr (n : Nat) (vr vi opr opi : Vec α) (root : Cx α) (shiftr : α) : α :=
  let den := csub root (shiftr, zero)
  (List.range n).foldl (fun err k =>
    let rhs := cdivc (vget vr k, vget vi k) den
    err + Sc.cnorm (csub (vget opr k, vget opi k) rhs)) zero

/-- the eigenvalue chosen for slot `i`: both roots are tested against the operator at the real probe shift -/
def csPick (probe : Vec α → Vec α) (n ncv : Nat) (sigmar sigmai shiftr : α) (V : Mat α) (ritzVec : List (Vec (Cx α)))
    (i : Nat) (nu : Cx α) : Cx α :=
  let y := ritzVec.getD i #[]
  let vr := Arnoldi.mulVecK0 V ncv (y.map (·.1))
  let vi := Arnoldi.mulVecK0 V ncv (y.map (·.2))
  let opr := probe vr
  let opi := probe vi
  let roots := csRoots sigmar sigmai nu
  let err1 := probeErr n vr vi opr opi roots.1 shiftr
  let err2 := probeErr n vr vi opr opi roots.2 shiftr
  if Sc.lt err1 err2 then roots.1 else roots.2

/-- the new `m_ritz_val` after the prologue of `GenEigsComplexShiftSolver::sort_ritzpair` -/
def csBack (probe : Vec α → Vec α) (c : Orch.Cfg) (sigmar sigmai : α)
    (s : Orch.St (Arnoldi.State α) (Cx α) (Cx α) (Vec (Cx α))) : List (Cx α) :=
  let shiftr := probeShift sigmar
  pairLoop (csPick probe c.n c.ncv sigmar sigmai shiftr s.fac.V s.ritzVec)
    (fun nu => Sc.ne nu.2 zero) Sc.conj (fun lam => (lam.1, zero)) c.nev czero c.nev 0 s.ritzVal

/-- number of operator applications at the probe shift made by the prologue (two per visited slot; not counted in `m_nmatop`) -/
def csProbeCount (c : Orch.Cfg) (s : Orch.St (Arnoldi.State α) (Cx α) (Cx α) (Vec (Cx α))) : Nat :=
  2 * (pairVisits (fun nu : Cx α => Sc.ne nu.2 zero) c.nev czero s.ritzVal c.nev 0).length

/-- `GenEigsComplexShiftSolver::compute` -/
def computeCS (op : Arnoldi.Op α) (probe : Vec α → Vec α) (c : Orch.Cfg) (eps23 sigmar sigmai : α)
    (sel : Int) (maxit : Nat) (tol : α) (sorting : Int) (s : Orch.St (Arnoldi.State α) (Cx α) (Cx α) (Vec (Cx α))) :
    Orch.CompRes (Arnoldi.State α) (Cx α) (Cx α) (Vec (Cx α)) :=
  computeWith (genKern op c eps23 id) c (fun st => { st with ritzVal := csBack probe c sigmar sigmai st }) sel maxit tol sorting s

end
end GenSolver
