/-
  `ExactKernelsOn`: the exact-arithmetic kernel specifications of `C01E.ExactKernels`, RELATIVISED to an invariant `Inv : φ → Prop`
  on the factorization object that the kernels preserve AS THEY ARE CALLED by `Orch.init` / `Orch.compute`
  (helper file of Properties/C01.lean).

  `ExactKernels` asks for its specifications on EVERY factorization object, every `factorize a b`, every `restartFac k`; the real
  numeric kernels do not meet that (malformed arrays; `factorize a b` with `a <` current dimension; `restartFac 0`).  But
  `Orch.compute` only ever calls
      `K.factorize (max 1 (K.facDim s.fac)) c.ncv s.fac`                          and
      `K.restartFac k s.ritzVal s.fac`  with `k = K.nevAdj c nconv s.ritzVal s.ritzEst`, `k < c.ncv`,
  the latter on a state whose factorization came out of a non-throwing `factorize … c.ncv` or a non-throwing earlier `restartFac`
  (dimension `ncv`).  The history theorems are proved here under specifications that are only required on `Inv`, for exactly
  those calls.
-/
import SpectraVerif.Proofs.C01Exact
import SpectraVerif.Proofs.C01ExactOrth

set_option linter.unusedSectionVars false

open Finset Matrix

namespace C01E
open Orch C07 C01O C01B C01M

variable {φ ρ ε κ β τ ω : Type} {F : Type} [Field F] [LinearOrder F] [IsStrictOrderedRing F]

/-- exact-arithmetic specifications of the kernels of `K` for the operator `M`, required only on the invariant `Inv` and only for
    the calls `Orch.init` / `Orch.compute` make -/
structure ExactKernelsOn (K : Kern φ ρ ε κ β τ ω) (c : Cfg) (n : ℕ) (M : Matrix (Fin n) (Fin n) F) (eps23 : F)
    (Inv : φ → Prop) (Start : β → Prop) where
  abs : φ → C07.St F (Fin n → F)
  fnorm : φ → F
  val : ρ → F
  est : ε → F
  vec : κ → ℕ → F
  out : ω → Fin n → F
  tolv : τ → F
  back : F → F
  ncv_pos : 0 < c.ncv
  nev_le : c.nev ≤ c.ncv
  /-- on the invariant the exact Krylov relation holds at the advertised dimension -/
  inv_good : ∀ fac, Inv fac → Good (opOf M) (abs fac)
  /-- `init` with an admissible start vector keeps the invariant (also when it throws) -/
  inv_init : ∀ v0 fac, Start v0 → Inv fac → Inv (K.facInit v0 fac).fac
  /-- the one `factorize_from` call of `compute` keeps the invariant (also when it throws) -/
  inv_factorize : ∀ fac, Inv fac → Inv (K.factorize (max 1 (K.facDim fac)) c.ncv fac).fac
  /-- … and ends at dimension `ncv` when it does not throw -/
  factorize_full : ∀ fac, Inv fac → (K.factorize (max 1 (K.facDim fac)) c.ncv fac).exn = none →
      (abs (K.factorize (max 1 (K.facDim fac)) c.ncv fac).fac).k = c.ncv
  /-- a restart from a full factorization with `0 < k < ncv` keeps the invariant (also when it throws) and ends at dimension `ncv`
      when it does not throw -/
  inv_restart : ∀ k vals fac, Inv fac → (abs fac).k = c.ncv → 0 < k → k < c.ncv →
      Inv (K.restartFac k vals fac).fac ∧
      ((K.restartFac k vals fac).exn = none → (abs (K.restartFac k vals fac).fac).k = c.ncv)
  nevAdj_pos : ∀ nconv rv re, 0 < K.nevAdj c nconv rv re
  fnorm_spec : ∀ fac, Inv fac → 0 ≤ fnorm fac ∧ fnorm fac * fnorm fac = nsq (abs fac).f
  eig_spec : ∀ fac evals lastRow cols, Inv fac → (abs fac).k = c.ncv → K.eig fac = .ok (evals, lastRow, cols) → ∀ j, j < c.ncv →
      (∀ i, i < c.ncv → ∑ a ∈ range c.ncv, (abs fac).H i a * vec (cols.getD j K.zeroκ) a
          = val (evals.getD j K.zeroρ) * vec (cols.getD j K.zeroκ) i) ∧
      est (lastRow.getD j K.zeroε) = vec (cols.getD j K.zeroκ) (c.ncv - 1)
  select_lt : ∀ sel evals ind, K.select sel evals c.ncv = .ok ind → ∀ i, i < c.ncv → ind.getD i 0 < c.ncv
  sort_lt : ∀ rule vals ind, K.sortIdx rule vals c.nev = .ok ind → ∀ i, i < c.nev → ind.getD i 0 < c.nev
  conv_spec : ∀ tol fac θ e, Inv fac → K.convTest tol fac θ e = true → |est e| * fnorm fac < tolv tol * max eps23 |val θ|
  assemble_spec : ∀ fac y, Inv fac → out (K.assemble fac y) = ∑ j ∈ range c.ncv, vec y j • (abs fac).V j
  back_spec : ∀ l : List ρ, l.length = c.nev → (K.backTransform l).length = c.nev ∧
      ∀ i, i < c.nev → val ((K.backTransform l).getD i K.zeroρ) = back (val (l.getD i K.zeroρ))

/-- the `init` calls of a history use admissible start vectors -/
def StartsOk (Start : β → Prop) : List (Call β τ) → Prop
  | [] => True
  | .init v0 :: rest => Start v0 ∧ StartsOk Start rest
  | .compute _ _ _ _ :: rest => StartsOk Start rest

variable {K : Kern φ ρ ε κ β τ ω} {c : Cfg} {n : ℕ} {M : Matrix (Fin n) (Fin n) F} {eps23 : F}
  {Inv : φ → Prop} {Start : β → Prop}

/-- the invariant at full dimension: what holds after a non-throwing `factorize … ncv` and after a non-throwing restart -/
def FullOn (X : ExactKernelsOn K c n M eps23 Inv Start) (fac : φ) : Prop := Inv fac ∧ (X.abs fac).k = c.ncv

/-- what `C01O.compute_final` and `C01O.compute_fac_invariant` ask of the one `factorize` call and of the restarts -/
theorem ExactKernelsOn.factorize_fullOn (X : ExactKernelsOn K c n M eps23 Inv Start) (fac : φ) (h : Inv fac) :
    Inv (K.factorize (max 1 (K.facDim fac)) c.ncv fac).fac ∧
    ((K.factorize (max 1 (K.facDim fac)) c.ncv fac).exn = none → FullOn X (K.factorize (max 1 (K.facDim fac)) c.ncv fac).fac) :=
  ⟨X.inv_factorize fac h, fun hex => ⟨X.inv_factorize fac h, X.factorize_full fac h hex⟩⟩

theorem ExactKernelsOn.restart_fullOn (X : ExactKernelsOn K c n M eps23 Inv Start) (nconv : Nat) (rv : List ρ) (re : List ε)
    (vals : List ρ) (fac : φ) (h : FullOn X fac) (hk : K.nevAdj c nconv rv re < c.ncv) :
    Inv (K.restartFac (K.nevAdj c nconv rv re) vals fac).fac ∧
    ((K.restartFac (K.nevAdj c nconv rv re) vals fac).exn = none → FullOn X (K.restartFac (K.nevAdj c nconv rv re) vals fac).fac) :=
  have hr := X.inv_restart _ vals fac h.1 h.2 (X.nevAdj_pos nconv rv re) hk
  ⟨hr.1, fun hex => ⟨hr.1, hr.2 hex⟩⟩

/-- `compute()` on EVERY path (normal return, exception at any stage) keeps the invariant -/
theorem compute_inv_on (X : ExactKernelsOn K c n M eps23 Inv Start) (sel : Int) (maxit : Nat) (tol : τ) (sorting : Int)
    (s : St φ ρ ε κ) (h : Inv s.fac) :
    Inv (compute K c sel maxit tol sorting s).st.fac :=
  compute_fac_invariant K c Inv (FullOn X) (fun _ h => h.1) X.factorize_fullOn X.restart_fullOn sel maxit tol sorting s h

/-- … hence every history of `init()` / `compute()` calls whose `init`s use admissible start vectors keeps it -/
theorem run_inv_on (X : ExactKernelsOn K c n M eps23 Inv Start) (hist : List (Call β τ)) (hS : StartsOk Start hist)
    (s : St φ ρ ε κ) (h : Inv s.fac) : Inv (Orch.run K c s hist).fac := by
  induction hist generalizing s with
  | nil => exact h
  | cons call rest ih =>
    simp only [Orch.run, List.foldl_cons]
    cases call with
    | init v0 =>
      apply ih hS.2
      simp only [step, init]; exact X.inv_init _ _ hS.1 h
    | compute sel maxit tol sorting =>
      apply ih hS
      simp only [step]; exact compute_inv_on X sel maxit tol sorting s h

/-! ### residual bound for the pairs handed back -/

theorem ExactKernelsOn.fullSpec (X : ExactKernelsOn K c n M eps23 Inv Start) {fac : φ} (h : FullOn X fac) :
    FullSpec K c M eps23 X.abs X.fnorm X.val X.est X.vec X.out X.tolv fac :=
  ⟨h.2 ▸ good_kry (opOf M) _ (X.inv_good _ h.1), X.fnorm_spec fac h.1, fun ev lr cl => X.eig_spec fac ev lr cl h.1 h.2,
    fun tol θ e => X.conv_spec tol fac θ e h.1, fun y => X.assemble_spec fac y h.1⟩

/-- one `compute()` that returns normally from ANY state whose factorization satisfies the invariant (in particular the state
    `Orch.run K c s0 hist` after any history with admissible start vectors: `run_inv_on`) hands back, at every flagged position, a
    pair `(back ν, x)` with `‖M x - ν x‖² < (tol · max(eps23, |ν|))²`. -/
theorem compute_pairs_on (X : ExactKernelsOn K c n M eps23 Inv Start) (sel : Int) (maxit : Nat) (tol : τ) (sorting : Int)
    (s : St φ ρ ε κ) (hs : Inv s.fac) (r : Nat)
    (h : (compute K c sel maxit tol sorting s).out = .ok r) :
    PairsOK K c M eps23 X.val X.back X.out (X.tolv tol) (compute K c sel maxit tol sorting s).st :=
  pairs_of_final (compute_final K c Inv (FullOn X) (fun fac hg => (X.factorize_fullOn fac hg).2)
      (fun nconv rv re vals fac hg hk => (X.restart_fullOn nconv rv re vals fac hg hk).2) sel maxit tol sorting s hs r h)
    (fun _ => X.fullSpec) X.ncv_pos X.nev_le X.select_lt X.sort_lt X.back_spec

/-! ### orthonormality -/

/-- the orthogonality halves of the kernel specifications, on the invariant -/
structure ExactOrthOn (X : ExactKernelsOn K c n M eps23 Inv Start) where
  /-- on the invariant `VᵀV = I`, `Vᵀf = 0` at the advertised dimension -/
  inv_orth : ∀ fac, Inv fac → OrthGood (X.abs fac)
  /-- C09: the eigenvector matrix of the projected problem has orthonormal columns -/
  eig_orth : ∀ fac evals lastRow cols, Inv fac → (X.abs fac).k = c.ncv → K.eig fac = .ok (evals, lastRow, cols) →
      ∀ j, j < c.ncv → ∀ j', j' < c.ncv →
      ∑ a ∈ range c.ncv, X.vec (cols.getD j K.zeroκ) a * X.vec (cols.getD j' K.zeroκ) a = if j = j' then 1 else 0
  /-- C18: both index vectors are injective on their range (they are permutations) -/
  select_inj : ∀ sel evals ind, K.select sel evals c.ncv = .ok ind → ∀ i, i < c.ncv → ∀ i', i' < c.ncv → ind.getD i 0 = ind.getD i' 0 → i = i'
  sort_inj : ∀ rule vals ind, K.sortIdx rule vals c.nev = .ok ind → ∀ i, i < c.nev → ∀ i', i' < c.nev → ind.getD i 0 = ind.getD i' 0 → i = i'

/-- the vectors handed back by one `compute()` from any state whose factorization satisfies the invariant are orthonormal -/
theorem compute_orth_on (X : ExactKernelsOn K c n M eps23 Inv Start) (O : ExactOrthOn X) (sel : Int) (maxit : Nat) (tol : τ)
    (sorting : Int) (s : St φ ρ ε κ) (hs : Inv s.fac) (r : Nat)
    (h : (compute K c sel maxit tol sorting s).out = .ok r) :
    OrthOK K c X.out (compute K c sel maxit tol sorting s).st :=
  orth_of_final (compute_final K c Inv (FullOn X) (fun fac hg => (X.factorize_fullOn fac hg).2)
      (fun nconv rv re vals fac hg hk => (X.restart_fullOn nconv rv re vals fac hg hk).2) sel maxit tol sorting s hs r h)
    (fun fac hf y => X.assemble_spec fac y hf.1)
    (fun fac hf => ⟨hf.2 ▸ (O.inv_orth _ hf.1).1, fun ev lr cl => O.eig_orth fac ev lr cl hf.1 hf.2⟩) X.nev_le X.select_lt X.sort_lt
    O.select_inj O.sort_inj

end C01E
