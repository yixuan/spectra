/-
  C08 — DoubleShiftQR similarity, part G: the hypothesis `RunExact` is satisfiable on a run that really stores a reflector.

  `runExact_two`: for every 2 × 2 input whose subdiagonal entry is not deflated and whose `m10 = h₁₀ (h₀₀ + h₁₁ − s)` is not below
  `m_near_0`, `compute` makes exactly one `compute_reflector` call, with arguments `(m00, m10, 0)`, and `RunExact` holds.

  `ex_hyps`: a concrete run on which every hypothesis of `C08.c08_dsqr_similarity_partial` holds and a genuine (2-row) reflector is
  stored.  Over ℝ with `Real.sqrt`, `min() = 1` (so `m_near_0 = 10`, `eps_abs = 10 · (2 / 1) = 20`), `eps = 1`, `pow ≡ 0` (series
  cutoff 0), `H = [1 0; 100 0]`, `s = t = 0`: the subdiagonal entry `100` is not deflated (`100 > 20`, `100 > 1 · (|1| + |0|)`),
  `m10 = 100 · (1 + 0 − 0) = 100 ≥ 10`.
  (A universal exact square root does not exist over ℚ, so the instance lives in ℝ; nothing is evaluated numerically — the two
  comparisons above are the only facts about the numbers that are used, `runExact_two` does the rest for every 2 × 2 input.)
-/
import SpectraVerif.Proofs.C08DsqrSimD
import Mathlib.Analysis.Real.Sqrt

namespace C08DsqrSim
open Lin QRModel C08DsqrQ C08DsqrMatrix

section
variable {K : Type} [Field K] [LinearOrder K] [IsStrictOrderedRing K] (F : FieldFns K)

/-- a 2 × 2 input that is not deflated is one block `[0, 1]` -/
theorem zi_two (mat : Mat K) (h2 : mat.rows = 2) (hd : dfl F (epsA F mat) mat 0 = false) :
    (C08Nr.zeroInd F mat).size = 2 ∧ (C08Nr.zeroInd F mat).getD 0 0 = 0 ∧ (C08Nr.zeroInd F mat).getD 1 0 = 2 := by
  obtain ⟨z1, z2, z3, z4, z5⟩ := C08Nr.zeroInd_spec F mat (by omega)
  have hsz : (C08Nr.zeroInd F mat).size = 2 := by
    by_contra hne
    have h3 : 3 ≤ (C08Nr.zeroInd F mat).size := by omega
    have a1 : (C08Nr.zeroInd F mat).getD 0 0 < (C08Nr.zeroInd F mat).getD 1 0 := z4 0 (by omega)
    have a2 : (C08Nr.zeroInd F mat).getD 1 0 < (C08Nr.zeroInd F mat).getD 2 0 := z4 1 (by omega)
    have a3 := z5 2 (by omega)
    have e1 : (C08Nr.zeroInd F mat).getD 1 0 = 1 := by omega
    rcases zi_mem F mat (by omega) 1 (by omega) with h | h | ⟨_, _, h⟩
    · omega
    · omega
    · rw [e1] at h
      rw [hd] at h
      exact absurd h (by simp)
  refine ⟨hsz, z2, ?_⟩
  rw [hsz] at z3
  rw [z3, h2]

theorem runExact_two (mat : Mat K) (s t : K) (h2 : mat.rows = 2)
    (hd : dfl F (epsA F mat) mat 0 = false)
    (hbig : ¬ |C08Local.fc1 F (mget F mat 0 0) (mget F mat 1 0) (mget F mat 1 1) s| < C08Refl.nz F) :
    RunExact F mat s t := by
  obtain ⟨hsz, e0, e1⟩ := zi_two F mat h2 hd
  obtain ⟨_, q2, q3, _⟩ := st0_H_spec F mat (by omega)
  intro j hj
  have hj0 : j = 0 := by omega
  subst hj0
  rw [e0, e1]
  refine ⟨fun _ => ?_, fun h => absurd h (by omega)⟩
  show ExactIn F (C08Local.fc1 F (mget F (C08Nr.st0 F mat).1 0 0) (mget F (C08Nr.st0 F mat).1 (0 + 1) 0)
    (mget F (C08Nr.st0 F mat).1 (0 + 1) (0 + 1)) s) (C08Nr.z0 F)
  rw [q2 0 0 (by omega) (by omega) (by omega), q2 (0 + 1) (0 + 1) (by omega) (by omega) (by omega),
    q3 0 (by omega) hd]
  exact ⟨fun _ => C08Nr.z0_eq F, fun h _ => absurd h hbig⟩

end

noncomputable def exF : FieldFns ℝ := ⟨Real.sqrt, fun _ _ => 0, 1, 1⟩
noncomputable def exMat : Mat ℝ := Mat.ofFn 2 2 (fun i j => if j = 0 then (if i = 0 then 1 else 100) else 0)

theorem exMat_get (i j : Nat) (hi : i < 2) (hj : j < 2) :
    C08DsqrQ.mget exF exMat i j = if j = 0 then (if i = 0 then 1 else 100) else 0 :=
  @C08Mat.get_ofFn ℝ (scOfField exF) 2 2 _ i j hi hj

theorem ex_epsA : epsA exF exMat = 20 := by
  show (1 : ℝ) * ((10 : Int) : ℝ) * ((((2 : Nat) : Int) : ℝ) / 1) = 20
  norm_num

theorem ex_not_deflated : dfl exF (epsA exF exMat) exMat 0 = false := by
  rw [Bool.eq_false_iff]
  intro h
  rw [dfl_iff, ex_epsA, exMat_get _ _ (by omega) (by omega), exMat_get _ _ (by omega) (by omega),
    exMat_get _ _ (by omega) (by omega)] at h
  unfold Negl at h
  norm_num [exF] at h

theorem ex_big : ¬ |C08Local.fc1 exF (C08DsqrQ.mget exF exMat 0 0) (C08DsqrQ.mget exF exMat 1 0)
    (C08DsqrQ.mget exF exMat 1 1) 0| < C08Refl.nz exF := by
  rw [exMat_get _ _ (by omega) (by omega), exMat_get _ _ (by omega) (by omega), exMat_get _ _ (by omega) (by omega)]
  norm_num [C08Local.fc1, DoubleShiftQR.firstCol1, C08Refl.nz, exF]

theorem ex_hyps :
    (∀ x : ℝ, 0 ≤ x → exF.sqrt x * exF.sqrt x = x ∧ 0 ≤ exF.sqrt x) ∧ C08Refl.cutoff exF ≤ 0 ∧ 0 < exF.minPos ∧
    1 ≤ exMat.rows ∧ RunExact exF exMat 0 0 ∧ dfl exF (epsA exF exMat) exMat 0 = false :=
  ⟨fun x hx => ⟨Real.mul_self_sqrt hx, Real.sqrt_nonneg x⟩, by simp [C08Givens.cutoff, exF], by norm_num [exF],
   by show 1 ≤ 2; omega, runExact_two exF exMat 0 0 rfl ex_not_deflated ex_big, ex_not_deflated⟩

end C08DsqrSim
