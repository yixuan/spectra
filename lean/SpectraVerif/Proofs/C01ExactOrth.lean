/-
  Orthonormality of the pairs handed back, for every history, in exact arithmetic (helper file of Properties/C01.lean).

  `ExactOrth X` adds to `ExactKernels X` the orthogonality halves of the kernel specifications: every step the factorization kernels
  perform uses the exact projection coefficients / norms / orthonormal `Q` (C07: `Step.orthOk`, composed by `run_orth` = `c07_run` (c)),
  `init` hands over a unit vector with an orthogonal residual (`c07_init`, which needs `‖A v0‖ ≠ 0`), the small eigen-solver returns
  orthonormal columns (C09: `Z` orthogonal for all runs), the two index vectors are injective (C18: permutations).
-/
import SpectraVerif.Proofs.C01Exact
import SpectraVerif.Proofs.C07Bridge

set_option linter.unusedSectionVars false

open Finset Matrix

namespace C01E
open Orch C07 C01O C01B C01M

variable {φ ρ ε κ β τ ω : Type} {F : Type} [Field F] [LinearOrder F] [IsStrictOrderedRing F]

/-- `VᵀV = I` and `Vᵀf = 0` at the advertised dimension -/
def OrthGood {n : ℕ} (s : C07.St F (Fin n → F)) : Prop := ON (dotIP n) s.V s.k ∧ FO (dotIP n) s.V s.f s.k

/-- the vectors at the positions of `s` flagged as converged, read through `out`, are orthonormal -/
def OrthOK (K : Kern φ ρ ε κ β τ ω) (c : Cfg) {n : ℕ} (out : ω → Fin n → F) (s : St φ ρ ε κ) : Prop :=
  ∀ i ∈ convIdx c s, ∀ i' ∈ convIdx c s,
    out (K.assemble s.fac (s.ritzVec.getD i K.zeroκ)) ⬝ᵥ out (K.assemble s.fac (s.ritzVec.getD i' K.zeroκ)) = if i = i' then 1 else 0

variable {K : Kern φ ρ ε κ β τ ω} {c : Cfg} {n : ℕ} {M : Matrix (Fin n) (Fin n) F} {eps23 : F}

structure ExactOrth (X : ExactKernels K c n M eps23) where
  init_orth : ∀ v0 fac, OrthGood (X.abs fac) → OrthGood (X.abs (K.facInit v0 fac).fac)
  factorize_orth : ∀ a b fac, ∃ l, allOrthOk (dotIP n) (opOf M) (X.abs fac) l ∧ X.abs (K.factorize a b fac).fac = C07.run (opOf M) (X.abs fac) l
  restart_orth : ∀ k vals fac, ∃ l, allOrthOk (dotIP n) (opOf M) (X.abs fac) l ∧ X.abs (K.restartFac k vals fac).fac = C07.run (opOf M) (X.abs fac) l
  /-- C09: the eigenvector matrix of the projected problem has orthonormal columns -/
  eig_orth : ∀ fac evals lastRow cols, K.eig fac = .ok (evals, lastRow, cols) → ∀ j, j < c.ncv → ∀ j', j' < c.ncv →
      ∑ a ∈ range c.ncv, X.vec (cols.getD j K.zeroκ) a * X.vec (cols.getD j' K.zeroκ) a = if j = j' then 1 else 0
  /-- C18: both index vectors are injective on their range (they are permutations) -/
  select_inj : ∀ sel evals ind, K.select sel evals c.ncv = .ok ind → ∀ i, i < c.ncv → ∀ i', i' < c.ncv → ind.getD i 0 = ind.getD i' 0 → i = i'
  sort_inj : ∀ rule vals ind, K.sortIdx rule vals c.nev = .ok ind → ∀ i, i < c.nev → ∀ i', i' < c.nev → ind.getD i 0 = ind.getD i' 0 → i = i'

theorem orthgood_run {n : ℕ} (A : (Fin n → F) →ₗ[F] (Fin n → F)) (s : C07.St F (Fin n → F)) (l : List (C07.Step F (Fin n → F)))
    (hok : allOrthOk (dotIP n) A s l) (h : OrthGood s) : OrthGood (C07.run A s l) :=
  run_orth (dotIP n) A l s hok h.1 h.2

theorem ExactOrth.factorize_keeps {X : ExactKernels K c n M eps23} (O : ExactOrth X) (a b : Nat) (fac : φ) (h : OrthGood (X.abs fac)) :
    OrthGood (X.abs (K.factorize a b fac).fac) := by
  obtain ⟨l, hok, he⟩ := O.factorize_orth a b fac
  rw [he]; exact orthgood_run _ _ l hok h

theorem ExactOrth.restart_keeps {X : ExactKernels K c n M eps23} (O : ExactOrth X) (k : Nat) (vals : List ρ) (fac : φ) (h : OrthGood (X.abs fac)) :
    OrthGood (X.abs (K.restartFac k vals fac).fac) := by
  obtain ⟨l, hok, he⟩ := O.restart_orth k vals fac
  rw [he]; exact orthgood_run _ _ l hok h

/-- an orthonormal family of columns is a matrix with `VᵀV = I` -/
theorem on_vmat (V : ℕ → Fin n → F) (m : ℕ) (h : ON (dotIP n) V m) : (Vmat V m)ᵀ * Vmat V m = 1 := by
  ext i j
  have := h i.val i.isLt j.val j.isLt
  simp only [dotIP] at this
  simp only [Matrix.mul_apply, Matrix.transpose_apply, Vmat, Matrix.one_apply]
  have e : ∑ r, V i.val r * V j.val r = V i.val ⬝ᵥ V j.val := rfl
  rw [e, this]
  by_cases hij : i = j
  · simp [hij]
  · have : i.val ≠ j.val := fun h => hij (Fin.ext h)
    simp [hij, this]

/-- linear combinations of an orthonormal family multiply like their coefficient vectors -/
theorem dot_comb_of_on (V : ℕ → Fin n → F) (m : ℕ) (h : ON (dotIP n) V m) (y z : ℕ → F) :
    (∑ j ∈ range m, y j • V j) ⬝ᵥ (∑ j ∈ range m, z j • V j) = ∑ a ∈ range m, y a * z a := by
  rw [← Vmat_mulVec, ← Vmat_mulVec, dot_mulVec_of_orth _ (on_vmat _ _ h)]
  exact Fin.sum_univ_eq_sum_range (fun a => y a * z a) m

/-- the orthogonality half of `FullSpec`: `VᵀV = I` at dimension `ncv`, and the small solver's eigenvectors are orthonormal -/
structure FullOrth (K : Kern φ ρ ε κ β τ ω) (c : Cfg) (abs : φ → C07.St F (Fin n → F)) (vec : κ → ℕ → F) (fac : φ) : Prop where
  on : ON (dotIP n) (abs fac).V c.ncv
  eig : ∀ evals lastRow cols, K.eig fac = .ok (evals, lastRow, cols) → ∀ j, j < c.ncv → ∀ j', j' < c.ncv →
      ∑ a ∈ range c.ncv, vec (cols.getD j K.zeroκ) a * vec (cols.getD j' K.zeroκ) a = if j = j' then 1 else 0

section
variable {abs : φ → C07.St F (Fin n → F)} {vec : κ → ℕ → F} {out : ω → Fin n → F}

/-- the vectors handed back by a `compute()` that returned normally are orthonormal if the pre-sort factorization is a full
    orthonormal one and both index vectors are injective -/
theorem orth_of_final {Pfull : φ → Prop} {sel : Int} {tol : τ} {sorting : Int} {s' : St φ ρ ε κ}
    (hfin : FinalOf K c sel tol sorting Pfull s')
    (hA : ∀ fac, Pfull fac → ∀ y, out (K.assemble fac y) = ∑ j ∈ range c.ncv, vec y j • (abs fac).V j)
    (hO : ∀ fac, Pfull fac → FullOrth K c abs vec fac) (hnev : c.nev ≤ c.ncv)
    (hsel : ∀ sel evals ind, K.select sel evals c.ncv = .ok ind → ∀ i, i < c.ncv → ind.getD i 0 < c.ncv)
    (hsort : ∀ rule vals ind, K.sortIdx rule vals c.nev = .ok ind → ∀ i, i < c.nev → ind.getD i 0 < c.nev)
    (hseli : ∀ sel evals ind, K.select sel evals c.ncv = .ok ind → ∀ i, i < c.ncv → ∀ i', i' < c.ncv → ind.getD i 0 = ind.getD i' 0 → i = i')
    (hsorti : ∀ rule vals ind, K.sortIdx rule vals c.nev = .ok ind → ∀ i, i < c.nev → ∀ i', i' < c.nev → ind.getD i 0 = ind.getD i' 0 → i = i') :
    OrthOK K c out s' := by
  intro i hi i' hi'
  simp only [convIdx, List.mem_filter, List.mem_range] at hi hi'
  obtain ⟨s3, ind, hret, hfull, -, hfac, hind, -, hvec, -⟩ := hfin
  obtain ⟨evals, lastRow, cols, sidx, heig, hs, -, hread⟩ := hret.read hnev (hsel sel)
  have hj := hsort sorting _ ind hind i hi.1
  have hj' := hsort sorting _ ind hind i' hi'.1
  obtain ⟨hp, -, -, e_vec⟩ := hread _ hj
  obtain ⟨hp', -, -, e_vec'⟩ := hread _ hj'
  rw [hfac, hvec, ListFold.getD_map_range _ _ _ _ hi.1, ListFold.getD_map_range _ _ _ _ hi'.1, e_vec, e_vec', hA _ hfull, hA _ hfull,
    dot_comb_of_on _ _ (hO _ hfull).on, (hO _ hfull).eig evals lastRow cols heig _ hp _ hp']
  refine if_congr ⟨fun he => ?_, fun he => by rw [he]⟩ rfl rfl
  exact hsorti sorting _ ind hind i hi.1 i' hi'.1
    (hseli sel evals sidx hs _ (lt_of_lt_of_le hj hnev) _ (lt_of_lt_of_le hj' hnev) he)

end

/-- **Orthonormality for one compute()**: from any state whose factorization is `Good` and `OrthGood`, the vectors handed back at
    two flagged positions `i`, `i'` satisfy `x_i · x_i' = δ_{i i'}`. -/
theorem compute_orth (X : ExactKernels K c n M eps23) (O : ExactOrth X) (sel : Int) (maxit : Nat) (tol : τ) (sorting : Int)
    (s : St φ ρ ε κ) (hs : Good (opOf M) (X.abs s.fac) ∧ OrthGood (X.abs s.fac)) (r : Nat)
    (h : (compute K c sel maxit tol sorting s).out = .ok r) :
    OrthOK K c X.out (compute K c sel maxit tol sorting s).st :=
  orth_of_final (compute_final K c (fun fac => Good (opOf M) (X.abs fac) ∧ OrthGood (X.abs fac))
      (fun fac => Full X fac ∧ OrthGood (X.abs fac))
      (fun fac hg hex => ⟨⟨X.factorize_good _ _ fac hg.1, X.factorize_full fac hex⟩, O.factorize_keeps _ _ fac hg.2⟩)
      (fun _ _ _ vals fac hg hk hex => ⟨⟨X.restart_good _ vals fac hg.1.1, X.restart_full _ vals fac hk hex⟩, O.restart_keeps _ vals fac hg.2⟩)
      sel maxit tol sorting s hs r h)
    (fun fac _ => X.assemble_spec fac) (fun fac hf => ⟨hf.1.2 ▸ hf.2.1, O.eig_orth fac⟩) X.nev_le X.select_lt X.sort_lt
    O.select_inj O.sort_inj

end C01E
