/-
  Lemmas about the std::sort model (`Prelude/Sort.lean`) and about index-array folds produced by the translator.
-/
import Mathlib.Order.Basic
import SpectraVerif.Prelude.Sort

namespace SortLemmas

theorem insertSorted_perm (lt : Int → Int → Bool) (x : Int) (l : List Int) :
    (insertSorted lt x l).Perm (x :: l) := by
  induction l with
  | nil => simp [insertSorted]
  | cons y ys ih =>
    simp only [insertSorted]
    split
    · exact List.Perm.refl _
    · exact (List.Perm.cons y ih).trans (List.Perm.swap x y ys)

theorem foldl_insert_perm (lt : Int → Int → Bool) (xs acc : List Int) :
    (xs.foldl (fun acc i => insertSorted lt i acc) acc).Perm (xs ++ acc) := by
  induction xs generalizing acc with
  | nil => simp
  | cons x xs ih =>
    simp only [List.foldl_cons, List.cons_append]
    refine (ih _).trans ?_
    refine (List.Perm.append_left xs (insertSorted_perm lt x acc)).trans ?_
    exact List.perm_middle

/-- the sorted index list is a permutation of `0..len-1` -/
theorem sortIdxList_perm (lt : Int → Int → Bool) (len : Int) :
    (sortIdxList lt len).Perm (intRange 0 len) := by
  simpa [sortIdxList] using foldl_insert_perm lt (intRange 0 len) []

theorem sortIdxList_length (lt : Int → Int → Bool) (len : Int) :
    (sortIdxList lt len).length = len.toNat := by
  rw [(sortIdxList_perm lt len).length_eq, intRange_length]; simp

section keyed
variable {κ : Type} [LinearOrder κ] (key : Int → κ)

theorem insertSorted_sorted (x : Int) (l : List Int)
    (h : l.Pairwise (fun a b => key a ≤ key b)) :
    (insertSorted (fun i j => decide (key i < key j)) x l).Pairwise (fun a b => key a ≤ key b) := by
  induction l with
  | nil => simp [insertSorted]
  | cons y ys ih =>
    simp only [insertSorted]
    rw [List.pairwise_cons] at h
    split
    · rename_i hlt
      have hxy : key x < key y := of_decide_eq_true hlt
      refine List.pairwise_cons.mpr ⟨?_, List.pairwise_cons.mpr h⟩
      intro a ha
      rcases List.mem_cons.mp ha with rfl | ha
      · exact le_of_lt hxy
      · exact le_trans (le_of_lt hxy) (h.1 a ha)
    · rename_i hlt
      have hyx : key y ≤ key x := not_lt.mp (fun hh => hlt (decide_eq_true hh))
      refine List.pairwise_cons.mpr ⟨?_, ih h.2⟩
      intro a ha
      have := (insertSorted_perm (fun i j => decide (key i < key j)) x ys).mem_iff.mp ha
      rcases List.mem_cons.mp this with rfl | ha'
      · exact hyx
      · exact h.1 a ha'

theorem foldl_insert_sorted (xs acc : List Int) (h : acc.Pairwise (fun a b => key a ≤ key b)) :
    (xs.foldl (fun acc i => insertSorted (fun i j => decide (key i < key j)) i acc) acc).Pairwise
      (fun a b => key a ≤ key b) := by
  induction xs generalizing acc with
  | nil => simpa
  | cons x xs ih => exact ih _ (insertSorted_sorted key x acc h)

/-- keys along the sorted index list are non-decreasing -/
theorem sortIdxList_sorted (len : Int) :
    (sortIdxList (fun i j => decide (key i < key j)) len).Pairwise (fun a b => key a ≤ key b) := by
  simpa [sortIdxList] using foldl_insert_sorted key (intRange 0 len) [] List.Pairwise.nil

end keyed

end SortLemmas
