/-
  C07 at the level of the executable model: the implicit restart of `HermSolver.restartFac` (shift loop on `H`, `compress_H`,
  `compress_V`) is ONE C07 `compress` step with the accumulated `Q`, after which `Lanczos.factorize_from(k, ncv)` runs
  (helper file of Properties/C07.lean and of the C01 discharge files).

  Generic in the scalar instance (`ExactSc`); what the QR helper guarantees about the accumulated `(H⁺, Q)` enters as the
  hypotheses `QRFacts` (discharged for `TridiagQR` at `scOfField F` by `C01DT.shiftLoop_spec`, Proofs/C01DischargeTqr.lean).
-/
import SpectraVerif.Proofs.C07ModelRun
import SpectraVerif.Model.HermSolver
import SpectraVerif.Proofs.SortLemmas

set_option linter.unusedSectionVars false

open Finset Lin

namespace C07L
open C07 C01E

section defs
variable {K : Type} [Add K] [Sub K] [Mul K] [Div K] [Neg K] [Sc K]

/-- the `(H, Q)` part of the shift loop of `HermSolver.restartFac` -/
def shiftLoopG (shifts : List K) (H Q : Mat K) : Mat K × Mat K :=
  shifts.foldl (fun acc mu =>
    let d := QRModel.TridiagQR.compute acc.1 mu
    (d.matrix_QtHQ, d.apply_YQ acc.2)) (H, Q)

theorem shift_fold (shifts : List K) : ∀ (s : Arnoldi.State K) (Q : Mat K),
    shifts.foldl (fun (acc : Arnoldi.State K × Mat K) mu =>
      let decomp := QRModel.TridiagQR.compute acc.1.H mu
      let Q := decomp.apply_YQ acc.2
      (Arnoldi.compress_H acc.1 decomp.matrix_QtHQ 1, Q)) (s, Q)
    = ({ s with H := (shiftLoopG shifts s.H Q).1, k := s.k - shifts.length }, (shiftLoopG shifts s.H Q).2) := by
  induction shifts with
  | nil => intro s Q; cases s; rfl
  | cons mu l ih =>
    intro s Q
    simp only [List.foldl_cons, shiftLoopG]
    rw [ih]
    simp only [Arnoldi.compress_H, shiftLoopG, List.length_cons, Nat.sub_sub]
    congr 2
    omega

/-- the state handed to `factorize_from(k, ncv)` inside `restartFac` -/
def restartMid (op : Arnoldi.Op K) (ncv k : ℕ) (vals : List K) (s : Arnoldi.State K) : Arnoldi.State K :=
  Arnoldi.compress_V op
    { s with H := (shiftLoopG (HermSolver.restartShifts ncv k vals) s.H (Mat.identity ncv)).1,
             k := s.k - (HermSolver.restartShifts ncv k vals).length }
    (shiftLoopG (HermSolver.restartShifts ncv k vals) s.H (Mat.identity ncv)).2

theorem restartFac_eq (op : Arnoldi.Op K) (ncv k : ℕ) (vals : List K) (s : Arnoldi.State K) :
    HermSolver.restartFac op ncv k vals s =
      match Lanczos.factorize_from op (restartMid op ncv k vals s) k ncv with
      | some s3 => ⟨s3, s3.ops - s.ops, none⟩
      | none => ⟨restartMid op ncv k vals s, 0,
          some (.invalidArgument "Arnoldi: from_k is larger than the current subspace dimension")⟩ := by
  unfold HermSolver.restartFac restartMid
  simp only []
  rw [shift_fold]
  rfl

end defs
end C07L

namespace C07L
open C07 C01E
section
variable {K : Type} [Field K] [LinearOrder K] [IsStrictOrderedRing K] [Sc K] (E : ExactSc K)
include E

/-- what the QR helper guarantees about the accumulated pair `(H⁺, Q)` of `m − k` single shifts (C08): `H⁺` symmetric
    tridiagonal, `H Q = Q H⁺`, `QᵀQ = I`, `Q` of lower bandwidth `m − k` -/
structure QRFacts (m k : ℕ) (H Hp Q : Mat K) : Prop where
  HpW : C08Mat.WF Hp
  Hpr : Hp.rows = m
  Hpc : Hp.cols = m
  tri : ∀ i j, i < m → j < m → (i + 1 < j ∨ j + 1 < i) → Hp.get i j = 0
  sym : ∀ i j, i < m → j < m → Hp.get i j = Hp.get j i
  hHQ : ∀ i j, i < m → j < m → ∑ a ∈ range m, H.get i a * Q.get a j = ∑ b ∈ range m, Q.get i b * Hp.get b j
  orth : ∀ i j, i < m → j < m → ∑ a ∈ range m, Q.get a i * Q.get a j = if i = j then 1 else 0
  band : ∀ a b, a < m → b < m → b + (m - k) < a → Q.get a b = 0

omit E [LinearOrder K] [IsStrictOrderedRing K] in
/-- the model's `compress_V` (truncated column sums) on a `Q` of lower bandwidth `m − k`, read as vectors: columns `0..k` of `V Q`
    and the residual `Q(m-1,k-1) f + H(k,k-1) v⁺_k` -/
theorem compress_V_mulQ (h0 : (Sc.ofInt 0 : K) = 0) (op : Arnoldi.Op K) (s : Arnoldi.State K) (Q : Mat K) (hkm : s.k < s.m)
    (hband : ∀ a b, a < s.m → b < s.m → b + (s.m - s.k) < a → Q.get a b = 0) :
    (∀ j, j < s.k + 1 → colOf s.n (Arnoldi.compress_V op s Q).V j = mulQ (colOf s.n s.V) (fun a b => Q.get a b) s.m j) ∧
    vecOf s.n (Arnoldi.compress_V op s Q).f =
      Q.get (s.m - 1) (s.k - 1) • vecOf s.n s.f + s.H.get s.k (s.k - 1) • mulQ (colOf s.n s.V) (fun a b => Q.get a b) s.m s.k := by
  refine ⟨fun j hj => ?_, ?_⟩
  · funext r
    rw [mulQ, Finset.sum_apply]
    rcases Nat.lt_succ_iff_lt_or_eq.mp hj with hlt | rfl
    · refine (C07R.compress_V_col h0 op s Q r.val j r.isLt hlt hkm).trans ?_
      exact (sum_congr rfl fun a _ => mul_comm _ _).trans
        (sum_band (E := K) (fun a => s.V.get r.val a) (fun a => Q.get a j) s.m _ (by omega)
          (fun a ha ham => hband a j ham (by omega) (by omega))).symm
    · exact (C07R.compress_V_colk h0 op s Q r.val r.isLt hkm).trans (sum_congr rfl fun a _ => mul_comm _ _)
  · funext r
    refine (C07R.compress_V_f h0 op s Q r.val r.isLt hkm).trans ?_
    rw [Pi.add_apply, Pi.smul_apply, Pi.smul_apply, mulQ, Finset.sum_apply, smul_eq_mul, smul_eq_mul, mul_comm,
      mul_comm (Finset.sum _ _)]
    exact congrArg (fun x => Q.get (s.m - 1) (s.k - 1) * vget s.f r.val + s.H.get s.k (s.k - 1) * x)
      (sum_congr rfl fun a _ => mul_comm _ _)

/-- **`compress_H` + `compress_V` with the accumulated `Q` is the C07 compress step**: from the invariant at full dimension `m`
    to the invariant at dimension `k` -/
theorem compress_passInv (n m : ℕ) (A : (Fin n → K) →ₗ[K] (Fin n → K)) (op : Arnoldi.Op K) (hop : OpOK n op A)
    (s : Arnoldi.State K) (k : ℕ) (hI : PassInv n m A s m) (hk0 : 0 < k) (hkm : k < m) (Hp Q : Mat K)
    (hq : QRFacts m k s.H Hp Q) :
    PassInv n m A (Arnoldi.compress_V op { s with H := Hp, k := k } Q) k := by
  have hn := hI.hn
  have hm := hI.hm
  subst hn hm
  obtain ⟨hcols, hf⟩ := compress_V_mulQ E.ofInt0 op { s with H := Hp, k := k } Q hkm hq.band
  have hL := hI.linv.compress (Hp := fun a b => Hp.get a b) (Q := fun a b => Q.get a b) hk0 hkm
    (fun i hi j hj => (sum_congr rfl fun a ha => by rw [maskH_lead s.m s.H i a hi (mem_range.mp ha)]).trans
      (hq.hHQ i j hi (lt_trans hj hkm)))
    (fun i hi j hj => hq.orth i j (lt_of_lt_of_le hi hkm) (lt_of_lt_of_le hj hkm))
    (fun j hj => hq.band (s.m - 1) j (Nat.sub_lt (lt_trans hk0 hkm) Nat.one_pos) (by omega) (by omega))
    (fun b j hjb hj hb => hq.tri b j hb (lt_trans hj hkm) (Or.inr hjb))
    ⟨fun i j hi hj hij => hq.tri i j (lt_trans hi hkm) (lt_trans hj hkm) hij.symm,
      fun i j hi hj => hq.sym i j (lt_trans hi hkm) (lt_trans hj hkm)⟩
  exact .of ⟨rfl, rfl, C08Mat.ofFn_WF _ _ _, rfl, rfl, hq.HpW, hq.Hpr, hq.Hpc⟩ (le_of_lt hkm)
    (hL.congr (fun j hj => hcols j (Nat.lt_succ_of_lt hj)) (maskH_lead k Hp) hf)
    (hop.norm_spec E _ (C08Mat.size_vofFn _ _)) (fun a b ha hb _ hoff => hq.tri a b ha hb hoff) hI.eps0

omit E in
theorem restartShifts_length (ncv k : ℕ) (vals : List K) : (HermSolver.restartShifts ncv k vals).length = ncv - k := by
  unfold HermSolver.restartShifts
  simp only [List.length_map]
  rw [SortLemmas.sortIdxList_length]
  simp

/-- **The whole `HermSolver.restartFac(k)` from a full factorization**: one C07 compress step (`compress_passInv`) followed by the
    `m − k` extend steps of `factorize_from(k, m)` (`factorize_run`); never throws; ends at dimension `m` with the loop invariant. -/
theorem restart_run (n m : ℕ) (A : (Fin n → K) →ₗ[K] (Fin n → K)) (op : Arnoldi.Op K) (hop : OpOK n op A)
    (hsa : ∀ x y, dotProduct x (A y) = dotProduct (A x) y)
    (s : Arnoldi.State K) (k : ℕ) (vals : List K) (hI : PassInv n m A s m) (hsk : s.k = m) (hk0 : 0 < k) (hkm : k < m)
    (hq : QRFacts m k s.H (shiftLoopG (HermSolver.restartShifts m k vals) s.H (Mat.identity m)).1
      (shiftLoopG (HermSolver.restartShifts m k vals) s.H (Mat.identity m)).2)
    (hreg : Regular op ((restartMid op m k vals s).eps * Sc.sqrt (Sc.ofInt ((restartMid op m k vals s).n : Int)))
      (Sc.sqrt (restartMid op m k vals s).eps) (m - k) k (cleanH (restartMid op m k vals s) k)) :
    ∃ s3 : Arnoldi.State K, HermSolver.restartFac op m k vals s = ⟨s3, s3.ops - s.ops, none⟩ ∧ s3.k = m ∧
      s3.near0 = s.near0 ∧ s3.eps = s.eps ∧ PassInv n m A s3 s3.k ∧
      PassInv n m A (restartMid op m k vals s) k ∧
      ∃ l : List (Step K (Fin n → K)), l.length = m - k ∧
        allOk A (absAt n k (cleanH (restartMid op m k vals s) k)) l ∧
        allExact A (absAt n k (cleanH (restartMid op m k vals s) k)) l ∧
        allOrthOk (dotIP n) A (absAt n k (cleanH (restartMid op m k vals s) k)) l ∧
        absAt n s3.k s3 = C07.run A (absAt n k (cleanH (restartMid op m k vals s) k)) l := by
  have hlen := restartShifts_length m k vals
  have hkk : (restartMid op m k vals s).k = k := by
    show s.k - (HermSolver.restartShifts m k vals).length = k
    rw [hlen, hsk]; exact Nat.sub_sub_self (le_of_lt hkm)
  have hmid : PassInv n m A (restartMid op m k vals s) k := by
    have := compress_passInv E n m A op hop s k hI hk0 hkm _ _ hq
    unfold restartMid
    rw [show s.k - (HermSolver.restartShifts m k vals).length = k from hkk]
    exact this
  have hmid' : PassInv n m A (restartMid op m k vals s) (restartMid op m k vals s).k := by rw [hkk]; exact hmid
  obtain ⟨s3, hfac, h3k, h3n, h3e, h3I, l, hl, aok, aex, aorth, hrun⟩ :=
    factorize_run E n m A op hop hsa (restartMid op m k vals s) m hmid' (by rw [hkk]; exact hk0) (by rw [hkk]; exact hkm) (le_refl m)
      (by rw [hkk]; exact hreg)
  rw [hkk] at hfac hl aok aex aorth hrun
  refine ⟨s3, ?_, h3k, h3n, h3e, h3I, hmid, l, hl, aok, aex, aorth, hrun⟩
  rw [restartFac_eq, hfac]

end
end C07L
