/-
  C09, UpperHessenbergSchur: exact-arithmetic building blocks of the `U T Uᵀ` invariant —
  the ideal reflector maps its defining vector to `β e₁` (so the bulge entries the clean-up loop zeroes are exact zeros), the
  rotation of `split_off_two_rows` annihilates `T(iu, iu−1)` exactly (so the explicit `= 0` overwrites an exact zero), and the
  exceptional shifts move mass between the diagonal of the active window and `ex_shift` consistently.
-/
import Mathlib.Tactic.FieldSimp
import SpectraVerif.Proofs.C09OrthU
import SpectraVerif.Proofs.C09Lemmas


namespace C09SimU
open Lin EigenPrims C09Mat HessSchur
open C08Mat hiding WF

section field
variable {K : Type} [Field K] [LinearOrder K] [IsStrictOrderedRing K] (F : FieldFns K)

theorem reflect_alg (c0 t1 t2 β : K) (hb : β * β = c0 * c0 + (t1 * t1 + t2 * t2)) (hb0 : β ≠ 0) (hcb : c0 - β ≠ 0) :
    c0 - (β - c0) / β * (c0 + t1 / (c0 - β) * t1 + t2 / (c0 - β) * t2) = β ∧
    t1 - (β - c0) / β * (c0 + t1 / (c0 - β) * t1 + t2 / (c0 - β) * t2) * (t1 / (c0 - β)) = 0 ∧
    t2 - (β - c0) / β * (c0 + t1 / (c0 - β) * t1 + t2 / (c0 - β) * t2) * (t2 / (c0 - β)) = 0 := by
  have key : (β - c0) / β * (c0 + t1 / (c0 - β) * t1 + t2 / (c0 - β) * t2) = c0 - β := by
    field_simp
    linear_combination (c0 - β) * hb
  rw [key]
  refine ⟨by ring, ?_, ?_⟩
  · field_simp; ring
  · field_simp; ring

/-- **an ideal reflector reflects**: with an exact non-negative `sqrt`, either `makeHouseholder(c0, t1, t2)` took its degenerate exit
    (`t1² + t2² ≤ min`: `τ = 0`, `β = c0`, the tail is treated as `0`), or `P (c0, t1, t2)ᵀ = (β, 0, 0)ᵀ` EXACTLY for
    `P = I − τ v vᵀ`: the two entries below `T(k, k−1) = β` which `perform_francis_qr_step` leaves in place and zeroes in its
    clean-up loop are exact zeros of the true similarity. -/
theorem makeHouseholder_reflects (hs : ∀ x : K, 0 ≤ x → F.sqrt x * F.sqrt x = x) (hs0 : ∀ x : K, 0 ≤ F.sqrt x) (hmin : 0 ≤ F.minPos)
    (c0 t1 t2 : K) :
    let _ : Sc K := scOfField F
    (t1 * t1 + t2 * t2 ≤ F.minPos ∧ (makeHouseholder c0 t1 t2).tau = 0 ∧ (makeHouseholder c0 t1 t2).beta = c0) ∨
    hhKernel (makeHouseholder c0 t1 t2).v1 (makeHouseholder c0 t1 t2).v2 (makeHouseholder c0 t1 t2).tau c0 t1 t2 =
      ((makeHouseholder c0 t1 t2).beta, 0, 0) := by
  intro _
  rcases C09OrthU.makeHouseholder_cases F hs hs0 hmin c0 t1 t2 with ⟨hle, h⟩ | ⟨β, hb, hb0, hcb, h⟩
  · left; rw [h]; exact ⟨hle, rfl, rfl⟩
  · right; rw [h]
    obtain ⟨e1, e2, e3⟩ := reflect_alg c0 t1 t2 β hb hb0 hcb
    simp only [hhKernel, Prod.mk.injEq]; exact ⟨e1, e2, e3⟩
/-- **the standardisation rotation of `split_off_two_rows` annihilates `T(iu, iu−1)` exactly** (exact non-negative `sqrt`): for the
    2x2 block `[[a, b], [y, d]]` with `q = p² + y·b ≥ 0`, `p = (a − d)/2`, the rotation `makeGivens(p ± √q, y)` applied as
    `Gᵀ B G` (left on the rows, right on the columns, as the code does) gives the `(2,1)` entry
    `c·(s·a + c·y) − s·(s·b + c·d) = 0`: the explicit `T(iu, iu−1) = 0` overwrites an exact zero. -/
theorem standardise_zero (hs : ∀ x : K, 0 ≤ x → F.sqrt x * F.sqrt x = x) (hs0 : ∀ x : K, 0 ≤ F.sqrt x) (a b y d : K)
    (hq : 0 ≤ (1 / 2 * (a - d)) * (1 / 2 * (a - d)) + y * b) :
    let _ : Sc K := scOfField F
    let p : K := 1 / 2 * (a - d)
    let z := F.sqrt |p * p + y * b|
    let rot := makeGivens (if 0 ≤ p then p + z else p - z) y
    rot.c * (rot.s * a + rot.c * y) - rot.s * (rot.s * b + rot.c * d) = 0 := by
  -- `x = p ± z` solves `x² − 2 p x − y b = 0`; the rotation has `s·x = −c·y`, so multiply the target by `x²` and substitute
  intro _ p z rot
  have hz : z * z = p * p + y * b := by
    show F.sqrt |p * p + y * b| * F.sqrt |p * p + y * b| = _
    rw [abs_of_nonneg hq]; exact hs _ hq
  have hz0 : 0 ≤ z := hs0 _
  have hann := C09Sim.makeGivens_annih F (if 0 ≤ p then p + z else p - z) y
  simp only at hann
  generalize hx : (if 0 ≤ p then p + z else p - z) = x at hann
  have hrot : rot = makeGivens x y := by show makeGivens (if 0 ≤ p then p + z else p - z) y = _; rw [hx]
  rw [hrot]
  have hxx : x * x - 2 * p * x - b * y = 0 := by
    rw [← hx]; by_cases hp : 0 ≤ p
    · rw [if_pos hp]; linear_combination hz
    · rw [if_neg hp]; linear_combination hz
  have hpd : a - d = 2 * p := by show a - d = 2 * (1 / 2 * (a - d)); ring
  by_cases hx0 : x = 0
  · -- degenerate: p = 0, z = 0
    have hp0 : p = 0 ∧ z = 0 := by
      rw [← hx] at hx0
      by_cases hp : 0 ≤ p
      · rw [if_pos hp] at hx0; exact (add_eq_zero_iff_of_nonneg hp hz0).mp hx0
      · rw [if_neg hp, sub_eq_zero] at hx0; exact absurd (hx0 ▸ hz0) hp
    have hyb : y * b = 0 := by rw [hp0.1, hp0.2, mul_zero, zero_add] at hz; exact hz.symm
    have had : a = d := sub_eq_zero.mp (by rw [hpd, hp0.1, mul_zero])
    by_cases hy : y = 0
    · have hs' : (makeGivens x y).s = 0 := by
        rw [hy]; simp [makeGivens, zero, ScF.eq]
      rw [hs', hy]; ring
    · have hb : b = 0 := by
        rcases mul_eq_zero.mp hyb with h | h
        · exact absurd h hy
        · exact h
      have hcy : (makeGivens x y).c * y = 0 := by
        have h3 := hann
        have h4 : (makeGivens x y).s * x = 0 := by rw [hx0, mul_zero]
        rw [h4, zero_add] at h3; exact h3
      rw [hb, had]
      linear_combination (makeGivens x y).c * hcy
  · generalize (makeGivens x y).c = c at hann ⊢
    generalize (makeGivens x y).s = s at hann ⊢
    have hsx : s * x = -(c * y) := by linear_combination hann
    have h2 : x * x * (c * (s * a + c * y) - s * (s * b + c * d)) = 0 := by
      calc x * x * (c * (s * a + c * y) - s * (s * b + c * d))
          = (a - d) * (c * x) * (s * x) + y * (c * x) * (c * x) - b * (s * x) * (s * x) := by ring
        _ = c * c * y * (x * x - 2 * p * x - b * y) := by rw [hsx, hpd]; ring
        _ = 0 := by rw [hxx, mul_zero]
    exact (mul_eq_zero.mp h2).resolve_left (fun h => hx0 (mul_self_eq_zero.mp h))

/-- `T' + ex'·D = T + ex·D` entrywise, `D = diag(1 on rows 0..iu)`: what an exceptional shift must keep -/
def Shifted (iu : Nat) (t : Mat K) (ex : K) (t' : Mat K) (ex' : K) : Prop :=
  let _ : Sc K := scOfField F
  WF t' ∧ t'.rows = t.rows ∧ t'.cols = t.cols ∧
    ∀ i j, i < t.rows → t'.get i j + (if i = j ∧ i ≤ iu then ex' else 0) = t.get i j + (if i = j ∧ i ≤ iu then ex else 0)

theorem shifted_refl (iu : Nat) (t : Mat K) (ex : K) (h : @WF K t) : Shifted F iu t ex t ex := ⟨h, rfl, rfl, fun _ _ _ => rfl⟩

theorem shifted_trans {iu : Nat} {t t' t'' : Mat K} {ex ex' ex'' : K} (h1 : Shifted F iu t ex t' ex') (h2 : Shifted F iu t' ex' t'' ex'') :
    Shifted F iu t ex t'' ex'' := by
  obtain ⟨w1, r1, c1, g1⟩ := h1
  obtain ⟨w2, r2, c2, g2⟩ := h2
  exact ⟨w2, by rw [r2, r1], by rw [c2, c1], fun i j hi => by rw [g2 i j (by rw [r1]; exact hi), g1 i j hi]⟩

theorem subDiagShift_shifted (t : Mat K) (h : @WF K t) (iu : Nat) (x ex : K) (hr : iu < t.rows) (hc : iu < t.cols) :
    Shifted F iu t ex (@subDiagShift K _ (scOfField F) t iu x) (ex + x) := by
  let _ : Sc K := scOfField F
  obtain ⟨w, r, c, g⟩ := mapDiag_spec (· - x) h (iu + 1) hr hc
  refine ⟨w, r, c, fun i j hi => ?_⟩
  rw [show subDiagShift t iu x = mapDiag (· - x) t (iu + 1) from rfl, g i j hi]
  by_cases h2 : i = j ∧ i ≤ iu
  · rw [if_pos (by omega), if_pos h2, if_pos h2]; ring
  · rw [if_neg (by omega), if_neg h2, if_neg h2]

/-- **the exceptional shifts are consistent**: `compute_shift` returns `(T', ex')` with `T' + ex'·D = T + ex·D` entrywise
    (`D` = the identity on the active rows `0..iu`), whichever of the two exceptional shifts (iterations 10 and 30) fired -/
theorem computeShift_shifted (t : Mat K) (h : @WF K t) (iu iter : Nat) (ex : K) (hr : iu < t.rows) (hc : iu < t.cols) :
    Shifted F iu t ex (@computeShift K _ _ _ _ _ (scOfField F) iu iter ex t).1 (@computeShift K _ _ _ _ _ (scOfField F) iu iter ex t).2.1 := by
  let _ : Sc K := scOfField F
  by_cases h10 : iter = 10
  · subst h10
    simp only [computeShift, if_true, show ¬ (10 : Nat) = 30 by decide, if_false]
    exact subDiagShift_shifted F t h iu (t.get iu iu) ex hr hc
  · by_cases h30 : iter = 30
    · subst h30
      simp only [computeShift, if_true, show ¬ (30 : Nat) = 10 by decide, if_false]
      split
      · exact subDiagShift_shifted F t h iu _ ex hr hc
      · exact shifted_refl F iu t ex h
    · simp only [computeShift, if_neg h10, if_neg h30]
      exact shifted_refl F iu t ex h

end field
end C09SimU
