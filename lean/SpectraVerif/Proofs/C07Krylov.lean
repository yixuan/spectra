/-
  Algebra of the Krylov factorization  A V = V H + f e_kᵀ  (helper lemmas for Properties/C07.lean).

  Setting: `𝕜` any field, `E` any `𝕜`-module (all dimensions `n` at once; `E = Fin n → 𝕜` is the instance used by the code),
  `A : E →ₗ[𝕜] E` the operator handed to `ArnoldiOp` (`A`, `B⁻¹A`, `L⁻¹AL⁻ᵀ`, a shift-invert operator, …),
  basis columns `V : ℕ → E` (only the first `k` are meaningful), `H : ℕ → ℕ → 𝕜`.
  The inner product is an abstract sesquilinear form `IP` (linear in the second argument, `ip y x = conj (ip x y)` for a ring
  involution `conj`): `conj = id` and `ip x y = xᵀ B y` for real symmetric `B`; `conj` = complex conjugation for Hermitian `B`.
  No definiteness is needed anywhere.

  `KryE A V H f k R` is the relation with an explicit error column family `R` (used for the breakdown error term):
      ∀ j < k,  A v_j = Σ_{i<k} H i j • v_i + [j = k-1] f + R j .
-/
import Mathlib.Algebra.BigOperators.Intervals
import Mathlib.Algebra.Module.BigOperators
import Mathlib.Algebra.Module.LinearMap.Basic
import Mathlib.Algebra.Field.Basic
import Mathlib.Tactic.Ring
import Mathlib.Tactic.Abel

open Finset

namespace C07

variable {𝕜 : Type*} [Field 𝕜] {E : Type*} [AddCommGroup E] [Module 𝕜 E]

/-- Krylov relation at dimension `k` with error columns `R` -/
def KryE (A : E →ₗ[𝕜] E) (V : ℕ → E) (H : ℕ → ℕ → 𝕜) (f : E) (k : ℕ) (R : ℕ → E) : Prop :=
  ∀ j, j < k → A (V j) = (∑ i ∈ range k, H i j • V i) + (if j + 1 = k then f else 0) + R j

/-- exact Krylov relation `A V_k = V_k H_k + f e_kᵀ` -/
def Kry (A : E →ₗ[𝕜] E) (V : ℕ → E) (H : ℕ → ℕ → 𝕜) (f : E) (k : ℕ) : Prop :=
  ∀ j, j < k → A (V j) = (∑ i ∈ range k, H i j • V i) + (if j + 1 = k then f else 0)

theorem kry_iff_kryE (A : E →ₗ[𝕜] E) (V : ℕ → E) (H : ℕ → ℕ → 𝕜) (f : E) (k : ℕ) :
    Kry A V H f k ↔ KryE A V H f k (fun _ => 0) := by
  simp [Kry, KryE]

/-- new basis: column `k` becomes `v` -/
def extV (V : ℕ → E) (k : ℕ) (v : E) : ℕ → E := Function.update V k v

/-- new projected matrix: column `k` becomes `h`, row `k` gets the single entry `sub` at `(k, k-1)` -/
def extH (H : ℕ → ℕ → 𝕜) (k : ℕ) (sub : 𝕜) (h : ℕ → 𝕜) : ℕ → ℕ → 𝕜 :=
  fun i j => if j = k then h i else if i = k then (if j + 1 = k then sub else 0) else H i j

theorem extH_apply (H : ℕ → ℕ → 𝕜) (k : ℕ) (sub : 𝕜) (h : ℕ → 𝕜) (i j : ℕ) :
    extH H k sub h i j = if j = k then h i else if i = k then (if j + 1 = k then sub else 0) else H i j := rfl

/-- new residual `f' = A v_k - Σ_{i ≤ k} h i • v_i` -/
def resid (A : E →ₗ[𝕜] E) (V' : ℕ → E) (k : ℕ) (h : ℕ → 𝕜) : E :=
  A (V' k) - ∑ i ∈ range (k + 1), h i • V' i

/-- error columns after a step: the defect `d = f - sub • v` of the step is charged to column `k-1` -/
def extR (R : ℕ → E) (k : ℕ) (d : E) : ℕ → E :=
  fun j => if j = k then 0 else if j + 1 = k then R j + d else R j

/-- The general step: ANY new column `v`, ANY sub-diagonal entry `sub`, ANY coefficient column `h`.
    The only defect is `f - sub • v`, charged to column `k-1`. -/
theorem step_general (A : E →ₗ[𝕜] E) (V : ℕ → E) (H : ℕ → ℕ → 𝕜) (f : E) (k : ℕ) (R : ℕ → E)
    (v : E) (sub : 𝕜) (h : ℕ → 𝕜) (hK : KryE A V H f k R) :
    KryE A (extV V k v) (extH H k sub h) (resid A (extV V k v) k h) (k + 1) (extR R k (f - sub • v)) := by
  intro j hj
  have hV : ∀ i, i ≠ k → extV V k v i = V i := fun i hi => Function.update_of_ne hi ..
  rcases Nat.lt_succ_iff_lt_or_eq.mp hj with hlt | rfl
  · have hne : j ≠ k := Nat.ne_of_lt hlt
    have hsum : ∑ i ∈ range k, extH H k sub h i j • extV V k v i = ∑ i ∈ range k, H i j • V i :=
      sum_congr rfl fun i hi => by
        have hik : i ≠ k := Nat.ne_of_lt (mem_range.mp hi)
        rw [extH, if_neg hne, if_neg hik, hV i hik]
    rw [hV j hne, hK j hlt, sum_range_succ, hsum, if_neg (fun h => hne (Nat.succ_injective h)), add_zero, extH, if_neg hne,
      if_pos rfl, extV, Function.update_self, extR, if_neg hne]
    by_cases hlast : j + 1 = k
    · rw [if_pos hlast, if_pos hlast, if_pos hlast]; abel
    · rw [if_neg hlast, if_neg hlast, if_neg hlast, zero_smul, add_zero]
  · have hsum : ∑ i ∈ range (j + 1), extH H j sub h i j • extV V j v i = ∑ i ∈ range (j + 1), h i • extV V j v i :=
      sum_congr rfl fun i _ => by rw [extH, if_pos rfl]
    rw [hsum, if_pos rfl, extR, if_pos rfl, add_zero, resid, add_sub_cancel]

theorem extR_zero (k : ℕ) : extR (fun _ => (0 : E)) k 0 = fun _ => 0 := by
  funext j; simp [extR]

/-- the regular extension `v = f/β`, `sub = β` has no defect: an exact relation stays exact, for every coefficient column -/
theorem extend_kry (A : E →ₗ[𝕜] E) (V : ℕ → E) (H : ℕ → ℕ → 𝕜) (f : E) (k : ℕ) (β : 𝕜) (hβ : β ≠ 0) (h : ℕ → 𝕜)
    (hK : Kry A V H f k) :
    Kry A (extV V k (β⁻¹ • f)) (extH H k β h) (resid A (extV V k (β⁻¹ • f)) k h) (k + 1) := by
  have := step_general A V H f k (fun _ => 0) (β⁻¹ • f) β h ((kry_iff_kryE A V H f k).mp hK)
  rwa [smul_smul, mul_inv_cancel₀ hβ, one_smul, sub_self, extR_zero, ← kry_iff_kryE] at this

/-- re-orthogonalisation corrections `f -= V g, h += g` are the same step with coefficient column `h + g` -/
theorem resid_add (A : E →ₗ[𝕜] E) (V' : ℕ → E) (k : ℕ) (h g : ℕ → 𝕜) :
    resid A V' k (fun i => h i + g i) = resid A V' k h - ∑ i ∈ range (k + 1), g i • V' i := by
  simp only [resid, add_smul, sum_add_distrib]; abel

/-- bandwidth: a column of `Q` that vanishes from row `nnz` on only needs the first `nnz` basis vectors -/
theorem sum_band (V : ℕ → E) (q : ℕ → 𝕜) (m nnz : ℕ) (hnm : nnz ≤ m) (hq : ∀ a, nnz ≤ a → a < m → q a = 0) :
    ∑ a ∈ range m, q a • V a = ∑ a ∈ range nnz, q a • V a := by
  symm
  apply sum_subset (range_subset_range.mpr hnm)
  intro a ha hna
  rw [hq a (by simpa using hna) (mem_range.mp ha), zero_smul]

/-- lower bandwidth adds under products, one entry: over indices `c` at positions `idx c`, if `q₁ c = 0` for `a > idx c + p₁`
    (row `a` of `Q₁`) and `q₂ c = 0` for `idx c > b + p₂` (column `b` of `Q₂`), then `∑ q₁ c * q₂ c = 0` once `a > b + p₁ + p₂` -/
theorem band_mul {ι : Type*} (s : Finset ι) (idx : ι → ℕ) (q1 q2 : ι → 𝕜) {a b p1 p2 : ℕ}
    (h1 : ∀ c, idx c + p1 < a → q1 c = 0) (h2 : ∀ c, b + p2 < idx c → q2 c = 0) (hab : b + (p1 + p2) < a) :
    ∑ c ∈ s, q1 c * q2 c = 0 :=
  sum_eq_zero fun c _ => by
    by_cases hc : idx c + p1 < a
    · rw [h1 c hc, zero_mul]
    · rw [h2 c (by omega), mul_zero]

theorem smul_sum_smul (V : ℕ → E) (q : ℕ → 𝕜) (h : ℕ → ℕ → 𝕜) (m : ℕ) :
    ∑ a ∈ range m, q a • ∑ i ∈ range m, h i a • V i = ∑ i ∈ range m, (∑ a ∈ range m, h i a * q a) • V i := by
  simp only [smul_sum, smul_smul, sum_smul]
  rw [sum_comm]
  exact sum_congr rfl fun i _ => sum_congr rfl fun a _ => by rw [mul_comm]

/-- IRA compress with error columns: `V⁺ = V Q`, `f⁺ = Q(m-1,k-1) f + H⁺(k,k-1) v⁺_k`, `R⁺ = R Q` -/
theorem compress_general (A : E →ₗ[𝕜] E) (V : ℕ → E) (H Hp Q : ℕ → ℕ → 𝕜) (f : E) (m k : ℕ) (R : ℕ → E)
    (hk : 0 < k) (hkm : k < m)
    (hK : KryE A V H f m R)
    (hHQ : ∀ i, i < m → ∀ j, j < k → ∑ a ∈ range m, H i a * Q a j = ∑ b ∈ range m, Q i b * Hp b j)
    (hHess : ∀ b j, j + 1 < b → j < k → b < m → Hp b j = 0)
    (hband : ∀ j, j + 1 < k → Q (m - 1) j = 0) :
    KryE A (fun j => ∑ a ∈ range m, Q a j • V a) Hp
      (Q (m - 1) (k - 1) • f + Hp k (k - 1) • ∑ a ∈ range m, Q a k • V a) k
      (fun j => ∑ a ∈ range m, Q a j • R a) := by
  intro j hj
  have hm1 : m - 1 + 1 = m := Nat.sub_add_cancel (Nat.one_le_of_lt hkm)
  -- `A` column by column, `H Q = Q H⁺`, and the one column that carries `f`
  have h1 : A (∑ a ∈ range m, Q a j • V a) = (∑ b ∈ range m, Hp b j • ∑ i ∈ range m, Q i b • V i) + Q (m - 1) j • f
      + ∑ a ∈ range m, Q a j • R a := by
    rw [map_sum, sum_congr rfl fun a ha => by rw [map_smul, hK a (mem_range.mp ha), smul_add, smul_add],
      sum_add_distrib, sum_add_distrib]
    congr 2
    · exact (smul_sum_smul V (fun a => Q a j) H m).trans
        ((sum_congr rfl fun i hi => by rw [hHQ i (mem_range.mp hi) j hj]).trans (smul_sum_smul V (fun b => Hp b j) Q m).symm)
    · rw [sum_eq_single (m - 1) (fun b _ hne => by rw [if_neg (fun h => hne (by omega)), smul_zero])
        (fun h => absurd (mem_range.mpr (by omega)) h), if_pos hm1]
  -- `H⁺` Hessenberg: column `j` of `V⁺ H⁺` stops at row `j + 1 ≤ k`
  have h2 : ∑ b ∈ range m, Hp b j • ∑ i ∈ range m, Q i b • V i
      = (∑ b ∈ range k, Hp b j • ∑ i ∈ range m, Q i b • V i) + Hp k j • ∑ i ∈ range m, Q i k • V i := by
    rw [sum_band (fun b => ∑ i ∈ range m, Q i b • V i) (fun b => Hp b j) m (k + 1) hkm
      (fun b hb hbm => hHess b j (by omega) hj hbm), sum_range_succ]
  show A (∑ a ∈ range m, Q a j • V a) = _
  rw [h1, h2]
  by_cases hjk : j + 1 = k
  · obtain rfl : j = k - 1 := by omega
    rw [if_pos hjk]; abel
  · rw [if_neg hjk, hHess k j (by omega) hj hkm, hband j (by omega), zero_smul, zero_smul, add_zero, add_zero]

/-! ### inner product -/

/-- sesquilinear form: linear in the second argument, conjugate-symmetric w.r.t. a ring involution -/
structure IP (𝕜 : Type*) [Field 𝕜] (E : Type*) [AddCommGroup E] [Module 𝕜 E] where
  ip : E → E → 𝕜
  conj : 𝕜 →+* 𝕜
  add_right : ∀ x y z, ip x (y + z) = ip x y + ip x z
  smul_right : ∀ x (c : 𝕜) y, ip x (c • y) = c * ip x y
  symm : ∀ x y, ip y x = conj (ip x y)

namespace IP
variable (P : IP 𝕜 E)

theorem zero_right (x : E) : P.ip x 0 = 0 := by
  have := P.smul_right x 0 0; simpa using this
theorem neg_right (x y : E) : P.ip x (-y) = - P.ip x y := by
  have := P.smul_right x (-1) y; simpa using this
theorem sub_right (x y z : E) : P.ip x (y - z) = P.ip x y - P.ip x z := by
  rw [sub_eq_add_neg, P.add_right, P.neg_right, ← sub_eq_add_neg]
theorem sum_right (x : E) (s : Finset ℕ) (g : ℕ → E) : P.ip x (∑ i ∈ s, g i) = ∑ i ∈ s, P.ip x (g i) := by
  classical
  induction s using Finset.induction_on with
  | empty => simp [P.zero_right]
  | insert a s ha ih => rw [sum_insert ha, sum_insert ha, P.add_right, ih]
theorem add_left (x y z : E) : P.ip (x + y) z = P.ip x z + P.ip y z := by
  rw [P.symm z (x + y), P.add_right, map_add, ← P.symm, ← P.symm]
theorem smul_left (c : 𝕜) (x y : E) : P.ip (c • x) y = P.conj c * P.ip x y := by
  rw [P.symm y (c • x), P.smul_right, map_mul, ← P.symm]
theorem zero_left (y : E) : P.ip 0 y = 0 := by
  rw [P.symm y 0, P.zero_right, map_zero]
theorem sum_left (y : E) (s : Finset ℕ) (g : ℕ → E) : P.ip (∑ i ∈ s, g i) y = ∑ i ∈ s, P.ip (g i) y := by
  rw [P.symm y, P.sum_right, map_sum]
  apply sum_congr rfl; intro i _; rw [← P.symm]
/-- a vector divided by its (real) norm is a unit vector -/
theorem normalize_self (g : E) (γ : 𝕜) (hγ : γ ≠ 0) (hγc : P.conj γ = γ) (hnorm : γ * γ = P.ip g g) :
    P.ip (γ⁻¹ • g) (γ⁻¹ • g) = 1 := by
  rw [P.smul_left, P.smul_right, map_inv₀, hγc, ← hnorm, ← mul_assoc γ⁻¹ γ γ, inv_mul_cancel₀ hγ, one_mul, inv_mul_cancel₀ hγ]
end IP

/-- `V_kᴴ B V_k = I` -/
def ON (P : IP 𝕜 E) (V : ℕ → E) (k : ℕ) : Prop :=
  ∀ i, i < k → ∀ j, j < k → P.ip (V i) (V j) = if i = j then 1 else 0
/-- `V_kᴴ B f = 0` -/
def FO (P : IP 𝕜 E) (V : ℕ → E) (f : E) (k : ℕ) : Prop := ∀ j, j < k → P.ip (V j) f = 0

/-- against an orthonormal family, `<v_j, Σ c_i v_i> = c_j` -/
theorem ON.sum_ip {P : IP 𝕜 E} {V : ℕ → E} {k : ℕ} (hON : ON P V k) (c : ℕ → 𝕜) {j : ℕ} (hj : j < k) :
    ∑ i ∈ range k, P.ip (V j) (c i • V i) = c j := by
  rw [sum_eq_single j (fun b hb hne => by rw [P.smul_right, hON j hj b (mem_range.mp hb), if_neg (Ne.symm hne), mul_zero])
    (fun hn => absurd (mem_range.mpr hj) hn), P.smul_right, hON j hj j hj, if_pos rfl, mul_one]

/-- projecting with the exact coefficients `h = Vᴴ B w` of an orthonormal family leaves a residual orthogonal to it -/
theorem resid_orth (P : IP 𝕜 E) (V' : ℕ → E) (k1 : ℕ) (w : E) (h : ℕ → 𝕜)
    (hON : ON P V' k1) (hh : ∀ i, i < k1 → h i = P.ip (V' i) w) :
    FO P V' (w - ∑ i ∈ range k1, h i • V' i) k1 := by
  intro j hj
  rw [P.sub_right, P.sum_right, hON.sum_ip h hj, hh j hj, sub_self]

/-- normalising a residual orthogonal to an orthonormal family extends the family -/
theorem on_extend (P : IP 𝕜 E) (V : ℕ → E) (k : ℕ) (g : E) (γ : 𝕜)
    (hON : ON P V k) (hFO : FO P V g k) (hγ : γ ≠ 0) (hγc : P.conj γ = γ) (hnorm : γ * γ = P.ip g g) :
    ON P (extV V k (γ⁻¹ • g)) (k + 1) := by
  intro i hi j hj
  rcases Nat.lt_succ_iff_lt_or_eq.mp hi with hik | hik <;> rcases Nat.lt_succ_iff_lt_or_eq.mp hj with hjk | hjk
  · have h1 : i ≠ k := Nat.ne_of_lt hik
    have h2 : j ≠ k := Nat.ne_of_lt hjk
    simp only [extV, Function.update_of_ne h1, Function.update_of_ne h2]
    exact hON i hik j hjk
  · subst hjk
    have h1 : i ≠ j := Nat.ne_of_lt hik
    simp only [extV, Function.update_of_ne h1, Function.update_self, P.smul_right, hFO i hik, mul_zero, h1, if_false]
  · subst hik
    have h2 : j ≠ i := Nat.ne_of_lt hjk
    simp only [extV, Function.update_of_ne h2, Function.update_self, P.smul_left]
    rw [P.symm (V j) g, hFO j hjk, map_zero, mul_zero]
    simp [Ne.symm h2]
  · subst hik; subst hjk
    rw [extV, Function.update_self, if_pos rfl]
    exact P.normalize_self g γ hγ hγc hnorm

end C07
