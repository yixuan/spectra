/-
  C08 — `QRModel.DoubleShiftQR` applies ONE orthogonal factor `Q = P₀ P₁ ⋯ P_{n-2}` from both sides, read off the arrays:
  corollaries of `C08DsqrMatrix.apply_YQ_toM` (`apply_YQ(Y) = Y Q`), `apply_QtY_vec` (`apply_QtY(y) = Qᵀ y`) and `Qd_orth`.

  * `YQ_rows_eq_QtY`     row `a` of `apply_YQ(Y)` is `apply_QtY` of row `a` of `Y`
  * `Q_first_col`        the first column of `apply_YQ(I)` is the first column of `P₀`
  * `QtY_isometry`       unit reflectors: `apply_QtY` preserves the sum of squares (`Lin.sqNorm`)
  and their instances at `compute` (via `C08Nr.compute_nr_safe`).
-/
import SpectraVerif.Proofs.C08DsqrMatrix
import SpectraVerif.Proofs.SumFold

namespace C08DsqrQ
open Lin QRModel C08Mat

section AtField
variable {K : Type} [Field K] [LinearOrder K] [IsStrictOrderedRing K] (F : FieldFns K)

/-- shape facts that need no hypothesis on the reflector table -/
theorem YQ_dims (q : DoubleShiftQR K) {Y : Mat K} (hw : WF Y) :
    WF (aYQ F q Y) ∧ (aYQ F q Y).rows = Y.rows ∧ (aYQ F q Y).cols = Y.cols :=
  @apply_YQ_dims K _ (scOfField F) q Y hw

theorem QtY_size (q : DoubleShiftQR K) (y : Vec K) : (aQtY F q y).size = y.size :=
  @apply_QtY_size K _ (scOfField F) q y

/-- `apply_YQ` multiplies from the right by exactly the `Q` whose transpose `apply_QtY` applies from the left:
    row `a` of `Y Q` is `(Qᵀ yₐ)ᵀ`, `yₐ` = row `a` of `Y` -/
theorem YQ_rows_eq_QtY (q : DoubleShiftQR K) (n : Nat) (hqn : q.n = n) (hn : 2 ≤ n)
    (hsafe : ∀ k, k < n - 1 → (q.nr.getD k 0 = 1 ∨ q.nr.getD k 0 = 2 ∨ q.nr.getD k 0 = 3) ∧
      (q.nr.getD k 0 = 3 → k + 2 ≤ n - 1))
    {Y : Mat K} (hw : WF Y) (hc : Y.cols = n) (a b : Nat) (ha : a < Y.rows) (hb : b < n) :
    mget F (aYQ F q Y) a b = vgt F (aQtY F q (vofFn n (fun j => mget F Y a j))) b := by
  subst hqn
  have e1 := congrFun (congrFun (C08DsqrMatrix.apply_YQ_toM F q hn hsafe hw rfl hc) ⟨a, ha⟩) ⟨b, hb⟩
  have e2 := congrFun (C08DsqrMatrix.apply_QtY_vec F q hn hsafe (vofFn q.n (fun j => mget F Y a j))
    (ListFold.size_vofFn _ _)) ⟨b, hb⟩
  refine e1.trans (Eq.trans ?_ e2.symm)
  rw [Matrix.mul_apply]
  unfold Matrix.mulVec dotProduct
  refine Finset.sum_congr rfl (fun l _ => ?_)
  show mget F Y a l.val * C08DsqrMatrix.Qdof F q l ⟨b, hb⟩ =
    C08DsqrMatrix.Qdof F q l ⟨b, hb⟩ * vgt F (vofFn q.n (fun j => mget F Y a j)) l.val
  have ev : vgt F (vofFn q.n (fun j => mget F Y a j)) l.val = mget F Y a l.val :=
    ListFold.vget_vofFn (sc := scOfField F) _ _ _ l.isLt
  rw [ev]
  exact mul_comm _ _

/-- only step 0 of `apply_QtY` touches entry 0 -/
theorem QtY_first_entry (q : DoubleShiftQR K) (hn : 2 ≤ q.n) (y : Vec K) :
    vgt F (aQtY F q y) 0 = vgt F (aPXv F q.u q.nr y 0 0) 0 :=
  @QtY_head K _ (scOfField F) q hn y

theorem toM_ident (n : Nat) : C08HessMatrix.toM F n n (ident F n) = 1 := by
  ext i j
  refine (@get_identity K (scOfField F) n _ _ i.isLt j.isLt).trans ?_
  rw [Matrix.one_apply, one_eq, zero_eq]
  exact if_congr Fin.ext_iff.symm rfl rfl

/-- `Q e₁ = P₀ e₁`.  The first column of `Q` (read off `apply_YQ` on the identity) is the first column of
    `P₀ = I − 2 u₀ u₀ᵀ` (`u₀` has `nr[0]` live entries; `P₀ = I` when `nr[0] = 1`) -/
theorem Q_first_col (q : DoubleShiftQR K) (n : Nat) (hqn : q.n = n) (hn : 2 ≤ n)
    (hsafe : ∀ k, k < n - 1 → (q.nr.getD k 0 = 1 ∨ q.nr.getD k 0 = 2 ∨ q.nr.getD k 0 = 3) ∧
      (q.nr.getD k 0 = 3 → k + 2 ≤ n - 1))
    (a : Nat) (ha : a < n) :
    mget F (aYQ F q (ident F n)) a 0 =
      if q.nr.getD 0 0 = 1 then (if a = 0 then 1 else 0)
      else (if a = 0 then 1 else 0) - 2 * (if a < q.nr.getD 0 0 then mget F q.u a 0 else 0) * mget F q.u 0 0 := by
  subst hqn
  have e1 := congrFun (congrFun (C08DsqrMatrix.apply_YQ_toM F q hn hsafe (m := q.n) (@identity_WF K (scOfField F) q.n) rfl rfl)
    ⟨a, ha⟩)
    ⟨0, by omega⟩
  rw [toM_ident, Matrix.one_mul, C08DsqrMatrix.Qd_first_col F q hn ⟨a, ha⟩, C08DsqrMatrix.Pm_apply] at e1
  refine e1.trans ?_
  have ea : ((⟨a, ha⟩ : Fin q.n) = ⟨0, by omega⟩) = (a = 0) := propext Fin.ext_iff
  simp only [ea]
  by_cases h1 : q.nr.getD 0 0 = 1
  · rw [if_pos h1, C08DsqrMatrix.wv_one F _ _ _ _ h1]; ring
  · have hpos : 0 < q.nr.getD 0 0 := by have := (hsafe 0 (by omega)).1; omega
    rw [if_neg h1, C08DsqrMatrix.wv_apply, C08DsqrMatrix.wv_apply]
    simp only [ne_eq, h1, not_false_eq_true, Nat.zero_le, Nat.zero_add, true_and, hpos, if_true, Nat.sub_zero]

/-- `sqNorm` is the sum `Σ_{i<n} yᵢ yᵢ` in the model's summation order -/
theorem sqN_eq (y : Vec K) :
    sqN F y = @sumFrom0 K _ (scOfField F) y.size (fun i => vgt F y i * vgt F y i) := rfl

/-- the model's left-to-right reduction is the sum -/
theorem sumFrom0_eq_sum (n : Nat) (f : Nat → K) : @sumFrom0 K _ (scOfField F) n f = ∑ i : Fin n, f i.val := by
  rw [SumFold.sumFrom0_scOfField, Finset.sum_range]

/-- if every stored reflector is a unit vector, `apply_QtY` preserves the squared norm: `‖Qᵀy‖² = yᵀ(QQᵀ)y = ‖y‖²` -/
theorem QtY_isometry (q : DoubleShiftQR K) (n : Nat) (hqn : q.n = n)
    (hsafe : ∀ k, k < n - 1 → (q.nr.getD k 0 = 1 ∨ q.nr.getD k 0 = 2 ∨ q.nr.getD k 0 = 3) ∧
      (q.nr.getD k 0 = 3 → k + 2 ≤ n - 1))
    (hunit : ∀ k, k < n - 1 →
      (q.nr.getD k 0 = 2 → mget F q.u 0 k * mget F q.u 0 k + mget F q.u 1 k * mget F q.u 1 k = 1) ∧
      (q.nr.getD k 0 = 3 →
        mget F q.u 0 k * mget F q.u 0 k + mget F q.u 1 k * mget F q.u 1 k + mget F q.u 2 k * mget F q.u 2 k = 1))
    (y : Vec K) (hy : y.size = n) :
    sqN F (aQtY F q y) = sqN F y := by
  subst hqn
  rcases Nat.lt_or_ge q.n 2 with hlt | hn
  · have e : aQtY F q y = y := by
      show (List.range (q.n - 1)).foldl _ y = y
      rw [show q.n - 1 = 0 by omega]; rfl
    rw [e]
  · have hQ := (C08DsqrMatrix.Qd_orth F q hsafe hunit).2
    have hv := C08DsqrMatrix.apply_QtY_vec F q hn hsafe y hy
    rw [sqN_eq, sqN_eq, QtY_size, hy, sumFrom0_eq_sum, sumFrom0_eq_sum]
    show dotProduct (fun i : Fin q.n => vgt F (aQtY F q y) i.val) (fun i : Fin q.n => vgt F (aQtY F q y) i.val) =
      dotProduct (fun i : Fin q.n => vgt F y i.val) (fun i : Fin q.n => vgt F y i.val)
    rw [hv, Matrix.dotProduct_mulVec, Matrix.vecMul_transpose, Matrix.mulVec_mulVec, hQ, Matrix.one_mulVec]

/-! ### corollaries for every computed factorisation `q = compute mat s t` -/

theorem compute_safe (hmin : 0 < F.minPos) (mat : Mat K) (s t : K) (hn : 1 ≤ mat.rows) :
    ∀ k, k < mat.rows - 1 →
      ((comp F mat s t).nr.getD k 0 = 1 ∨ (comp F mat s t).nr.getD k 0 = 2 ∨ (comp F mat s t).nr.getD k 0 = 3) ∧
      ((comp F mat s t).nr.getD k 0 = 3 → k + 2 ≤ mat.rows - 1) := by
  obtain ⟨_, h1, h2, _, _⟩ := C08Nr.compute_nr_safe F hmin mat s t hn
  intro k hk
  exact ⟨h1 k (by omega), h2 k (by omega)⟩

theorem compute_YQ_rows_eq_QtY (hmin : 0 < F.minPos) (mat : Mat K) (s t : K) (hn : 2 ≤ mat.rows)
    {Y : Mat K} (hw : WF Y) (hc : Y.cols = mat.rows) (a b : Nat) (ha : a < Y.rows) (hb : b < mat.rows) :
    mget F (aYQ F (comp F mat s t) Y) a b =
      vgt F (aQtY F (comp F mat s t) (vofFn mat.rows (fun j => mget F Y a j))) b :=
  YQ_rows_eq_QtY F (comp F mat s t) mat.rows rfl hn (compute_safe F hmin mat s t (by omega)) hw hc a b ha hb

theorem compute_Q_first_col (hmin : 0 < F.minPos) (mat : Mat K) (s t : K) (hn : 2 ≤ mat.rows) (a : Nat)
    (ha : a < mat.rows) :
    mget F (aYQ F (comp F mat s t) (ident F mat.rows)) a 0 =
      if (comp F mat s t).nr.getD 0 0 = 1 then (if a = 0 then 1 else 0)
      else (if a = 0 then 1 else 0) -
        2 * (if a < (comp F mat s t).nr.getD 0 0 then mget F (comp F mat s t).u a 0 else 0) *
          mget F (comp F mat s t).u 0 0 :=
  Q_first_col F (comp F mat s t) mat.rows rfl hn (compute_safe F hmin mat s t (by omega)) a ha

theorem compute_QtY_isometry (hmin : 0 < F.minPos) (mat : Mat K) (s t : K) (hn : 1 ≤ mat.rows)
    (hunit : ∀ k, k < mat.rows - 1 →
      ((comp F mat s t).nr.getD k 0 = 2 →
        mget F (comp F mat s t).u 0 k * mget F (comp F mat s t).u 0 k +
          mget F (comp F mat s t).u 1 k * mget F (comp F mat s t).u 1 k = 1) ∧
      ((comp F mat s t).nr.getD k 0 = 3 →
        mget F (comp F mat s t).u 0 k * mget F (comp F mat s t).u 0 k +
          mget F (comp F mat s t).u 1 k * mget F (comp F mat s t).u 1 k +
          mget F (comp F mat s t).u 2 k * mget F (comp F mat s t).u 2 k = 1))
    (y : Vec K) (hy : y.size = mat.rows) :
    sqN F (aQtY F (comp F mat s t) y) = sqN F y :=
  QtY_isometry F (comp F mat s t) mat.rows rfl (compute_safe F hmin mat s t hn) hunit y hy

end AtField

end C08DsqrQ
