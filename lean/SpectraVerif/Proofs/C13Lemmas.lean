/-
  C13 — lemmas about the source-translated restart-size functions (`Gen.Restart`) and the index programs / operator-call skeleton
  of `Model/RestartIdx.lean`.  Everything is generic in the scalar type and in its `Sc` instance (no property of the floating
  comparisons is used: they are oracles).
-/
import SpectraVerif.Gen.Restart
import SpectraVerif.Model.RestartIdx
import SpectraVerif.Proofs.ListFold
open Gen.Restart
namespace RestartIdx

theorem tdiv2 (x : Int) (h : 0 ≤ x) : Int.tdiv x 2 = x / 2 := Int.tdiv_eq_ediv_of_nonneg h

section
variable {α : Type} [Add α] [Sub α] [Mul α] [Div α] [Neg α] [Sc α]

/-- both `nev_adjusted` in variables: `p` the test of an estimate, `t` the threshold of the bump to 2, `d` the distance the last
    clamp keeps from `ncv` (2, 1 Hermitian; 3, 2 general).  The fold counts some of the indices `nev..ncv-1`, so `c ∈ [nev, ncv]`;
    `min … ≥ 0` keeps the lower bound, the two bumps fire only for `nev = 1`, the clamp gives the upper bound. -/
theorem nevAdj_bounds (p : Int → Bool) (t d : Int) {nev ncv nconv : Int} (hd : 0 ≤ d) (h1 : 1 ≤ nev) (h2 : nev ≤ ncv - d) (h3 : 0 ≤ nconv) :
    let c := (intRange nev ncv).foldl (fun c i => if p i then c + 1 else c) nev
    let x := c + min nconv (Int.tdiv (ncv - c) 2)
    let y := if decide (x = 1) && decide (ncv ≥ 6) then Int.tdiv ncv 2 else if decide (x = 1) && decide (ncv > t) then 2 else x
    let z := if decide (y > ncv - d) then ncv - d else y
    nev ≤ z ∧ z ≤ ncv - d := by
  intro c
  have hc : nev ≤ c ∧ c ≤ nev + (intRange nev ncv).length := ListFold.foldl_count_if_bounds p _ nev
  rw [intRange_length] at hc
  clear_value c
  intro x
  have hx : nev ≤ x := by have := tdiv2 (ncv - c) (by omega); omega
  clear_value x
  intro y
  have hy : nev ≤ y := by
    have := tdiv2 ncv (by omega)
    simp only [y, Bool.and_eq_true, decide_eq_true_eq]
    split
    · omega
    · split <;> omega
  clear_value y
  intro z
  simp only [z, decide_eq_true_eq]
  split <;> omega

theorem herm_k (nev ncv : Int) (est : Int → α) (nconv : Int)
    (h1 : 1 ≤ nev) (h2 : nev < ncv) (h3 : 0 ≤ nconv) :
    nev ≤ hermNevAdj nev ncv est nconv ∧ hermNevAdj nev ncv est nconv ≤ ncv - 1 :=
  nevAdj_bounds (fun i => Sc.lt (Sc.abs (est i)) (Sc.minPos * Sc.ofInt 10)) 2 1 (by omega) h1 (by omega) h3

theorem gen_pre (nev ncv : Int) (est : Int → α × α) (nconv : Int)
    (h1 : 1 ≤ nev) (h2 : nev ≤ ncv - 2) (h3 : 0 ≤ nconv) :
    nev ≤ genNevPre nev ncv est nconv ∧ genNevPre nev ncv est nconv ≤ ncv - 2 :=
  nevAdj_bounds (fun i => Sc.lt (Sc.cabs (est i)) (Sc.minPos * Sc.ofInt 10)) 3 2 (by omega) h1 h2 h3
theorem gen_adj_eq (nev ncv : Int) (est val : Int → α × α) (nconv : Int) :
    genNevAdj nev ncv est val nconv =
      if is_complex (val (genNevPre nev ncv est nconv - 1)) && is_conj (val (genNevPre nev ncv est nconv - 1)) (val (genNevPre nev ncv est nconv))
      then genNevPre nev ncv est nconv + 1 else genNevPre nev ncv est nconv := by
  simp only [genNevAdj, genNevPre]

/-- the four branches of one pass in one statement: a single shift that advances by one (real value; complex value at the last
    position, where the bounds guard stops the conjugate test; complex value whose successor is not its conjugate, which also reads
    position `i + 1`) or a double shift that advances by two -/
theorem step_cases (ncv : Int) (ritz : Int → α × α) (i : Int) :
    (genShiftSkel_step ncv ritz i = ([i], false, i + 1) ∧ (is_complex (ritz i) = true → ¬ i + 1 < ncv)) ∨
    (is_complex (ritz i) = true ∧ i + 1 < ncv ∧
      ((is_conj (ritz i) (ritz (i + 1)) = false ∧ genShiftSkel_step ncv ritz i = ([i, i, i + 1], false, i + 1)) ∨
       (is_conj (ritz i) (ritz (i + 1)) = true ∧ genShiftSkel_step ncv ritz i = ([i, i, i + 1], true, i + 2)))) := by
  cases h : is_complex (ritz i)
  · exact Or.inl ⟨by simp [genShiftSkel_step, h], nofun⟩
  · by_cases hg : i + 1 < ncv
    · cases h2 : is_conj (ritz i) (ritz (i + 1))
      · exact Or.inr ⟨rfl, hg, Or.inl ⟨rfl, by simp [genShiftSkel_step, h, h2, hg]⟩⟩
      · exact Or.inr ⟨rfl, hg, Or.inr ⟨rfl, by simp [genShiftSkel_step, h, h2, hg]; omega⟩⟩
    · exact Or.inl ⟨by simp [genShiftSkel_step, h, hg], fun _ => hg⟩

theorem step_spec (ncv : Int) (ritz : Int → α × α) (i : Int) (h : i < ncv) :
    (∀ r ∈ (genShiftSkel_step ncv ritz i).1, i ≤ r ∧ r < ncv) ∧
    (genShiftSkel_step ncv ritz i).2.2 = i + (if (genShiftSkel_step ncv ritz i).2.1 then 2 else 1) ∧
    (genShiftSkel_step ncv ritz i).2.2 ≤ ncv := by
  rcases step_cases ncv ritz i with ⟨e, _⟩ | ⟨_, hg, ⟨_, e⟩ | ⟨_, e⟩⟩ <;> rw [e] <;> dsimp only <;>
    simp only [List.mem_cons, List.not_mem_nil, or_false, forall_eq_or_imp, forall_eq, Bool.false_eq_true, if_false, if_true,
      true_and] <;>
    omega

theorem genStep_next (ncv : Int) (ritz : Int → α × α) (i : Int) : i < (genShiftSkel_step ncv ritz i).2.2 := by
  rcases step_cases ncv ritz i with ⟨e, _⟩ | ⟨_, _, ⟨_, e⟩ | ⟨_, e⟩⟩ <;> rw [e] <;> show i < i + _ <;> omega

theorem genPasses_ge (ritz : Int → α × α) (hi i : Int) (h : hi ≤ i) : genPasses ritz hi i = [] := by
  rw [genPasses, dif_neg (by omega)]

theorem genPasses_lt (ritz : Int → α × α) (hi i : Int) (h : i < hi) :
    genPasses ritz hi i = ⟨i, (genShiftSkel_step hi ritz i).1, (genShiftSkel_step hi ritz i).2.1, (genShiftSkel_step hi ritz i).2.2⟩ ::
      genPasses ritz hi (genShiftSkel_step hi ritz i).2.2 := by
  rw [genPasses]; simp [h, genStep_next]

/-- induction along the passes of the shift loop: from the loop exit (`ncv ≤ i`, no pass) back over one pass at a time -/
theorem genPasses_induction (ritz : Int → α × α) (ncv : Int) {motive : Int → List Pass → Prop}
    (exit : ∀ i, ncv ≤ i → motive i [])
    (pass : ∀ i, i < ncv →
      motive (genShiftSkel_step ncv ritz i).2.2 (genPasses ritz ncv (genShiftSkel_step ncv ritz i).2.2) →
      motive i (⟨i, (genShiftSkel_step ncv ritz i).1, (genShiftSkel_step ncv ritz i).2.1, (genShiftSkel_step ncv ritz i).2.2⟩ ::
        genPasses ritz ncv (genShiftSkel_step ncv ritz i).2.2))
    (i : Int) : motive i (genPasses ritz ncv i) := by
  fun_induction genPasses ritz ncv i with
  | case1 i hlt _ ih => exact pass i hlt ih
  | case2 i _ h => exact absurd (genStep_next ncv ritz i) h
  | case3 i h => exact exit i (by omega)

theorem adj_ge (ritz : Int → α × α) (ncv i : Int) (h : ncv ≤ i) : AdjacentConj ritz ncv i := by
  rw [AdjacentConj, if_neg (by omega)]; trivial

theorem adj_lt (ritz : Int → α × α) (ncv i : Int) (h : i < ncv) :
    AdjacentConj ritz ncv i ↔
      (if is_complex (ritz i) then i + 1 < ncv ∧ is_conj (ritz i) (ritz (i + 1)) = true ∧ AdjacentConj ritz ncv (i + 2)
       else AdjacentConj ritz ncv (i + 1)) := by
  rw [AdjacentConj]; simp [h]

/-- every complex Ritz value met by the loop is consumed, together with its successor, by ONE double shift -/
def AllPaired (ritz : Int → α × α) (ps : List Pass) : Prop := ∀ p ∈ ps, is_complex (ritz p.i) = true → p.double = true

theorem inBounds_nil (ncv : Int) : InBounds ncv [] := by simp [InBounds, allReads]
theorem inBounds_cons (ncv : Int) (p : Pass) (ps : List Pass) :
    InBounds ncv (p :: ps) ↔ (∀ r ∈ p.reads, 0 ≤ r ∧ r < ncv) ∧ InBounds ncv ps := by
  simp only [InBounds, allReads, List.flatMap_cons, List.mem_append]
  constructor
  · intro h; exact ⟨fun r hr => h r (Or.inl hr), fun r hr => h r (Or.inr hr)⟩
  · rintro ⟨h1, h2⟩ r (hr | hr); exact h1 r hr; exact h2 r hr

theorem allPaired_cons (ritz : Int → α × α) (p : Pass) (ps : List Pass) :
    AllPaired ritz (p :: ps) ↔ (is_complex (ritz p.i) = true → p.double = true) ∧ AllPaired ritz ps := by
  simp [AllPaired]

theorem degree_cons (p : Pass) (ps : List Pass) : degree (p :: ps) = (if p.double then 2 else 1) + degree ps := by
  simp [degree]

theorem degree_passes (ritz : Int → α × α) (ncv i : Int) (hle : i ≤ ncv) : degree (genPasses ritz ncv i) = ncv - i := by
  revert hle
  refine genPasses_induction ritz ncv (motive := fun i ps => i ≤ ncv → degree ps = ncv - i)
    (fun i h hle => ?_) (fun i hlt ih _ => ?_) i
  · simp only [degree, List.map_nil, List.sum_nil]; omega
  · obtain ⟨_, hn, hle'⟩ := step_spec ncv ritz i hlt
    rw [degree_cons, ih hle']
    dsimp only
    omega

theorem passes_len (ritz : Int → α × α) (ncv i : Int) : (genPasses ritz ncv i).length ≤ (ncv - i).toNat := by
  refine genPasses_induction ritz ncv (motive := fun i ps => ps.length ≤ (ncv - i).toNat)
    (fun i _ => Nat.zero_le _) (fun i hlt ih => ?_) i
  have := genStep_next ncv ritz i
  simp only [List.length_cons]; omega

/-- an AdjacentConj sequence seen from a later position j: either j is again a block boundary, or j is the second member of a pair -/
theorem adj_split_aux (ritz : Int → α × α) (ncv i : Int) (ha : AdjacentConj ritz ncv i) (j : Int) (hij : i ≤ j) :
      AdjacentConj ritz ncv j ∨
      (is_complex (ritz (j - 1)) = true ∧ is_conj (ritz (j - 1)) (ritz j) = true ∧ AdjacentConj ritz ncv (j + 1)) := by
  fun_induction AdjacentConj ritz ncv i with
  | case1 i hlt hc ih =>
    by_cases hje : j = i
    · subst hje; exact Or.inl ((adj_lt ritz ncv j hlt).mpr (by rwa [if_pos hc]))
    · by_cases hj1 : j = i + 1
      · subst hj1
        rw [show i + 1 - 1 = i by omega, show i + 1 + 1 = i + 2 by omega]
        exact Or.inr ⟨hc, ha.2⟩
      · exact ih ha.2.2 (by omega)
  | case2 i hlt hc ih =>
    by_cases hje : j = i
    · subst hje; exact Or.inl ((adj_lt ritz ncv j hlt).mpr (by rwa [if_neg hc]))
    · exact ih ha (by omega)
  | case3 i h => exact Or.inl (adj_ge ritz ncv j (by omega))

/-- the conjugate test at the end of `GenEigsBase::nev_adjusted` moves `pre` to a block boundary, PROVIDED the two values across
    a boundary are never conjugates of each other (`hns`; false only when the same complex pair occurs twice in a row) -/
theorem bump_boundary (ritz : Int → α × α) (ncv pre : Int) (h0 : 0 ≤ pre) (hadj : AdjacentConj ritz ncv 0)
    (hns : AdjacentConj ritz ncv pre → ¬(is_complex (ritz (pre - 1)) = true ∧ is_conj (ritz (pre - 1)) (ritz pre) = true)) :
    AdjacentConj ritz ncv (if is_complex (ritz (pre - 1)) && is_conj (ritz (pre - 1)) (ritz pre) then pre + 1 else pre) := by
  rcases adj_split_aux ritz ncv 0 hadj pre h0 with h | h
  · have := hns h
    rw [if_neg (by simpa [Bool.and_eq_true] using this)]; exact h
  · rw [if_pos (by simp [h.1, h.2.1])]; exact h.2.2
end

/-! ### operator-call skeleton -/

theorem flatMap_len_le {β γ : Type} (f : β → List γ) (b : Nat) (l : List β) (h : ∀ x ∈ l, (f x).length ≤ b) :
    (l.flatMap f).length ≤ b * l.length := by
  induction l with
  | nil => simp
  | cons x xs ih =>
    have h1 := h x (by simp)
    have h2 := ih (fun y hy => h y (by simp [hy]))
    simp only [List.flatMap_cons, List.length_append, List.length_cons]
    rw [Nat.mul_succ]; omega

theorem stepCalls_len (bd : Bool) (i : Int) : (stepCalls bd i).length ≤ 2 := by
  cases bd <;> simp [stepCalls]

theorem factorizeCalls_len (bd : Int → Bool) (a b : Int) : (factorizeCalls bd a b).length ≤ 2 * (b - a).toNat := by
  have := flatMap_len_le (fun i => stepCalls (bd i) i) 2 (intRange a b) (fun x _ => stepCalls_len (bd x) x)
  rw [intRange_length] at this; exact this

/-- every call of a factorization is `w = A·V(:,i)` for a step `i` of its range or (breakdown branch) `f = A·v` with expand_basis'
    fresh random vector -/
theorem factorizeCalls_shape (bd : Int → Bool) (a b : Int) :
    ∀ c ∈ factorizeCalls bd a b, c = ⟨.tmp, .f⟩ ∨ ∃ i, a ≤ i ∧ i < b ∧ c = ⟨.vcol i, .w⟩ := by
  intro c hc
  simp only [factorizeCalls, List.mem_flatMap] at hc
  obtain ⟨i, hi, hc⟩ := hc
  rw [mem_intRange] at hi
  simp only [stepCalls, List.mem_append, List.mem_singleton] at hc
  rcases hc with hc | hc
  · split at hc
    · simp only [List.mem_singleton] at hc; exact Or.inl hc
    · exact absurd hc (by simp)
  · exact Or.inr ⟨i, hi.1, hi.2, hc⟩

theorem factorizeCalls_valid (bd : Int → Bool) (a b ncv : Int) (ha : 0 ≤ a) (hb : b ≤ ncv) :
    ∀ c ∈ factorizeCalls bd a b, Call.valid ncv c := by
  intro c hc
  rcases factorizeCalls_shape bd a b c hc with rfl | ⟨i, h1, h2, rfl⟩
  · exact ⟨by simp, by simp, by simp⟩
  · refine ⟨by simp, ?_, by simp⟩
    intro j hj; injection hj with hj; omega

theorem initCalls_valid (ncv : Int) (h : 1 ≤ ncv) : ∀ c ∈ initCalls, Call.valid ncv c := by
  intro c hc
  simp only [initCalls, List.mem_cons, List.not_mem_nil, or_false] at hc
  rcases hc with rfl | rfl
  · refine ⟨by simp, by simp, ?_⟩; intro j hj; injection hj with hj; omega
  · refine ⟨by simp, ?_, by simp⟩; intro j hj; injection hj with hj; omega

/-- the restart loop, described once: it executes `ks.length ≤ r` restarts, numbered `it, it+1, …`; its calls are the calls of those
    restarts in order; the iteration counter advances by at most one per restart -/
theorem computeLoop_calls {O : Type} (brk : O → Bool) (kOf : O → Int) (restartOf : O → Int → List Call × Stop) (orc : Nat → O)
    (r it : Nat) :
    (computeLoop brk kOf restartOf orc r it).ks.length ≤ r ∧
    (computeLoop brk kOf restartOf orc r it).calls =
      (List.range' it (computeLoop brk kOf restartOf orc r it).ks.length).flatMap
        (fun j => (restartOf (orc j) (kOf (orc j))).1) ∧
    (computeLoop brk kOf restartOf orc r it).iters ≤ it + (computeLoop brk kOf restartOf orc r it).ks.length := by
  induction r generalizing it with
  | zero => simp [computeLoop]
  | succ r ih =>
    obtain ⟨hn, hc, hi⟩ := ih (it + 1)
    simp only [computeLoop]
    cases brk (orc it)
    · simp only [Bool.false_eq_true, if_false]
      split <;> dsimp only
      · -- the restart stops abnormally: one restart, `List.range' it 1 = [it]`
        refine ⟨by simp, ?_, by omega⟩
        simp only [List.length_cons, List.length_nil, Nat.zero_add, List.range'_one, List.flatMap_cons, List.flatMap_nil,
          List.append_nil]
      · -- the loop continues: `List.range' it (n+1) = it :: List.range' (it+1) n`
        refine ⟨by simp only [List.length_cons]; omega, ?_, by simp only [List.length_cons]; omega⟩
        rw [List.length_cons, List.range'_succ, List.flatMap_cons, ← hc]
    · -- break: no restart
      simp

theorem computeLoop_iters {O : Type} (brk : O → Bool) (kOf : O → Int) (restartOf : O → Int → List Call × Stop) (orc : Nat → O)
    (r it : Nat) : (computeLoop brk kOf restartOf orc r it).iters ≤ it + r := by
  have := computeLoop_calls brk kOf restartOf orc r it
  omega

/-- the Hermitian shift loop applies exactly `ncv - k` single shifts, then factorizes from k to ncv -/
theorem hermShiftSkel_lt (ncv k : Int) (h : k < ncv) : hermShiftSkel ncv k = (false, ncv - k, k, ncv) := by
  simp only [hermShiftSkel, ListFold.foldl_count, intRange_length]
  rw [if_neg (by simp; omega)]
  congr 2; omega

theorem hermShiftSkel_ge (ncv k : Int) (h : ncv ≤ k) : hermShiftSkel ncv k = (true, 0, k, ncv) := by
  simp only [hermShiftSkel]; rw [if_pos (by simp; omega)]

theorem hermRestartCalls_lt (ncv k : Int) (bd : Int → Bool) (h : k < ncv) :
    hermRestartCalls ncv k bd = (factorizeCalls bd k ncv, Stop.none) := by
  simp only [hermRestartCalls, hermShiftSkel_lt ncv k h]
  simp only [Bool.false_eq_true, if_false]
  rw [if_neg (by omega)]

/-- the Hermitian restart calls are one factorization (empty when `ncv ≤ k`) -/
theorem hermRestartCalls_eq (ncv k : Int) (bd : Int → Bool) : (hermRestartCalls ncv k bd).1 = factorizeCalls bd k ncv := by
  by_cases h : k < ncv
  · rw [hermRestartCalls_lt ncv k bd h]
  · simp only [hermRestartCalls, hermShiftSkel_ge ncv k (by omega), if_true, factorizeCalls, intRange_empty k ncv (by omega),
      List.flatMap_nil]

section
variable {α : Type} [Add α] [Sub α] [Mul α] [Div α] [Neg α] [Sc α]
theorem genRestart_frame (ritz : Int → α × α) (ncv k : Int) (h : k < ncv) :
    genRestart ritz ncv k = ⟨false, genPasses ritz ncv k, ncv - degree (genPasses ritz ncv k), k, ncv⟩ := by
  simp [genRestart, genShiftSkel_frame]; omega

theorem genRestartCalls_cases (ncv k : Int) (val : Int → α × α) (bd : Int → Bool) :
    (genRestartCalls ncv k val bd).1 = [] ∨ (genRestartCalls ncv k val bd).1 = factorizeCalls bd k ncv := by
  by_cases h : k < ncv
  · simp only [genRestartCalls, genRestart_frame val ncv k h, Bool.false_eq_true, if_false]
    split
    · simp
    · split
      · simp
      · exact Or.inr rfl
  · simp [genRestartCalls, genRestart, genShiftSkel_frame, Int.not_lt.mp h]
end

theorem restartCalls_ok (ncv k : Int) (bd : Int → Bool) (cs : List Call) (hk : 1 ≤ k)
    (h : cs = [] ∨ cs = factorizeCalls bd k ncv) :
    cs.length ≤ 2 * (ncv - 1).toNat ∧ ∀ c ∈ cs, Call.valid ncv c := by
  rcases h with rfl | rfl
  · simp
  · exact ⟨by have := factorizeCalls_len bd k ncv; omega, factorizeCalls_valid bd k ncv ncv (by omega) (Int.le_refl _)⟩

/-! #### `init(); compute()`: `init`, the first factorization `c0`, then the restart loop -/

theorem compute_calls_all {O : Type} (brk : O → Bool) (kOf : O → Int) (restartOf : O → Int → List Call × Stop) (orc : Nat → O)
    (P : Call → Prop) (c0 : List Call) (r : Nat) (hi : ∀ c ∈ initCalls, P c) (h0 : ∀ c ∈ c0, P c)
    (hB : ∀ it, ∀ c ∈ (restartOf (orc it) (kOf (orc it))).1, P c) :
    ∀ c ∈ initCalls ++ (c0 ++ (computeLoop brk kOf restartOf orc r 0).calls), P c := by
  intro c hc
  rcases List.mem_append.mp hc with hc | hc
  · exact hi c hc
  rcases List.mem_append.mp hc with hc | hc
  · exact h0 c hc
  · rw [(computeLoop_calls brk kOf restartOf orc r 0).2.1] at hc
    obtain ⟨j, _, hc⟩ := List.mem_flatMap.mp hc
    exact hB j c hc

/-- `2 + 2 (ncv-1) (r+1)`: 2 calls of `init`; a factorization from `k ≥ 1` to `ncv` has at most `ncv - 1` steps of at most 2 calls
    (`stepCalls`); there are the first factorization and at most `r` restarts -/
theorem compute_calls_ok {O : Type} (brk : O → Bool) (kOf : O → Int) (restartOf : O → Int → List Call × Stop) (orc : Nat → O)
    (ncv : Int) (bd0 : Int → Bool) (k0 : Int) (r : Nat) (hncv : 1 ≤ ncv)
    (hB : ∀ it, (restartOf (orc it) (kOf (orc it))).1.length ≤ 2 * (ncv - 1).toNat ∧
      ∀ c ∈ (restartOf (orc it) (kOf (orc it))).1, Call.valid ncv c) :
    (initCalls ++ (factorizeCalls bd0 (max 1 k0) ncv ++ (computeLoop brk kOf restartOf orc r 0).calls)).length
      ≤ 2 + 2 * (ncv - 1).toNat * (r + 1) ∧
    ∀ c ∈ initCalls ++ (factorizeCalls bd0 (max 1 k0) ncv ++ (computeLoop brk kOf restartOf orc r 0).calls), Call.valid ncv c := by
  refine ⟨?_, compute_calls_all brk kOf restartOf orc _ _ r (initCalls_valid ncv hncv)
    (factorizeCalls_valid bd0 _ ncv ncv (by omega) (Int.le_refl _)) (fun it => (hB it).2)⟩
  obtain ⟨hn, hc, _⟩ := computeLoop_calls brk kOf restartOf orc r 0
  -- the loop: at most `B = 2 (ncv-1)` calls for each of its `ks.length ≤ r` restarts
  have hloop := flatMap_len_le _ _ (List.range' 0 (computeLoop brk kOf restartOf orc r 0).ks.length) (fun j _ => (hB j).1)
  rw [← hc, List.length_range'] at hloop
  have hr := Nat.mul_le_mul_left (2 * (ncv - 1).toNat) hn
  -- the first factorization
  have h0 : (factorizeCalls bd0 (max 1 k0) ncv).length ≤ 2 * (ncv - 1).toNat :=
    Nat.le_trans (factorizeCalls_len bd0 (max 1 k0) ncv)
      (Nat.mul_le_mul_left 2 (Int.toNat_le_toNat (Int.sub_le_sub_left (Int.le_max_left 1 k0) ncv)))
  simp only [List.length_append, initCalls, List.length_cons, List.length_nil]
  rw [Nat.mul_add, Nat.mul_one]
  omega

theorem work_bound_mono (ncv : Int) (r : Nat) : 2 + 2 * (ncv - 1).toNat * (r + 1) ≤ 2 + 2 * ncv.toNat * (r + 1) := by
  have : (ncv - 1).toNat ≤ ncv.toNat := by omega
  have := Nat.mul_le_mul_right (r + 1) (Nat.mul_le_mul_left 2 this)
  omega

section
variable {α : Type} [Add α] [Sub α] [Mul α] [Div α] [Neg α] [Sc α]

theorem herm_calls (nev ncv maxit k0 : Int) (bd0 : Int → Bool) (orc : Nat → IterOracle α α)
    (h1 : 1 ≤ nev) (h2 : nev < ncv) (hnc : ∀ it, 0 ≤ (orc it).nconv) :
    (initCalls ++ (hermCompute nev ncv maxit k0 bd0 orc).calls).length ≤ 2 + 2 * (ncv - 1).toNat * (maxit.toNat + 1) ∧
    ∀ c ∈ initCalls ++ (hermCompute nev ncv maxit k0 bd0 orc).calls, Call.valid ncv c := by
  simp only [hermCompute, hermComputeSkel_frame, Int.sub_zero]
  exact compute_calls_ok _ _ _ orc ncv bd0 k0 _ (by omega) fun it => restartCalls_ok ncv _ _ _
    (by have := (herm_k nev ncv (orc it).est (orc it).nconv h1 h2 (hnc it)).1; omega) (Or.inr (hermRestartCalls_eq ncv _ _))

theorem gen_calls (nev ncv maxit k0 : Int) (bd0 : Int → Bool) (orc : Nat → IterOracle (α × α) α)
    (h1 : 1 ≤ nev) (h2 : nev ≤ ncv - 2) (hnc : ∀ it, 0 ≤ (orc it).nconv) :
    (initCalls ++ (genCompute nev ncv maxit k0 bd0 orc).calls).length ≤ 2 + 2 * (ncv - 1).toNat * (maxit.toNat + 1) ∧
    ∀ c ∈ initCalls ++ (genCompute nev ncv maxit k0 bd0 orc).calls, Call.valid ncv c := by
  simp only [genCompute, genComputeSkel_frame, Int.sub_zero]
  exact compute_calls_ok _ _ _ orc ncv bd0 k0 _ (by omega) fun it => restartCalls_ok ncv _ _ _
    (by have := gen_pre nev ncv (orc it).est (orc it).nconv h1 h2 (hnc it); rw [gen_adj_eq]; split <;> omega)
    (genRestartCalls_cases ncv _ (orc it).val _)
end

theorem cshift_spec (nev : Int) (cplx : Int → Bool) (i : Int) (hi : 0 ≤ i) :
    (cshiftLoop nev cplx i).1.length ≤ 2 * (nev - i).toNat ∧ (∀ w ∈ (cshiftLoop nev cplx i).2, 0 ≤ w ∧ w ≤ nev) ∧
    (∀ c ∈ (cshiftLoop nev cplx i).1, c = ⟨.probeIn 0, .probeOut 0⟩ ∨ c = ⟨.probeIn 1, .probeOut 1⟩) := by
  fun_induction cshiftLoop nev cplx i with
  | case1 i hlt cs r ih =>
    have hnx : i < (if h : cplx i = true then i + 2 else i + 1) := by split <;> omega
    obtain ⟨a, b, c⟩ := ih (by omega)
    refine ⟨?_, ?_, ?_⟩
    · simp only [cs, r, List.length_append, List.length_cons, List.length_nil]; omega
    · intro w hw
      rcases List.mem_append.mp hw with hw | hw
      · have : w = i ∨ w = i + 1 := by split at hw <;> simp at hw <;> omega
        omega
      · exact b w hw
    · intro d hd
      rcases List.mem_append.mp hd with hd | hd
      · simpa [cs] using hd
      · exact c d hd
  | case2 i h => simp

/-! ### storage of the operator buffers: closed facts about the regenerated table (evaluated by the kernel alone), then lifted to every call of every run -/

/- the four (x, y) shapes the skeleton can produce, per family: backed by a call site, and every backing site hands owned storage -/
theorem owned_init0 : OwnedShape .herm ("param", "init_resid") ("member", "m_fac_V") ∧ OwnedShape .gen ("param", "init_resid") ("member", "m_fac_V") := by decide +kernel
theorem owned_vw : OwnedShape .herm ("member", "m_fac_V") ("local", "w") ∧ OwnedShape .gen ("member", "m_fac_V") ("local", "w") := by decide +kernel
theorem owned_tf : OwnedShape .herm ("local", "v") ("member", "m_fac_f") ∧ OwnedShape .gen ("local", "v") ("member", "m_fac_f") := by decide +kernel
theorem owned_probe : OwnedShape .cshift ("local", "v_real") ("local", "OPv_real") ∧ OwnedShape .cshift ("local", "v_imag") ("local", "OPv_imag") := by decide +kernel
theorem sites_owned : ∀ s ∈ opSites, siteOwned s = true := by decide +kernel

theorem factorizeCalls_owned (fam : Fam) (hf : fam = .herm ∨ fam = .gen) (bd : Int → Bool) (a b : Int) :
    ∀ c ∈ factorizeCalls bd a b, Call.owned fam c := by
  intro c hc
  rcases factorizeCalls_shape bd a b c hc with rfl | ⟨i, _, _, rfl⟩
  · rcases hf with rfl | rfl
    · exact owned_tf.1
    · exact owned_tf.2
  · rcases hf with rfl | rfl
    · exact owned_vw.1
    · exact owned_vw.2

theorem initCalls_owned (fam : Fam) (hf : fam = .herm ∨ fam = .gen) : ∀ c ∈ initCalls, Call.owned fam c := by
  intro c hc
  simp only [initCalls, List.mem_cons, List.not_mem_nil, or_false] at hc
  rcases hc with rfl | rfl
  · rcases hf with rfl | rfl
    · exact owned_init0.1
    · exact owned_init0.2
  · rcases hf with rfl | rfl
    · exact owned_vw.1
    · exact owned_vw.2

theorem restartCalls_owned (fam : Fam) (hf : fam = .herm ∨ fam = .gen) (ncv k : Int) (bd : Int → Bool) (cs : List Call)
    (h : cs = [] ∨ cs = factorizeCalls bd k ncv) : ∀ c ∈ cs, Call.owned fam c := by
  rcases h with rfl | rfl
  · simp
  · exact factorizeCalls_owned fam hf bd k ncv

/-- a tiny exact scalar type for concrete witnesses: Gaussian integers as pairs of `Int` -/
@[reducible] def scInt : Sc Int where
  abs := fun x => (x.natAbs : Int)
  sqrt := id
  pow := fun a _ => a
  ofInt := id
  lit := fun m _ => (m : Int)
  lt a b := decide (a < b)
  le a b := decide (a ≤ b)
  eq a b := decide (a = b)
  eps := 0
  minPos := 1
  cabs := fun z => (z.1.natAbs : Int) + (z.2.natAbs : Int)

def ofL (l : List (Int × Int)) : Int → Int × Int := fun i => l.getD i.toNat (0, 0)

end RestartIdx
