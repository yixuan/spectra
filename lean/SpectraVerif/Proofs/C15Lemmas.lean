/-
  Lemmas for C15 (Davidson): the kernel-generic model `Dav` instantiated over a module `M` over a commutative ring `R`
  with a linear operator `A`.  Every kernel that is third-party or CRTP-derived code (`eig`, `orth`, `argsort`, the
  correction function, and also `dot`, `norm`, `lt`) stays universally quantified.
-/
import SpectraVerif.Proofs.C15Loop
import SpectraVerif.Proofs.SumZip

namespace C15L
open Dav

variable {R M : Type} [CommRing R] [AddCommGroup M] [Module R M]

/-- the vector primitives of the kernel record are the module operations and the user operator is the linear map `A` -/
structure Linear (K : Kern R M) (A : M →ₗ[R] M) : Prop where
  zero : K.zero = 0
  add : ∀ u v, K.add u v = u + v
  sub : ∀ u v, K.sub u v = u - v
  smul : ∀ (c : R) v, K.smul c v = c • v
  apply : ∀ v, K.apply v = A v

/-- what `twice_is_enough_orthogonalisation(M, k)` guarantees structurally: the first `k` columns are not written -/
def OrthKeepsLeft (K : Kern R M) : Prop := ∀ (l : List M) (k : Nat), (K.orth l k).take k = l.take k

set_option linter.unusedSectionVars false
variable {K : Kern R M} {A : M →ₗ[R] M}

/-- under `Linear` the accumulation loop of `lincomb` is the sum -/
theorem lincomb_eq (hL : Linear K A) (cs : List R) (vs : List M) : lincomb K cs vs = Lobpcg.sumZip cs vs := by
  unfold lincomb
  simp only [hL.add, hL.smul, hL.zero]
  rw [Lobpcg.foldl_zip_eq, zero_add]

/-- `(A V) y = A (V y)` -/
theorem lincomb_map (hL : Linear K A) (cs : List R) (vs : List M) :
    lincomb K cs (vs.map A) = A (lincomb K cs vs) := by
  rw [lincomb_eq hL, lincomb_eq hL, Lobpcg.map_sumZip A A.isLinear]

/-! ### the invariants -/

/-- `m_op_basis_product = A * m_basis_vectors` on the columns that have been multiplied -/
def Cached (A : M →ₗ[R] M) (s : St R M) : Prop := s.opBasis = (s.basis.take s.opBasis.length).map A

/-- the cached products cover the whole basis (state after `update_operator_basis_product`) -/
def CachedFull (A : M →ₗ[R] M) (s : St R M) : Prop := s.opBasis = s.basis.map A

/-- every stored Ritz vector is `V y` for the multiplied part `V` of the basis and its own small vector `y` -/
def RitzLinked (K : Kern R M) (s : St R M) : Prop :=
  ∀ p ∈ s.pairs, p.vector = lincomb K p.small (s.basis.take s.opBasis.length)

/-- every stored residue is the TRUE residual `A x - θ x` of its pair -/
def TrueRes (A : M →ₗ[R] M) (s : St R M) : Prop := ∀ p ∈ s.pairs, p.residue = A p.vector - p.value • p.vector

theorem cachedFull_length {s : St R M} (h : CachedFull A s) : s.opBasis.length = s.basis.length := by
  rw [show s.opBasis = _ from h, List.length_map]

theorem cachedFull_cached {s : St R M} (h : CachedFull A s) : Cached A s := by
  unfold Cached
  rw [cachedFull_length h, List.take_length]; exact h

theorem cached_length {s : St R M} (h : Cached A s) : s.opBasis.length ≤ s.basis.length := by
  unfold Cached at h
  have := congrArg List.length h
  simp only [List.length_map, List.length_take] at this
  omega

/-- `initialize_search_space`: no products cached yet -/
theorem init_cached (guess : List M) (s : St R M) : Cached A (initializeSearchSpace guess s) := by
  simp [Cached, initializeSearchSpace]

/-- `update_operator_basis_product` completes the cache -/
theorem update_cachedFull (hL : Linear K A) {s : St R M} (h : Cached A s) :
    CachedFull A (updateOperatorBasisProduct K s) := by
  unfold CachedFull updateOperatorBasisProduct
  simp only
  unfold Cached at h
  rw [List.map_congr_left (fun v _ => hL.apply v)]
  generalize s.opBasis.length = k at h ⊢
  rw [h, ← List.map_append, List.take_append_drop]

/-- `restart`: the new products are again `A` times the new basis (needs the link between Ritz vectors and the old basis) -/
theorem restart_cachedFull (hL : Linear K A) {s : St R M} (h : Cached A s) (hr : RitzLinked K s) (size : Nat) :
    CachedFull A (restart K size s) := by
  unfold CachedFull restart
  simp only [List.map_map]
  apply List.map_congr_left
  intro p hp
  have hp' : p ∈ s.pairs := List.mem_of_mem_take hp
  simp only [Function.comp]
  rw [hr p hp']
  conv_lhs => rw [h]
  exact lincomb_map hL _ _

/-- `extend_basis` leaves the cache valid: only columns that have not been multiplied are orthogonalised -/
theorem extend_cached (hO : OrthKeepsLeft K) {s : St R M} (h : CachedFull A s) (newv : List M) :
    Cached A (extendBasis K newv s) := by
  unfold Cached extendBasis
  simp only
  rw [cachedFull_length h, hO, List.take_left']
  · exact h
  · rfl

theorem extend_ritzLinked (hO : OrthKeepsLeft K) {s : St R M} (h : CachedFull A s) (hr : RitzLinked K s) (newv : List M) :
    RitzLinked K (extendBasis K newv s) := by
  have hl := cachedFull_length h
  intro p hp
  have := hr p hp
  simp only [extendBasis] at hp ⊢
  rw [hl, hO, List.take_left' rfl]
  rw [hl, List.take_length] at this
  exact this

/-- `compute_eigen_pairs`: fresh pairs are linked to the basis and carry true residuals -/
theorem mkPair_spec (hL : Linear K A) {s : St R M} (h : CachedFull A s) (θ : R) (y : List R) :
    (mkPair K s θ y).vector = lincomb K y s.basis ∧
    (mkPair K s θ y).residue = A (mkPair K s θ y).vector - θ • (mkPair K s θ y).vector := by
  unfold CachedFull at h
  refine ⟨rfl, ?_⟩
  simp only [mkPair]
  rw [hL.sub, hL.smul, h, lincomb_map hL]

theorem mem_zipWith_right {α β γ : Type} (f : α → β → γ) (as : List α) (bs : List β) (c : γ)
    (hc : c ∈ List.zipWith f as bs) : ∃ a b, b ∈ bs ∧ c = f a b := by
  induction as generalizing bs with
  | nil => simp at hc
  | cons x xs ih =>
    cases bs with
    | nil => simp at hc
    | cons y ys =>
      simp only [List.zipWith_cons_cons, List.mem_cons] at hc
      rcases hc with rfl | hc
      · exact ⟨x, y, List.mem_cons_self .., rfl⟩
      · obtain ⟨a', b', hb', rfl⟩ := ih ys hc
        exact ⟨a', b', List.mem_cons_of_mem _ hb', rfl⟩

theorem mem_filterMap_getElem? {α : Type} {l : List α} {idx : List Nat} {x : α}
    (h : x ∈ idx.filterMap (fun i => l[i]?)) : x ∈ l := by
  rw [List.mem_filterMap] at h
  obtain ⟨i, _, hi⟩ := h
  exact List.mem_of_getElem? hi

/-! ### the loop -/

/-- loop-head invariant: cache valid, Ritz vectors linked to the multiplied part of the basis, residues true -/
def Inv (K : Kern R M) (A : M →ₗ[R] M) (s : St R M) : Prop := Cached A s ∧ RitzLinked K s ∧ TrueRes A s

/-- invariant at the exits of the loop body (after Rayleigh–Ritz): the cache covers the whole basis -/
def InvFull (K : Kern R M) (A : M →ₗ[R] M) (s : St R M) : Prop :=
  CachedFull A s ∧ (∀ p ∈ s.pairs, p.vector = lincomb K p.small s.basis) ∧ TrueRes A s

theorem inv_start (K : Kern R M) (A : M →ₗ[R] M) (guess : List M) : Inv K A (start guess) :=
  show Cached A _ ∧ _ from ⟨rfl, fun _ hp => absurd hp List.not_mem_nil, fun _ hp => absurd hp List.not_mem_nil⟩

theorem invFull_inv {s : St R M} (h : InvFull K A s) : Inv K A s := by
  obtain ⟨h1, h2, h3⟩ := h
  refine ⟨cachedFull_cached h1, ?_, h3⟩
  intro p hp
  rw [cachedFull_length h1, List.take_length]; exact h2 p hp

theorem head_prefix_full (hL : Linear K A) (c : Cfg) {s : St R M} (h : Inv K A s) : CachedFull A (headState K c s) := by
  obtain ⟨h1, h2, _⟩ := h
  unfold headState
  split
  · exact update_cachedFull hL (cachedFull_cached (restart_cachedFull hL h1 h2 _))
  · exact update_cachedFull hL h1

theorem computeEigenPairs_invFull (hL : Linear K A) {s : St R M} (h : CachedFull A s) :
    InvFull K A (computeEigenPairs K s).2 := by
  refine ⟨h, ?_, ?_⟩
  · intro p hp
    obtain ⟨θ, y, _, rfl⟩ := mem_zipWith_right _ _ _ p hp
    exact (mkPair_spec hL h θ y).1
  · intro p hp
    obtain ⟨θ, y, _, rfl⟩ := mem_zipWith_right _ _ _ p hp
    exact (mkPair_spec hL h θ y).2

/-- the first half of the loop body establishes `InvFull` whatever the kernels return -/
theorem iterHead_invFull (hL : Linear K A) (c : Cfg) (sel : Int) (tol : R) {s s1 : St R M} {r : Option Bool} (h : Inv K A s)
    (hh : iterHead K c sel tol s = (r, s1)) : InvFull K A s1 := by
  have hI := computeEigenPairs_invFull hL (s := rrState K c s) (head_prefix_full hL c h)
  rcases iterHead_cases K c sel tol s with e | e <;> rw [e] at hh <;> cases hh
  · exact hI
  · exact ⟨hI.1, fun p hp => hI.2.1 p (mem_filterMap_getElem? hp), fun p hp => hI.2.2 p (mem_filterMap_getElem? hp)⟩

theorem iterHead_info (c : Cfg) (sel : Int) (tol : R) (s : St R M) :
    (iterHead K c sel tol s).2.info = s.info ∧ (iterHead K c sel tol s).2.niter = s.niter :=
  ⟨(iterHead_fields K c sel tol s _ _ rfl).1, (iterHead_fields K c sel tol s _ _ rfl).2.1⟩

/-- `extend_basis` takes `InvFull` back to the loop-head invariant -/
theorem extend_inv (hO : OrthKeepsLeft K) {s : St R M} (h : InvFull K A s) (newv : List M) :
    Inv K A (extendBasis K newv s) := by
  obtain ⟨h1, h2, h3⟩ := h
  exact ⟨extend_cached hO h1 newv, extend_ritzLinked hO h1 (invFull_inv ⟨h1, h2, h3⟩).2.1 newv, h3⟩

/-- the whole loop: from the loop-head invariant, the final state has a valid cache and true residues -/
theorem loop_inv (hL : Linear K A) (hO : OrthKeepsLeft K) (c : Cfg) (corr : List (Pair R M) → List M) (sel : Int) (tol : R)
    (maxit fuel : Nat) (s : St R M) (h : Inv K A s) : Inv K A (loop K c corr sel tol maxit fuel s) := by
  exact loop_rule K c corr sel tol maxit (fun _ => Inv K A) (Inv K A) (fun _ h => h)
    (fun _ s r s1 i h hh _ => invFull_inv (iterHead_invFull hL c sel tol (s1 := s1) h hh))
    (fun _ s s1 h hh _ => extend_inv hO (iterHead_invFull hL c sel tol (s1 := s1) h hh) _) fuel s h

/-- at every exit the cache covers the whole basis -/
theorem loop_invFull (hL : Linear K A) (hO : OrthKeepsLeft K) (c : Cfg) (corr : List (Pair R M) → List M) (sel : Int) (tol : R)
    (maxit fuel : Nat) (s : St R M) (h : Inv K A s) (hs : s.niter + fuel = maxit) (hf : 0 < fuel) :
    InvFull K A (loop K c corr sel tol maxit fuel s) := by
  exact loop_rule_counted K c corr sel tol maxit (Inv K A) (InvFull K A)
    (fun s r s1 i h hh _ => iterHead_invFull hL c sel tol (s1 := s1) h hh)
    (fun s s1 h hh => extend_inv hO (iterHead_invFull hL c sel tol (s1 := s1) h hh) _) fuel s hs hf h

end C15L
