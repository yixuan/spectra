/-
  Helper lemmas for C19 (core Lean only).  `fold31`, `stageB`, `stageH` restate sub-terms of the *generated*
  `Gen.Rand.next_long_rand`; `shape` (by `rfl`) pins the generated definition to that structure, so any change of the
  C++ that changes the translation breaks `shape` (a broken proof obligation, see DESIGN §6).
-/
import SpectraVerif.Gen.Rand
namespace RandLemmas
open Gen.Rand

/-- the step `if (lo > m_max) { lo &= m_max; ++lo; }` as generated -/
def fold31 (lo : Int) : Int := if (decide (lo > 2147483647)) then (u64 ((lo % 2147483648) + 1)) else lo
def stageB (seed : Int) : Int :=
  (u64 ((u64 (16807 * (seed % 65536))) + (u64 (((u64 (16807 * ((u64 seed) / 65536))) % 32768) * 65536))))
def stageH (seed : Int) : Int := (u64 (16807 * ((u64 seed) / 65536)))

theorem shape (s : Int) : next_long_rand s = fold31 (u64 (fold31 (stageB s) + stageH s / 32768)) := rfl

theorem u64_id (x : Int) (h0 : 0 ≤ x) (h1 : x < 18446744073709551616) : u64 x = x :=
  Int.emod_eq_of_lt h0 h1

/-- on `[0, 2·(2^31-1)]` the fold subtracts `2^31-1` at most once and lands in `[0, 2^31-1]` -/
theorem fold31_spec (x : Int) (h0 : 0 ≤ x) (h1 : x ≤ 4294967294) :
    0 ≤ fold31 x ∧ fold31 x ≤ 2147483647 ∧ ∃ j, fold31 x = x - 2147483647 * j := by
  simp only [fold31, u64, decide_eq_true_eq]
  split
  · exact ⟨by omega, by omega, 1, by omega⟩
  · exact ⟨h0, by omega, 0, by omega⟩

/-- 16807 is a unit modulo 2^31-1: its inverse is 1407677000 -/
theorem pm_unit (s : Int) (h : (2147483647 : Int) ∣ 16807 * s) : (2147483647 : Int) ∣ s := by
  have e : 1407677000 * (16807 * s) - 2147483647 * (11017 * s) = s := by omega
  rw [← e]
  exact Int.dvd_sub (Int.dvd_trans h (Int.dvd_mul_left _ _)) (Int.dvd_mul_right _ _)

theorem pm_range (s : Int) (h1 : 1 ≤ s) (h2 : s ≤ 2147483646) :
    1 ≤ (16807 * s) % 2147483647 ∧ (16807 * s) % 2147483647 ≤ 2147483646 := by
  have h0 : (16807 * s) % 2147483647 ≠ 0 := fun h => by
    have := pm_unit s (Int.dvd_of_emod_eq_zero h)
    -- `h` is cleared: with it in the context omega starts by solving `16807 * s = (2^31-1) * k` over the integers
    clear h; omega
  have ha := Int.emod_nonneg (16807 * s) (b := 2147483647) (by decide)
  have hb := Int.emod_lt_of_pos (16807 * s) (b := 2147483647) (by decide)
  generalize (16807 * s) % 2147483647 = r at *
  omega

theorem emod_of_rep {a y m t : Int} (hy : y = a - m * t) (h0 : 0 ≤ y) (hm : y ≤ m) (hne : a % m ≠ 0) :
    y = a % m := by
  have e : y % m = a % m := by rw [hy, Int.sub_mul_emod_self_left]
  rcases Int.lt_or_eq_of_le hm with h | h
  · rw [← e, Int.emod_eq_of_lt h0 h]
  · rw [h, Int.emod_self] at e; exact absurd e.symm hne

theorem stageH_eq (s : Int) (h1 : 1 ≤ s) (h2 : s ≤ 2147483646) : stageH s = 16807 * (s / 65536) := by
  simp only [stageH]; rw [u64_id s (by omega) (by omega), u64_id _ (by omega) (by omega)]

theorem stageB_eq (s : Int) (h1 : 1 ≤ s) (h2 : s ≤ 2147483646) :
    stageB s = 16807 * (s % 65536) + (16807 * (s / 65536)) % 32768 * 65536 := by
  show u64 (u64 (16807 * (s % 65536)) + u64 (stageH s % 32768 * 65536)) = _
  rw [stageH_eq s h1 h2, u64_id (16807 * (s % 65536)) (by omega) (by omega), u64_id (_ * 65536) (by omega) (by omega),
    u64_id _ (by omega) (by omega)]

/-- The two folds on the split product.  With `s = 65536·h + l` and `16807·h = 32768·q + r` the product is
    `a = (16807·l + 65536·r) + 2^31·q`, and `2^31 ≡ 1`, so adding `q` and folding twice leaves a representative of `a`
    modulo `2^31-1` in `[0, 2^31-1]`.  (`q < 16807` because `h < 32768`.) -/
theorem fold_step (l r q a : Int) (hl0 : 0 ≤ l) (hl : l < 65536) (hr0 : 0 ≤ r) (hr : r < 32768) (hq0 : 0 ≤ q)
    (hq : q < 16807) (ha : a = 16807 * l + r * 65536 + 2147483648 * q) (hne : a % 2147483647 ≠ 0) :
    fold31 (u64 (fold31 (16807 * l + r * 65536) + q)) = a % 2147483647 := by
  obtain ⟨_, _, j, ea⟩ := fold31_spec (16807 * l + r * 65536) (by omega) (by omega)
  rw [u64_id _ (by omega) (by omega)]
  obtain ⟨b0, b1, k, eb⟩ := fold31_spec (fold31 (16807 * l + r * 65536) + q) (by omega) (by omega)
  refine emod_of_rep (t := q + j + k) ?_ b0 b1 hne
  rw [eb, ea, ha]
  omega

/-- the generated UB-side-condition function is the conjunction of its four signed-range checks -/
theorem ub_shape (s : Int) : next_long_rand_ub s =
    (inS64 (16807 * (s % 65536)) && inS64 ((u64 s) / 65536) && inS64 (16807 * ((u64 s) / 65536)) &&
      inS64 (next_long_rand s)) := by
  simp only [next_long_rand_ub, next_long_rand, Bool.true_and]
  -- the two folds change `lo` only: in each of the four branches both sides are the same expression
  split <;> split <;> rfl

end RandLemmas
