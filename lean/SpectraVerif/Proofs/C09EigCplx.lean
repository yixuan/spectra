/-
  C09, UpperHessenbergEigen on top of the Schur similarity: the back-substitution of `doComputeEigenvectors` for a COMPLEX pair
  (`cplxInner`, columns `c − 1` = real part, `c` = imaginary part) solves `(T − λ I) y = 0` exactly for `λ = p − i q` (`q = ev_c.im < 0`,
  so `λ` is the value with positive imaginary part), in real arithmetic on (re, im) pairs; complex divisions through the `__divdc3` port.
  Then the outer loop `backSub`, for the columns of both kinds.
-/
import SpectraVerif.Proofs.C09EigBack


namespace C09Eig
open Lin EigenPrims HessEigen C09Mat Finset

section field
variable {K : Type} [Field K] [LinearOrder K] [IsStrictOrderedRing K] (F : FieldFns K)

/-- the solved part of the complex eigenvector stored in the columns `c − 1` (real parts) and `c` (imaginary parts): rows `l..c` hold
    `y` with `Σ_{b=l..c} T(a,b) y_b = (p − i q) y_a`, i.e. `Σ T yr = p yr + q yi`, `Σ T yi = p yi − q yr`; outside the two columns the
    matrix is still `R`, the work matrix when the pair was reached -/
structure CSolved (n c : ℕ) (p q : K) (T R : Mat K) (l : ℕ) (t : Mat K) : Prop extends @Sq K n t where
  off : ∀ a b, a < n → b ≠ c - 1 → b ≠ c → @Mat.get K (scOfField F) t a b = @Mat.get K (scOfField F) R a b
  lo : ∀ a, a < l → @Mat.get K (scOfField F) t a (c - 1) = @Mat.get K (scOfField F) T a (c - 1) ∧
    @Mat.get K (scOfField F) t a c = @Mat.get K (scOfField F) T a c
  lle : l + 1 ≤ c
  cn : c < n
  eqr : RowEqs F T t p q (c - 1) c l c
  eqi : RowEqs F T t p (-q) c (c - 1) l c
  yc : @Mat.get K (scOfField F) t c (c - 1) = 0 ∧ @Mat.get K (scOfField F) t c c ≠ 0

variable {F} in
/-- the solved part grows to the rows `i..c` by writing rows `i..l−1` of the two columns; what is left to show is the equations -/
theorem CSolved.write {n c : ℕ} {p q : K} {T R : Mat K} {l i : ℕ} {t : Mat K} (h : CSolved F n c p q T R l t) (hil : i ≤ l)
    (t' : Mat K) (sq : @Sq K n t')
    (hout : ∀ a b, a < n → ((b ≠ c - 1 ∧ b ≠ c) ∨ a < i ∨ l ≤ a) → @Mat.get K (scOfField F) t' a b = @Mat.get K (scOfField F) t a b)
    (heqr : RowEqs F T t' p q (c - 1) c i c) (heqi : RowEqs F T t' p (-q) c (c - 1) i c) : CSolved F n c p q T R i t' := by
  have hlc := h.lle
  have hcn := h.cn
  refine ⟨sq, fun a b ha hb1 hb2 => ?_, fun a ha => ?_, by omega, hcn, heqr, heqi, ?_⟩
  · rw [hout a b ha (Or.inl ⟨hb1, hb2⟩)]; exact h.off a b ha hb1 hb2
  · rw [hout a _ (by omega) (Or.inr (Or.inl ha)), hout a _ (by omega) (Or.inr (Or.inl ha))]; exact h.lo a (by omega)
  · rw [hout c _ hcn (Or.inr (Or.inr (by omega))), hout c _ hcn (Or.inr (Or.inr (by omega)))]; exact h.yc

/-- rescaling both columns keeps the solved part solved -/
theorem csolved_scale (n c : ℕ) (p q : K) (T R : Mat K) (l : ℕ) (t : Mat K) (h : CSolved F n c p q T R l t) (tt : K) (htt : tt ≠ 0) :
    CSolved F n c p q T R l (@divColTail K _ (scOfField F) (@divColTail K _ (scOfField F) t (c - 1) l n tt) c l n tt) := by
  let _ : Sc K := scOfField F
  have hlc := h.lle
  have hcn := h.cn
  obtain ⟨sq1, g1⟩ := divColTail_spec F t h.toSq (c - 1) l tt (by omega)
  obtain ⟨sq2, g2⟩ := divColTail_spec F _ sq1 c l tt hcn
  have e1 : ∀ b, l ≤ b → b ≤ c → (divColTail (divColTail t (c - 1) l n tt) c l n tt).get b (c - 1) = t.get b (c - 1) / tt :=
    fun b hb1 hb2 => by rw [g2 b _ (by omega), if_neg (by omega), g1 b _ (by omega), if_pos ⟨rfl, hb1⟩]
  have e2 : ∀ b, l ≤ b → b ≤ c → (divColTail (divColTail t (c - 1) l n tt) c l n tt).get b c = t.get b c / tt :=
    fun b hb1 hb2 => by rw [g2 b _ (by omega), if_pos ⟨rfl, hb1⟩, g1 b _ (by omega), if_neg (by omega)]
  refine ⟨sq2, fun a b ha hb1 hb2 => ?_, fun a ha => ?_, hlc, hcn, h.eqr.scale tt e1 e2, h.eqi.scale tt e2 e1, ?_⟩
  · rw [g2 a b ha, if_neg (fun hh => hb2 hh.1), g1 a b ha, if_neg (fun hh => hb1 hh.1)]; exact h.off a b ha hb1 hb2
  · rw [g2 a _ (by omega), if_neg (by omega), g1 a _ (by omega), if_neg (by omega), g2 a _ (by omega), if_neg (by omega),
      g1 a _ (by omega), if_neg (by omega)]
    exact h.lo a ha
  · rw [e1 c (by omega) le_rfl, e2 c (by omega) le_rfl, h.yc.1, zero_div]; exact ⟨rfl, div_ne_zero h.yc.2 htt⟩

theorem crescale_solved (n c : ℕ) (p q : K) (T R : Mat K) (i : ℕ) (t1 : Mat K) (hS1 : CSolved F n c p q T R i t1) :
    CSolved F n c p q T R i (@rescale2 K _ _ (scOfField F) n c i t1) := by
  unfold rescale2
  extract_lets tt
  split
  · exact csolved_scale F n c p q T R i t1 hS1 tt (rescale_ne F ‹_›)
  · exact hS1

/-- loop invariant of `cplxInner` in front of row `k − 1` -/
structure CInv (n c : ℕ) (p q : K) (T R : Mat K) (ev : Vec (K × K)) (k : ℕ) (st : CplxSt K) : Prop where
  solved : CSolved F n c p q T R st.l st.t
  mode : (st.l = k ∧ ¬ (@evGet K (scOfField F) ev k).2 < 0) ∨
    (st.l = k + 1 ∧ (@evGet K (scOfField F) ev k).2 < 0 ∧
      st.lastra = ∑ b ∈ Ico st.l (c + 1), @Mat.get K (scOfField F) T k b * @Mat.get K (scOfField F) st.t b (c - 1) ∧
      st.lastsa = ∑ b ∈ Ico st.l (c + 1), @Mat.get K (scOfField F) T k b * @Mat.get K (scOfField F) st.t b c ∧
      st.lastw = @Mat.get K (scOfField F) T k k - p)

/-- the row of a 1x1 block: `(ra, sa)` are the dot products of row `i` with the solved part, `w = T(i,i) − p`, and
    `y_i = −(ra + i·sa) / (w + i·q)` -/
theorem cplxRow_solved (heps : F.eps ≠ 0) (n c : ℕ) (p q : K) (T R : Mat K) (ev : Vec (K × K)) (hev : EvOK F n T ev) (hq : q ≠ 0)
    (i : ℕ) (t : Mat K) (h : CSolved F n c p q T R (i + 1) t) (hre : (@evGet K (scOfField F) ev i).2 = 0) (ra sa w : K)
    (hra : ra = ∑ b ∈ Ico (i + 1) (c + 1), @Mat.get K (scOfField F) T i b * @Mat.get K (scOfField F) t b (c - 1))
    (hsa : sa = ∑ b ∈ Ico (i + 1) (c + 1), @Mat.get K (scOfField F) T i b * @Mat.get K (scOfField F) t b c)
    (hw : w = @Mat.get K (scOfField F) T i i - p) :
    CSolved F n c p q T R i (@cplxRow K _ _ _ _ _ (scOfField F) c i q ra sa w t) := by
  let _ : Sc K := scOfField F
  have hlc := h.lle
  have hcn := h.cn
  obtain ⟨d1, d2⟩ := C09Cdiv.cdiv_spec F heps (-ra) (-sa) w q (Or.inr hq)
  simp only [cplxRow]
  generalize cdiv (-ra) (-sa) w q = Y at d1 d2 ⊢
  have sq1 := h.toSq.set i (c - 1) Y.1
  have sq2 := sq1.set i c Y.2
  have g : ∀ a b, a < n → ((t.set i (c - 1) Y.1).set i c Y.2).get a b =
      if a = i ∧ b = c then Y.2 else if a = i ∧ b = c - 1 then Y.1 else t.get a b := fun a b ha => by
    rw [sq1.get_set i c a b _ (by omega) hcn ha, h.toSq.get_set i (c - 1) a b _ (by omega) (by omega) ha]
  generalize (t.set i (c - 1) Y.1).set i c Y.2 = t' at sq2 g ⊢
  have gk : ∀ j b, i < b → b ≤ c → t'.get b j = t.get b j :=
    fun j b h1 h2 => by rw [g b j (by omega), if_neg (by omega), if_neg (by omega)]
  have g0r : t'.get i (c - 1) = Y.1 := by rw [g i _ (by omega), if_neg (by omega), if_pos ⟨rfl, rfl⟩]
  have g0i : t'.get i c = Y.2 := by rw [g i _ (by omega), if_pos ⟨rfl, rfl⟩]
  have hz : ∀ a, i < a → a ≤ c → T.get a i = 0 := fun a h1 h2 => hev.below_real F hre h1 (by omega)
  refine h.write (Nat.le_succ i) _ sq2 (fun a b ha hor => by rw [g a b ha, if_neg (by omega), if_neg (by omega)])
    (h.eqr.cons (by omega) (gk _) (gk _) hz ?_) (h.eqi.cons (by omega) (gk _) (gk _) hz ?_)
  · rw [g0r, g0i, ← hra, ← hw]; linear_combination d1
  · rw [g0r, g0i, ← hsa, ← hw]; linear_combination d2

/-- the two rows of a 2x2 block by complex Cramer: `vr + i·vi` is the determinant of the shifted block; `(lastra, lastsa)`, `lastw`
    belong to row `i + 1` and `(ra, sa)`, `w` to row `i` -/
theorem cplxBlock_solved (heps : F.eps ≠ 0) (n c : ℕ) (p q norm : K) (T R : Mat K) (ev : Vec (K × K)) (hev : EvOK F n T ev) (hq : q ≠ 0)
    (i : ℕ) (t : Mat K) (h : CSolved F n c p q T R (i + 2) t) (hpos : 0 < (@evGet K (scOfField F) ev i).2)
    (hnz : ¬ (((@evGet K (scOfField F) ev i).1 - p) * ((@evGet K (scOfField F) ev i).1 - p) +
          (@evGet K (scOfField F) ev i).2 * (@evGet K (scOfField F) ev i).2 - q * q = 0 ∧
        ((@evGet K (scOfField F) ev i).1 - p) * 2 * q = 0))
    (hx : @Mat.get K (scOfField F) t i (i + 1) = @Mat.get K (scOfField F) T i (i + 1))
    (hy : @Mat.get K (scOfField F) t (i + 1) i = @Mat.get K (scOfField F) T (i + 1) i) (lastra lastsa lastw ra sa w : K)
    (hlra : lastra = ∑ b ∈ Ico (i + 2) (c + 1), @Mat.get K (scOfField F) T (i + 1) b * @Mat.get K (scOfField F) t b (c - 1))
    (hlsa : lastsa = ∑ b ∈ Ico (i + 2) (c + 1), @Mat.get K (scOfField F) T (i + 1) b * @Mat.get K (scOfField F) t b c)
    (hlw : lastw = @Mat.get K (scOfField F) T (i + 1) (i + 1) - p)
    (hra : ra = ∑ b ∈ Ico (i + 2) (c + 1), @Mat.get K (scOfField F) T i b * @Mat.get K (scOfField F) t b (c - 1))
    (hsa : sa = ∑ b ∈ Ico (i + 2) (c + 1), @Mat.get K (scOfField F) T i b * @Mat.get K (scOfField F) t b c)
    (hw : w = @Mat.get K (scOfField F) T i i - p) :
    CSolved F n c p q T R i
      (@cplxBlock K _ _ _ _ _ (scOfField F) c i p q norm (@evGet K (scOfField F) ev i) lastra lastsa lastw ra sa w t) := by
  let _ : Sc K := scOfField F
  have hlc := h.lle
  have hcn := h.cn
  obtain ⟨f1, f2, f3, f4, f5⟩ := hev.first i (by omega) hpos
  -- the four entries written, whatever their values: the equations of the two rows are what is left to show
  have key : ∀ v0r v0i v1r v1i : K,
      w * v0r - q * v0i + T.get i (i + 1) * v1r + ra = 0 → w * v0i + q * v0r + T.get i (i + 1) * v1i + sa = 0 →
      T.get (i + 1) i * v0r + lastw * v1r - q * v1i + lastra = 0 → T.get (i + 1) i * v0i + lastw * v1i + q * v1r + lastsa = 0 →
      CSolved F n c p q T R i ((((t.set i (c - 1) v0r).set i c v0i).set (i + 1) (c - 1) v1r).set (i + 1) c v1i) := by
    intro v0r v0i v1r v1i e0r e0i e1r e1i
    have sq1 := h.toSq.set i (c - 1) v0r
    have sq2 := sq1.set i c v0i
    have sq3 := sq2.set (i + 1) (c - 1) v1r
    have sq4 := sq3.set (i + 1) c v1i
    have g : ∀ a b, a < n → ((((t.set i (c - 1) v0r).set i c v0i).set (i + 1) (c - 1) v1r).set (i + 1) c v1i).get a b =
        if a = i + 1 ∧ b = c then v1i else if a = i + 1 ∧ b = c - 1 then v1r else
        if a = i ∧ b = c then v0i else if a = i ∧ b = c - 1 then v0r else t.get a b := fun a b ha => by
      rw [sq3.get_set (i + 1) c a b _ (by omega) hcn ha, sq2.get_set (i + 1) (c - 1) a b _ (by omega) (by omega) ha,
        sq1.get_set i c a b _ (by omega) hcn ha, h.toSq.get_set i (c - 1) a b _ (by omega) (by omega) ha]
    generalize (((t.set i (c - 1) v0r).set i c v0i).set (i + 1) (c - 1) v1r).set (i + 1) c v1i = t' at sq4 g ⊢
    have gk : ∀ j b, i + 1 < b → b ≤ c → t'.get b j = t.get b j :=
      fun j b h1 h2 => by rw [g b j (by omega), if_neg (by omega), if_neg (by omega), if_neg (by omega), if_neg (by omega)]
    have g0r : t'.get i (c - 1) = v0r := by
      rw [g i _ (by omega), if_neg (by omega), if_neg (by omega), if_neg (by omega), if_pos ⟨rfl, rfl⟩]
    have g0i : t'.get i c = v0i := by rw [g i _ (by omega), if_neg (by omega), if_neg (by omega), if_pos ⟨rfl, rfl⟩]
    have g1r : t'.get (i + 1) (c - 1) = v1r := by rw [g (i + 1) _ (by omega), if_neg (by omega), if_pos ⟨rfl, rfl⟩]
    have g1i : t'.get (i + 1) c = v1i := by rw [g (i + 1) _ (by omega), if_pos ⟨rfl, rfl⟩]
    have hz : ∀ a, i + 1 < a → a ≤ c → T.get a i = 0 ∧ T.get a (i + 1) = 0 := fun a h1 h2 => hev.below_pair F hpos h1 (by omega)
    refine h.write (by omega) _ sq4
      (fun a b ha hor => by rw [g a b ha, if_neg (by omega), if_neg (by omega), if_neg (by omega), if_neg (by omega)])
      (h.eqr.cons2 (by omega) (gk _) (gk _) hz ?_ ?_) (h.eqi.cons2 (by omega) (gk _) (gk _) hz ?_ ?_)
    · rw [g0r, g0i, g1r, ← hra, ← hw]; exact e0r
    · rw [g0r, g1r, g1i, ← hlra, ← hlw]; exact e1r
    · rw [g0r, g0i, g1i, ← hsa, ← hw]; linear_combination e0i
    · rw [g0i, g1r, g1i, ← hlsa, ← hlw]; linear_combination e1i
  simp only [cplxBlock]
  rw [hx, hy]
  -- the (unperturbed) complex determinant of the shifted block
  have hvr : ((evGet ev i).1 - p) * ((evGet ev i).1 - p) + (evGet ev i).2 * (evGet ev i).2 - q * q =
      w * lastw - q * q - T.get i (i + 1) * T.get (i + 1) i := by
    rw [hlw, hw]; linear_combination f5 - p * f4
  have hvi : ((evGet ev i).1 - p) * 2 * q = q * (w + lastw) := by
    rw [hlw, hw]; linear_combination q * f4
  have cfb : (Sc.eq (((evGet ev i).1 - p) * ((evGet ev i).1 - p) + (evGet ev i).2 * (evGet ev i).2 - q * q) (zero : K) &&
      Sc.eq (((evGet ev i).1 - p) * Sc.ofInt 2 * q) (zero : K)) = false := by
    rw [Bool.eq_false_iff]
    intro hb
    rw [Bool.and_eq_true] at hb
    exact hnz ⟨by simpa [zero] using hb.1, by simpa [zero] using hb.2⟩
  simp only [cfb, Bool.false_eq_true, ↓reduceIte]
  have e2 : (Sc.ofInt 2 : K) = 2 := by simp
  rw [e2]
  generalize ((evGet ev i).1 - p) * ((evGet ev i).1 - p) + (evGet ev i).2 * (evGet ev i).2 - q * q = vr at hvr hnz
  generalize ((evGet ev i).1 - p) * 2 * q = vi at hvi hnz
  obtain ⟨hD1, hD2⟩ := C09Cdiv.cdiv_spec F heps (T.get i (i + 1) * lastra - lastw * ra + q * sa)
    (T.get i (i + 1) * lastsa - lastw * sa - q * ra) vr vi (not_and_or.mp hnz)
  generalize cdiv (T.get i (i + 1) * lastra - lastw * ra + q * sa) (T.get i (i + 1) * lastsa - lastw * sa - q * ra) vr vi = Y0 at hD1 hD2
  -- reading back the two entries just written
  have sq1 := h.toSq.set i (c - 1) Y0.1
  have sq2 := sq1.set i c Y0.2
  have gb1 : ((t.set i (c - 1) Y0.1).set i c Y0.2).get i (c - 1) = Y0.1 := by
    rw [sq1.get_set i c i _ _ (by omega) hcn (by omega), if_neg (by omega), h.toSq.get_set i (c - 1) i _ _ (by omega) (by omega) (by omega),
      if_pos ⟨rfl, rfl⟩]
  have gb2 : ((t.set i (c - 1) Y0.1).set i c Y0.2).get i c = Y0.2 := by
    rw [sq1.get_set i c i _ _ (by omega) hcn (by omega), if_pos ⟨rfl, rfl⟩]
  by_cases hbr : Sc.gt (Sc.abs (T.get i (i + 1))) (Sc.abs lastw + Sc.abs q) = true
  · simp only [hbr, ↓reduceIte, gb1, gb2]
    have hx0 : T.get i (i + 1) ≠ 0 :=
      abs_pos.mp (lt_of_le_of_lt (add_nonneg (abs_nonneg lastw) (abs_nonneg q)) (of_decide_eq_true hbr))
    rw [sq2.get_set (i + 1) (c - 1) i _ _ (by omega) (by omega) (by omega), if_neg (by omega), gb2,
      sq2.get_set (i + 1) (c - 1) i _ _ (by omega) (by omega) (by omega), if_neg (by omega), gb1]
    have hx1 : T.get i (i + 1) * ((-ra - w * Y0.1 + q * Y0.2) / T.get i (i + 1)) = -ra - w * Y0.1 + q * Y0.2 := mul_div_cancel₀ _ hx0
    have hx2 : T.get i (i + 1) * ((-sa - w * Y0.2 - q * Y0.1) / T.get i (i + 1)) = -sa - w * Y0.2 - q * Y0.1 := mul_div_cancel₀ _ hx0
    generalize (-ra - w * Y0.1 + q * Y0.2) / T.get i (i + 1) = v1r at hx1 ⊢
    generalize (-sa - w * Y0.2 - q * Y0.1) / T.get i (i + 1) = v1i at hx2 ⊢
    refine key _ _ _ _ (by linear_combination hx1) (by linear_combination hx2) ((mul_eq_zero.mp ?_).resolve_left hx0)
      ((mul_eq_zero.mp ?_).resolve_left hx0)
    -- row `i + 1`, multiplied by `x`: eliminate `v1` by its definition (`hx1`, `hx2`) and `Y0` by the determinant equations (`hD1`, `hD2`)
    · linear_combination lastw * hx1 - q * hx2 - hD1 + Y0.1 * hvr - Y0.2 * hvi
    · linear_combination lastw * hx2 + q * hx1 - hD2 + Y0.2 * hvr + Y0.1 * hvi
  · simp only [hbr, Bool.false_eq_true, ↓reduceIte, gb1, gb2]
    obtain ⟨hB1, hB2⟩ := C09Cdiv.cdiv_spec F heps (-lastra - T.get (i + 1) i * Y0.1) (-lastsa - T.get (i + 1) i * Y0.2)
      lastw q (Or.inr hq)
    generalize cdiv (-lastra - T.get (i + 1) i * Y0.1) (-lastsa - T.get (i + 1) i * Y0.2) lastw q = Y1 at hB1 hB2
    have hnorm : lastw * lastw + q * q ≠ 0 := C09Cdiv.sumsq_ne (Or.inr hq)
    -- row `i` comes out multiplied by `lastw ∓ i q`: two real combinations
    have hA : lastw * (w * Y0.1 - q * Y0.2 + T.get i (i + 1) * Y1.1 + ra) -
        q * (w * Y0.2 + q * Y0.1 + T.get i (i + 1) * Y1.2 + sa) = 0 := by
      linear_combination T.get i (i + 1) * hB1 + hD1 - Y0.1 * hvr + Y0.2 * hvi
    have hB : q * (w * Y0.1 - q * Y0.2 + T.get i (i + 1) * Y1.1 + ra) +
        lastw * (w * Y0.2 + q * Y0.1 + T.get i (i + 1) * Y1.2 + sa) = 0 := by
      linear_combination T.get i (i + 1) * hB2 + hD2 - Y0.2 * hvr - Y0.1 * hvi
    refine key _ _ _ _ ((mul_eq_zero.mp ?_).resolve_left hnorm) ((mul_eq_zero.mp ?_).resolve_left hnorm)
      (by linear_combination hB1) (by linear_combination hB2)
    · linear_combination lastw * hA + q * hB
    · linear_combination lastw * hB - q * hA

theorem cplxStep_inv (heps : F.eps ≠ 0) (n c : ℕ) (p q norm : K) (T R : Mat K) (ev : Vec (K × K)) (hev : EvOK F n T ev) (hq : q ≠ 0)
    (hRT : ∀ a b, a < n → b + 1 < c → @Mat.get K (scOfField F) R a b = @Mat.get K (scOfField F) T a b)
    (hnf : ∀ i, i + 1 < c → 0 < (@evGet K (scOfField F) ev i).2 →
      ¬ (((@evGet K (scOfField F) ev i).1 - p) * ((@evGet K (scOfField F) ev i).1 - p) +
          (@evGet K (scOfField F) ev i).2 * (@evGet K (scOfField F) ev i).2 - q * q = 0 ∧
        ((@evGet K (scOfField F) ev i).1 - p) * 2 * q = 0))
    (i : ℕ) (st : CplxSt K) (h : CInv F n c p q T R ev (i + 1) st) :
    CInv F n c p q T R ev i (@cplxStep K _ _ _ _ _ (scOfField F) n c p q norm ev i st) := by
  let _ : Sc K := scOfField F
  obtain ⟨hS, hmode⟩ := h
  have hlc := hS.lle
  have hcn := hS.cn
  have hil : i < st.l := by rcases hmode with h | h <;> omega
  have hoff : ∀ a b, a < n → b + 1 < c → st.t.get a b = T.get a b := fun a b ha hb => by
    rw [hS.off a b ha (by omega) (by omega)]; exact hRT a b ha hb
  have hdot : ∀ j, rowColDot st.t i j st.l (c - st.l + 1) = ∑ b ∈ Ico st.l (c + 1), T.get i b * st.t.get b j :=
    fun j => rowColDot_eq F st.t T i j st.l c (by omega) fun b hb1 hb2 => by
      by_cases h1 : b = c - 1
      · rw [h1]; exact (hS.lo i hil).1
      · by_cases h2 : b = c
        · rw [h2]; exact (hS.lo i hil).2
        · exact hoff i b (by omega) (by omega)
  have hwii : st.t.get i i - p = T.get i i - p := by rw [hoff i i (by omega) (by omega)]
  simp only [cplxStep]
  by_cases hneg : (evGet ev i).2 < 0
  · rw [if_pos (by simpa [zero] using hneg)]
    rcases hmode with ⟨hl, hk⟩ | ⟨hl, hk, _⟩
    · exact ⟨hS, Or.inr ⟨hl, hneg, hdot _, hdot _, hwii⟩⟩
    · exact absurd hneg (not_lt.mpr (le_of_lt (hev.second (i + 1) (by omega) hk).2))
  · rw [if_neg (by simpa [zero] using hneg)]
    refine ⟨crescale_solved F n c p q T R i _ ?_, Or.inl ⟨rfl, hneg⟩⟩
    by_cases hzero : (evGet ev i).2 = 0
    · rw [if_pos (by simpa [zero] using hzero)]
      rcases hmode with ⟨hl, hk⟩ | ⟨hl, hk, _⟩
      · exact cplxRow_solved F heps n c p q T R ev hev hq i st.t (hl ▸ hS) hzero _ _ _ (by rw [hdot, hl]) (by rw [hdot, hl]) hwii
      · exact absurd (hzero ▸ (hev.second (i + 1) (by omega) hk).2) (lt_irrefl _)
    · rw [if_neg (by simpa [zero] using hzero)]
      have hpos : 0 < (evGet ev i).2 := lt_of_le_of_ne (not_lt.mp hneg) (Ne.symm hzero)
      rcases hmode with ⟨hl, hk⟩ | ⟨hl, hk, hlra, hlsa, hlw⟩
      · exact absurd (hev.first i (by omega) hpos).2.1 hk
      · exact cplxBlock_solved F heps n c p q norm T R ev hev hq i st.t (hl ▸ hS) hpos (hnf i (by omega) hpos)
          (hoff i (i + 1) (by omega) (by omega)) (hoff (i + 1) i (by omega) (by omega))
          _ _ _ _ _ _ (by rw [hlra, hl]) (by rw [hlsa, hl]) hlw (by rw [hdot, hl]) (by rw [hdot, hl]) hwii

/-- the 2x2 eigenvector the complex branch starts from: `y_c = i`, `y_{c−1} = (u, v)` with `cc·u = q`, `cc·v = p − d` -/
theorem preset_alg (A B cc d p q u v : K) (h4 : 2 * p = A + d) (h5 : p * p + q * q = A * d - B * cc) (e1 : cc * u = q)
    (e2 : cc * v = p - d) (hcc : cc ≠ 0) :
    A * u + B * 0 = p * u + q * v ∧ A * v + B * 1 = p * v + -q * u ∧ cc * u + d * 0 = p * 0 + q * 1 ∧ cc * v + d * 1 = p * 1 + -q * 0 := by
  refine ⟨mul_left_cancel₀ hcc ?_, mul_left_cancel₀ hcc ?_, by linear_combination e1, by linear_combination e2⟩
  · linear_combination (A - p) * e1 - q * e2 - q * h4
  · linear_combination (A - p) * e2 + q * e1 + h5 - p * h4

/-- the first two writes of the complex branch of `backSub` (row `c − 1` of the two columns) -/
def presetT (t : Mat K) (c : ℕ) (p q : K) : Mat K :=
  letI : Sc K := scOfField F
  if Sc.gt (Sc.abs (t.get c (c - 1))) (Sc.abs (t.get (c - 1) c)) = true then
    (t.set (c - 1) (c - 1) (q / t.get c (c - 1))).set (c - 1) c
      (-((t.set (c - 1) (c - 1) (q / t.get c (c - 1))).get c c - p) / (t.set (c - 1) (c - 1) (q / t.get c (c - 1))).get c (c - 1))
  else (t.set (c - 1) (c - 1) (cdiv zero (-t.get (c - 1) c) (t.get (c - 1) (c - 1) - p) q).1).set (c - 1) c
      (cdiv zero (-t.get (c - 1) c) (t.get (c - 1) (c - 1) - p) q).2

/-- the characteristic equation forces both off-diagonal entries of a block with non-real eigenvalues to be non-zero -/
theorem offdiag_ne (A B cc d p q : K) (h4 : 2 * p = A + d) (h5 : p * p + q * q = A * d - B * cc) (hq : q ≠ 0) : cc ≠ 0 ∧ B ≠ 0 := by
  have key : B * cc ≠ 0 := by
    intro h0
    have h6 : q * q + (p - d) * (p - d) = 0 := by linear_combination h5 - d * h4 - h0
    exact C09Cdiv.sumsq_ne (Or.inl hq) h6
  exact ⟨fun h => key (by rw [h, mul_zero]), fun h => key (by rw [h, zero_mul])⟩

theorem preset_spec (heps : F.eps ≠ 0) (n c : ℕ) (tc : Mat K) (sq : @Sq K n tc) (hc1 : 1 ≤ c) (hc : c < n) (p q : K) (hq : q ≠ 0)
    (h4 : 2 * p = @Mat.get K (scOfField F) tc (c - 1) (c - 1) + @Mat.get K (scOfField F) tc c c)
    (h5 : p * p + q * q = @Mat.get K (scOfField F) tc (c - 1) (c - 1) * @Mat.get K (scOfField F) tc c c -
      @Mat.get K (scOfField F) tc (c - 1) c * @Mat.get K (scOfField F) tc c (c - 1)) :
    ∃ u v : K, @Mat.get K (scOfField F) tc c (c - 1) * u = q ∧ @Mat.get K (scOfField F) tc c (c - 1) * v = p - @Mat.get K (scOfField F) tc c c ∧
      @Sq K n (presetT F tc c p q) ∧
      ∀ a b, a < n → @Mat.get K (scOfField F) (presetT F tc c p q) a b =
        if a = c - 1 ∧ b = c then v else if a = c - 1 ∧ b = c - 1 then u else @Mat.get K (scOfField F) tc a b := by
  let _ : Sc K := scOfField F
  obtain ⟨hcc, hB⟩ := offdiag_ne (tc.get (c - 1) (c - 1)) (tc.get (c - 1) c) (tc.get c (c - 1)) (tc.get c c) p q h4 h5 hq
  have gen : ∀ u v : K, Sq n ((tc.set (c - 1) (c - 1) u).set (c - 1) c v) ∧
      ∀ a b, a < n → ((tc.set (c - 1) (c - 1) u).set (c - 1) c v).get a b =
        if a = c - 1 ∧ b = c then v else if a = c - 1 ∧ b = c - 1 then u else tc.get a b :=
    fun u v => ⟨(sq.set _ _ _).set _ _ _, fun a b ha => by
      rw [(sq.set _ _ _).get_set (c - 1) c a b v (by omega) hc ha, sq.get_set (c - 1) (c - 1) a b u (by omega) (by omega) ha]⟩
  simp only [presetT]
  split
  · -- direct formulas
    rw [sq.get_set (c - 1) (c - 1) c c _ (by omega) (by omega) hc, if_neg (by omega),
      sq.get_set (c - 1) (c - 1) c (c - 1) _ (by omega) (by omega) hc, if_neg (by omega)]
    exact ⟨_, _, mul_div_cancel₀ _ hcc, by rw [mul_div_cancel₀ _ hcc]; ring, gen _ _⟩
  · obtain ⟨d1, d2⟩ := C09Cdiv.cdiv_spec F heps zero (-tc.get (c - 1) c) (tc.get (c - 1) (c - 1) - p) q (Or.inr hq)
    have hz : (zero : K) = 0 := by simp [zero]
    rw [hz] at d1 d2 ⊢
    generalize cdiv 0 (-tc.get (c - 1) c) (tc.get (c - 1) (c - 1) - p) q = Y at d1 d2 ⊢
    -- `(A − p + i q)(Y.1 + i Y.2) = −i B`; multiplied by `d − p + i q` the left factor becomes `B·cc` (characteristic equation)
    refine ⟨Y.1, Y.2, mul_left_cancel₀ hB ?_, mul_left_cancel₀ hB ?_, gen _ _⟩
    · linear_combination (-(p - tc.get c c)) * d1 - q * d2 + Y.1 * h5 + (-p * Y.1 - q * Y.2) * h4
    · linear_combination q * d1 - (p - tc.get c c) * d2 + Y.2 * h5 + (q * Y.1 - p * Y.2) * h4

/-- the indices of complex pairs whose two columns are solved EXACTLY: `c` is the second row of a block (`ev_c.im < 0`) and the value
    `ev_c.re − i·ev_c.im` is not an eigenvalue of another 2x2 block above (no `vr == vi == 0` fallback) -/
def GoodC (ev : Vec (K × K)) (c : ℕ) : Prop :=
  (@evGet K (scOfField F) ev c).2 < 0 ∧
  ∀ i, i + 1 < c → 0 < (@evGet K (scOfField F) ev i).2 →
    ¬ (((@evGet K (scOfField F) ev i).1 - (@evGet K (scOfField F) ev c).1) * ((@evGet K (scOfField F) ev i).1 - (@evGet K (scOfField F) ev c).1) +
        (@evGet K (scOfField F) ev i).2 * (@evGet K (scOfField F) ev i).2 - (@evGet K (scOfField F) ev c).2 * (@evGet K (scOfField F) ev c).2 = 0 ∧
      ((@evGet K (scOfField F) ev i).1 - (@evGet K (scOfField F) ev c).1) * 2 * (@evGet K (scOfField F) ev c).2 = 0)

/-- **the back-substitution for a complex pair solves `T y = (p − i q) y` exactly** (exact arithmetic; `p = ev_c.re`, `q = ev_c.im < 0`):
    the columns `c − 1` (real parts) and `c` (imaginary parts) of the work matrix after the complex branch of `backSub`, cut off below
    row `c`, hold `y = yr + i·yi ≠ 0` with `Σ_b T(a,b) yr_b = p yr_a + q yi_a`, `Σ_b T(a,b) yi_b = p yi_a − q yr_a` for EVERY row `a`;
    nothing outside the two columns was written. -/
theorem cplx_columns (heps : F.eps ≠ 0) (n c : ℕ) (norm : K) (T tc : Mat K) (ev : Vec (K × K)) (hev : EvOK F n T ev)
    (hw : @WF K tc) (hr : tc.rows = n) (hcl : tc.cols = n) (hc : c < n)
    (htc : ∀ a b, a < n → b ≤ c → @Mat.get K (scOfField F) tc a b = @Mat.get K (scOfField F) T a b)
    (hg : GoodC F ev c) :
    let _ : Sc K := scOfField F
    let st := cplxInner n c (evGet ev c).1 (evGet ev c).2 norm ev (c - 1)
      ⟨zero, zero, zero, c - 1, ((presetT F tc c (evGet ev c).1 (evGet ev c).2).set c (c - 1) zero).set c c one⟩
    let yr : ℕ → K := fun b => if b ≤ c then st.t.get b (c - 1) else 0
    let yi : ℕ → K := fun b => if b ≤ c then st.t.get b c else 0
    (∀ a, a < n → ∑ b ∈ range n, T.get a b * yr b = (evGet ev c).1 * yr a + (evGet ev c).2 * yi a ∧
      ∑ b ∈ range n, T.get a b * yi b = (evGet ev c).1 * yi a - (evGet ev c).2 * yr a) ∧
    (yr c = 0 ∧ yi c ≠ 0) ∧ @WF K st.t ∧ st.t.rows = n ∧ st.t.cols = n ∧
    (∀ a b, a < n → b ≠ c - 1 → b ≠ c → st.t.get a b = tc.get a b) := by
  intro _
  obtain ⟨hneg, hnf⟩ := hg
  generalize hp : (evGet ev c).1 = p at hnf ⊢
  generalize hqd : (evGet ev c).2 = q at hneg hnf ⊢
  intro st yr yi
  obtain ⟨hc1, hposm⟩ := hev.second c hc (hqd ▸ hneg)
  have hcm : c - 1 + 1 = c := by omega
  obtain ⟨f1, f2, f3, f4, f5⟩ := hev.first (c - 1) (by omega) hposm
  obtain ⟨k1, k2⟩ := hev.conj (c - 1) (by omega) hposm
  rw [hcm] at f4 f5 k1 k2
  rw [hp] at k1
  rw [hqd] at k2
  have hq : q ≠ 0 := ne_of_lt hneg
  have h4 : 2 * p = tc.get (c - 1) (c - 1) + tc.get c c := by
    rw [htc _ _ (by omega) (by omega), htc _ _ hc (le_refl _), k1]; exact f4
  have h5 : p * p + q * q = tc.get (c - 1) (c - 1) * tc.get c c - tc.get (c - 1) c * tc.get c (c - 1) := by
    rw [htc _ _ (by omega) (by omega), htc _ _ hc (le_refl _), htc _ _ (by omega) (le_refl _), htc _ _ hc (by omega), k1, k2]
    linear_combination f5
  obtain ⟨u, v, eu, evv, sq1, g1⟩ := preset_spec F heps n c tc ⟨hw, hr, hcl⟩ hc1 hc p q hq h4 h5
  obtain ⟨hcc, _⟩ := offdiag_ne (tc.get (c - 1) (c - 1)) (tc.get (c - 1) c) (tc.get c (c - 1)) (tc.get c c) p q h4 h5 hq
  have sq2 := sq1.set c (c - 1) zero
  have g3 : ∀ a b, a < n → (((presetT F tc c p q).set c (c - 1) zero).set c c one).get a b =
      if a = c ∧ b = c then (1 : K) else if a = c ∧ b = c - 1 then 0 else
      if a = c - 1 ∧ b = c then v else if a = c - 1 ∧ b = c - 1 then u else tc.get a b := by
    intro a b ha
    rw [sq2.get_set c c a b one hc hc ha, sq1.get_set c (c - 1) a b zero hc (by omega) ha, g1 a b ha]
    simp [one, zero]
  have y1r : (((presetT F tc c p q).set c (c - 1) zero).set c c one).get (c - 1) (c - 1) = u := by
    rw [g3 _ _ (by omega), if_neg (by omega), if_neg (by omega), if_neg (by omega), if_pos ⟨rfl, rfl⟩]
  have y1i : (((presetT F tc c p q).set c (c - 1) zero).set c c one).get (c - 1) c = v := by
    rw [g3 _ _ (by omega), if_neg (by omega), if_neg (by omega), if_pos ⟨rfl, rfl⟩]
  have y2r : (((presetT F tc c p q).set c (c - 1) zero).set c c one).get c (c - 1) = 0 := by
    rw [g3 _ _ hc, if_neg (by omega), if_pos ⟨rfl, rfl⟩]
  have y2i : (((presetT F tc c p q).set c (c - 1) zero).set c c one).get c c = 1 := by
    rw [g3 _ _ hc, if_pos ⟨rfl, rfl⟩]
  obtain ⟨a1, a2, a3, a4⟩ := preset_alg (T.get (c - 1) (c - 1)) (T.get (c - 1) c) (T.get c (c - 1)) (T.get c c) p q u v
    (by rw [← htc _ _ (by omega) (by omega), ← htc _ _ hc le_rfl]; exact h4)
    (by rw [← htc _ _ (by omega) (by omega), ← htc _ _ hc le_rfl, ← htc _ _ (by omega) le_rfl, ← htc _ _ hc (by omega)]; exact h5)
    (by rw [← htc _ _ hc (by omega)]; exact eu) (by rw [← htc _ _ hc (by omega), ← htc _ _ hc le_rfl]; exact evv)
    (by rw [← htc _ _ hc (by omega)]; exact hcc)
  -- the start: the 2x2 eigenvector solves the two rows of its block
  have hrows : ∀ j k (s : K), (T.get (c - 1) (c - 1) * (((presetT F tc c p q).set c (c - 1) zero).set c c one).get (c - 1) j +
        T.get (c - 1) c * (((presetT F tc c p q).set c (c - 1) zero).set c c one).get c j =
        p * (((presetT F tc c p q).set c (c - 1) zero).set c c one).get (c - 1) j +
          s * (((presetT F tc c p q).set c (c - 1) zero).set c c one).get (c - 1) k) →
      (T.get c (c - 1) * (((presetT F tc c p q).set c (c - 1) zero).set c c one).get (c - 1) j +
        T.get c c * (((presetT F tc c p q).set c (c - 1) zero).set c c one).get c j =
        p * (((presetT F tc c p q).set c (c - 1) zero).set c c one).get c j +
          s * (((presetT F tc c p q).set c (c - 1) zero).set c c one).get c k) →
      RowEqs F T (((presetT F tc c p q).set c (c - 1) zero).set c c one) p s j k (c - 1) c := by
    intro j k s e1 e2 a ha1 ha2
    rw [Finset.sum_eq_sum_Ico_succ_bot (by omega), hcm, Nat.Ico_succ_singleton, Finset.sum_singleton]
    rcases Nat.eq_or_lt_of_le ha2 with rfl | hlt
    · exact e2
    · obtain rfl : a = c - 1 := by omega
      exact e1
  have hS0 : CSolved F n c p q T tc (c - 1) (((presetT F tc c p q).set c (c - 1) zero).set c c one) := by
    have hne : ∀ a b, a < n → (a < c - 1 ∨ (b ≠ c - 1 ∧ b ≠ c)) →
        (((presetT F tc c p q).set c (c - 1) zero).set c c one).get a b = tc.get a b := fun a b ha hor => by
      rw [g3 a b ha, if_neg (by omega), if_neg (by omega), if_neg (by omega), if_neg (by omega)]
    refine ⟨sq2.set _ _ _, fun a b ha hb1 hb2 => hne a b ha (Or.inr ⟨hb1, hb2⟩),
      fun a ha => ⟨(hne a _ (by omega) (Or.inl ha)).trans (htc a _ (by omega) (by omega)),
        (hne a _ (by omega) (Or.inl ha)).trans (htc a _ (by omega) le_rfl)⟩, by omega, hc, hrows _ _ _ ?_ ?_, hrows _ _ _ ?_ ?_, ?_⟩
    · rw [y1r, y1i, y2r]; exact a1
    · rw [y1r, y2r, y2i]; exact a3
    · rw [y1r, y1i, y2i]; exact a2
    · rw [y1i, y2r, y2i]; exact a4
    · rw [y2r, y2i]; exact ⟨rfl, one_ne_zero⟩
  obtain ⟨hS, hmode⟩ := C09Loop.countdown (cplxInner n c p q norm ev) _ (fun _ => rfl) (cplxInner_succ n c p q norm ev) _
    (cplxStep_inv F heps n c p q norm T tc ev hev hq (fun a b ha hb => htc a b ha (by omega)) hnf) (c - 1)
    ⟨zero, zero, zero, c - 1, ((presetT F tc c p q).set c (c - 1) zero).set c c one⟩ ⟨hS0, Or.inl ⟨rfl, not_lt.mpr (le_of_lt hposm)⟩⟩
  have hl : st.l = 0 := by
    rcases hmode with ⟨h1, _⟩ | ⟨_, h2, _⟩
    · exact h1
    · exact absurd (hev.second 0 (by omega) h2).1 (by omega)
  have heqr := hS.eqr
  have heqi := hS.eqi
  unfold RowEqs at heqr heqi
  rw [hl, ← Finset.range_eq_Ico] at heqr heqi
  refine ⟨fun a ha => ?_, ?_, hS.wf, hS.rows, hS.cols, hS.off⟩
  · simp only [yr, yi]
    rw [sum_cut hc, sum_cut hc]
    by_cases hac : a ≤ c
    · rw [if_pos hac, if_pos hac, heqr a (Nat.zero_le _) hac, heqi a (Nat.zero_le _) hac]
      exact ⟨rfl, by ring⟩
    · rw [if_neg hac, if_neg hac]
      have hz : ∀ b, b < c + 1 → T.get a b = 0 := by
        intro b hb
        rcases Nat.lt_or_ge (b + 1) c with h2 | h2
        · exact hev.hess a b (by omega) ha
        · have := hev.below_pair F hposm (a := a) (by omega) ha
          rw [hcm] at this
          rcases Nat.eq_or_lt_of_le h2 with h3 | h3
          · rw [show b = c - 1 by omega]; exact this.1
          · rw [show b = c by omega]; exact this.2
      constructor
      · rw [Finset.sum_eq_zero (fun b hb => by rw [hz b (Finset.mem_range.mp hb), zero_mul])]; ring
      · rw [Finset.sum_eq_zero (fun b hb => by rw [hz b (Finset.mem_range.mp hb), zero_mul])]; ring
  · simp only [yr, yi, if_pos (le_refl c)]; exact hS.yc

open C09Hess in
/-- the columns `c − 1`, `c` of `t`, cut off below row `c`, are the real and imaginary part of an exact non-zero eigenvector of `T` for
    the value `ev_c.re − i·ev_c.im` -/
def EqColC (n c : ℕ) (T t : Mat K) (ev : Vec (K × K)) : Prop :=
  (∀ a, a < n →
    ∑ b ∈ range n, @Mat.get K (scOfField F) T a b * (if b ≤ c then @Mat.get K (scOfField F) t b (c - 1) else 0) =
      (@evGet K (scOfField F) ev c).1 * (if a ≤ c then @Mat.get K (scOfField F) t a (c - 1) else 0) +
        (@evGet K (scOfField F) ev c).2 * (if a ≤ c then @Mat.get K (scOfField F) t a c else 0) ∧
    ∑ b ∈ range n, @Mat.get K (scOfField F) T a b * (if b ≤ c then @Mat.get K (scOfField F) t b c else 0) =
      (@evGet K (scOfField F) ev c).1 * (if a ≤ c then @Mat.get K (scOfField F) t a c else 0) -
        (@evGet K (scOfField F) ev c).2 * (if a ≤ c then @Mat.get K (scOfField F) t a (c - 1) else 0)) ∧
  (@Mat.get K (scOfField F) t c (c - 1) = 0 ∧ @Mat.get K (scOfField F) t c c ≠ 0)

theorem eqColC_congr (n c : ℕ) (T t t' : Mat K) (ev : Vec (K × K)) (hc : c < n)
    (h : ∀ a, a < n → @Mat.get K (scOfField F) t' a (c - 1) = @Mat.get K (scOfField F) t a (c - 1) ∧
      @Mat.get K (scOfField F) t' a c = @Mat.get K (scOfField F) t a c) (he : EqColC F n c T t ev) :
    EqColC F n c T t' ev := by
  let _ : Sc K := scOfField F
  obtain ⟨h1, h2⟩ := he
  refine ⟨?_, by rw [(h c hc).1, (h c hc).2]; exact h2⟩
  intro a ha
  obtain ⟨q1, q2⟩ := h1 a ha
  refine ⟨?_, ?_⟩
  · rw [(h a ha).1, (h a ha).2, ← q1]
    apply Finset.sum_congr rfl
    intro b hb; rw [(h b (Finset.mem_range.mp hb)).1]
  · rw [(h a ha).1, (h a ha).2, ← q2]
    apply Finset.sum_congr rfl
    intro b hb; rw [(h b (Finset.mem_range.mp hb)).2]

/-- invariant of the back-substitution loop: the real columns (`BInv`), the pairs of columns of the complex values (these need
    `eps ≠ 0`, for the `__divdc3` port), and: the loop never stands between the two rows of a block -/
structure CBInv (n m : ℕ) (T t : Mat K) (ev : Vec (K × K)) : Prop where
  base : BInv F n m T t ev
  doneC : F.eps ≠ 0 → ∀ c, m + 1 ≤ c → c < n → GoodC F ev c → EqColC F n c T t ev
  nf : ∀ c, c + 1 = m → ¬ 0 < (@evGet K (scOfField F) ev c).2

open C09Hess in
/-- a step of the loop from `m` down to `m'` that keeps the columns outside `m'..m−1` -/
theorem cbinv_pres {n m m' : ℕ} {T t t' : Mat K} {ev : Vec (K × K)} (Keep : ℕ → ℕ → Prop) (h : CBInv F n m T t ev)
    (hp : @PresK K (scOfField F) Keep t t') (hm : m' ≤ m) (hk1 : ∀ a b, b < m' → Keep a b) (hk2 : ∀ a b, m ≤ b → Keep a b)
    (hmid : ∀ c, m' ≤ c → c < m → Good F T ev c → EqCol F n c T t' ev)
    (hmidC : F.eps ≠ 0 → ∀ c, m' + 1 ≤ c → c ≤ m → c < n → GoodC F ev c → EqColC F n c T t' ev)
    (hnf : ∀ c, c + 1 = m' → ¬ 0 < (@evGet K (scOfField F) ev c).2) : CBInv F n m' T t' ev := by
  refine ⟨binv_pres F Keep h.base hp hm hk1 hk2 hmid, fun heps c hc1 hc2 hg => ?_, hnf⟩
  by_cases hcm : m + 1 ≤ c
  · exact eqColC_congr F n c T t t' ev hc2
      (fun a ha => ⟨hp.2.2.2 a _ (hk2 a _ (by omega)) (by rw [h.base.rows]; exact ha),
        hp.2.2.2 a _ (hk2 a _ (by omega)) (by rw [h.base.rows]; exact ha)⟩) (h.doneC heps c hcm hc2 hg)
  · exact hmidC heps c hc1 (by omega) hc2 hg

open C09Hess in
/-- **the back-substitution loop, real and complex columns**: when it is finished every Good real column and (if `eps ≠ 0`) every GoodC
    pair of columns holds an exact eigenvector of `T` -/
theorem backSub_invC (n : ℕ) (norm : K) (T : Mat K) (ev : Vec (K × K)) (hev : EvOK F n T ev) (f m : ℕ) (t : Mat K)
    (hf : m ≤ f) (hm : m ≤ n) (h : CBInv F n m T t ev) :
    CBInv F n 0 T (@backSub K _ _ _ _ _ (scOfField F) n norm ev f m t) ev := by
  let _ : Sc K := scOfField F
  induction f generalizing m t with
  | zero =>
    have : m = 0 := by omega
    subst this
    simpa [backSub] using h
  | succ f ih =>
    cases m with
    | zero => simpa [backSub] using h
    | succ c =>
      have hb := h.base
      simp only [backSub]
      by_cases hq0 : (evGet ev c).2 = 0
      · rw [if_pos (by simpa [zero] using hq0)]
        apply ih c _ (by omega) (by omega)
        have hp := presK_trans (presK_set (fun _ b => b ≠ c) t hb.wf c c one (fun hh => hh rfl))
          (realInner_pres n c (evGet ev c).1 norm ev c ⟨zero, zero, c, t.set c c one⟩ (C08Mat.set_WF hb.wf _ _ _))
        refine cbinv_pres F _ h hp (by omega) (fun a b hbb => by omega) (fun a b hbb => by omega) ?_ ?_ ?_
        · intro c2 hc1 hc2 hg
          obtain rfl : c2 = c := by omega
          obtain ⟨e1, e2, _⟩ := real_column F n c2 norm T t ev hev hb.wf hb.rows hb.cols hm hg.1
            (fun a b ha hbb => hb.low a b ha (by omega)) hg.2
          exact ⟨fun a ha => e1 a ha, by simpa using e2⟩
        · intro _ c2 hc1 hc2 hc3 hg
          obtain rfl : c2 = c + 1 := by omega
          have := (hev.second (c + 1) hc3 hg.1).2
          rw [Nat.add_sub_cancel, hq0] at this; exact absurd this (lt_irrefl _)
        · intro c2 hc2 hpos
          have := (hev.first c2 (by omega) hpos).2.1
          rw [hc2, hq0] at this; exact lt_irrefl _ this
      · rw [if_neg (by simpa [zero] using hq0)]
        by_cases hcx : (Sc.lt (evGet ev c).2 (zero : K) && decide (0 < c)) = true
        · rw [if_pos hcx]
          have hneg : (evGet ev c).2 < 0 ∧ 0 < c := by simpa [zero] using hcx
          have hposm := (hev.second c (by omega) hneg.1).2
          show CBInv F n 0 T (backSub n norm ev f (c - 1) (cplxInner n c (evGet ev c).1 (evGet ev c).2 norm ev (c - 1)
            ⟨zero, zero, zero, c - 1, ((presetT F t c (evGet ev c).1 (evGet ev c).2).set c (c - 1) zero).set c c one⟩).t) ev
          apply ih (c - 1) _ (by omega) (by omega)
          -- the pre-sets and the inner loop only write the columns c − 1 and c
          have hp1 : PresK (KeepC c) t (presetT F t c (evGet ev c).1 (evGet ev c).2) := by
            unfold presetT
            split <;> exact presK_set2 _ _ hb.wf _ _ _ _ _ _ (keepC_l c _) (keepC_r c _)
          have hp2 := presK_trans hp1 (presK_set2 _ _ hp1.1 c (c - 1) c c zero one (keepC_l c _) (keepC_r c _))
          have hp3 := presK_trans hp2
            (cplxInner_pres n c (evGet ev c).1 (evGet ev c).2 norm ev (c - 1) ⟨zero, zero, zero, c - 1, _⟩ hp2.1)
          refine cbinv_pres F _ h hp3 (by omega) (fun a b hbb => by unfold KeepC; omega) (fun a b hbb => by unfold KeepC; omega)
            ?_ ?_ ?_
          · intro c2 h1 h2 hg
            rcases Nat.lt_or_ge c2 c with h3 | h3
            · obtain rfl : c2 = c - 1 := by omega
              rw [hg.1] at hposm; exact absurd hposm (lt_irrefl _)
            · obtain rfl : c2 = c := by omega
              exact absurd hg.1 hq0
          · intro heps c2 hc1 hc2 hc3 hg
            rcases Nat.lt_or_ge c c2 with h3 | h3
            · obtain rfl : c2 = c + 1 := by omega
              have := (hev.second (c + 1) hc3 hg.1).2
              rw [Nat.add_sub_cancel] at this
              exact absurd hneg.1 (not_lt.mpr (le_of_lt this))
            · obtain rfl : c2 = c := by omega
              obtain ⟨e1, e2, _⟩ := cplx_columns F heps n c2 norm T t ev hev hb.wf hb.rows hb.cols (by omega)
                (fun a b ha hbb => hb.low a b ha (by omega)) hg
              exact ⟨fun a ha => e1 a ha, by simpa using e2⟩
          · intro c2 hc2 hpos
            have := (hev.first c2 (by omega) hpos).2.1
            rw [show c2 + 1 = c - 1 by omega] at this
            exact absurd hposm (not_lt.mpr (le_of_lt this))
        · exfalso
          rcases lt_or_gt_of_ne hq0 with hlt | hgt
          · have hc0 : ¬ 0 < c := by
              intro h0; apply hcx; simp [zero, hlt, h0]
            have := (hev.second c (by omega) hlt).1
            omega
          · exact h.nf c rfl hgt

end field
end C09Eig
