/-
  C08 (TridiagQR part) -- structural theorems about the executable model `QRModel.TridiagQR` (Model/TridiagQR.lean,
  mirror of `Spectra::TridiagQR` in LinAlg/UpperHessenbergQR.h) at the exact-arithmetic instance `scOfField F`
  over any linearly ordered field `K`; no hypotheses on `sqrt`, `pow`, `eps`.  For every size, input and shift:

  * `get_ofFn`, `get_bandMat`, `vget_vset`: entry lemmas of the `Lin` layer (any `Sc` instance);
  * `tqr_R_band`: `matrix_R` is upper triangular with upper bandwidth 2;
  * `tqr_qthq_tridiagonal`, `tqr_qthq_symmetric`, `tqr_qthq_entries`: `matrix_QtHQ` is symmetric tridiagonal by construction;
  * `deflate_get`, `deflate_spec`, `deflate_drops`, `deflate_keeps`: the deflation pass sets exactly the negligible entries to 0;
  * `tqr_compute_sizes`: sizes of all stored vectors;
  * `tqr_compute_T`, `tqr_compute_reads_bands`: what is kept of the input; only its diagonal and subdiagonal are read;
  * `tqr_facStep_local`, `tqr_facStep_window`, `tqr_facStep_frame`: one factorization step is the rotation of the 2x3 window.
-/
import Mathlib.Tactic.Ring
import Mathlib.Algebra.Order.Field.Basic
import SpectraVerif.Model.TridiagQR
import SpectraVerif.Proofs.ScField
import SpectraVerif.Proofs.C08Mat

namespace C08Tridiag
open QRModel Lin QRModel.TridiagQR

section generic
variable {α : Type} [Sc α]

theorem vget_vset (v : Vec α) (i j : Nat) (x : α) :
    vget (vset v i x) j = if i = j ∧ i < v.size then x else vget v j := by
  unfold vget vset
  rw [C08Mat.getD_set, C08Mat.ite_iff (and_congr_left' eq_comm : (j = i ∧ i < v.size) ↔ (i = j ∧ i < v.size))]

omit [Sc α] in
@[simp] theorem size_vset (v : Vec α) (i : Nat) (x : α) : (vset v i x).size = v.size := by
  simp [vset]

theorem vget_of_ge (v : Vec α) (i : Nat) (h : v.size ≤ i) : vget v i = zero := by
  unfold vget; simp [Array.getD_eq_getD_getElem?, h]

@[simp] theorem size_vzero (n : Nat) : (vzero n : Vec α).size = n := by simp [vzero]

theorem get_ofFn (r c : Nat) (f : Nat → Nat → α) (i j : Nat) (hi : i < r) (hj : j < c) :
    (Mat.ofFn r c f).get i j = f i j :=
  C08Mat.get_ofFn r c f hi hj

theorem get_bandMat (n : Nat) (lo d u1 u2 : Nat → α) (i j : Nat) (hi : i < n) (hj : j < n) :
    (bandMat n lo d u1 u2).get i j =
      if i = j then d i else if i + 1 = j then u1 i else if i + 2 = j then u2 i else if i = j + 1 then lo j else zero := by
  unfold bandMat; rw [get_ofFn _ _ _ _ _ hi hj]

end generic

section field
variable {K : Type} [Field K] [LinearOrder K] [IsStrictOrderedRing K] (F : FieldFns K)

local notation "vg" => @Lin.vget K (scOfField F)
local notation "mg" => @Lin.Mat.get K (scOfField F)

@[simp] theorem zero_eq : @Lin.zero K (scOfField F) = (0 : K) := by
  simp [Lin.zero]

theorem negligible_iff (e d0 d1 : K) :
    @negligible K _ _ (scOfField F) e d0 d1 = true ↔ |e| ≤ F.eps * (|d0| + |d1|) := by
  simp [negligible]

/-! ### 1. R is upper triangular with upper bandwidth 2 -/

theorem matrix_R_band (q : TridiagQR K) (i j : Nat) (hi : i < q.n) (hj : j < q.n) :
    (j < i → mg (@matrix_R K (scOfField F) q) i j = 0) ∧
    (i + 2 < j → mg (@matrix_R K (scOfField F) q) i j = 0) := by
  unfold matrix_R
  rw [@get_bandMat K (scOfField F) _ _ _ _ _ _ _ hi hj]
  constructor
  · intro h
    rw [if_neg (by omega), if_neg (by omega), if_neg (by omega)]
    simp
  · intro h
    rw [if_neg (by omega), if_neg (by omega), if_neg (by omega), if_neg (by omega)]
    simp

theorem compute_n (mat : Mat K) (shift : K) :
    (@compute K _ _ _ _ _ (scOfField F) mat shift).n = mat.rows := rfl

theorem tqr_R_band (mat : Mat K) (shift : K) (i j : Nat) (hi : i < mat.rows) (hj : j < mat.rows) :
    (j < i → mg (@matrix_R K (scOfField F) (@compute K _ _ _ _ _ (scOfField F) mat shift)) i j = 0) ∧
    (i + 2 < j → mg (@matrix_R K (scOfField F) (@compute K _ _ _ _ _ (scOfField F) mat shift)) i j = 0) :=
  matrix_R_band F _ i j hi hj

/-! ### 2. matrix_QtHQ is symmetric tridiagonal by construction -/

theorem tqr_qthq_tridiagonal (q : TridiagQR K) (i j : Nat) (hi : i < q.n) (hj : j < q.n)
    (h : i + 1 < j ∨ j + 1 < i) : mg (@matrix_QtHQ K _ _ _ _ (scOfField F) q) i j = 0 := by
  unfold matrix_QtHQ
  simp only []
  rw [@get_bandMat K (scOfField F) _ _ _ _ _ _ _ hi hj]
  rcases h with h | h
  · rw [if_neg (by omega), if_neg (by omega)]
    by_cases h2 : i + 2 = j
    · rw [if_pos h2]; simp
    · rw [if_neg h2, if_neg (by omega)]; simp
  · rw [if_neg (by omega), if_neg (by omega), if_neg (by omega), if_neg (by omega)]; simp

theorem tqr_qthq_symmetric (q : TridiagQR K) (i j : Nat) (hi : i < q.n) (hj : j < q.n) :
    mg (@matrix_QtHQ K _ _ _ _ (scOfField F) q) i j = mg (@matrix_QtHQ K _ _ _ _ (scOfField F) q) j i := by
  unfold matrix_QtHQ
  simp only []
  rw [@get_bandMat K (scOfField F) _ _ _ _ _ _ _ hi hj, @get_bandMat K (scOfField F) _ _ _ _ _ _ _ hj hi]
  by_cases h1 : i = j
  · subst h1; rfl
  · have h1' : ¬ j = i := fun h => h1 h.symm
    rw [if_neg h1, if_neg h1']
    by_cases h2 : i + 1 = j
    · rw [if_pos h2, if_neg (by omega), if_neg (by omega), if_pos (by omega)]
    · rw [if_neg h2]
      by_cases h3 : j + 1 = i
      · rw [if_pos h3, if_neg (by omega), if_pos (by omega)]
      · rw [if_neg h3]
        by_cases h4 : i + 2 = j
        · rw [if_pos h4, if_neg (by omega), if_neg (by omega)]
        · rw [if_neg h4, if_neg (by omega)]
          by_cases h5 : j + 2 = i
          · rw [if_pos h5]
          · rw [if_neg h5, if_neg (by omega)]


/-! ### 3. the deflation pass -/

/-- the loop body of `deflate` -/
def dstep (d : Vec K) (e : Vec K) (i : Nat) : Vec K :=
  if @negligible K _ _ (scOfField F) (vg e i) (vg d i) (vg d (i + 1)) then vset e i (@Lin.zero K (scOfField F)) else e

theorem deflate_eq (d e : Vec K) (n : Nat) :
    @deflate K _ _ (scOfField F) d e n = (List.range (n - 1)).foldl (dstep F d) e := rfl

/-- one step of the pass, at every index (in range or not: out of range `vset` does nothing and `vg` reads `0`) -/
theorem dstep_get (d e : Vec K) (k i : Nat) :
    (dstep F d e k).size = e.size ∧
    vg (dstep F d e k) i = if i = k ∧ |vg e k| ≤ F.eps * (|vg d k| + |vg d (k + 1)|) then 0 else vg e i := by
  unfold dstep
  by_cases hn : |vg e k| ≤ F.eps * (|vg d k| + |vg d (k + 1)|)
  · rw [if_pos ((negligible_iff F _ _ _).mpr hn), size_vset, @vget_vset K (scOfField F), zero_eq]
    refine ⟨rfl, ?_⟩
    by_cases hik : i = k
    · subst hik
      rw [if_pos (And.intro rfl hn)]
      by_cases hsz : i < e.size
      · rw [if_pos (And.intro rfl hsz)]
      · rw [if_neg (fun h => hsz (And.right h)), @vget_of_ge K (scOfField F) e i (Nat.le_of_not_lt hsz), zero_eq]
    · rw [if_neg (fun h => hik h.1.symm), if_neg (fun h => hik h.1)]
  · rw [if_neg (fun h => hn ((negligible_iff F _ _ _).mp h)), if_neg (fun h => hn h.2)]
    exact ⟨rfl, rfl⟩

theorem deflate_prefix (d e : Vec K) (k : Nat) :
    ((List.range k).foldl (dstep F d) e).size = e.size ∧
    ∀ i, vg ((List.range k).foldl (dstep F d) e) i =
      if i < k ∧ |vg e i| ≤ F.eps * (|vg d i| + |vg d (i + 1)|) then 0 else vg e i := by
  induction k with
  | zero => exact ⟨rfl, fun i => (if_neg (fun h => Nat.not_lt_zero i h.1)).symm⟩
  | succ k ih =>
    obtain ⟨hs, hv⟩ := ih
    rw [ListFold.foldl_range_succ]
    generalize (List.range k).foldl (dstep F d) e = e' at hs hv
    -- entry `k` has not been touched yet
    have hk : vg e' k = vg e k := by rw [hv k, if_neg (fun h => Nat.lt_irrefl k h.1)]
    refine ⟨(dstep_get F d e' k 0).1.trans hs, fun i => ?_⟩
    rw [(dstep_get F d e' k i).2, hk, hv i]
    by_cases hik : i = k
    · subst hik
      by_cases hn : |vg e i| ≤ F.eps * (|vg d i| + |vg d (i + 1)|)
      · rw [if_pos ⟨rfl, hn⟩, if_pos ⟨Nat.lt_succ_self i, hn⟩]
      · rw [if_neg (fun h => hn h.2), if_neg (fun h => hn h.2), if_neg (fun h => hn h.2)]
    · rw [if_neg (fun h => hik h.1)]
      by_cases h : i < k ∧ |vg e i| ≤ F.eps * (|vg d i| + |vg d (i + 1)|)
      · rw [if_pos h, if_pos ⟨Nat.lt_succ_of_lt h.1, h.2⟩]
      · rw [if_neg h, if_neg (fun h' => h ⟨by omega, h'.2⟩)]

/-- size is preserved -/
theorem deflate_size (d e : Vec K) (n : Nat) : (@deflate K _ _ (scOfField F) d e n).size = e.size :=
  (deflate_prefix F d e (n - 1)).1

/-- exact characterisation of every entry of the result (valid for every index, in range or not) -/
theorem deflate_get (d e : Vec K) (n : Nat) (i : Nat) :
    vg (@deflate K _ _ (scOfField F) d e n) i =
      if i < n - 1 ∧ |vg e i| ≤ F.eps * (|vg d i| + |vg d (i + 1)|) then 0 else vg e i :=
  (deflate_prefix F d e (n - 1)).2 i

theorem deflate_spec (d e : Vec K) (n : Nat) :
    (@deflate K _ _ (scOfField F) d e n).size = e.size ∧
    ∀ i, vg (@deflate K _ _ (scOfField F) d e n) i = vg e i ∨
      (i < n - 1 ∧ vg (@deflate K _ _ (scOfField F) d e n) i = 0 ∧
        |vg e i| ≤ F.eps * (|vg d i| + |vg d (i + 1)|)) := by
  refine ⟨deflate_size F d e n, ?_⟩
  intro i
  rw [deflate_get]
  by_cases h : i < n - 1 ∧ |vg e i| ≤ F.eps * (|vg d i| + |vg d (i + 1)|)
  · right; rw [if_pos h]; exact ⟨h.1, rfl, h.2⟩
  · left; rw [if_neg h]

/-- converse: a negligible entry is dropped -/
theorem deflate_drops (d e : Vec K) (n : Nat) (i : Nat) (hi : i < n - 1)
    (h : |vg e i| ≤ F.eps * (|vg d i| + |vg d (i + 1)|)) :
    vg (@deflate K _ _ (scOfField F) d e n) i = 0 := by
  rw [deflate_get, if_pos ⟨hi, h⟩]

/-- a non-negligible entry is kept -/
theorem deflate_keeps (d e : Vec K) (n : Nat) (i : Nat)
    (h : ¬ |vg e i| ≤ F.eps * (|vg d i| + |vg d (i + 1)|)) :
    vg (@deflate K _ _ (scOfField F) d e n) i = vg e i := by
  rw [deflate_get, if_neg (fun h' => h h'.2)]


/-- the (diagonal, subdiagonal) pair that `matrix_QtHQ` has after its rotation loop, before its final deflation pass -/
def qthqRaw (q : TridiagQR K) : Vec K × Vec K :=
  (List.range (q.n - 1)).foldl (@qthqStep K _ _ _ _ (scOfField F) q) (q.T_diag, q.T_subd)

/-- entries of `matrix_QtHQ` on the three bands: the diagonal of the loop result, and its subdiagonal with exactly
    the negligible entries replaced by 0 (on both sides of the diagonal) -/
theorem tqr_qthq_entries (q : TridiagQR K) :
    (∀ i, i < q.n → mg (@matrix_QtHQ K _ _ _ _ (scOfField F) q) i i = vg (qthqRaw F q).1 i) ∧
    (∀ i, i + 1 < q.n → mg (@matrix_QtHQ K _ _ _ _ (scOfField F) q) (i + 1) i =
      if |vg (qthqRaw F q).2 i| ≤ F.eps * (|vg (qthqRaw F q).1 i| + |vg (qthqRaw F q).1 (i + 1)|) then 0
      else vg (qthqRaw F q).2 i) := by
  constructor
  · intro i hi
    unfold matrix_QtHQ
    simp only []
    rw [@get_bandMat K (scOfField F) _ _ _ _ _ _ _ hi hi, if_pos rfl]
    rfl
  · intro i hi
    unfold matrix_QtHQ
    simp only []
    rw [@get_bandMat K (scOfField F) _ _ _ _ _ _ _ hi (by omega : i < q.n),
      if_neg (by omega), if_neg (by omega), if_neg (by omega), if_pos rfl]
    show vg (@deflate K _ _ (scOfField F) (qthqRaw F q).1 (qthqRaw F q).2 q.n) i = _
    rw [deflate_get]
    have : i < q.n - 1 := by omega
    simp only [this, true_and]

/-! ### 4. sizes of everything `compute` stores -/

local notation "fstep" => @facStep K _ _ _ _ _ (scOfField F)

theorem facStep_sizes (n : Nat) (T : Vec K) (st : FacSt K) (i : Nat) :
    (fstep n T st i).cos.size = st.cos.size + 1 ∧ (fstep n T st i).sin.size = st.sin.size + 1 ∧
    (fstep n T st i).Rd.size = st.Rd.size ∧ (fstep n T st i).Rs.size = st.Rs.size ∧
    (fstep n T st i).Rs2.size = st.Rs2.size := by
  unfold facStep
  by_cases h : i < n - 2
  · simp only [h, if_true, size_vset, Array.size_push, and_self]
  · simp only [h, if_false, size_vset, Array.size_push, and_self]

theorem facFold_sizes (n : Nat) (T : Vec K) (st : FacSt K) (k : Nat) :
    ((List.range k).foldl (fstep n T) st).cos.size = st.cos.size + k ∧
    ((List.range k).foldl (fstep n T) st).sin.size = st.sin.size + k ∧
    ((List.range k).foldl (fstep n T) st).Rd.size = st.Rd.size ∧
    ((List.range k).foldl (fstep n T) st).Rs.size = st.Rs.size ∧
    ((List.range k).foldl (fstep n T) st).Rs2.size = st.Rs2.size := by
  induction k with
  | zero => simp
  | succ k ih =>
    rw [ListFold.foldl_range_succ]
    obtain ⟨h1, h2, h3, h4, h5⟩ := ih
    obtain ⟨g1, g2, g3, g4, g5⟩ := facStep_sizes F n T ((List.range k).foldl (fstep n T) st) k
    exact ⟨by rw [g1, h1]; omega, by rw [g2, h2]; omega, by rw [g3, h3], by rw [g4, h4], by rw [g5, h5]⟩

local notation "tcompute" => @compute K _ _ _ _ _ (scOfField F)

theorem tqr_compute_sizes (mat : Mat K) (shift : K) :
    (tcompute mat shift).n = mat.rows ∧
    (tcompute mat shift).cos.size = mat.rows - 1 ∧ (tcompute mat shift).sin.size = mat.rows - 1 ∧
    (tcompute mat shift).R_diag.size = mat.rows ∧ (tcompute mat shift).R_supd.size = mat.rows - 1 ∧
    (tcompute mat shift).R_supd2.size = mat.rows - 2 ∧
    (tcompute mat shift).T_diag.size = mat.rows ∧ (tcompute mat shift).T_subd.size = mat.rows - 1 := by
  have hT : (tcompute mat shift).T_subd.size = mat.rows - 1 := by
    show (@deflate K _ _ (scOfField F) _ _ _).size = _
    rw [deflate_size, ListFold.size_vofFn]
  obtain ⟨g1, g2, g3, g4, g5⟩ := facFold_sizes F mat.rows (tcompute mat shift).T_subd
    ⟨#[], #[], (vofFn mat.rows (fun i => mg mat i i)).map (fun a => a - shift), (tcompute mat shift).T_subd,
      @vzero K (scOfField F) (mat.rows - 2)⟩ (mat.rows - 1)
  refine ⟨rfl, ?_, ?_, ?_, ?_, ?_, ?_, hT⟩
  · exact g1.trans (by simp)
  · exact g2.trans (by simp)
  · exact g3.trans (by rw [Array.size_map, ListFold.size_vofFn])
  · exact g4.trans hT
  · exact g5.trans (by simp)
  · exact ListFold.size_vofFn _ _

/-! ### 5. what `compute` stores of the input: the diagonal, and the deflated subdiagonal -/

theorem tqr_compute_T_diag (mat : Mat K) (shift : K) :
    (tcompute mat shift).T_diag = vofFn mat.rows (fun i => mg mat i i) := rfl

theorem tqr_compute_T_subd_def (mat : Mat K) (shift : K) :
    (tcompute mat shift).T_subd =
      @deflate K _ _ (scOfField F) (vofFn mat.rows (fun i => mg mat i i))
        (vofFn (mat.rows - 1) (fun i => mg mat (i + 1) i)) mat.rows := rfl

theorem tqr_compute_shift (mat : Mat K) (shift : K) : (tcompute mat shift).shift = shift := rfl

theorem tqr_compute_T (mat : Mat K) (shift : K) :
    (tcompute mat shift).T_diag = vofFn mat.rows (fun i => mg mat i i) ∧
    (∀ i, i < mat.rows → vg (tcompute mat shift).T_diag i = mg mat i i) ∧
    (∀ i, i < mat.rows - 1 → vg (tcompute mat shift).T_subd i =
      if |mg mat (i + 1) i| ≤ F.eps * (|mg mat i i| + |mg mat (i + 1) (i + 1)|) then 0 else mg mat (i + 1) i) ∧
    (∀ i, i < mat.rows - 1 → vg (tcompute mat shift).T_subd i = mg mat (i + 1) i ∨
      (vg (tcompute mat shift).T_subd i = 0 ∧
        |mg mat (i + 1) i| ≤ F.eps * (|mg mat i i| + |mg mat (i + 1) (i + 1)|))) := by
  have hd : ∀ i, i < mat.rows → vg (tcompute mat shift).T_diag i = mg mat i i := by
    intro i hi
    rw [tqr_compute_T_diag, ListFold.vget_vofFn (sc := scOfField F) _ _ _ hi]
  have he : ∀ i, i < mat.rows - 1 → vg (tcompute mat shift).T_subd i =
      if |mg mat (i + 1) i| ≤ F.eps * (|mg mat i i| + |mg mat (i + 1) (i + 1)|) then 0 else mg mat (i + 1) i := by
    intro i hi
    rw [tqr_compute_T_subd_def, deflate_get, ListFold.vget_vofFn (sc := scOfField F) _ _ _ hi,
      ListFold.vget_vofFn (sc := scOfField F) _ _ i (by omega), ListFold.vget_vofFn (sc := scOfField F) _ _ (i + 1) (by omega)]
    simp only [hi, true_and]
  refine ⟨rfl, hd, he, ?_⟩
  intro i hi
  rw [he i hi]
  by_cases h : |mg mat (i + 1) i| ≤ F.eps * (|mg mat i i| + |mg mat (i + 1) (i + 1)|)
  · right; rw [if_pos h]; exact ⟨rfl, h⟩
  · left; rw [if_neg h]

omit [Field K] [LinearOrder K] [IsStrictOrderedRing K] in
theorem vofFn_congr (n : Nat) (f g : Nat → K) (h : ∀ i, i < n → f i = g i) : vofFn n f = vofFn n g := by
  unfold vofFn
  congr 1
  funext i
  exact h i.val i.isLt

/-- only the diagonal and the subdiagonal of the input are read: two inputs of the same size that agree there
    give the same factorization object -/
theorem tqr_compute_reads_bands (m1 m2 : Mat K) (shift : K) (hr : m1.rows = m2.rows)
    (hd : ∀ i, i < m1.rows → mg m1 i i = mg m2 i i)
    (he : ∀ i, i < m1.rows - 1 → mg m1 (i + 1) i = mg m2 (i + 1) i) :
    tcompute m1 shift = tcompute m2 shift := by
  unfold compute
  simp only []
  rw [← hr, vofFn_congr m1.rows _ _ hd, vofFn_congr (m1.rows - 1) _ _ he]

/-! ### 6. one factorization step is the rotation of the 2x3 window -/

/-- what one factorization step with rotation `rcs = (r, c, s)` of the pivot pair does to the compact state: `st'` from `st` -/
def FacStepSpec (n : Nat) (st st' : FacSt K) (i : Nat) (rcs : K × K × K) : Prop :=
  st'.cos = st.cos.push rcs.2.1 ∧ st'.sin = st.sin.push rcs.2.2 ∧
  vg st'.Rd i = rcs.1 ∧
  vg st'.Rs i = rcs.2.1 * vg st.Rs i - rcs.2.2 * vg st.Rd (i + 1) ∧
  vg st'.Rd (i + 1) = rcs.2.2 * vg st.Rs i + rcs.2.1 * vg st.Rd (i + 1) ∧
  (i < n - 2 → i + 1 < st.Rs.size → i < st.Rs2.size →
    vg st'.Rs2 i = -rcs.2.2 * vg st.Rs (i + 1) ∧ vg st'.Rs (i + 1) = vg st.Rs (i + 1) * rcs.2.1) ∧
  (¬ i < n - 2 → st'.Rs2 = st.Rs2)

theorem tqr_facStep_local (n : Nat) (T : Vec K) (st : FacSt K) (i : Nat) (rcs : K × K × K)
    (hrot : @Gen.Givens.compute_rotation K _ _ _ _ _ (scOfField F) (vg st.Rd i) (vg T i) = rcs)
    (hRd : i + 1 < st.Rd.size) (hRs : i < st.Rs.size) : FacStepSpec F n st (fstep n T st i) i rcs := by
  unfold FacStepSpec
  have hi : i < st.Rd.size := by omega
  unfold facStep
  rw [hrot]
  by_cases h : i < n - 2
  · simp only [h, if_true, @vget_vset K (scOfField F), size_vset, hRd, hRs, hi]
    simp
    intro h1 h2
    simp [h1, h2]
  · simp only [h, if_false, @vget_vset K (scOfField F), size_vset, hRd, hRs, hi]
    simp

/-- the same step read as a rotation of the window `[x a 0; y z w]` (rows `i, i+1`, columns `i, i+1, i+2` of the
    tridiagonal working matrix) by `G' = [c -s; s c]`, column by column, for a rotation that annihilates `y`:
    the compact three-band storage update equals the full-row rotation `rotT` used by `UpperHessenbergQR` -/
theorem tqr_facStep_window (n : Nat) (T : Vec K) (st : FacSt K) (i : Nat) (r c s : K)
    (hrot : @Gen.Givens.compute_rotation K _ _ _ _ _ (scOfField F) (vg st.Rd i) (vg T i) = (r, c, s))
    (h0 : s * vg st.Rd i + c * vg T i = 0) (hr : c * vg st.Rd i - s * vg T i = r)
    (hRd : i + 1 < st.Rd.size) (hRs : i < st.Rs.size) :
    ((vg (fstep n T st i).Rd i, (0 : K)) = @rotT K _ _ _ c s (vg st.Rd i) (vg T i)) ∧
    ((vg (fstep n T st i).Rs i, vg (fstep n T st i).Rd (i + 1)) = @rotT K _ _ _ c s (vg st.Rs i) (vg st.Rd (i + 1))) ∧
    (i < n - 2 → i + 1 < st.Rs.size → i < st.Rs2.size →
      (vg (fstep n T st i).Rs2 i, vg (fstep n T st i).Rs (i + 1)) = @rotT K _ _ _ c s 0 (vg st.Rs (i + 1))) := by
  obtain ⟨_, _, g1, g2, g3, g4, _⟩ := tqr_facStep_local F n T st i (r, c, s) hrot hRd hRs
  refine ⟨?_, ?_, ?_⟩
  · rw [g1]; unfold rotT; rw [h0, hr]
  · rw [g2, g3]; rfl
  · intro h1 h2 h3
    obtain ⟨g5, g6⟩ := g4 h1 h2 h3
    rw [g5, g6]; unfold rotT
    refine Prod.ext ?_ ?_
    · show -s * vg st.Rs (i + 1) = c * 0 - s * vg st.Rs (i + 1); ring
    · show vg st.Rs (i + 1) * c = s * 0 + c * vg st.Rs (i + 1); ring

/-- frame: one step touches only `Rd[i], Rd[i+1]`, `Rs[i], Rs[i+1]`, `Rs2[i]` -/
theorem tqr_facStep_frame (n : Nat) (T : Vec K) (st : FacSt K) (i j : Nat) :
    (j ≠ i → j ≠ i + 1 → vg (fstep n T st i).Rd j = vg st.Rd j) ∧
    (j ≠ i → j ≠ i + 1 → vg (fstep n T st i).Rs j = vg st.Rs j) ∧
    (j ≠ i → vg (fstep n T st i).Rs2 j = vg st.Rs2 j) := by
  unfold facStep
  by_cases h : i < n - 2
  · simp only [h, if_true, @vget_vset K (scOfField F), size_vset]
    refine ⟨?_, ?_, ?_⟩
    · intro h1 h2
      rw [if_neg (fun hh => h2 hh.1.symm), if_neg (fun hh => h1 hh.1.symm)]
    · intro h1 h2
      rw [if_neg (fun hh => h2 hh.1.symm), if_neg (fun hh => h1 hh.1.symm)]
    · intro h1
      rw [if_neg (fun hh => h1 hh.1.symm)]
  · simp only [h, if_false, @vget_vset K (scOfField F), size_vset]
    refine ⟨?_, ?_, ?_⟩
    · intro h1 h2
      rw [if_neg (fun hh => h2 hh.1.symm), if_neg (fun hh => h1 hh.1.symm)]
    · intro h1 _
      rw [if_neg (fun hh => h1 hh.1.symm)]
    · intro _; trivial

end field
end C08Tridiag
