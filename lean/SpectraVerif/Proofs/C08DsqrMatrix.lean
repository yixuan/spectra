/-
  C08 — refinement of the array model `QRModel.DoubleShiftQR` (Model/DoubleShiftQR.lean, the statement-by-statement model of
  `Spectra::DoubleShiftQR`) to Mathlib `Matrix` algebra: how the class applies its orthogonal factor
  `Q = P₀ P₁ ⋯ P_{n-2}`, `Pₖ = I − 2 uₖ uₖᵀ` on rows/columns `k … k + nr[k] − 1` (identity when `nr[k] = 1`).

  * `Rm w = I − 2 w wᵀ`; `wv n u nr k` the stored column `k` of `m_ref_u` embedded at rows `k … k + nr[k] − 1`;
    `Pm n u nr k = Rm (wv n u nr k)`; `Qd n u nr m = P₀ ⋯ P_{m-1}`; `Qdof q = Qd q.n q.u q.nr (q.n − 1)`.
  * A sum against `wv` is the dot product with the stored column on its live rows (`sum_wv`); hence a product with `Pₖ` has the
    window form in which `C08DsqrKernel` states the kernels (`toM_mul_Pm`, `Pm_mul_toM`, `Pm_mulVec`), and each kernel call is a
    multiplication by `Pₖ` (`XP_toM`, `PXv_step`; `apply_YQ_toM`: `apply_YQ(Y) = Y Q`, `apply_QtY_vec`: `apply_QtY(y) = Qᵀ y`, for every
    reflector table satisfying the discrete safety facts `hsafe`).
  * `Live` (reflector `k` can be applied to `n` rows), `Pm_symm`, `Pm_invol` (a unit column gives `Pₖ Pₖ = 1`), `Qd_orth_of_invol`,
    `Qd_orth`: `QᵀQ = QQᵀ = 1`.
  * `Qd_first_col`, `Rm_col_of_mulVec`, `first_col_parallel` (`first_col_parallel2` for a 2-row first reflector),
    `dsqr_first_col_parallel`: `Q e₁ = P₀ e₁`, and `κ · Q e₁` is the first column of `H² − sH + tI`.
  * `cRef_dims`, `cRef_other`: `compute_reflector(…, ind)` keeps the shapes and writes column `ind` of the tables only.
  The first pass of `compute` is in `C08DsqrPass`, the first stored reflector of `compute` in `C08DsqrFirst`.
-/
import Mathlib.Data.Matrix.Basic
import Mathlib.Data.Matrix.Mul
import Mathlib.Data.Fintype.BigOperators
import Mathlib.Algebra.BigOperators.Fin
import Mathlib.Tactic.Ring
import Mathlib.Tactic.LinearCombination
import SpectraVerif.Proofs.C08DsqrKernel
import SpectraVerif.Proofs.C08Nr
import SpectraVerif.Proofs.C08HessMatrix
import SpectraVerif.Proofs.C08Local
import SpectraVerif.Proofs.C08Refl

namespace C08DsqrMatrix
open Lin QRModel C08Mat C08DsqrQ
open QRModel.DoubleShiftQR
open Matrix
open C08HessMatrix (toM)

/-! ### pure `Matrix` algebra of `I − 2 w wᵀ` -/

section Pure
variable {K : Type} [Field K]

/-- `I − 2 w wᵀ` -/
def Rm {n : Nat} (w : Fin n → K) : Matrix (Fin n) (Fin n) K :=
  fun i j => (if i = j then 1 else 0) - 2 * w i * w j

theorem Rm_apply {n : Nat} (w : Fin n → K) (i j : Fin n) : Rm w i j = (if i = j then 1 else 0) - 2 * w i * w j := rfl

theorem Rm_transpose {n : Nat} (w : Fin n → K) : (Rm w)ᵀ = Rm w := by
  ext i j
  simp only [Matrix.transpose_apply, Rm]
  have e : (j = i) = (i = j) := propext eq_comm
  simp only [e]; ring

theorem Rm_zero {n : Nat} (w : Fin n → K) (h : ∀ i, w i = 0) : Rm w = 1 := by
  ext i j
  rw [Rm_apply, Matrix.one_apply, h i]; ring

/-- `A (I − 2wwᵀ) = A − 2 (A w) wᵀ` -/
theorem mul_Rm_apply {m n : Nat} (A : Matrix (Fin m) (Fin n) K) (w : Fin n → K) (i : Fin m) (j : Fin n) :
    (A * Rm w) i j = A i j - 2 * (∑ l, A i l * w l) * w j := by
  rw [Matrix.mul_apply]
  simp only [Rm, mul_sub, Finset.sum_sub_distrib]
  congr 1
  · simp
  · rw [Finset.mul_sum, Finset.sum_mul]
    apply Finset.sum_congr rfl
    intro l _; ring

/-- `(I − 2wwᵀ) A = A − 2 w (wᵀA)` -/
theorem Rm_mul_apply {m n : Nat} (w : Fin m → K) (A : Matrix (Fin m) (Fin n) K) (i : Fin m) (j : Fin n) :
    (Rm w * A) i j = A i j - 2 * w i * ∑ l, A l j * w l := by
  rw [Matrix.mul_apply]
  simp only [Rm, sub_mul, Finset.sum_sub_distrib]
  congr 1
  · simp
  · rw [Finset.mul_sum]
    apply Finset.sum_congr rfl
    intro l _; ring

/-- `(I − 2wwᵀ) x = x − 2 (wᵀx) w` -/
theorem Rm_mulVec_apply {n : Nat} (w x : Fin n → K) (i : Fin n) :
    (Rm w).mulVec x i = x i - 2 * (∑ l, x l * w l) * w i := by
  unfold Matrix.mulVec dotProduct
  simp only [Rm, sub_mul, Finset.sum_sub_distrib]
  congr 1
  · simp
  · rw [Finset.mul_sum, Finset.sum_mul]
    apply Finset.sum_congr rfl
    intro l _; ring

/-- a unit `w` gives an involution -/
theorem Rm_mul_self {n : Nat} (w : Fin n → K) (hw : ∑ l, w l * w l = 1) : Rm w * Rm w = 1 := by
  ext i j
  rw [mul_Rm_apply]
  have e : ∑ l, Rm w i l * w l = w i - 2 * w i * ∑ l, w l * w l := by
    simp only [Rm, sub_mul, Finset.sum_sub_distrib]
    congr 1
    · simp
    · rw [Finset.mul_sum]
      apply Finset.sum_congr rfl
      intro l _; ring
  rw [e, hw, Rm_apply, Matrix.one_apply]; ring

/-- an involution `I − 2wwᵀ` that maps `x` to `κ eⱼ` has `κ ·` (its column `j`) `= x`, since `x = P P x = κ P eⱼ`; nothing is
    computed with the entries of `w` -/
theorem Rm_col_of_mulVec {n : Nat} (w x : Fin n → K) (hw : Rm w * Rm w = 1) (κ : K) (j : Fin n)
    (hx : (Rm w).mulVec x = fun i => if i = j then κ else 0) (i : Fin n) : κ * Rm w i j = x i := by
  have h := congrFun (congrArg (fun M : Matrix (Fin n) (Fin n) K => M.mulVec x) hw) i
  simp only [Matrix.one_mulVec] at h
  rw [← Matrix.mulVec_mulVec, hx] at h
  rw [← h, Matrix.mulVec, dotProduct, Finset.sum_eq_single j]
  · rw [if_pos rfl, mul_comm]
  · intro b _ hb; rw [if_neg hb, mul_zero]
  · intro hj; exact absurd (Finset.mem_univ j) hj

/-- a sum against a column placed at the window `k … k + m − 1` is the dot product on the window -/
theorem sum_wvec {n : Nat} (g uu : Nat → K) (k : Nat) {m : Nat} (hm : m = 2 ∨ m = 3) (hr : k + m ≤ n) :
    ∑ l : Fin n, g l.val * wvec uu k m l.val = wdot uu (fun d => g (k + d)) m := by
  rcases hm with rfl | rfl
  · simp only [wvec_two, wdot, Nat.add_zero]
    exact C08HessMatrix.sum_if2 (fun l => g l.val) k (by omega) (uu 0) (uu 1)
  · simp only [wvec_three, wdot, Nat.add_zero]
    exact C08HessMatrix.sum_if3 (fun l => g l.val) k (by omega) (uu 0) (uu 1) (uu 2)

/-- the loop the code takes (two entries iff `a = 2 ∨ c = 2`) matches a stored count `a ∈ {2, 3}` unless `a = 3` and `c = 2` -/
theorem branch_eq {a c : Nat} (h23 : a = 2 ∨ a = 3) (h3 : a = 3 → c ≠ 2) : a = if a = 2 ∨ c = 2 then 2 else 3 := by
  rcases h23 with h | h
  · rw [if_pos (Or.inl h)]; exact h
  · rw [if_neg (by have := h3 h; omega)]; exact h

end Pure

/-! ### the reflectors and their product at the exact-arithmetic scalar instance `scOfField F` -/

section AtField
variable {K : Type} [Field K] [LinearOrder K] [IsStrictOrderedRing K] (F : FieldFns K)

/-- column `k` of `m_ref_u` embedded at rows `k … k + nr[k] − 1` of an `n`-vector (zero when `nr[k] = 1`) -/
def wv (n : Nat) (u : Mat K) (nr : Array Nat) (k : Nat) : Fin n → K := fun i =>
  if nr.getD k 0 ≠ 1 ∧ k ≤ i.val ∧ i.val < k + nr.getD k 0 then mget F u (i.val - k) k else 0

/-- `Pₖ = I − 2 uₖ uₖᵀ` on rows/columns `k … k + nr[k] − 1`; the identity when `nr[k] = 1` -/
def Pm (n : Nat) (u : Mat K) (nr : Array Nat) (k : Nat) : Matrix (Fin n) (Fin n) K := Rm (wv F n u nr k)

/-- `P₀ P₁ ⋯ P_{m-1}` -/
def Qd (n : Nat) (u : Mat K) (nr : Array Nat) : Nat → Matrix (Fin n) (Fin n) K
  | 0 => 1
  | m + 1 => Qd n u nr m * Pm F n u nr m

/-- the orthogonal factor of `q`: all `q.n − 1` stored reflectors -/
def Qdof (q : DoubleShiftQR K) : Matrix (Fin q.n) (Fin q.n) K := Qd F q.n q.u q.nr (q.n - 1)

theorem Pm_apply (n : Nat) (u : Mat K) (nr : Array Nat) (k : Nat) (i j : Fin n) :
    Pm F n u nr k i j = (if i = j then 1 else 0) - 2 * wv F n u nr k i * wv F n u nr k j := rfl

theorem wv_apply (n : Nat) (u : Mat K) (nr : Array Nat) (k : Nat) (i : Fin n) :
    wv F n u nr k i =
      if nr.getD k 0 ≠ 1 ∧ k ≤ i.val ∧ i.val < k + nr.getD k 0 then mget F u (i.val - k) k else 0 := rfl

theorem Qd_zero (n : Nat) (u : Mat K) (nr : Array Nat) : Qd F n u nr 0 = 1 := rfl
theorem Qd_succ (n : Nat) (u : Mat K) (nr : Array Nat) (m : Nat) :
    Qd F n u nr (m + 1) = Qd F n u nr m * Pm F n u nr m := rfl
theorem Qdof_eq (q : DoubleShiftQR K) : Qdof F q = Qd F q.n q.u q.nr (q.n - 1) := rfl

/-- reflector `k` of the table can be applied to `n` rows: its count is 1, 2 or 3 and its live rows `k … k + nr[k] − 1` exist -/
def Live (n : Nat) (nr : Array Nat) (k : Nat) : Prop := 1 ≤ nr.getD k 0 ∧ nr.getD k 0 ≤ 3 ∧ k + nr.getD k 0 ≤ n

/-- the safety facts of `C08Nr.compute_nr_safe`, in the form the property statements spell out -/
theorem Live.of_safe {nr : Array Nat} {n k : Nat} (hk : k < n - 1)
    (h : (nr.getD k 0 = 1 ∨ nr.getD k 0 = 2 ∨ nr.getD k 0 = 3) ∧ (nr.getD k 0 = 3 → k + 2 ≤ n - 1)) : Live n nr k := by
  obtain ⟨h1, h2⟩ := h
  unfold Live
  rcases h1 with c | c | c
  · omega
  · omega
  · have := h2 c; omega

theorem Live.two_or_three {nr : Array Nat} {n k : Nat} (h : Live n nr k) (h1 : nr.getD k 0 ≠ 1) :
    nr.getD k 0 = 2 ∨ nr.getD k 0 = 3 := by
  unfold Live at h; omega

theorem Live.mono {nr : Array Nat} {n n' k : Nat} (h : Live n nr k) (hle : n ≤ n') : Live n' nr k :=
  ⟨h.1, h.2.1, Nat.le_trans h.2.2 hle⟩

/-! #### the embedded column -/

theorem wv_one (n : Nat) (u : Mat K) (nr : Array Nat) (k : Nat) (h : nr.getD k 0 = 1) (i : Fin n) :
    wv F n u nr k i = 0 := by
  rw [wv_apply, if_neg (fun hh => hh.1 h)]

/-- for `nr[k] ≠ 1` it is the stored column placed at `k … k + nr[k] − 1` -/
theorem wv_eq (n : Nat) (u : Mat K) (nr : Array Nat) (k : Nat) (h : nr.getD k 0 ≠ 1) (i : Fin n) :
    wv F n u nr k i = wvec (ucol F u k) k (nr.getD k 0) i.val := by
  rw [wv_apply, wvec]
  by_cases hc : k ≤ i.val ∧ i.val < k + nr.getD k 0
  · rw [if_pos ⟨h, hc⟩, if_pos hc]
  · rw [if_neg (fun hh => hc hh.2), if_neg hc]

/-- a reflector at `k ≥ 1` has no component along `e₁` -/
theorem wv_head (n : Nat) (u : Mat K) (nr : Array Nat) (k : Nat) (hk : 1 ≤ k) (i : Fin n) (hi : i.val = 0) :
    wv F n u nr k i = 0 := by
  rw [wv_apply, if_neg (by omega)]

theorem Pm_one (n : Nat) (u : Mat K) (nr : Array Nat) (k : Nat) (h : nr.getD k 0 = 1) : Pm F n u nr k = 1 :=
  Rm_zero _ (wv_one F n u nr k h)

/-- a sum against the embedded column is the dot product with the stored column on its live rows -/
theorem sum_wv {n : Nat} (u : Mat K) {nr : Array Nat} {k : Nat} (hl : Live n nr k) (h1 : nr.getD k 0 ≠ 1) (g : Nat → K) :
    ∑ l : Fin n, g l.val * wv F n u nr k l = wdot (ucol F u k) (fun d => g (k + d)) (nr.getD k 0) := by
  simp only [wv_eq F n u nr k h1]
  exact sum_wvec g _ k (hl.two_or_three h1) hl.2.2

/-! ### `Pₖ` is symmetric, and orthogonal when the stored column is a unit vector -/

theorem Pm_symm (n : Nat) (u : Mat K) (nr : Array Nat) (k : Nat) : (Pm F n u nr k)ᵀ = Pm F n u nr k :=
  Rm_transpose _

/-- `∑ wᵢ²` of the embedded column -/
theorem wv_sq_sum {n : Nat} (u : Mat K) {nr : Array Nat} {k : Nat} (hl : Live n nr k) (h1 : nr.getD k 0 ≠ 1)
    (h2 : nr.getD k 0 = 2 → mget F u 0 k * mget F u 0 k + mget F u 1 k * mget F u 1 k = 1)
    (h3 : nr.getD k 0 = 3 →
      mget F u 0 k * mget F u 0 k + mget F u 1 k * mget F u 1 k + mget F u 2 k * mget F u 2 k = 1) :
    ∑ l, wv F n u nr k l * wv F n u nr k l = 1 := by
  have e := sum_wv F u hl h1 (fun b => wvec (ucol F u k) k (nr.getD k 0) b)
  simp only [← wv_eq F n u nr k h1] at e
  rw [e]
  rcases hl.two_or_three h1 with c | c
  · rw [c]
    simp only [wdot]
    rw [wvec_in _ _ (by omega : 0 < 2), wvec_in _ _ (by omega : 1 < 2)]
    exact h2 c
  · rw [c]
    simp only [wdot]
    rw [wvec_in _ _ (by omega : 0 < 3), wvec_in _ _ (by omega : 1 < 3), wvec_in _ _ (by omega : 2 < 3)]
    exact h3 c

/-- `Pₖ` is an involution when the stored column is a unit vector on its live rows (the form in which the property statements
    spell this out); everything that follows needs only `Pₖ Pₖ = 1` -/
theorem Pm_invol {n : Nat} {u : Mat K} {nr : Array Nat} {k : Nat} (hl : Live n nr k)
    (h2 : nr.getD k 0 = 2 → mget F u 0 k * mget F u 0 k + mget F u 1 k * mget F u 1 k = 1)
    (h3 : nr.getD k 0 = 3 →
      mget F u 0 k * mget F u 0 k + mget F u 1 k * mget F u 1 k + mget F u 2 k * mget F u 2 k = 1) :
    Pm F n u nr k * Pm F n u nr k = 1 := by
  by_cases h1 : nr.getD k 0 = 1
  · rw [Pm_one F n u nr k h1, Matrix.mul_one]
  · exact Rm_mul_self _ (wv_sq_sum F u hl h1 h2 h3)

/-! ### the three kernels multiply by `Pₖ` -/

/-- `toM` in terms of this development's `mget` (both are `Mat.get` at `scOfField F`) -/
theorem toM_get (r c : Nat) (A : Mat K) (i : Fin r) (j : Fin c) : toM F r c A i j = mget F A i.val j.val := rfl

theorem XPdims {Y : Mat K} (hw : WF Y) (u : Mat K) (nr : Array Nat) (r0 c0 nrow ncol ind : Nat) :
    WF (aXP F Y u nr r0 c0 nrow ncol ind) ∧ (aXP F Y u nr r0 c0 nrow ncol ind).rows = Y.rows ∧
    (aXP F Y u nr r0 c0 nrow ncol ind).cols = Y.cols :=
  @apply_XP_dims K _ (scOfField F) Y hw u nr r0 c0 nrow ncol ind

theorem PXdims {Y : Mat K} (hw : WF Y) (u : Mat K) (nr : Array Nat) (r0 c0 nrow ncol ind : Nat) :
    WF (aPX F Y u nr r0 c0 nrow ncol ind) ∧ (aPX F Y u nr r0 c0 nrow ncol ind).rows = Y.rows ∧
    (aPX F Y u nr r0 c0 nrow ncol ind).cols = Y.cols :=
  @apply_PX_dims K _ (scOfField F) Y hw u nr r0 c0 nrow ncol ind

theorem toM_mul_Pm {m n : Nat} (u : Mat K) {nr : Array Nat} {k : Nat} (hl : Live n nr k) (h1 : nr.getD k 0 ≠ 1)
    (Y : Mat K) (i : Fin m) (j : Fin n) :
    (toM F m n Y * Pm F n u nr k) i j =
      mget F Y i.val j.val -
        2 * wdot (ucol F u k) (fun d => mget F Y i.val (k + d)) (nr.getD k 0) * wvec (ucol F u k) k (nr.getD k 0) j.val := by
  unfold Pm
  rw [mul_Rm_apply, wv_eq F n u nr k h1 j, ← sum_wv F u hl h1 (fun b => mget F Y i.val b)]
  rfl

theorem Pm_mul_toM {n p : Nat} (u : Mat K) {nr : Array Nat} {k : Nat} (hl : Live n nr k) (h1 : nr.getD k 0 ≠ 1)
    (H : Mat K) (i : Fin n) (j : Fin p) :
    (Pm F n u nr k * toM F n p H) i j =
      mget F H i.val j.val -
        2 * wvec (ucol F u k) k (nr.getD k 0) i.val * wdot (ucol F u k) (fun d => mget F H (k + d) j.val) (nr.getD k 0) := by
  unfold Pm
  rw [Rm_mul_apply, wv_eq F n u nr k h1 i, ← sum_wv F u hl h1 (fun a => mget F H a j.val)]
  rfl

theorem Pm_mulVec {n : Nat} (u : Mat K) {nr : Array Nat} {k : Nat} (hl : Live n nr k) (h1 : nr.getD k 0 ≠ 1)
    (x : Nat → K) (i : Fin n) :
    (Pm F n u nr k).mulVec (fun l : Fin n => x l.val) i =
      x i.val - 2 * wdot (ucol F u k) (fun d => x (k + d)) (nr.getD k 0) * wvec (ucol F u k) k (nr.getD k 0) i.val := by
  unfold Pm
  rw [Rm_mulVec_apply, wv_eq F n u nr k h1 i, ← sum_wv F u hl h1 x]

/-- one call `apply_XP(Y.block(0, k, nrow, ncol), k)` is a right multiplication by `Pₖ`, provided the loop the code takes matches
    `nr[k]` (`h3`) and the live columns vanish in the skipped rows `≥ nrow` -/
theorem XP_toM {m n : Nat} (u : Mat K) (nr : Array Nat) {Y : Mat K} (hw : WF Y) (hr : Y.rows = m) (hc : Y.cols = n)
    (k nrow ncol : Nat) (hrow : nrow ≤ m) (hl : Live n nr k) (h3 : nr.getD k 0 = 3 → ncol ≠ 2)
    (hz : ∀ a d, nrow ≤ a → a < m → d < nr.getD k 0 → mget F Y a (k + d) = 0) :
    toM F m n (aXP F Y u nr 0 k nrow ncol k) = toM F m n Y * Pm F n u nr k := by
  by_cases h1 : nr.getD k 0 = 1
  · have e : aXP F Y u nr 0 k nrow ncol k = Y := C08Nr.apply_XP_nr F Y u nr 0 k nrow ncol k h1
    rw [e, Pm_one F n u nr k h1, Matrix.mul_one]
  · have h23 := hl.two_or_three h1
    have hlive := hl.2.2
    ext i j
    have hi := i.isLt
    have hj := j.isLt
    rw [toM_mul_Pm F u hl h1, toM_get,
      apply_XP_window F hw u nr 0 k nrow ncol k (by omega) h1 _ (branch_eq h23 h3) (by omega) (by omega) (by omega)]
    by_cases hin : i.val < nrow
    · rw [if_pos ⟨Nat.zero_le _, by omega⟩]
    · rw [if_neg (by omega), wdot_zero _ _ h23 (fun d hd => hz i.val d (by omega) hi hd)]; ring

/-- the loop of `apply_YQ`: after `c` calls the matrix is `Y P₀ ⋯ P_{c-1}` -/
theorem XP_fold_toM {n m : Nat} (u : Mat K) (nr : Array Nat) (ncol : Nat) {Y : Mat K} (hw : WF Y) (hr : Y.rows = m)
    (hc : Y.cols = n) (c : Nat)
    (hall : ∀ k, k < c → Live n nr k ∧ (nr.getD k 0 = 3 → ncol ≠ 2)) :
    let Z := (List.range c).foldl (fun Z i => aXP F Z u nr 0 i m ncol i) Y
    WF Z ∧ Z.rows = m ∧ Z.cols = n ∧ toM F m n Z = toM F m n Y * Qd F n u nr c :=
  ListFold.foldl_range_inv (fun c Z => WF Z ∧ Z.rows = m ∧ Z.cols = n ∧ toM F m n Z = toM F m n Y * Qd F n u nr c) _ c Y
    ⟨hw, hr, hc, by rw [Qd_zero, Matrix.mul_one]⟩ (fun k Z hk ⟨w, r, cc, e⟩ => by
      obtain ⟨w1, r1, c1⟩ := XPdims F w u nr 0 k m ncol k
      refine ⟨w1, r1.trans r, c1.trans cc, ?_⟩
      rw [XP_toM F u nr w r cc k m ncol (Nat.le_refl _) (hall k hk).1 (hall k hk).2 (fun a d h1 h2 => by omega), e, Qd_succ,
        Matrix.mul_assoc])

/-- `apply_YQ(Y) = Y Q`, for every stored reflector table with the discrete safety facts of `C08Nr.compute_nr_safe`
    (no hypothesis on the entries of `m_ref_u`) -/
theorem apply_YQ_toM (q : DoubleShiftQR K) (hn : 2 ≤ q.n)
    (hsafe : ∀ k, k < q.n - 1 → (q.nr.getD k 0 = 1 ∨ q.nr.getD k 0 = 2 ∨ q.nr.getD k 0 = 3) ∧
      (q.nr.getD k 0 = 3 → k + 2 ≤ q.n - 1))
    {m : Nat} {Y : Mat K} (hw : WF Y) (hr : Y.rows = m) (hc : Y.cols = q.n) :
    toM F m q.n (aYQ F q Y) = toM F m q.n Y * Qdof F q := by
  have e0 : aYQ F q Y = aXP F ((List.range (q.n - 2)).foldl (fun Z i => aXP F Z q.u q.nr 0 i m 3 i) Y)
      q.u q.nr 0 (q.n - 2) m 2 (q.n - 2) := by
    rw [← hr]; rfl
  obtain ⟨w, r, cc, e⟩ := XP_fold_toM F q.u q.nr 3 hw hr hc (q.n - 2)
    (fun k hk => ⟨Live.of_safe (by omega) (hsafe k (by omega)), fun _ => by omega⟩)
  have hs := hsafe (q.n - 2) (by omega)
  have e1 : q.n - 1 = q.n - 2 + 1 := by omega
  rw [e0, XP_toM F q.u q.nr w r cc (q.n - 2) m 2 (Nat.le_refl _) (Live.of_safe (by omega) hs)
    (fun c => by have := hs.2 c; omega) (fun a d h1 h2 => by omega), e, Qdof_eq, e1, Qd_succ, Matrix.mul_assoc]

/-- one call `apply_PX(y.data() + k, k)` is a multiplication by `Pₖ` -/
theorem PXv_step {n : Nat} (u : Mat K) (nr : Array Nat) {y : Vec K} (hy : y.size = n) (k : Nat) (hl : Live n nr k) :
    (aPXv F u nr y k k).size = n ∧
    (fun i : Fin n => vgt F (aPXv F u nr y k k) i.val) = (Pm F n u nr k).mulVec (fun i : Fin n => vgt F y i.val) := by
  refine ⟨by rw [@apply_PX_vec_size K _ (scOfField F) u nr y k k, hy], ?_⟩
  by_cases h1 : nr.getD k 0 = 1
  · have e : aPXv F u nr y k k = y := @apply_PX_vec_one K _ (scOfField F) u nr y k k h1
    rw [e, Pm_one F n u nr k h1, Matrix.one_mulVec]
  · funext i
    rw [Pm_mulVec F u hl h1 (fun l => vgt F y l),
      apply_PX_vec_window F u nr y k k h1 (nr.getD k 0) (by rcases hl.two_or_three h1 with c | c <;> simp [c])
        (by rw [hy]; exact hl.2.2)]

/-- the loop of `apply_QtY`: after `c` calls the vector is `P_{c-1} ⋯ P₀ y = (P₀ ⋯ P_{c-1})ᵀ y` -/
theorem PXv_fold {n : Nat} (u : Mat K) (nr : Array Nat) {y : Vec K} (hy : y.size = n) (c : Nat)
    (hall : ∀ k, k < c → Live n nr k) :
    ((List.range c).foldl (fun y i => aPXv F u nr y i i) y).size = n ∧
    (fun i : Fin n => vgt F ((List.range c).foldl (fun y i => aPXv F u nr y i i) y) i.val) =
      (Qd F n u nr c)ᵀ.mulVec (fun i : Fin n => vgt F y i.val) :=
  ListFold.foldl_range_inv (fun c (z : Vec K) => z.size = n ∧
      (fun i : Fin n => vgt F z i.val) = (Qd F n u nr c)ᵀ.mulVec (fun i : Fin n => vgt F y i.val)) _ c y
    ⟨hy, by rw [Qd_zero, Matrix.transpose_one, Matrix.one_mulVec]⟩ (fun k z hk ⟨sz, e⟩ => by
      obtain ⟨sz1, e1⟩ := PXv_step F u nr sz k (hall k hk)
      exact ⟨sz1, by rw [e1, e, Matrix.mulVec_mulVec, Qd_succ, Matrix.transpose_mul, Pm_symm]⟩)

theorem apply_QtY_vec (q : DoubleShiftQR K) (hn : 2 ≤ q.n)
    (hsafe : ∀ k, k < q.n - 1 → (q.nr.getD k 0 = 1 ∨ q.nr.getD k 0 = 2 ∨ q.nr.getD k 0 = 3) ∧
      (q.nr.getD k 0 = 3 → k + 2 ≤ q.n - 1))
    (y : Vec K) (hy : y.size = q.n) :
    (fun i : Fin q.n => vgt F (aQtY F q y) i.val) = (Qdof F q)ᵀ.mulVec (fun i : Fin q.n => vgt F y i.val) :=
  (PXv_fold F q.u q.nr hy (q.n - 1) (fun k hk => Live.of_safe hk (hsafe k hk))).2

/-! ### involutions multiply to an orthogonal `Q` -/

theorem Qd_orth_of_invol (n : Nat) (u : Mat K) (nr : Array Nat) (m : Nat)
    (hall : ∀ k, k < m → Pm F n u nr k * Pm F n u nr k = 1) :
    (Qd F n u nr m)ᵀ * Qd F n u nr m = 1 ∧ Qd F n u nr m * (Qd F n u nr m)ᵀ = 1 := by
  induction m with
  | zero => rw [Qd_zero, Matrix.transpose_one, Matrix.mul_one]; exact ⟨rfl, rfl⟩
  | succ m ih =>
    have g := hall m (Nat.lt_succ_self m)
    rw [Qd_succ]
    exact C08HessMatrix.orth_mul (ih (fun k hk => hall k (by omega))) ⟨by rw [Pm_symm]; exact g, by rw [Pm_symm]; exact g⟩

theorem Qd_orth (q : DoubleShiftQR K)
    (hsafe : ∀ k, k < q.n - 1 → (q.nr.getD k 0 = 1 ∨ q.nr.getD k 0 = 2 ∨ q.nr.getD k 0 = 3) ∧
      (q.nr.getD k 0 = 3 → k + 2 ≤ q.n - 1))
    (hunit : ∀ k, k < q.n - 1 →
      (q.nr.getD k 0 = 2 → mget F q.u 0 k * mget F q.u 0 k + mget F q.u 1 k * mget F q.u 1 k = 1) ∧
      (q.nr.getD k 0 = 3 →
        mget F q.u 0 k * mget F q.u 0 k + mget F q.u 1 k * mget F q.u 1 k + mget F q.u 2 k * mget F q.u 2 k = 1)) :
    (Qdof F q)ᵀ * Qdof F q = 1 ∧ Qdof F q * (Qdof F q)ᵀ = 1 :=
  Qd_orth_of_invol F q.n q.u q.nr (q.n - 1)
    (fun k hk => Pm_invol F (Live.of_safe hk (hsafe k hk)) (hunit k hk).1 (hunit k hk).2)

/-! ### the first column of `Q` -/

/-- later reflectors fix `e₁`: `Q e₁ = P₀ e₁` (no hypothesis on the table) -/
theorem Qd_first_col_gen (n : Nat) (hn : 0 < n) (u : Mat K) (nr : Array Nat) (m : Nat) (i : Fin n) :
    Qd F n u nr (m + 1) i ⟨0, hn⟩ = Pm F n u nr 0 i ⟨0, hn⟩ := by
  induction m with
  | zero => rw [Qd_succ, Qd_zero, Matrix.one_mul]
  | succ m ih =>
    rw [Qd_succ]
    unfold Pm
    rw [mul_Rm_apply, wv_head F n u nr (m + 1) (by omega) ⟨0, hn⟩ rfl, ih]
    unfold Pm
    ring

/-- `Q e₁ = P₀ e₁` -/
theorem Qd_first_col (q : DoubleShiftQR K) (hn : 2 ≤ q.n) (i : Fin q.n) :
    Qdof F q i ⟨0, by omega⟩ = Pm F q.n q.u q.nr 0 i ⟨0, by omega⟩ := by
  have e1 : q.n - 1 = q.n - 2 + 1 := by omega
  rw [Qdof_eq, e1]
  exact Qd_first_col_gen F q.n (by omega) q.u q.nr (q.n - 2) i

/-- if `P₀` is an involution and maps `x` to `κ e₁`, then `κ · Q e₁ = x` -/
theorem first_col_of_mulVec (q : DoubleShiftQR K) (hn : 2 ≤ q.n)
    (hinv : Pm F q.n q.u q.nr 0 * Pm F q.n q.u q.nr 0 = 1) (x : Fin q.n → K) (κ : K)
    (hx : ∀ l, (Pm F q.n q.u q.nr 0).mulVec x l = if l.val = 0 then κ else 0) (i : Fin q.n) :
    κ * Qdof F q i ⟨0, by omega⟩ = x i := by
  rw [Qd_first_col F q hn i]
  exact Rm_col_of_mulVec _ x hinv κ _ (funext fun l => (hx l).trans (if_congr (Fin.ext_iff (b := ⟨0, _⟩)).symm rfl rfl)) i

/-- if the first reflector has three rows, is a unit vector and maps `(x₁, x₂, x₃)` to `κ e₁`, then `κ · Q e₁ = (x₁, x₂, x₃, 0, …)` -/
theorem first_col_parallel (q : DoubleShiftQR K) (hn : 3 ≤ q.n)
    (hnr : q.nr.getD 0 0 = 3) (u0 u1 u2 x1 x2 x3 κ : K)
    (h0 : u0 = mget F q.u 0 0) (h1 : u1 = mget F q.u 1 0) (h2 : u2 = mget F q.u 2 0)
    (hu : u0 * u0 + u1 * u1 + u2 * u2 = 1)
    (hP1 : x1 - 2 * (u0 * x1 + u1 * x2 + u2 * x3) * u0 = κ)
    (hP2 : x2 - 2 * (u0 * x1 + u1 * x2 + u2 * x3) * u1 = 0)
    (hP3 : x3 - 2 * (u0 * x1 + u1 * x2 + u2 * x3) * u2 = 0) (i : Fin q.n) :
    κ * Qdof F q i ⟨0, by omega⟩ =
      if i.val = 0 then x1 else if i.val = 1 then x2 else if i.val = 2 then x3 else 0 := by
  subst h0 h1 h2
  have hl : Live q.n q.nr 0 := ⟨by omega, by omega, by omega⟩
  refine first_col_of_mulVec F q (by omega) (Pm_invol F hl (fun h => by omega) (fun _ => hu))
    (fun l => if l.val = 0 then x1 else if l.val = 1 then x2 else if l.val = 2 then x3 else 0) κ (fun l => ?_) i
  rw [Pm_mulVec F q.u hl (by omega) (fun b => if b = 0 then x1 else if b = 1 then x2 else if b = 2 then x3 else 0) l, hnr,
    window_three 2 _ _ 0 l.val _ (2 * (mget F q.u 0 0 * x1 + mget F q.u 1 0 * x2 + mget F q.u 2 0 * x3)) (fun d h => by rw [h])
      (by simp only [Nat.zero_add, Nat.reduceEqDiff, ↓reduceIte]; ring)]
  simp only [Nat.zero_add, Nat.reduceEqDiff, ↓reduceIte]
  split_ifs
  exacts [hP1, hP2, hP3, rfl]

/-- the same for a 2-row first reflector (`x₃ = 0`) -/
theorem first_col_parallel2 (q : DoubleShiftQR K) (hn : 2 ≤ q.n)
    (hnr : q.nr.getD 0 0 = 2) (u0 u1 x1 x2 κ : K)
    (h0 : u0 = mget F q.u 0 0) (h1 : u1 = mget F q.u 1 0)
    (hu : u0 * u0 + u1 * u1 = 1)
    (hP1 : x1 - 2 * (u0 * x1 + u1 * x2) * u0 = κ)
    (hP2 : x2 - 2 * (u0 * x1 + u1 * x2) * u1 = 0) (i : Fin q.n) :
    κ * Qdof F q i ⟨0, by omega⟩ = if i.val = 0 then x1 else if i.val = 1 then x2 else 0 := by
  subst h0 h1
  have hl : Live q.n q.nr 0 := ⟨by omega, by omega, by omega⟩
  refine first_col_of_mulVec F q hn (Pm_invol F hl (fun _ => hu) (fun h => by omega))
    (fun l => if l.val = 0 then x1 else if l.val = 1 then x2 else 0) κ (fun l => ?_) i
  rw [Pm_mulVec F q.u hl (by omega) (fun b => if b = 0 then x1 else if b = 1 then x2 else 0) l, hnr,
    window_two 2 _ _ 0 l.val _ (2 * (mget F q.u 0 0 * x1 + mget F q.u 1 0 * x2)) (fun d h => by rw [h])
      (by simp only [Nat.zero_add, Nat.reduceEqDiff, ↓reduceIte]; ring)]
  simp only [Nat.zero_add, Nat.reduceEqDiff, ↓reduceIte]
  split_ifs
  exacts [hP1, hP2, rfl]

omit [IsStrictOrderedRing K] in
/-- `κ = ρ N` with `N > 0`, `ρ = ±1` (the form `C08Refl.reflector_unit` delivers) is not zero -/
theorem kappa_ne_zero (x1 N : K) (hN : 0 < N) : (if x1 ≤ 0 then (1 : K) else -1) * N ≠ 0 := by
  split
  · rw [one_mul]; exact hN.ne'
  · intro h; rw [neg_one_mul, neg_eq_zero] at h; exact hN.ne' h

/-- if `Hm` is upper Hessenberg (`q.n = n' + 3`; row `i : Fin q.n` of `Q` against row `Fin.cast _ i` of `Hm`), the first reflector has
    three rows, is a unit vector and maps the first column `(x₁, x₂, x₃)` of `Hm² − s Hm + t I` (as `update_block` computes it from the
    leading entries) to `κ e₁`, then `κ · Q e₁` is the first column of `Hm² − s Hm + t I` -/
theorem dsqr_first_col_parallel (q : DoubleShiftQR K) {n' : Nat} (hqn : q.n = n' + 3)
    (Hm : Matrix (Fin (n' + 3)) (Fin (n' + 3)) K)
    (hH : ∀ i j : Fin (n' + 3), j.val + 1 < i.val → Hm i j = 0) (s t κ x1 x2 x3 u0 u1 u2 : K)
    (hx1 : x1 = C08Local.fc0 F (Hm 0 0) (Hm 0 1) (Hm 1 0) s t)
    (hx2 : x2 = C08Local.fc1 F (Hm 0 0) (Hm 1 0) (Hm 1 1) s)
    (hx3 : x3 = C08Local.fc2 F (Hm 2 1) (Hm 1 0))
    (hnr : q.nr.getD 0 0 = 3)
    (h0 : u0 = mget F q.u 0 0) (h1 : u1 = mget F q.u 1 0) (h2 : u2 = mget F q.u 2 0)
    (hu : u0 * u0 + u1 * u1 + u2 * u2 = 1)
    (hP1 : x1 - 2 * (u0 * x1 + u1 * x2 + u2 * x3) * u0 = κ)
    (hP2 : x2 - 2 * (u0 * x1 + u1 * x2 + u2 * x3) * u1 = 0)
    (hP3 : x3 - 2 * (u0 * x1 + u1 * x2 + u2 * x3) * u2 = 0) (i : Fin q.n) :
    κ * Qdof F q i ⟨0, by omega⟩ =
      (Hm * Hm - s • Hm + t • (1 : Matrix (Fin (n' + 3)) (Fin (n' + 3)) K)) (Fin.cast hqn i) 0 := by
  rw [C08Local.first_col_hessenberg F Hm hH s t (Fin.cast hqn i), ← hx1, ← hx2, ← hx3]
  exact first_col_parallel F q (by omega) hnr u0 u1 u2 x1 x2 x3 κ h0 h1 h2 hu hP1 hP2 hP3 i

/-! ### `compute_reflector` writes one column of the reflector tables -/

theorem cRef_dims {u : Mat K} (hw : WF u) (nr : Array Nat) (x1 x2 x3 : K) (ind : Nat) :
    WF (C08Refl.cRef F u nr x1 x2 x3 ind).1 ∧ (C08Refl.cRef F u nr x1 x2 x3 ind).1.rows = u.rows ∧
    (C08Refl.cRef F u nr x1 x2 x3 ind).1.cols = u.cols ∧ (C08Refl.cRef F u nr x1 x2 x3 ind).2.size = nr.size := by
  rw [C08Refl.cRef_eq]
  split
  · exact ⟨hw, rfl, rfl, Array.size_setIfInBounds⟩
  · exact ⟨set_WF (set_WF (set_WF hw _ _ _) _ _ _) _ _ _, by simp, by simp, Array.size_setIfInBounds⟩

/-- `compute_reflector(…, ind)` writes column `ind` of `m_ref_u` and `m_ref_nr[ind]`, nothing else -/
theorem cRef_other {u : Mat K} (hw : WF u) (hr : u.rows = 3) (nr : Array Nat) (x1 x2 x3 : K) {ind j : Nat} (hj : j ≠ ind) :
    (C08Refl.cRef F u nr x1 x2 x3 ind).2.getD j 0 = nr.getD j 0 ∧
    ∀ a, a < 3 → mget F (C08Refl.cRef F u nr x1 x2 x3 ind).1 a j = mget F u a j := by
  refine ⟨by rw [C08Refl.cRef_nr, C08Mat.getD_set, if_neg (fun h => hj h.1)], fun a ha => ?_⟩
  rw [C08Refl.cRef_eq]
  split
  · rfl
  · exact (@C08ReuseDs.set3 K _ _ _ _ _ (scOfField F) u hw hr ind _ _ _).2.2.2.2 a j ha hj

end AtField

end C08DsqrMatrix
