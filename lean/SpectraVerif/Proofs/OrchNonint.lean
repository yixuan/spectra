/-
  Noninterference for the orchestration model: `init()` rebuilds everything `compute()` reads.

  `R` is a relation on factorization objects ("agree on the live part").  If every kernel respects `R` (`Respects K R`) — in
  particular `facInit` produces `R`-related results from ARBITRARY old objects — then two solver objects in arbitrary states
  (fresh, reused after any history, left half-way by an exception) behave identically from `init(v)` on.

  All two-run facts go through one notion: `Lockstep K1 K2 c R E` lists what each elementary stage of `compute` (kernel `factorize`,
  `retrieve`, the flags, kernel `restartFac`, `sortRitz`, the epilogue) does to two `R`-related runs of two kernel records — they stay
  related with the same outcome, or the first leaves with an exception in `E`.  `loop_rel` (the induction over the restart loop) and
  `compute_rel` (the walk through `compute`) carry that to the end of the run.  Similar states under one record
  (`Respects.lockstep`), a record with fault-injected kernels against the fault-free one and a record with another `facInit` are
  instances; no field of `Lockstep` mentions `facInit`.
-/
import SpectraVerif.Proofs.OrchLemmas
import SpectraVerif.Model.OrchWith

namespace Orch

variable {φ ρ ε κ β τ ω : Type}

/-- what it means for the kernels to read only the `R`-relevant part of the factorization object -/
structure Respects (K : Kern φ ρ ε κ β τ ω) (R : φ → φ → Prop) : Prop where
  facInit : ∀ v a b, R (K.facInit v a).fac (K.facInit v b).fac ∧ (K.facInit v a).ops = (K.facInit v b).ops ∧
    (K.facInit v a).exn = (K.facInit v b).exn
  factorize : ∀ k m a b, R a b → R (K.factorize k m a).fac (K.factorize k m b).fac ∧
    (K.factorize k m a).ops = (K.factorize k m b).ops ∧ (K.factorize k m a).exn = (K.factorize k m b).exn
  facDim : ∀ a b, R a b → K.facDim a = K.facDim b
  eig : ∀ a b, R a b → K.eig a = K.eig b
  convTest : ∀ t a b x y, R a b → K.convTest t a x y = K.convTest t b x y
  restartFac : ∀ k vals a b, R a b → R (K.restartFac k vals a).fac (K.restartFac k vals b).fac ∧
    (K.restartFac k vals a).ops = (K.restartFac k vals b).ops ∧ (K.restartFac k vals a).exn = (K.restartFac k vals b).exn
  assemble : ∀ a b x, R a b → K.assemble a x = K.assemble b x

/-- two object states that differ at most in the irrelevant part of the factorization and in `m_info` -/
structure SimSt (R : φ → φ → Prop) (s1 s2 : St φ ρ ε κ) : Prop where
  fac : R s1.fac s2.fac
  ritzVal : s1.ritzVal = s2.ritzVal
  ritzVec : s1.ritzVec = s2.ritzVec
  ritzEst : s1.ritzEst = s2.ritzEst
  ritzConv : s1.ritzConv = s2.ritzConv
  nmatop : s1.nmatop = s2.nmatop
  niter : s1.niter = s2.niter

/-- similar states are one record up to `fac` (related by `R`) and `info` (arbitrary) -/
theorem SimSt.elim {R : φ → φ → Prop} {motive : (s1 s2 : St φ ρ ε κ) → SimSt R s1 s2 → Prop}
    (mk : ∀ f1 f2 rv rvec rest rconv nm ni i1 i2 (hfac : R f1 f2),
      motive ⟨f1, rv, rvec, rest, rconv, nm, ni, i1⟩ ⟨f2, rv, rvec, rest, rconv, nm, ni, i2⟩ ⟨hfac, rfl, rfl, rfl, rfl, rfl, rfl⟩)
    {s1 s2 : St φ ρ ε κ} (h : SimSt R s1 s2) : motive s1 s2 h := by
  obtain ⟨f1, rv1, rvec1, rest1, rconv1, nm1, ni1, info1⟩ := s1
  obtain ⟨f2, rv2, rvec2, rest2, rconv2, nm2, ni2, info2⟩ := s2
  obtain ⟨hfac, e1, e2, e3, e4, e5, e6⟩ := h
  dsimp only at hfac e1 e2 e3 e4 e5 e6
  subst e1 e2 e3 e4 e5 e6
  exact mk _ _ _ _ _ _ _ _ _ _ hfac

section lockstep

/-- two stage results: related states and the same outcome, or the first run has left with an exception in `E` -/
def StageRel (R : St φ ρ ε κ → St φ ρ ε κ → Prop) (E : Exn → Prop) (p1 p2 : St φ ρ ε κ × Option Exn) : Prop :=
  (R p1.1 p2.1 ∧ p1.2 = p2.2) ∨ ∃ e, p1.2 = some e ∧ E e

/-- the three ways two related stage results can look; `loop_rel` and `compute_rel` name the two calls of a stage and split by this -/
theorem StageRel.elim {R : St φ ρ ε κ → St φ ρ ε κ → Prop} {E : Exn → Prop}
    {motive : (p1 p2 : St φ ρ ε κ × Option Exn) → StageRel R E p1 p2 → Prop}
    (exn : ∀ a1 a2 e (h : R a1 a2), motive (a1, some e) (a2, some e) (Or.inl ⟨h, rfl⟩))
    (ok : ∀ a1 a2 (h : R a1 a2), motive (a1, none) (a2, none) (Or.inl ⟨h, rfl⟩))
    (esc : ∀ a1 p2 e (hE : E e), motive (a1, some e) p2 (Or.inr ⟨e, rfl, hE⟩))
    {p1 p2 : St φ ρ ε κ × Option Exn} (h : StageRel R E p1 p2) : motive p1 p2 h := by
  obtain ⟨a1, g1⟩ := p1
  obtain ⟨a2, g2⟩ := p2
  rcases h with ⟨hR, he⟩ | ⟨e, he, hE⟩
  · dsimp only at he
    subst he
    cases g1 with
    | some e => exact exn a1 a2 e hR
    | none => exact ok a1 a2 hR
  · dsimp only at he
    subst he
    exact esc a1 _ e hE

theorem StageRel.andThen {R : St φ ρ ε κ → St φ ρ ε κ → Prop} {E : Exn → Prop} {p1 p2 : St φ ρ ε κ × Option Exn}
    {f1 f2 : St φ ρ ε κ → St φ ρ ε κ × Option Exn} (h : StageRel R E p1 p2) (hf : ∀ a1 a2, R a1 a2 → StageRel R E (f1 a1) (f2 a2)) :
    StageRel R E (andThen p1 f1) (andThen p2 f2) := by
  induction h using StageRel.elim with
  | exn a1 a2 e hR => exact Or.inl ⟨hR, rfl⟩
  | ok a1 a2 hR => exact hf a1 a2 hR
  | esc a1 _ e hE => exact Or.inr ⟨e, rfl, hE⟩

/-- the two-run contract for loop results -/
def LoopRel (R : St φ ρ ε κ → St φ ρ ε κ → Prop) (E : Exn → Prop) (L1 L2 : LoopRes φ ρ ε κ) : Prop :=
  (R L1.st L2.st ∧ L1.i = L2.i ∧ L1.nconv = L2.nconv ∧ L1.restarts = L2.restarts ∧ L1.exn = L2.exn) ∨ ∃ e, L1.exn = some e ∧ E e

variable (K1 K2 : Kern φ ρ ε κ β τ ω) (c : Cfg)

/-- what each stage does to two related runs (of two kernel records): they stay related with the same outcome, or the first
    escapes with an exception in `E`.  The ONE thing to prove about a pair of kernel records; `loop_rel` and `compute_rel` do the rest -/
structure Lockstep (R : St φ ρ ε κ → St φ ρ ε κ → Prop) (E : Exn → Prop) : Prop where
  factorize : ∀ s1 s2, R s1 s2 → StageRel R E (applyFac s1 (K1.factorize (max 1 (K1.facDim s1.fac)) c.ncv s1.fac))
    (applyFac s2 (K2.factorize (max 1 (K2.facDim s2.fac)) c.ncv s2.fac))
  retrieve : ∀ sel s1 s2, R s1 s2 → StageRel R E (retrieve K1 c sel s1) (retrieve K2 c sel s2)
  flags : ∀ (tol : τ) s1 s2, R s1 s2 → convFlags K1 c tol s1 = convFlags K2 c tol s2
  store : ∀ s1 s2 fl, R s1 s2 → R { s1 with ritzConv := fl } { s2 with ritzConv := fl }
  nevAdj : ∀ n s1 s2, R s1 s2 → K1.nevAdj c n s1.ritzVal s1.ritzEst = K2.nevAdj c n s2.ritzVal s2.ritzEst
  restartFac : ∀ k s1 s2, R s1 s2 → StageRel R E (applyFac s1 (K1.restartFac k s1.ritzVal s1.fac)) (applyFac s2 (K2.restartFac k s2.ritzVal s2.fac))
  sortRitz : ∀ rule s1 s2, R s1 s2 → StageRel R E (sortRitz K1 c rule s1) (sortRitz K2 c rule s2)
  finish : ∀ s1 s2 n inf, R s1 s2 → R { s1 with niter := s1.niter + n, info := inf } { s2 with niter := s2.niter + n, info := inf }

variable {K1 K2 c} {R : St φ ρ ε κ → St φ ρ ε κ → Prop} {E : Exn → Prop} (hL : Lockstep K1 K2 c (τ := τ) R E)
include hL

theorem Lockstep.restart (k : Nat) (sel : Int) (s1 s2 : St φ ρ ε κ) (h : R s1 s2) :
    StageRel R E (restart K1 c k sel s1) (restart K2 c k sel s2) := by
  rw [restart_eq, restart_eq]
  split
  · exact Or.inl ⟨h, rfl⟩
  · exact (hL.restartFac k s1 s2 h).andThen (hL.retrieve sel)

/-- relational rule for the restart loop: two runs (of two kernel records, from two states) whose flags agree on related states
    and whose `restart` calls keep them related (or let the first escape) stay related to the end (or the first escapes) -/
theorem loop_rel (sel : Int) (tol : τ) (rem i nconv nres : Nat) (s1 s2 : St φ ρ ε κ) (h : R s1 s2) :
    LoopRel R E (loop K1 c sel tol rem i nconv nres s1) (loop K2 c sel tol rem i nconv nres s2) := by
  induction rem generalizing i nconv nres s1 s2 with
  | zero => exact Or.inl ⟨h, rfl, rfl, rfl, rfl⟩
  | succ rem ih =>
    unfold loop
    dsimp only
    rw [hL.flags tol s1 s2 h]
    split
    · exact Or.inl ⟨hL.store _ _ _ h, rfl, rfl, rfl, rfl⟩
    · have hs := hL.store _ _ (convFlags K2 c tol s2) h
      have hr := hL.restart (K2.nevAdj c (countTrue (convFlags K2 c tol s2)) s2.ritzVal s2.ritzEst) sel _ _ hs
      have hk := hL.nevAdj (countTrue (convFlags K2 c tol s2)) _ _ hs
      dsimp only at hk
      rw [hk]
      revert hr
      generalize restart K1 c _ sel _ = p1
      generalize restart K2 c _ sel _ = p2
      intro hr
      induction hr using StageRel.elim with
      | exn a1 a2 e hR => exact Or.inl ⟨hR, rfl, rfl, rfl, rfl⟩
      | ok a1 a2 hR => exact ih _ _ _ a1 a2 hR
      | esc a1 _ e hE => exact Or.inr ⟨e, rfl, hE⟩


/-- the two-run contract for results of `compute` -/
def CompRel (R : St φ ρ ε κ → St φ ρ ε κ → Prop) (E : Exn → Prop) (C1 C2 : CompRes φ ρ ε κ) : Prop :=
  (R C1.st C2.st ∧ C1.out = C2.out ∧ C1.i = C2.i ∧ C1.restarts = C2.restarts ∧ (∀ r, C2.out = .ok r → C1.st.info = C2.st.info)) ∨
  ∃ e, C1.out = .error e ∧ E e

omit hL in
/-- without an escape the two results are related -/
theorem CompRel.sim {R : St φ ρ ε κ → St φ ρ ε κ → Prop} {C1 C2 : CompRes φ ρ ε κ} (h : CompRel R (fun _ => False) C1 C2) :
    R C1.st C2.st ∧ C1.out = C2.out ∧ C1.i = C2.i ∧ C1.restarts = C2.restarts ∧ (∀ r, C2.out = .ok r → C1.st.info = C2.st.info) :=
  h.resolve_right (fun ⟨_, _, f⟩ => f)

/-- relational rule for `compute` (with a prologue of the sort): every stage keeps the two runs related or lets the first escape -/
theorem compute_rel (pre1 pre2 : St φ ρ ε κ → St φ ρ ε κ) (hpre : ∀ s1 s2, R s1 s2 → R (pre1 s1) (pre2 s2))
    (sel : Int) (maxit : Nat) (tol : τ) (sorting : Int) (s1 s2 : St φ ρ ε κ) (h : R s1 s2) :
    CompRel R E (GenSolver.computeWith K1 c pre1 sel maxit tol sorting s1) (GenSolver.computeWith K2 c pre2 sel maxit tol sorting s2) := by
  unfold GenSolver.computeWith
  dsimp only
  have h1 := hL.factorize s1 s2 h
  revert h1
  generalize K1.factorize _ c.ncv s1.fac = r1
  generalize K2.factorize _ c.ncv s2.fac = r2
  rintro (⟨hR, hx⟩ | ⟨e, hx, hE⟩)
  · rw [show r1.exn = r2.exn from hx]
    cases r2.exn with
    | some e => exact Or.inl ⟨hR, rfl, rfl, rfl, nofun⟩
    | none => ?_
    dsimp only
    have h2 := hL.retrieve sel _ _ hR
    revert h2
    unfold applyFac
    generalize retrieve K1 c sel _ = p1
    generalize retrieve K2 c sel _ = p2
    intro h2
    induction h2 using StageRel.elim with
    | esc a1 _ e hE => exact Or.inr ⟨e, rfl, hE⟩
    | exn a1 a2 e hR => exact Or.inl ⟨hR, rfl, rfl, rfl, nofun⟩
    | ok a1 a2 hR =>
      dsimp only
      rcases loop_rel hL sel tol maxit 0 0 0 a1 a2 hR with ⟨l1, l2, l3, l4, l5⟩ | ⟨e, he, hE⟩
      rotate_left
      · rw [he]; exact Or.inr ⟨e, rfl, hE⟩
      rw [l5, l2, l4]
      cases (loop K2 c sel tol maxit 0 0 0 a2).exn with
      | some e => exact Or.inl ⟨l1, rfl, rfl, rfl, nofun⟩
      | none =>
        dsimp only
        have hF : R (refresh K1 c tol maxit (loop K1 c sel tol maxit 0 0 0 a1)).1 (refresh K2 c tol maxit (loop K2 c sel tol maxit 0 0 0 a2)).1 ∧
            (refresh K1 c tol maxit (loop K1 c sel tol maxit 0 0 0 a1)).2 = (refresh K2 c tol maxit (loop K2 c sel tol maxit 0 0 0 a2)).2 := by
          unfold refresh
          rw [l2, hL.flags tol _ _ l1]
          split
          · exact ⟨hL.store _ _ _ l1, rfl⟩
          · exact ⟨l1, l3⟩
        have h3 := hL.sortRitz sorting _ _ (hpre _ _ hF.1)
        rw [hF.2]
        revert h3
        generalize sortRitz K1 c sorting _ = q1
        generalize sortRitz K2 c sorting _ = q2
        intro h3
        induction h3 using StageRel.elim with
        | esc a1 _ e hE => exact Or.inr ⟨e, rfl, hE⟩
        | exn b1 b2 e hR => exact Or.inl ⟨hR, rfl, rfl, rfl, nofun⟩
        | ok b1 b2 hR => exact Or.inl ⟨hL.finish _ _ _ _ hR, rfl, rfl, rfl, fun _ _ => rfl⟩

  · rw [show r1.exn = some e from hx]; exact Or.inr ⟨e, rfl, hE⟩

end lockstep

variable (K : Kern φ ρ ε κ β τ ω) (c : Cfg) {R : φ → φ → Prop} (hK : Respects K R)
include hK

/-- `init(v)` from ANY two states gives similar states and the same outcome -/
theorem init_sim (v0 : β) (s1 s2 : St φ ρ ε κ) :
    SimSt R (init K c v0 s1).1 (init K c v0 s2).1 ∧ (init K c v0 s1).2 = (init K c v0 s2).2 := by
  obtain ⟨h1, h2, h3⟩ := hK.facInit v0 s1.fac s2.fac
  refine ⟨⟨?_, rfl, rfl, rfl, rfl, ?_, rfl⟩, ?_⟩
  · exact h1
  · simp [init, h2]
  · simp [init, h3]

theorem retrieve_sim (sel : Int) (s1 s2 : St φ ρ ε κ) (h : SimSt R s1 s2) :
    SimSt R (retrieve K c sel s1).1 (retrieve K c sel s2).1 ∧ (retrieve K c sel s1).2 = (retrieve K c sel s2).2 := by
  induction h using SimSt.elim with | mk f1 f2 rv1 rvec1 rest1 rconv1 nm1 ni1 info1 info2 hfac => ?_
  unfold retrieve
  dsimp only
  rw [hK.eig _ _ hfac]
  cases K.eig f2 with
  | error e => exact ⟨⟨hfac, rfl, rfl, rfl, rfl, rfl, rfl⟩, rfl⟩
  | ok t =>
    obtain ⟨evals, lastRow, cols⟩ := t
    dsimp only
    cases K.select sel evals c.ncv with
    | error e => exact ⟨⟨hfac, rfl, rfl, rfl, rfl, rfl, rfl⟩, rfl⟩
    | ok ind => exact ⟨⟨hfac, rfl, rfl, rfl, rfl, rfl, rfl⟩, rfl⟩

theorem convFlags_sim (tol : τ) (s1 s2 : St φ ρ ε κ) (h : SimSt R s1 s2) :
    convFlags K c tol s1 = convFlags K c tol s2 := by
  induction h using SimSt.elim with | mk f1 f2 rv1 rvec1 rest1 rconv1 nm1 ni1 info1 info2 hfac => ?_
  unfold convFlags
  apply List.map_congr_left
  intro j _
  exact hK.convTest _ _ _ _ _ hfac

omit hK in
theorem sortRitz_sim (rule : Int) (s1 s2 : St φ ρ ε κ) (h : SimSt R s1 s2) :
    SimSt R (sortRitz K c rule s1).1 (sortRitz K c rule s2).1 ∧ (sortRitz K c rule s1).2 = (sortRitz K c rule s2).2 := by
  induction h using SimSt.elim with | mk f1 f2 rv1 rvec1 rest1 rconv1 nm1 ni1 info1 info2 hfac => ?_
  unfold sortRitz
  dsimp only
  cases K.sortIdx rule (mapHead c.nev K.backTransform rv1) c.nev with
  | error e => exact ⟨⟨hfac, rfl, rfl, rfl, rfl, rfl, rfl⟩, rfl⟩
  | ok ind => exact ⟨⟨hfac, rfl, rfl, rfl, rfl, rfl, rfl⟩, rfl⟩

/-- kernels that read only the `R`-part of the object keep two runs from similar states in lockstep -/
theorem Respects.lockstep : Lockstep K K c (τ := τ) (SimSt R) (fun _ => False) where
  factorize s1 s2 h := by
    obtain ⟨q1, q2, q3⟩ := hK.factorize (max 1 (K.facDim s2.fac)) c.ncv _ _ h.fac
    rw [hK.facDim _ _ h.fac]
    exact Or.inl ⟨⟨q1, h.ritzVal, h.ritzVec, h.ritzEst, h.ritzConv, by show _ + _ = _ + _; rw [h.nmatop, q2], h.niter⟩, q3⟩
  retrieve sel s1 s2 h := Or.inl (retrieve_sim K c hK sel s1 s2 h)
  flags tol := convFlags_sim K c hK tol
  store _ _ _ h := ⟨h.fac, h.ritzVal, h.ritzVec, h.ritzEst, rfl, h.nmatop, h.niter⟩
  nevAdj _ _ _ h := by rw [h.ritzVal, h.ritzEst]
  restartFac k s1 s2 h := by
    obtain ⟨q1, q2, q3⟩ := hK.restartFac k s2.ritzVal _ _ h.fac
    rw [h.ritzVal]
    exact Or.inl ⟨⟨q1, h.ritzVal, h.ritzVec, h.ritzEst, h.ritzConv, by show _ + _ = _ + _; rw [h.nmatop, q2], h.niter⟩, q3⟩
  sortRitz rule s1 s2 h := Or.inl (sortRitz_sim K c rule s1 s2 h)
  finish _ _ n _ h := ⟨h.fac, h.ritzVal, h.ritzVec, h.ritzEst, h.ritzConv, h.nmatop, congrArg (· + n) h.niter⟩

/-- `computeWith` maps similar states to similar states with identical outcome, loop counter and restart count, provided the
    prologue does; on a normal return `m_info` is identical too -/
theorem computeWith_sim (pre : St φ ρ ε κ → St φ ρ ε κ) (hpre : ∀ s1 s2, SimSt R s1 s2 → SimSt R (pre s1) (pre s2))
    (sel : Int) (maxit : Nat) (tol : τ) (sorting : Int) (s1 s2 : St φ ρ ε κ) (h : SimSt R s1 s2) :
    SimSt R (GenSolver.computeWith K c pre sel maxit tol sorting s1).st (GenSolver.computeWith K c pre sel maxit tol sorting s2).st ∧
    (GenSolver.computeWith K c pre sel maxit tol sorting s1).out = (GenSolver.computeWith K c pre sel maxit tol sorting s2).out ∧
    (GenSolver.computeWith K c pre sel maxit tol sorting s1).i = (GenSolver.computeWith K c pre sel maxit tol sorting s2).i ∧
    (GenSolver.computeWith K c pre sel maxit tol sorting s1).restarts = (GenSolver.computeWith K c pre sel maxit tol sorting s2).restarts ∧
    (∀ r, (GenSolver.computeWith K c pre sel maxit tol sorting s2).out = .ok r →
      (GenSolver.computeWith K c pre sel maxit tol sorting s1).st.info = (GenSolver.computeWith K c pre sel maxit tol sorting s2).st.info) :=
  (compute_rel (hK.lockstep K c) pre pre hpre sel maxit tol sorting s1 s2 h).sim

/-- `compute` maps similar states to similar states with identical outcome, loop counter and restart count;
    on a normal return `m_info` is identical too -/
theorem compute_sim (sel : Int) (maxit : Nat) (tol : τ) (sorting : Int) (s1 s2 : St φ ρ ε κ) (h : SimSt R s1 s2) :
    SimSt R (compute K c sel maxit tol sorting s1).st (compute K c sel maxit tol sorting s2).st ∧
    (compute K c sel maxit tol sorting s1).out = (compute K c sel maxit tol sorting s2).out ∧
    (compute K c sel maxit tol sorting s1).i = (compute K c sel maxit tol sorting s2).i ∧
    (compute K c sel maxit tol sorting s1).restarts = (compute K c sel maxit tol sorting s2).restarts ∧
    (∀ r, (compute K c sel maxit tol sorting s2).out = .ok r →
      (compute K c sel maxit tol sorting s1).st.info = (compute K c sel maxit tol sorting s2).st.info) :=
  -- `compute` is `GenSolver.computeWith … id` by `rfl` (`GenSolver.computeWith_id`)
  computeWith_sim K c hK id (fun _ _ h => h) sel maxit tol sorting s1 s2 h

/-- accessors agree on similar states -/
theorem accessors_sim (s1 s2 : St φ ρ ε κ) (h : SimSt R s1 s2) (nvec : Nat) :
    eigenvalues K c s1 = eigenvalues K c s2 ∧ eigenvectors K c nvec s1 = eigenvectors K c nvec s2 ∧
    s1.niter = s2.niter ∧ s1.nmatop = s2.nmatop := by
  induction h using SimSt.elim with | mk f1 f2 rv1 rvec1 rest1 rconv1 nm1 ni1 info1 info2 hfac => ?_
  refine ⟨rfl, ?_, rfl, rfl⟩
  unfold eigenvectors eigenvectorCoords convIdx
  apply List.map_congr_left
  intro x _
  exact hK.assemble _ _ _ hfac

end Orch
