/-
  Orchestration-level lemmas for C01 (helper file of Properties/C01.lean); every kernel universally quantified.
-/
import SpectraVerif.Proofs.OrchLemmas

namespace C01O
open Orch

variable {φ ρ ε κ β τ ω : Type} (K : Kern φ ρ ε κ β τ ω) (c : Cfg)

/-- the Ritz data of `s` are what `retrieve_ritzpair(sel)` extracts from `s.fac` -/
def Retrieved (sel : Int) (s : St φ ρ ε κ) : Prop :=
  ∃ evals lastRow cols ind, K.eig s.fac = .ok (evals, lastRow, cols) ∧ K.select sel evals c.ncv = .ok ind ∧
    s.ritzVal = (List.range c.ncv).map (fun i => evals.getD (ind.getD i 0) K.zeroρ) ∧
    s.ritzEst = (List.range c.ncv).map (fun i => lastRow.getD (ind.getD i 0) K.zeroε) ∧
    s.ritzVec = (List.range c.nev).map (fun i => cols.getD (ind.getD i 0) K.zeroκ)

theorem retrieve_retrieved (sel : Int) (s s' : St φ ρ ε κ) (h : retrieve K c sel s = (s', none)) :
    Retrieved K c sel s' ∧ s'.fac = s.fac ∧ s'.ritzConv = s.ritzConv := by
  unfold retrieve at h
  split at h
  · simp at h
  · rename_i evals lastRow cols heig
    split at h
    · simp at h
    · rename_i ind hsel
      simp only [Prod.mk.injEq, and_true] at h
      subst h
      exact ⟨⟨evals, lastRow, cols, ind, heig, hsel, rfl, rfl, rfl⟩, rfl, rfl⟩

/-- the Ritz data of a retrieved state are the columns of ONE eigen-decomposition of `s.fac`, read through ONE index vector -/
theorem Retrieved.read {K : Kern φ ρ ε κ β τ ω} {c : Cfg} {sel : Int} {s : St φ ρ ε κ} (h : Retrieved K c sel s) (hcfg : c.nev ≤ c.ncv)
    (hsel : ∀ evals ind, K.select sel evals c.ncv = .ok ind → ∀ i, i < c.ncv → ind.getD i 0 < c.ncv) :
    ∃ evals lastRow cols ind, K.eig s.fac = .ok (evals, lastRow, cols) ∧ K.select sel evals c.ncv = .ok ind ∧
      s.ritzVal.length = c.ncv ∧
      ∀ j, j < c.nev → ind.getD j 0 < c.ncv ∧ s.ritzVal.getD j K.zeroρ = evals.getD (ind.getD j 0) K.zeroρ ∧
        s.ritzEst.getD j K.zeroε = lastRow.getD (ind.getD j 0) K.zeroε ∧
        s.ritzVec.getD j K.zeroκ = cols.getD (ind.getD j 0) K.zeroκ := by
  obtain ⟨evals, lastRow, cols, ind, heig, hs, hrv, hre, hrvec⟩ := h
  refine ⟨evals, lastRow, cols, ind, heig, hs, by rw [hrv, List.length_map, List.length_range], fun j hj => ?_⟩
  have hjc := Nat.lt_of_lt_of_le hj hcfg
  exact ⟨hsel evals ind hs j hjc, by rw [hrv, ListFold.getD_map_range _ _ _ _ hjc], by rw [hre, ListFold.getD_map_range _ _ _ _ hjc],
    by rw [hrvec, ListFold.getD_map_range _ _ _ _ hj]⟩

theorem retrieved_conv (sel : Int) (s : St φ ρ ε κ) (flags : List Bool) (h : Retrieved K c sel s) :
    Retrieved K c sel { s with ritzConv := flags } := h

/-- what a non-throwing `restart` did -/
theorem restart_ok_cases (k : Nat) (sel : Int) (s s2 : St φ ρ ε κ) (h : restart K c k sel s = (s2, none)) :
    (c.ncv ≤ k ∧ s2 = s) ∨
    (k < c.ncv ∧ (K.restartFac k s.ritzVal s.fac).exn = none ∧
      retrieve K c sel { s with fac := (K.restartFac k s.ritzVal s.fac).fac, nmatop := s.nmatop + (K.restartFac k s.ritzVal s.fac).ops } = (s2, none)) := by
  unfold restart at h
  split at h
  · rename_i hk
    left; simp only [Prod.mk.injEq, and_true] at h; exact ⟨hk, h.symm⟩
  · rename_i hk
    right
    dsimp only at h
    split at h
    · simp at h
    · rename_i hex
      exact ⟨by omega, hex, h⟩

/-! ### every path

  `P` is a predicate on the factorization object that is to hold on every path, `Pfull` what holds in addition after a non-throwing
  `factorize … ncv` or restart (the intended reading: "… at full dimension `ncv`"); a restart is only ever called on a `Pfull`
  factorization.  With `Pfull = P` this is a predicate that every factorization kernel preserves. -/

/-- `restart` from a `Pfull` factorization, on every path: `P` is kept; without an exception the result is `Pfull` again -/
theorem restart_fac (P Pfull : φ → Prop) (hPf : ∀ fac, Pfull fac → P fac) (k : Nat)
    (hR : ∀ vals fac, Pfull fac → k < c.ncv →
      P (K.restartFac k vals fac).fac ∧ ((K.restartFac k vals fac).exn = none → Pfull (K.restartFac k vals fac).fac))
    (sel : Int) (s : St φ ρ ε κ) (h : Pfull s.fac) :
    P (restart K c k sel s).1.fac ∧ ((restart K c k sel s).2 = none → Pfull (restart K c k sel s).1.fac) := by
  unfold restart
  split
  · exact ⟨hPf _ h, fun _ => h⟩
  · obtain ⟨hi, hf⟩ := hR s.ritzVal s.fac h (by omega)
    dsimp only
    split
    · exact ⟨hi, fun h => by simp at h⟩
    · rename_i he
      rw [(retrieve_frame K c sel _).2.2.2.2]; exact ⟨hi, fun _ => hf he⟩

/-- `compute()` on EVERY path (normal return, exception at any stage) keeps `P` -/
theorem compute_fac_invariant (P Pfull : φ → Prop) (hPf : ∀ fac, Pfull fac → P fac)
    (hF : ∀ fac, P fac → P (K.factorize (max 1 (K.facDim fac)) c.ncv fac).fac ∧
      ((K.factorize (max 1 (K.facDim fac)) c.ncv fac).exn = none → Pfull (K.factorize (max 1 (K.facDim fac)) c.ncv fac).fac))
    (hR : ∀ nconv rv re vals fac, Pfull fac → K.nevAdj c nconv rv re < c.ncv →
      P (K.restartFac (K.nevAdj c nconv rv re) vals fac).fac ∧
      ((K.restartFac (K.nevAdj c nconv rv re) vals fac).exn = none → Pfull (K.restartFac (K.nevAdj c nconv rv re) vals fac).fac))
    (sel : Int) (maxit : Nat) (tol : τ) (sorting : Int) (s : St φ ρ ε κ) (h : P s.fac) :
    P (compute K c sel maxit tol sorting s).st.fac :=
  compute_rule K c (fun s => Pfull s.fac) (fun s => P s.fac) (fun _ _ e _ h => e ▸ h) (fun _ _ e _ h => e ▸ h) (fun s => hPf s.fac)
    sel maxit tol sorting s (hF _ h) (fun nconv s h => restart_fac K c P Pfull hPf _ (hR nconv s.ritzVal s.ritzEst) sel s h)

/-- … hence every history of `init()` / `compute()` calls keeps a predicate that all three factorization kernels preserve -/
theorem run_fac_invariant (P : φ → Prop)
    (hI : ∀ v0 fac, P fac → P (K.facInit v0 fac).fac)
    (hF : ∀ a b fac, P fac → P (K.factorize a b fac).fac)
    (hR : ∀ k vals fac, P fac → P (K.restartFac k vals fac).fac)
    (hist : List (Call β τ)) (s : St φ ρ ε κ) (h : P s.fac) : P (run K c s hist).fac := by
  refine ListFold.foldl_inv (fun s : St φ ρ ε κ => P s.fac) (step K c) hist s h fun s call _ h => ?_
  cases call with
  | init v0 => simp only [step, init]; exact hI _ _ h
  | compute sel maxit tol sorting =>
    simp only [step]
    exact compute_fac_invariant K c P P (fun _ h => h) (fun fac h => ⟨hF _ _ fac h, fun _ => hF _ _ fac h⟩)
      (fun _ _ _ vals fac h _ => ⟨hR _ vals fac h, fun _ => hR _ vals fac h⟩) sel maxit tol sorting s h

/-- what a `compute()` that returned normally leaves behind, in terms of ONE pre-sort state `s3` and ONE index vector `ind`: `s3` holds
    the Ritz data of its own factorization with fresh flags, and the values, vectors and flags handed back are those of `s3` read
    through `ind` (values back-transformed).  `Pfull` is any property of `s3.fac`. -/
def FinalOf (sel : Int) (tol : τ) (sorting : Int) (Pfull : φ → Prop) (s' : St φ ρ ε κ) : Prop :=
  ∃ s3 : St φ ρ ε κ, ∃ ind,
    Retrieved K c sel s3 ∧ Pfull s3.fac ∧ s3.ritzConv = convFlags K c tol s3 ∧ s'.fac = s3.fac ∧
    K.sortIdx sorting (mapHead c.nev K.backTransform s3.ritzVal) c.nev = .ok ind ∧
    s'.ritzVal = (List.range c.ncv).map (fun i =>
      if i < c.nev then (mapHead c.nev K.backTransform s3.ritzVal).getD (ind.getD i 0) K.zeroρ else K.zeroρ) ∧
    s'.ritzVec = (List.range c.nev).map (fun i => s3.ritzVec.getD (ind.getD i 0) K.zeroκ) ∧
    s'.ritzConv = (List.range c.nev).map (fun i => s3.ritzConv.getD (ind.getD i 0) false)

/-- `Pfull` is any property of a factorization that holds after a non-throwing `factorize(max 1 dim, ncv)` and after a non-throwing
    `restartFac k` with `k = nev_adjusted(…) < ncv` (the intended reading: "the Krylov relation holds at full dimension `ncv`"). -/
theorem compute_final (P Pfull : φ → Prop)
    (hF : ∀ fac, P fac → (K.factorize (max 1 (K.facDim fac)) c.ncv fac).exn = none →
            Pfull (K.factorize (max 1 (K.facDim fac)) c.ncv fac).fac)
    (hR : ∀ nconv rv re vals fac, Pfull fac → K.nevAdj c nconv rv re < c.ncv →
            (K.restartFac (K.nevAdj c nconv rv re) vals fac).exn = none →
            Pfull (K.restartFac (K.nevAdj c nconv rv re) vals fac).fac)
    (sel : Int) (maxit : Nat) (tol : τ) (sorting : Int) (s : St φ ρ ε κ) (hP : P s.fac) (r : Nat)
    (h : (compute K c sel maxit tol sorting s).out = .ok r) :
    FinalOf K c sel tol sorting Pfull (compute K c sel maxit tol sorting s).st := by
  obtain ⟨s2, s4, hfx, hr, hl, hs, hst, _, _, _⟩ := compute_ok_unfold K c sel maxit tol sorting s r h
  obtain ⟨hret2, hfac2, _⟩ := retrieve_retrieved K c sel _ s2 hr
  have hfull2 : Pfull s2.fac := by
    rw [hfac2]; exact hF s.fac hP hfx
  -- `loop_rule` at `I := Retrieved ∧ Pfull`, `J := True`: only the normal return is needed
  have hinv : Retrieved K c sel (loop K c sel tol maxit 0 0 0 s2).st ∧ Pfull (loop K c sel tol maxit 0 0 0 s2).st.fac := by
    refine (loop_rule K c (fun s => Retrieved K c sel s ∧ Pfull s.fac) (fun _ => True) sel tol (fun _ _ => trivial) (fun _ h => h)
      (fun nconv s hI => ⟨trivial, fun hx => ?_⟩) maxit 0 0 0 s2 ⟨hret2, hfull2⟩).2 hl
    rcases restart_ok_cases K c _ sel s (restart K c _ sel s).1 (Prod.ext rfl hx) with ⟨_, heq⟩ | ⟨hk, hex, hret⟩
    · rw [heq]; exact hI
    · obtain ⟨a, b, _⟩ := retrieve_retrieved K c sel _ _ hret
      refine ⟨a, ?_⟩
      rw [b]; exact hR nconv s.ritzVal s.ritzEst s.ritzVal s.fac hI.2 hk hex
  obtain ⟨hfr, _⟩ := refresh_fresh K c sel tol maxit s2 hl
  have hret3 : Retrieved K c sel (refresh K c tol maxit (loop K c sel tol maxit 0 0 0 s2)).1 ∧
      Pfull (refresh K c tol maxit (loop K c sel tol maxit 0 0 0 s2)).1.fac := by
    unfold refresh; split
    · exact hinv
    · exact hinv
  refine ⟨(refresh K c tol maxit (loop K c sel tol maxit 0 0 0 s2)).1, ?_⟩
  revert hs
  fun_cases sortRitz K c sorting (refresh K c tol maxit (loop K c sel tol maxit 0 0 0 s2)).1 with
  | case1 => exact fun hs => nomatch (Prod.mk.inj hs).2
  | case2 _ ind hind =>
    intro hs
    have e4 := (Prod.mk.inj hs).1
    exact ⟨ind, hret3.1, hret3.2, hfr, by rw [hst, ← e4], hind, by rw [hst, ← e4], by rw [hst, ← e4], by rw [hst, ← e4]⟩

end C01O
