/-
  C07 at the level of the executable model: the WHOLE loop of `Lanczos.factorize_from` is a list of C07 `extend` steps
  (helper file of Properties/C07.lean and of the C01 discharge files; builds on Proofs/C07ModelLanczos.lean).

  `Regular` is a run-level hypothesis: in exact arithmetic a breakdown is an invariant subspace, and what the code does then —
  `expand_basis` with random vectors — is not an exact step unless the discarded residual is exactly 0.
-/
import SpectraVerif.Proofs.C07ModelLanczos


namespace C07L
open C07 C01E

section defs
variable {K : Type} [Add K] [Sub K] [Mul K] [Div K] [Neg K] [Sc K]

/-- the loop body of `Lanczos::factorize_from` iterated `cnt` times from index `k` -/
def passes (op : Arnoldi.Op K) (bt es : K) : ℕ → ℕ → Arnoldi.State K → Arnoldi.State K
  | 0, _, s => s
  | cnt + 1, k, s => passes op bt es cnt (k + 1) (Lanczos.factorStep op bt es s k)

theorem fold_eq_passes (op : Arnoldi.Op K) (bt es : K) (cnt : ℕ) : ∀ (k : ℕ) (s : Arnoldi.State K),
    (List.range cnt).foldl (fun st d => Lanczos.factorStep op bt es st (k + d)) s = passes op bt es cnt k s := by
  induction cnt with
  | zero => intro k s; rfl
  | succ cnt ih =>
    intro k s
    rw [List.range_succ_eq_map, List.foldl_cons, List.foldl_map]
    simp only [Nat.add_zero, passes]
    rw [← ih (k + 1)]
    congr 1
    funext st d
    congr 1
    omega

/-- state with `H` zeroed outside the leading `k × k` block: the two `setZero` calls at the top of `factorize_from` -/
def cleanH (s : Arnoldi.State K) (k : ℕ) : Arnoldi.State K := { s with H := Arnoldi.keepTopLeft s.H k }

theorem factorize_from_eq (op : Arnoldi.Op K) (s : Arnoldi.State K) (a b : ℕ) (hab : a < b) (hak : a ≤ s.k) :
    Lanczos.factorize_from op s a b =
      some { passes op (s.eps * Sc.sqrt (Sc.ofInt (s.n : Int))) (Sc.sqrt s.eps) (b - a) a (cleanH s a) with k := b } := by
  unfold Lanczos.factorize_from
  rw [if_neg (by omega), if_neg (by omega)]
  simp only []
  rw [fold_eq_passes]
  rfl

/-- no pass of the run meets a breakdown (`beta < near_0`) or a zero residual norm -/
def Regular (op : Arnoldi.Op K) (bt es : K) [Zero K] : ℕ → ℕ → Arnoldi.State K → Prop
  | 0, _, _ => True
  | cnt + 1, k, s => (Sc.lt s.beta s.near0 = false ∧ s.beta ≠ 0) ∧ Regular op bt es cnt (k + 1) (Lanczos.factorStep op bt es s k)

end defs

section
variable {K : Type} [Field K] [LinearOrder K] [IsStrictOrderedRing K] [Sc K] (E : ExactSc K)
include E

/-- **The passes are a list of C07 `extend` steps** (induction over the loop) -/
theorem passes_run (n m : ℕ) (A : (Fin n → K) →ₗ[K] (Fin n → K)) (op : Arnoldi.Op K) (hop : OpOK n op A)
    (hsa : ∀ x y, dotProduct x (A y) = dotProduct (A x) y) (bt es : K) (hes : 0 ≤ es) (cnt : ℕ) :
    ∀ (k : ℕ) (s : Arnoldi.State K), PassInv n m A s k → 1 ≤ k → k + cnt ≤ m → Regular op bt es cnt k s →
      ∃ l : List (Step K (Fin n → K)),
        l.length = cnt ∧ allOk A (absAt n k s) l ∧ allExact A (absAt n k s) l ∧ allOrthOk (dotIP n) A (absAt n k s) l ∧
        absAt n (k + cnt) (passes op bt es cnt k s) = C07.run A (absAt n k s) l ∧
        PassInv n m A (passes op bt es cnt k s) (k + cnt) ∧
        (passes op bt es cnt k s).k = s.k ∧ (passes op bt es cnt k s).near0 = s.near0 ∧ (passes op bt es cnt k s).eps = s.eps := by
  induction cnt with
  | zero =>
    intro k s hI _ _ _
    exact ⟨[], rfl, trivial, trivial, trivial, rfl, hI, rfl, rfl, rfl⟩
  | succ cnt ih =>
    intro k s hI hk1 hkm hreg
    obtain ⟨⟨hr1, hr2⟩, hrest⟩ := hreg
    obtain ⟨h, habs, hok, hex, horth, hI', e1, e2, e3⟩ :=
      lanczos_pass_regular E n m A op hop hsa bt es hes s k hI hk1 (lt_of_lt_of_le (Nat.lt_add_of_pos_right (Nat.succ_pos cnt)) hkm) hr1 hr2
    obtain ⟨l, hl, aok, aex, aorth, hrun, hIend, f1, f2, f3⟩ := ih (k + 1) _ hI' (Nat.le_succ_of_le hk1) (by rw [Nat.add_right_comm, Nat.add_assoc]; exact hkm) hrest
    refine ⟨Step.extend s.beta h :: l, by simp [hl], ⟨hok, ?_⟩, ⟨hex, ?_⟩, ⟨horth, ?_⟩, ?_, ?_, ?_, ?_, ?_⟩
    · rw [← habs]; exact aok
    · rw [← habs]; exact aex
    · rw [← habs]; exact aorth
    · show absAt n (k + (cnt + 1)) (passes op bt es cnt (k + 1) _) = C07.run A ((absAt n k s).step A _) l
      rw [← habs, ← hrun]
      congr 1; rw [← Nat.add_assoc, Nat.add_right_comm]
    · have : k + (cnt + 1) = k + 1 + cnt := by rw [← Nat.add_assoc, Nat.add_right_comm]
      rw [this]; exact hIend
    · show (passes op bt es cnt (k + 1) _).k = s.k
      rw [f1, e1]
    · show (passes op bt es cnt (k + 1) _).near0 = s.near0
      rw [f2, e2]
    · show (passes op bt es cnt (k + 1) _).eps = s.eps
      rw [f3, e3]

/-- the two `setZero` calls do not disturb the loop invariant, and make `H` clean outside the leading block whatever it was -/
theorem passInv_clean (n m : ℕ) (A : (Fin n → K) →ₗ[K] (Fin n → K)) (s : Arnoldi.State K) (k : ℕ) (hI : PassInv n m A s k) :
    PassInv n m A (cleanH s k) k := by
  have hget : ∀ a b, a < m → b < m → (Arnoldi.keepTopLeft s.H k).get a b = if a < k ∧ b < k then s.H.get a b else 0 := fun a b ha hb => by
    unfold Arnoldi.keepTopLeft
    rw [C08Mat.get_ofFn _ _ _ (by rw [hI.Hr]; exact ha) (by rw [hI.Hc]; exact hb), LinField.zero_eq E.ofInt0]
  refine .of ⟨hI.hn, hI.hm, hI.Vw, hI.Vr, hI.Vc, C08Mat.ofFn_WF _ _ _, hI.Hr, hI.Hc⟩ hI.im
    (hI.linv.congr (fun _ _ => rfl) (fun a b ha hb => ?_) rfl) ⟨hI.beta0, hI.betasq⟩ (fun a b ha hb hab _ => ?_) hI.eps0
  · rw [maskH_lead k _ a b ha hb, maskH_lead k _ a b ha hb]
    exact (hget a b (lt_of_lt_of_le ha hI.im) (lt_of_lt_of_le hb hI.im)).trans (if_pos ⟨ha, hb⟩)
  · exact (hget a b ha hb).trans
      (if_neg fun h => hab.elim (fun h' => absurd h.1 (Nat.not_lt.mpr h')) (fun h' => absurd h.2 (Nat.not_lt.mpr h')))

/-- **`Lanczos.factorize_from(k, to_m)` from the current dimension `k = s.k ≥ 1` is a list of `to_m − k` C07 `extend` steps**
    applied to the state with `H` cleaned outside its leading block; all steps `ok`, `exact`, `orthOk`; the loop invariant holds at
    `to_m` for the result, whose advertised dimension is `to_m`. -/
theorem factorize_run (n m : ℕ) (A : (Fin n → K) →ₗ[K] (Fin n → K)) (op : Arnoldi.Op K) (hop : OpOK n op A)
    (hsa : ∀ x y, dotProduct x (A y) = dotProduct (A x) y)
    (s : Arnoldi.State K) (to_m : ℕ) (hI : PassInv n m A s s.k) (hk1 : 1 ≤ s.k) (hlt : s.k < to_m) (hto : to_m ≤ m)
    (hreg : Regular op (s.eps * Sc.sqrt (Sc.ofInt (s.n : Int))) (Sc.sqrt s.eps) (to_m - s.k) s.k (cleanH s s.k)) :
    ∃ s' : Arnoldi.State K, Lanczos.factorize_from op s s.k to_m = some s' ∧ s'.k = to_m ∧
      s'.near0 = s.near0 ∧ s'.eps = s.eps ∧ PassInv n m A s' s'.k ∧
      ∃ l : List (Step K (Fin n → K)), l.length = to_m - s.k ∧
        allOk A (absAt n s.k (cleanH s s.k)) l ∧ allExact A (absAt n s.k (cleanH s s.k)) l ∧
        allOrthOk (dotIP n) A (absAt n s.k (cleanH s s.k)) l ∧
        absAt n s'.k s' = C07.run A (absAt n s.k (cleanH s s.k)) l := by
  have hes : 0 ≤ Sc.sqrt s.eps := (E.sqrt _ hI.eps0).2
  have hIc : PassInv n m A (cleanH s s.k) s.k :=
    passInv_clean E n m A s s.k hI
  obtain ⟨l, hl, aok, aex, aorth, hrun, hIend, f1, f2, f3⟩ :=
    passes_run E n m A op hop hsa _ _ hes (to_m - s.k) s.k (cleanH s s.k) hIc hk1 (by rw [Nat.add_sub_cancel' (le_of_lt hlt)]; exact hto) hreg
  have hsum : s.k + (to_m - s.k) = to_m := Nat.add_sub_cancel' (le_of_lt hlt)
  rw [hsum] at hrun hIend
  refine ⟨_, factorize_from_eq op s s.k to_m hlt (le_refl _), rfl, f2, f3, ?_, l, hl, aok, aex, aorth, ?_⟩
  · -- the result is `{ … with k := to_m }`; `PassInv` does not read `.k`
    exact .of ⟨hIend.hn, hIend.hm, hIend.Vw, hIend.Vr, hIend.Vc, hIend.Hw, hIend.Hr, hIend.Hc⟩ hIend.im hIend.linv
      ⟨hIend.beta0, hIend.betasq⟩ hIend.clean hIend.eps0
  · rw [← hrun]; rfl

end
end C07L
