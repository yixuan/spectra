/-
  C10 — pivoting_1x1(k, r) of the model is the symmetric interchange k <-> r of the trailing block (helper lemmas).
-/
import SpectraVerif.Proofs.C10Elim

set_option linter.unusedSectionVars false
namespace BKLDLT
section
variable {α : Type} [Add α] [Sub α] [Mul α] [Div α] [Neg α] [Sc α]

/-- the symmetric matrix represented by the packed lower triangle -/
def symrd (s : St α) (a b : Int) : α := if b ≤ a then s.rd a b else s.rd b a
/-- the transposition `k ↔ r` -/
def tr (k r x : Int) : Int := if x = k then r else if x = r then k else x

theorem tr_left (a b : Int) : tr a b a = b := if_pos rfl
theorem tr_right (a b : Int) : tr a b b = a := by unfold tr; split <;> simp_all
theorem tr_other {a b x : Int} (h1 : x ≠ a) (h2 : x ≠ b) : tr a b x = x := by rw [tr, if_neg h1, if_neg h2]
theorem tr_self (a x : Int) : tr a a x = x := by unfold tr; split <;> simp_all

theorem tr_invol (a b x : Int) : tr a b (tr a b x) = x := by
  by_cases h1 : x = a
  · rw [h1, tr_left, tr_right]
  · by_cases h2 : x = b
    · rw [h2, tr_right, tr_left]
    · rw [tr_other h1 h2, tr_other h1 h2]
theorem tr_range {n a b x : Int} (ha : 0 ≤ a ∧ a < n) (hb : 0 ≤ b ∧ b < n) (hx : 0 ≤ x ∧ x < n) : 0 ≤ tr a b x ∧ tr a b x < n := by
  unfold tr; split_ifs <;> omega
theorem tr_ge {k a b x : Int} (ha : k ≤ a) (hb : k ≤ b) : k ≤ tr a b x ↔ k ≤ x := by
  unfold tr; split_ifs <;> omega
theorem tr_lt {k a b x : Int} (ha : k ≤ a) (hb : k ≤ b) (hx : x < k) : tr a b x = x := tr_other (by omega) (by omega)

theorem symrd_lower (s : St α) {i j : Int} (h : j ≤ i) : symrd s i j = s.rd i j := if_pos h
theorem symrd_upper (s : St α) {i j : Int} (h : i ≤ j) : symrd s i j = s.rd j i := by
  unfold symrd; split
  · rw [show i = j by omega]
  · rfl

/-- `pivoting_1x1(k, r)` is the symmetric interchange `k ↔ r` of the trailing block `A[k:, k:]` (columns left of `k` untouched) -/
theorem pivoting_1x1_spec {n : Int} {s : St α} {k r : Int} (hs : Sized n s) (hk : 0 ≤ k) (hkr : k ≤ r) (hr : r < n) :
    Sized n (pivoting_1x1 s k r) ∧
    ∀ i j, 0 ≤ j → j ≤ i → i < n → (pivoting_1x1 s k r).rd i j = if k ≤ j then symrd s (tr k r i) (tr k r j) else s.rd i j := by
  unfold pivoting_1x1
  have hs0 : Sized n (s.setPerm k r) := hs
  split
  · rename_i hkr'
    subst hkr'
    refine ⟨hs0, fun i j h1 h2 h3 => ?_⟩
    rw [tr_self, tr_self, symrd_lower s h2, ite_self]; rfl
  · have hlt : k < r := by omega
    -- every swap of the three passes exchanges a position `(i, j)` with `(tr i, tr j)` (sorted), and no position is met twice;
    -- the positions never met are `(r, k)` and those with both indices off `k`, `r`, where the interchange does nothing
    have hv : ∀ a b, k ≤ b → (if k ≤ b then symrd s (tr k r a) (tr k r b) else s.rd a b) = symrd s (tr k r a) (tr k r b) :=
      fun a b h => if_pos h
    have h0 : Over n (fun i j => (i = k ∧ j = k) ∨ (i = r ∧ j = r)) (fun i j => if k ≤ j then symrd s (tr k r i) (tr k r j) else s.rd i j) s
        ((s.setPerm k r).swap k k r r) :=
      ((Over.start (s := s) hs0 (fun _ _ => rfl) (fun _ _ h => h)).swap ⟨hk, le_refl _, by omega⟩ ⟨by omega, le_refl _, hr⟩ (fun h => h) (fun h => h)
        (by rw [hv _ _ (le_refl _), tr_left, symrd_lower s (le_refl _)]) (by rw [hv _ _ hkr, tr_right, symrd_lower s (le_refl _)])).congr
        (fun i j _ _ _ => ⟨Or.inr, fun h => h.elim False.elim id⟩)
    dsimp only
    rw [h0.1.1]
    have hA := h0.loop (L := fun t i j => (j = k ∧ r < i ∧ i < t) ∨ (j = r ∧ r < i ∧ i < t))
      (f := fun (s' : St α) (i : Int) => s'.swap i k i r) (lo := r + 1) (hi := n) (by omega) (fun i j => by omega)
      (fun t s' ht0 ht1 hP =>
        (hP.swap (a := t) (b := k) (c := t) (d := r) ⟨hk, by omega, ht1⟩ ⟨by omega, by omega, ht1⟩ (by omega) (by omega)
          (by rw [hv _ _ (le_refl _), tr_left, tr_other (by omega) (by omega), symrd_lower s (by omega)])
          (by rw [hv _ _ hkr, tr_right, tr_other (by omega) (by omega), symrd_lower s (by omega)])).step2
          (fun i j _ _ _ => by omega) (fun i j _ _ _ => by omega))
    have hB := hA.loop (L := fun t i j => (j = k ∧ k < i ∧ i < t) ∨ (i = r ∧ k < j ∧ j < t))
      (f := fun (s' : St α) (j : Int) => s'.swap j k r j) (lo := k + 1) (hi := r) (by omega) (fun i j => by omega)
      (fun t s' ht0 ht1 hP =>
        (hP.swap (a := t) (b := k) (c := r) (d := t) ⟨hk, by omega, by omega⟩ ⟨by omega, by omega, hr⟩ (by omega) (by omega)
          (by rw [hv _ _ (le_refl _), tr_left, tr_other (by omega) (by omega), symrd_upper s (by omega)])
          (by rw [hv _ _ (by omega), tr_right, tr_other (by omega) (by omega), symrd_upper s (by omega)])).step2
          (fun i j _ _ _ => by omega) (fun i j _ _ _ => by omega))
    refine ⟨hB.1, hB.rd_eq (fun i j h1 h2 h3 hD => ?_)⟩
    by_cases cj : k ≤ j
    · rw [if_pos cj]
      by_cases cjk : j = k
      · rw [show i = r by omega, cjk, tr_left, tr_right, symrd_upper s hkr]
      · rw [tr_other (by omega) (by omega), tr_other cjk (by omega), symrd_lower s h2]
    · rw [if_neg cj]

/-- `interchange_rows(r1, r2, c1, c2)`: rows `r1`, `r2` exchanged in columns `c1..c2` (the finished columns of `L`), nothing else -/
theorem interchange_rows_spec {n : Int} {s : St α} {r1 r2 c1 c2 : Int} (hs : Sized n s) (hc : 0 ≤ c1) (h1 : c2 < r1) (h2 : r1 ≤ r2) (h3 : r2 < n) :
    Sized n (interchange_rows s r1 r2 c1 c2) ∧
    ∀ i j, 0 ≤ j → j ≤ i → i < n → (interchange_rows s r1 r2 c1 c2).rd i j =
      if c1 ≤ j ∧ j ≤ c2 ∧ i = r1 then s.rd r2 j else if c1 ≤ j ∧ j ≤ c2 ∧ i = r2 then s.rd r1 j else s.rd i j := by
  unfold interchange_rows
  split
  · rename_i e
    subst e
    refine ⟨hs, fun i j a b c => ?_⟩
    by_cases c1' : c1 ≤ j ∧ j ≤ c2 ∧ i = r1
    · rw [if_pos c1', c1'.2.2]
    · rw [if_neg c1', if_neg c1']
  · by_cases hle : c1 ≤ c2 + 1
    · have h := (Over.refl hs).loop (L := fun t i j => (i = r1 ∧ c1 ≤ j ∧ j < t) ∨ (i = r2 ∧ c1 ≤ j ∧ j < t))
        (v := fun i j => if c1 ≤ j ∧ j ≤ c2 ∧ i = r1 then s.rd r2 j else if c1 ≤ j ∧ j ≤ c2 ∧ i = r2 then s.rd r1 j else s.rd i j)
        (f := fun (s' : St α) (j : Int) => s'.swap r1 j r2 j) (lo := c1) (hi := c2 + 1) hle (fun i j => by omega)
        (fun t s' ht0 ht1 hP =>
          (hP.swap (a := r1) (b := t) (c := r2) (d := t) ⟨by omega, by omega, by omega⟩ ⟨by omega, by omega, h3⟩
            (fun h => h.elim id (by omega)) (fun h => h.elim id (by omega))
            (if_pos ⟨ht0, by omega, rfl⟩) (by rw [if_neg (by omega), if_pos ⟨ht0, by omega, rfl⟩])).step2 (fun i j _ _ _ => by omega) (fun i j _ _ _ => by omega))
      exact ⟨h.1, h.rd_eq (fun i j _ _ _ hD => by rw [if_neg (fun c => hD (Or.inr (by omega))), if_neg (fun c => hD (Or.inr (by omega)))])⟩
    · rw [intRange_empty c1 (c2 + 1) (by omega)]
      refine ⟨hs, fun i j a b c => ?_⟩
      rw [if_neg (by omega), if_neg (by omega)]; rfl

/-- the `m_perm` updates aside, `pivoting_2x2` is two `pivoting_1x1` and one swap -/
theorem pivoting_2x2_data (s : St α) (k r p : Int) :
    (pivoting_2x2 s k r p).data = ((pivoting_1x1 (pivoting_1x1 s k p) (k + 1) r).swap (k + 1) k r k).data ∧
    (pivoting_2x2 s k r p).n = ((pivoting_1x1 (pivoting_1x1 s k p) (k + 1) r).swap (k + 1) k r k).n := by
  simp only [pivoting_2x2, St.getPerm, St.setPerm, and_self]

/-- `pivoting_2x2(k, r, p)` with `p = k` (the variant the code uses): the symmetric interchange `k+1 ↔ r` of the trailing block `A[k:, k:]` -/
theorem pivoting_2x2_spec {n : Int} {s : St α} {k r : Int} (hs : Sized n s) (hk : 0 ≤ k) (hr1 : k + 1 ≤ r) (hr : r < n) :
    Sized n (pivoting_2x2 s k r k) ∧
    ∀ i j, 0 ≤ j → j ≤ i → i < n → (pivoting_2x2 s k r k).rd i j =
      if k ≤ j then symrd s (tr (k + 1) r i) (tr (k + 1) r j) else s.rd i j := by
  have e1 : pivoting_1x1 s k k = s.setPerm k k := if_pos rfl
  have p2 := pivoting_1x1_spec (s := s.setPerm k k) (k := k + 1) (r := r) hs (by omega) hr1 hr
  -- the inner interchange settles the columns from `k + 1` on; the last swap does column `k`
  have h1 : Over n (fun _ j => k + 1 ≤ j) (fun i j => if k ≤ j then symrd s (tr (k + 1) r i) (tr (k + 1) r j) else s.rd i j) s
      (pivoting_1x1 (s.setPerm k k) (k + 1) r) :=
    ⟨p2.1, fun i j a b c => ⟨fun d => by dsimp only at d ⊢; rw [p2.2 i j a b c, if_pos d, if_pos (by omega)]; rfl,
      fun d => by rw [p2.2 i j a b c, if_neg d]; rfl⟩⟩
  have h2 := h1.swap (a := k + 1) (b := k) (c := r) (d := k) ⟨hk, by omega, by omega⟩ ⟨hk, by omega, hr⟩ (by omega) (by omega)
    (by rw [if_pos (le_refl _), tr_left, tr_other (by omega) (by omega), symrd_lower s (by omega)])
    (by rw [if_pos (le_refl _), tr_right, tr_other (by omega) (by omega), symrd_lower s (by omega)])
  have e := pivoting_2x2_data s k r k
  rw [e1] at e
  refine ⟨⟨e.2.trans h2.1.1, (congrArg Array.size e.1).trans h2.1.2⟩, fun i j a b c => ?_⟩
  rw [rd_congr e.1 e.2]
  refine h2.rd_eq (fun i j _ b _ hD => ?_) i j a b c
  by_cases cj : k ≤ j
  · rw [if_pos cj, tr_other (by omega) (by omega), tr_other (by omega) (by omega), symrd_lower s b]
  · rw [if_neg cj]

end
end BKLDLT
