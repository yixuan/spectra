/-
  The array layer `Model/Lin.lean` at a field: where `Sc.ofInt 0 = 0`, reads past the end are `0`, so the entry lemmas of
  `LinLemmas` that need a bound hold for every index, and the left-to-right sums are `Finset` sums.  Namespace `LinField`: under
  that hypothesis alone (any `Sc` instance on a field); namespace `ScF`: at the exact-arithmetic instance `scOfField F`.
-/
import Mathlib.Algebra.BigOperators.Fin
import SpectraVerif.Proofs.SumFold
import SpectraVerif.Proofs.LinLemmas

namespace LinField
open Lin C08Mat Finset
variable {K : Type} [Field K] [Sc K] (h0 : (Sc.ofInt 0 : K) = 0)
include h0

theorem zero_eq : (Lin.zero : K) = 0 := h0

theorem vget_oob (v : Vec K) {i : Nat} (h : v.size ≤ i) : vget v i = 0 := (vget_of_ge v h).trans h0

theorem vget_map (g : K → K) (hg : g 0 = 0) (x : Vec K) (i : Nat) : vget (x.map g) i = g (vget x i) := by
  by_cases hi : i < x.size
  · exact C08Mat.vget_map g x hi
  · rw [vget_oob h0 _ (by rw [Array.size_map]; omega), vget_oob h0 _ (by omega), hg]

theorem vget_vdivs (x : Vec K) (c : K) (i : Nat) : vget (vdivs x c) i = vget x i / c := vget_map h0 _ (zero_div c) x i

theorem vget_vscale (x : Vec K) (c : K) (i : Nat) : vget (vscale c x) i = vget x i * c := vget_map h0 _ (zero_mul c) x i

theorem vget_vzero (n i : Nat) : vget (vzero n : Vec K) i = 0 := (C08Mat.vget_vzero n i).trans h0

theorem get_oob {m : Mat K} (hw : WF m) (i : Nat) {j : Nat} (hj : m.cols ≤ j) : m.get i j = 0 := (get_of_ge hw i hj).trans h0

theorem dot_eq (x y : Vec K) : Lin.dot x y = ∑ i ∈ range x.size, vget x i * vget y i := SumFold.sumFrom0_eq h0 _ _

end LinField

namespace ScF
open Lin Finset
variable {K : Type} [Field K] [LinearOrder K] [IsStrictOrderedRing K] (F : FieldFns K)

@[simp] theorem zero : @Lin.zero K (scOfField F) = 0 := Int.cast_zero
@[simp] theorem one : @Lin.one K (scOfField F) = 1 := Int.cast_one

theorem vget_oob (v : Vec K) {i : Nat} (h : v.size ≤ i) : @vget K (scOfField F) v i = 0 :=
  @LinField.vget_oob K _ (scOfField F) (zero F) v i h

theorem vget_map (g : K → K) (hg : g 0 = 0) (x : Vec K) (i : Nat) :
    @vget K (scOfField F) (x.map g) i = g (@vget K (scOfField F) x i) :=
  @LinField.vget_map K _ (scOfField F) (zero F) g hg x i

theorem vget_vdivs (x : Vec K) (c : K) (i : Nat) :
    @vget K (scOfField F) (vdivs x c) i = @vget K (scOfField F) x i / c := vget_map F _ (zero_div c) x i

theorem sumFrom0_fin (n : Nat) (f : Nat → K) : @sumFrom0 K _ (scOfField F) n f = ∑ i : Fin n, f i.val :=
  (SumFold.sumFrom0_scOfField F n f).trans (Fin.sum_univ_eq_sum_range f n).symm

theorem dot (x y : Vec K) :
    @Lin.dot K _ _ (scOfField F) x y = ∑ i ∈ range x.size, @vget K (scOfField F) x i * @vget K (scOfField F) y i :=
  SumFold.sumFrom0_scOfField F _ _

end ScF
