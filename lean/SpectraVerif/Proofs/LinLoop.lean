/-
  Loops of entry updates on a `Lin.Mat`, for any scalar type (core Lean only; beside `LinLemmas`, same namespace).
  One generic loop (`StepOK`, `fold_spec`): step `i` rewrites a few entries from their old values and different steps touch
  different entries, so every touched entry is computed from the ORIGINAL matrix and every other entry is kept.  The row and
  column sweeps of the QR classes, the reflector kernels and the rotation loops of the eigen-solvers are instances.
-/
import SpectraVerif.Proofs.LinLemmas
import SpectraVerif.Proofs.ListFold

set_option linter.unusedVariables false

namespace C08Mat
open Lin

variable {α : Type}

/-! ### counted loops -/

theorem foldl_range_reverse_succ {σ : Type} (f : σ → Nat → σ) (a : σ) (k : Nat) :
    (List.range (k + 1)).reverse.foldl f a = (List.range k).reverse.foldl f (f a k) := by
  rw [List.range_succ, List.reverse_append]; rfl

variable [Sc α]

/-! ### two / three consecutive `set`s -/

theorem get_set2 {Z : Mat α} (hw : WF Z) {r0 c0 r1 c1 : Nat} (v0 v1 : α)
    (h0r : r0 < Z.rows) (h0c : c0 < Z.cols) (h1r : r1 < Z.rows) (h1c : c1 < Z.cols)
    {a b : Nat} (ha : a < Z.rows) :
    ((Z.set r0 c0 v0).set r1 c1 v1).get a b =
      if a = r1 ∧ b = c1 then v1 else if a = r0 ∧ b = c0 then v0 else Z.get a b := by
  have w1 : WF (Z.set r0 c0 v0) := set_WF hw _ _ _
  rw [get_set w1 _ (by simpa using h1r) (by simpa using h1c) (by simpa using ha)]
  rw [get_set hw _ h0r h0c ha]


theorem get_set3 {Z : Mat α} (hw : WF Z) {r0 c0 r1 c1 r2 c2 : Nat} (v0 v1 v2 : α)
    (h0r : r0 < Z.rows) (h0c : c0 < Z.cols) (h1r : r1 < Z.rows) (h1c : c1 < Z.cols)
    (h2r : r2 < Z.rows) (h2c : c2 < Z.cols)
    {a b : Nat} (ha : a < Z.rows) :
    (((Z.set r0 c0 v0).set r1 c1 v1).set r2 c2 v2).get a b =
      if a = r2 ∧ b = c2 then v2 else if a = r1 ∧ b = c1 then v1 else if a = r0 ∧ b = c0 then v0 else Z.get a b := by
  have w2 : WF ((Z.set r0 c0 v0).set r1 c1 v1) := set_WF (set_WF hw _ _ _) _ _ _
  rw [get_set w2 _ (by simpa using h2r) (by simpa using h2c) (by simpa using ha)]
  rw [get_set2 hw _ _ h0r h0c h1r h1c ha]

/-! ### a generic loop: step `i` rewrites the `m` entries `(pr i k, pc i k)`, `k < m`, from their old values -/

/-- what one step `g · i` must do on matrices of shape `R × C` -/
def StepOK (g : Mat α → Nat → Mat α) (m : Nat) (pr pc : Nat → Nat → Nat) (nv : Nat → (Nat → α) → α)
    (R C cnt : Nat) : Prop :=
  ∀ Z : Mat α, WF Z → Z.rows = R → Z.cols = C → ∀ i, i < cnt →
    WF (g Z i) ∧ (g Z i).rows = R ∧ (g Z i).cols = C ∧
    (∀ k, k < m → (g Z i).get (pr i k) (pc i k) = nv k (fun k' => Z.get (pr i k') (pc i k'))) ∧
    (∀ a b, a < R → (∀ k, k < m → ¬ (pr i k = a ∧ pc i k = b)) → (g Z i).get a b = Z.get a b)

theorem StepOK.congr_nv {g : Mat α → Nat → Mat α} {m : Nat} {pr pc : Nat → Nat → Nat} {nv nv' : Nat → (Nat → α) → α}
    {R C cnt : Nat} (h : StepOK g m pr pc nv R C cnt) (e : ∀ k x, k < m → nv k x = nv' k x) :
    StepOK g m pr pc nv' R C cnt := fun Z hw hr hc i hi =>
  let ⟨w, r, c, t, u⟩ := h Z hw hr hc i hi
  ⟨w, r, c, fun k hk => (t k hk).trans (e k _ hk), u⟩

/-- if different steps touch different entries, every touched entry is computed from the ORIGINAL matrix -/
theorem fold_spec {g : Mat α → Nat → Mat α} {m : Nat} {pr pc : Nat → Nat → Nat} {nv : Nat → (Nat → α) → α}
    {R C cnt : Nat} (hs : StepOK g m pr pc nv R C cnt)
    (hin : ∀ i k, i < cnt → k < m → pr i k < R ∧ pc i k < C)
    (hinj : ∀ i i' k k', i < cnt → i' < cnt → k < m → k' < m → pr i k = pr i' k' → pc i k = pc i' k' → i = i')
    (hcong : ∀ k (x x' : Nat → α), k < m → (∀ k', k' < m → x k' = x' k') → nv k x = nv k x')
    {Y : Mat α} (hw : WF Y) (hr : Y.rows = R) (hc : Y.cols = C) (c : Nat) (hcc : c ≤ cnt) :
    WF ((List.range c).foldl g Y) ∧ ((List.range c).foldl g Y).rows = R ∧ ((List.range c).foldl g Y).cols = C ∧
    (∀ i k, i < c → k < m →
      ((List.range c).foldl g Y).get (pr i k) (pc i k) = nv k (fun k' => Y.get (pr i k') (pc i k'))) ∧
    (∀ a b, a < R → (∀ i k, i < c → k < m → ¬ (pr i k = a ∧ pc i k = b)) →
      ((List.range c).foldl g Y).get a b = Y.get a b) := by
  induction c with
  | zero =>
    refine ⟨hw, hr, hc, ?_, ?_⟩
    · intro i k hi; omega
    · intro a b _ _; rfl
  | succ c ih =>
    obtain ⟨w, r, cc, ht, hu⟩ := ih (by omega)
    rw [ListFold.foldl_range_succ]
    generalize (List.range c).foldl g Y = Z at w r cc ht hu ⊢
    obtain ⟨w1, r1, c1, t1, u1⟩ := hs Z w r cc c (by omega)
    refine ⟨w1, r1, c1, ?_, ?_⟩
    · intro i k hi hk
      rcases Nat.lt_or_ge i c with hlt | hge
      · obtain ⟨p, q⟩ := hin i k (by omega) hk
        rw [u1 _ _ p]
        · exact ht i k hlt hk
        · intro k' hk' hh
          have := hinj c i k' k (by omega) (by omega) hk' hk hh.1 hh.2
          omega
      · have e : i = c := by omega
        subst e
        rw [t1 k hk]
        apply hcong _ _ _ hk
        intro k' hk'
        obtain ⟨p, q⟩ := hin i k' (by omega) hk'
        apply hu _ _ p
        intro i' k'' hi' hk'' hh
        have := hinj i' i k'' k' (by omega) (by omega) hk'' hk' hh.1 hh.2
        omega
    · intro a b ha hne
      rw [u1 a b ha (fun k hk => hne c k (by omega) hk)]
      exact hu a b ha (fun i k hi hk => hne i k (by omega) hk)

/-- step with two entries -/
def upd2 (f : α → α → α × α) (pr pc : Nat → Nat → Nat) (H : Mat α) (i : Nat) : Mat α :=
  (H.set (pr i 0) (pc i 0) (f (H.get (pr i 0) (pc i 0)) (H.get (pr i 1) (pc i 1))).1).set (pr i 1) (pc i 1)
    (f (H.get (pr i 0) (pc i 0)) (H.get (pr i 1) (pc i 1))).2

/-- the new values of a two-entry step with pair map `f` -/
def pairNv (f : α → α → α × α) (k : Nat) (x : Nat → α) : α := if k = 0 then (f (x 0) (x 1)).1 else (f (x 0) (x 1)).2

omit [Sc α] in
theorem pairNv_cong (f : α → α → α × α) (k : Nat) (x x' : Nat → α) (_ : k < 2) (h : ∀ k', k' < 2 → x k' = x' k') :
    pairNv f k x = pairNv f k x' := by
  unfold pairNv; rw [h 0 (by omega), h 1 (by omega)]

theorem upd2_ok (f : α → α → α × α) (pr pc : Nat → Nat → Nat) (R C cnt : Nat)
    (hin : ∀ i k, i < cnt → k < 2 → pr i k < R ∧ pc i k < C)
    (hd : ∀ i, i < cnt → ¬ (pr i 0 = pr i 1 ∧ pc i 0 = pc i 1)) :
    StepOK (upd2 f pr pc) 2 pr pc (pairNv f) R C cnt := by
  intro Z hw hr hc i hi
  obtain ⟨a0, b0⟩ := hin i 0 hi (by omega)
  obtain ⟨a1, b1⟩ := hin i 1 hi (by omega)
  subst hr; subst hc
  unfold upd2
  refine ⟨set_WF (set_WF hw _ _ _) _ _ _, by rw [set_rows, set_rows], by rw [set_cols, set_cols], ?_, ?_⟩
  · intro k hk
    rw [get_set2 hw _ _ a0 b0 a1 b1 (hin i k hi hk).1]
    have hk' : k = 0 ∨ k = 1 := by omega
    rcases hk' with rfl | rfl
    · rw [if_neg (hd i hi), if_pos ⟨rfl, rfl⟩]; rfl
    · rw [if_pos ⟨rfl, rfl⟩]; rfl
  · intro a b ha hne
    rw [get_set2 hw _ _ a0 b0 a1 b1 ha,
      if_neg (fun h => hne 1 (by omega) ⟨h.1.symm, h.2.symm⟩),
      if_neg (fun h => hne 0 (by omega) ⟨h.1.symm, h.2.symm⟩)]

/-- step with three entries -/
def upd3 (f : α → α → α → α × α × α) (pr pc : Nat → Nat → Nat) (H : Mat α) (i : Nat) : Mat α :=
  ((H.set (pr i 0) (pc i 0) (f (H.get (pr i 0) (pc i 0)) (H.get (pr i 1) (pc i 1)) (H.get (pr i 2) (pc i 2))).1).set
      (pr i 1) (pc i 1) (f (H.get (pr i 0) (pc i 0)) (H.get (pr i 1) (pc i 1)) (H.get (pr i 2) (pc i 2))).2.1).set
    (pr i 2) (pc i 2) (f (H.get (pr i 0) (pc i 0)) (H.get (pr i 1) (pc i 1)) (H.get (pr i 2) (pc i 2))).2.2

/-- the new values of a three-entry step with triple map `f` -/
def tripleNv (f : α → α → α → α × α × α) (k : Nat) (x : Nat → α) : α :=
  if k = 0 then (f (x 0) (x 1) (x 2)).1 else if k = 1 then (f (x 0) (x 1) (x 2)).2.1 else (f (x 0) (x 1) (x 2)).2.2

omit [Sc α] in
theorem tripleNv_cong (f : α → α → α → α × α × α) (k : Nat) (x x' : Nat → α) (_ : k < 3)
    (h : ∀ k', k' < 3 → x k' = x' k') : tripleNv f k x = tripleNv f k x' := by
  unfold tripleNv; rw [h 0 (by omega), h 1 (by omega), h 2 (by omega)]

theorem upd3_ok (f : α → α → α → α × α × α) (pr pc : Nat → Nat → Nat) (R C cnt : Nat)
    (hin : ∀ i k, i < cnt → k < 3 → pr i k < R ∧ pc i k < C)
    (hd : ∀ i k k', i < cnt → k < k' → k' < 3 → ¬ (pr i k = pr i k' ∧ pc i k = pc i k')) :
    StepOK (upd3 f pr pc) 3 pr pc (tripleNv f) R C cnt := by
  intro Z hw hr hc i hi
  obtain ⟨a0, b0⟩ := hin i 0 hi (by omega)
  obtain ⟨a1, b1⟩ := hin i 1 hi (by omega)
  obtain ⟨a2, b2⟩ := hin i 2 hi (by omega)
  subst hr; subst hc
  unfold upd3
  refine ⟨set_WF (set_WF (set_WF hw _ _ _) _ _ _) _ _ _, by rw [set_rows, set_rows, set_rows],
    by rw [set_cols, set_cols, set_cols], ?_, ?_⟩
  · intro k hk
    rw [get_set3 hw _ _ _ a0 b0 a1 b1 a2 b2 (hin i k hi hk).1]
    have hk' : k = 0 ∨ k = 1 ∨ k = 2 := by omega
    rcases hk' with rfl | rfl | rfl
    · rw [if_neg (hd i 0 2 hi (by omega) (by omega)), if_neg (hd i 0 1 hi (by omega) (by omega)), if_pos ⟨rfl, rfl⟩]; rfl
    · rw [if_neg (hd i 1 2 hi (by omega) (by omega)), if_pos ⟨rfl, rfl⟩]; rfl
    · rw [if_pos ⟨rfl, rfl⟩]; rfl
  · intro a b ha hne
    rw [get_set3 hw _ _ _ a0 b0 a1 b1 a2 b2 ha,
      if_neg (fun h => hne 2 (by omega) ⟨h.1.symm, h.2.symm⟩),
      if_neg (fun h => hne 1 (by omega) ⟨h.1.symm, h.2.symm⟩),
      if_neg (fun h => hne 0 (by omega) ⟨h.1.symm, h.2.symm⟩)]

/-! ### a vector built by `push`es -/

theorem vget_of_pushes (v : Nat → Vec α) (x : Nat → α) (m : Nat) (h0 : (v 0).size = 0)
    (hs : ∀ k, k < m → v (k + 1) = (v k).push (x k)) (k : Nat) (hk : k ≤ m) :
    (v k).size = k ∧ ∀ i, i < k → vget (v k) i = x i := by
  induction k with
  | zero => exact ⟨h0, fun i h => absurd h (Nat.not_lt_zero i)⟩
  | succ k ih =>
    obtain ⟨sz, g⟩ := ih (by omega)
    rw [hs k (by omega)]
    refine ⟨by rw [Array.size_push, sz], fun i hi => ?_⟩
    by_cases h : i = k
    · have e := vget_push_eq (v k) (x k)
      rw [sz] at e; rw [h]; exact e
    · rw [vget_push_lt _ _ (by omega)]; exact g i (by omega)

/-! ### diagonal updates -/

/-- generic diagonal fold: `M(k,k) ← g (M(k,k))` for `k < n` -/
def mapDiag (g : α → α) (M : Mat α) (n : Nat) : Mat α :=
  (List.range n).foldl (fun M i => M.set i i (g (M.get i i))) M

theorem mapDiag_succ (g : α → α) (M : Mat α) (n : Nat) :
    mapDiag g M (n + 1) = (mapDiag g M n).set n n (g ((mapDiag g M n).get n n)) :=
  ListFold.foldl_range_succ _ _ _

theorem mapDiag_spec (g : α → α) {M : Mat α} (hw : WF M) (n : Nat) (hr : n ≤ M.rows) (hc : n ≤ M.cols) :
    WF (mapDiag g M n) ∧ (mapDiag g M n).rows = M.rows ∧ (mapDiag g M n).cols = M.cols ∧
    ∀ a b, a < M.rows →
      (mapDiag g M n).get a b = if a = b ∧ a < n then g (M.get a b) else M.get a b := by
  induction n with
  | zero =>
    refine ⟨hw, rfl, rfl, ?_⟩
    intro a b _
    have : ¬ (a = b ∧ a < 0) := by omega
    rw [if_neg this]; rfl
  | succ n ih =>
    obtain ⟨w, hr', hc', hg⟩ := ih (by omega) (by omega)
    rw [mapDiag_succ]
    generalize mapDiag g M n = Z at w hr' hc' hg ⊢
    refine ⟨set_WF w _ _ _, by rw [set_rows, hr'], by rw [set_cols, hc'], ?_⟩
    intro a b ha
    rw [get_set w _ (by omega) (by omega) (by omega)]
    rw [hg a b ha, hg n n (by omega)]
    have cn : ¬ (n = n ∧ n < n) := by omega
    rw [if_neg cn]
    by_cases h : a = n ∧ b = n
    · have : a = b ∧ a < n + 1 := by omega
      rw [if_pos h, if_pos this, h.1, h.2]
    · rw [if_neg h, ite_iff (by omega : (a = b ∧ a < n) ↔ (a = b ∧ a < n + 1))]

/-! ### a column zeroed below a row -/

/-- `R(i+2 … i+1+m, i) ← zero` -/
def zeroCol (R : Mat α) (i m : Nat) : Mat α :=
  (List.range m).foldl (fun R k => R.set (i + 2 + k) i zero) R

theorem zeroCol_succ (R : Mat α) (i m : Nat) : zeroCol R i (m + 1) = (zeroCol R i m).set (i + 2 + m) i zero :=
  ListFold.foldl_range_succ _ _ _

theorem zeroCol_spec {R : Mat α} (hw : WF R) (i m : Nat) (hr : i + 2 + m ≤ R.rows) (hc : i < R.cols) :
    WF (zeroCol R i m) ∧ (zeroCol R i m).rows = R.rows ∧ (zeroCol R i m).cols = R.cols ∧
    ∀ a b, a < R.rows → b < R.cols →
      (zeroCol R i m).get a b = if b = i ∧ i + 2 ≤ a ∧ a < i + 2 + m then zero else R.get a b := by
  induction m with
  | zero =>
    refine ⟨hw, rfl, rfl, ?_⟩
    intro a b _ _
    have : ¬ (b = i ∧ i + 2 ≤ a ∧ a < i + 2 + 0) := by omega
    rw [if_neg this]; rfl
  | succ m ih =>
    obtain ⟨w, hr', hc', hg⟩ := ih (by omega)
    rw [zeroCol_succ]
    generalize zeroCol R i m = Z at w hr' hc' hg ⊢
    refine ⟨set_WF w _ _ _, by rw [set_rows, hr'], by rw [set_cols, hc'], ?_⟩
    intro a b ha hb
    rw [get_set w _ (by omega) (by omega) (by omega)]
    rw [hg a b ha hb]
    by_cases h : a = i + 2 + m ∧ b = i
    · obtain ⟨rfl, rfl⟩ := h
      have : b = b ∧ b + 2 ≤ b + 2 + m ∧ b + 2 + m < b + 2 + (m + 1) := by omega
      rw [if_pos ⟨rfl, rfl⟩, if_pos this]
    · rw [if_neg h, ite_iff (by omega : (b = i ∧ i + 2 ≤ a ∧ a < i + 2 + m) ↔ (b = i ∧ i + 2 ≤ a ∧ a < i + 2 + (m + 1)))]

end C08Mat
