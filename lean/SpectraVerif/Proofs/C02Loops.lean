/-
  C02: the two index loops of the general (nonsymmetric) family, as pure functions of `Model/GenSolver.lean`.

  PART 1  `GenSolver.pairLoop` / `pairVisits`: the conjugate-pair loop of `GenEigsComplexShiftSolver::sort_ritzpair`
          (`m_ritz_val[i] = lambdaj; if (nu.imag() != Scalar(0)) { m_ritz_val[i + 1] = conj(lambdaj); i++; } else …`; the pair test
          is decided on the TRANSFORMED value `nu` since the repair of finding F14).
  PART 2  `GenSolver.shiftPasses` / `passReads`: the single/double-shift loop of `GenEigsBase::restart`.

  Everything is proved for all sizes, all inputs and all fuel above the stated bound (induction on the fuel or on the block
  structure); `decide` is used only in the concrete counter-models (`example`s).
-/
import SpectraVerif.Model.GenSolver
import SpectraVerif.Proofs.ScField
import Mathlib.Tactic.Ring
import Mathlib.Tactic.NormNum

namespace C02L
open GenSolver

theorem sub_eq_succ {n i : Nat} (h : i < n) : n - i = n - (i + 1) + 1 :=
  (Nat.succ_pred_eq_of_pos (Nat.sub_pos_of_lt h)).symm

/-- both loops take fuel `n - i` at index `i`: inside the range there is fuel for one more pass, and enough for the rest -/
theorem fuel_succ {n i fuel : Nat} (h : i < n) (hf : n - i ≤ fuel) : ∃ f, fuel = f + 1 ∧ n - (i + 1) ≤ f := by
  rw [sub_eq_succ h] at hf
  exact ⟨fuel - 1, (Nat.sub_add_cancel (Nat.le_trans (Nat.le_add_left 1 _) hf)).symm, Nat.le_sub_one_of_lt hf⟩

/-! # PART 1: the conjugate-pair loop -/

section Pair
variable {ρ : Type}

/-- the eigenvalue that belongs to slot `j` of the ORIGINAL list `v` (root selection applied to the transformed value) -/
def own (pick : Nat → ρ → ρ) (dflt : ρ) (v : List ρ) (j : Nat) : ρ := pick j (v.getD j dflt)

/-- the slots written, in order (mirrors `pairVisits`: a pair pass writes `[i, i+1]`, a real pass writes `[i]`) -/
def pairWrites (isPair : ρ → Bool) (nev : Nat) (dflt : ρ) (v : List ρ) : Nat → Nat → List Nat
  | 0, _ => []
  | fuel + 1, i =>
    if i < nev then
      if isPair (v.getD i dflt) then i :: (i + 1) :: pairWrites isPair nev dflt v fuel (i + 2)
      else i :: pairWrites isPair nev dflt v fuel (i + 1)
    else []

/-- hypothesis P1 on the TRANSFORMED values `nu j = v[j]` of the slots `i, i+1, …` below `nev`: the values on which the pair test
    fires are followed by their exact conjugate.  The `pair` block may straddle `nev` (`i = nev - 1`): the C++ then writes slot
    `nev`, which the base class discards. -/
inductive NBlocks (isPair : ρ → Bool) (cj : ρ → ρ) (nu : Nat → ρ) (nev : Nat) : Nat → Prop
  | done {i : Nat} (h : nev ≤ i) : NBlocks isPair cj nu nev i
  | real {i : Nat} (h : i < nev) (hr : isPair (nu i) = false) (rest : NBlocks isPair cj nu nev (i + 1)) :
      NBlocks isPair cj nu nev i
  | pair {i : Nat} (h : i < nev) (hp : isPair (nu i) = true) (hc : nu (i + 1) = cj (nu i))
      (rest : NBlocks isPair cj nu nev (i + 2)) : NBlocks isPair cj nu nev i

variable (pick : Nat → ρ → ρ) (isPair : ρ → Bool) (cj re : ρ → ρ) (nev : Nat) (dflt : ρ)

/-! ## (1a) unconditional: every slot is written exactly once, in increasing order, at most one beyond `nev` -/

theorem pairWrites_eq_range' (v : List ρ) (fuel i : Nat) :
    pairWrites isPair nev dflt v fuel i = List.range' i (pairWrites isPair nev dflt v fuel i).length := by
  fun_induction pairWrites isPair nev dflt v fuel i with
  | case1 i => rfl
  | case2 f i h hp ih => exact congrArg (i :: (i + 1) :: ·) ih
  | case3 f i h hp ih => exact congrArg (i :: ·) ih
  | case4 f i h => rfl

/-- `nev + 1 - i` is the form of the bound `nev - i + 1` that is inductive past `nev` -/
theorem pairWrites_length_le (v : List ρ) (fuel i : Nat) : (pairWrites isPair nev dflt v fuel i).length ≤ nev + 1 - i := by
  fun_induction pairWrites isPair nev dflt v fuel i with
  | case1 i => exact Nat.zero_le _
  | case2 f i h hp ih =>
    rw [sub_eq_succ (Nat.lt_succ_of_lt h), sub_eq_succ (Nat.succ_lt_succ h)]
    exact Nat.succ_le_succ (Nat.succ_le_succ ih)
  | case3 f i h hp ih =>
    rw [sub_eq_succ (Nat.lt_succ_of_lt h)]
    exact Nat.succ_le_succ ih
  | case4 f i h => exact Nat.zero_le _

theorem pairWrites_le_length (v : List ρ) (fuel i : Nat) (hf : nev - i ≤ fuel) :
    nev - i ≤ (pairWrites isPair nev dflt v fuel i).length := by
  fun_induction pairWrites isPair nev dflt v fuel i with
  | case1 i => exact hf
  | case2 f i h hp ih =>
    rw [sub_eq_succ h] at hf ⊢
    have hf' : nev - (i + 2) ≤ f := Nat.le_trans (Nat.sub_le_sub_left (Nat.le_succ _) _) (Nat.le_of_succ_le_succ hf)
    have hs : nev - (i + 1) ≤ nev - (i + 2) + 1 := Nat.le_add_of_sub_le (Nat.le_refl _)
    exact Nat.succ_le_succ (Nat.le_trans hs (Nat.succ_le_succ (ih hf')))
  | case3 f i h hp ih =>
    rw [sub_eq_succ h] at hf ⊢
    exact Nat.succ_le_succ (ih (Nat.le_of_succ_le_succ hf))
  | case4 f i h => rw [Nat.sub_eq_zero_of_le (Nat.le_of_not_lt h)]; exact Nat.zero_le _

theorem pairWrites_contiguous (v : List ρ) (fuel i : Nat) (hi : i ≤ nev) (hf : nev - i ≤ fuel) :
    ∃ k, pairWrites isPair nev dflt v fuel i = List.range' i k ∧ nev - i ≤ k ∧ k ≤ nev - i + 1 :=
  ⟨_, pairWrites_eq_range' isPair nev dflt v fuel i, pairWrites_le_length isPair nev dflt v fuel i hf,
    Nat.sub_add_comm hi ▸ pairWrites_length_le isPair nev dflt v fuel i⟩

theorem pairVisits_sublist_writes (v : List ρ) (fuel i : Nat) :
    (pairVisits isPair nev dflt v fuel i).Sublist (pairWrites isPair nev dflt v fuel i) := by
  fun_induction pairVisits isPair nev dflt v fuel i with
  | case1 i => exact List.nil_sublist _
  | case2 f i h hp ih => rw [pairWrites, if_pos h, if_pos hp]; exact (ih.cons _).cons_cons i
  | case3 f i h hp ih => rw [pairWrites, if_pos h, if_neg hp]; exact ih.cons_cons i
  | case4 f i h => exact List.nil_sublist _

theorem pairVisits_sublist_range (v : List ρ) (fuel i : Nat) (hi : i ≤ nev) (hf : nev - i ≤ fuel) :
    (pairVisits isPair nev dflt v fuel i).Sublist (List.range' i (nev - i + 1)) := by
  obtain ⟨k, e, _, h2⟩ := pairWrites_contiguous isPair nev dflt v fuel i hi hf
  exact (e ▸ pairVisits_sublist_writes isPair nev dflt v fuel i).trans (List.range'_sublist_right.mpr h2)

/-- the loop index is strictly increasing (no fuel bound needed) -/
theorem pairVisits_increasing (v : List ρ) (fuel i : Nat) :
    (pairVisits isPair nev dflt v fuel i).Pairwise (· < ·) :=
  (pairWrites_eq_range' isPair nev dflt v fuel i ▸ List.pairwise_lt_range' 1).sublist (pairVisits_sublist_writes isPair nev dflt v fuel i)

/-- a visited slot lies in `i ≤ x < nev` -/
theorem pairVisits_mem_bounds (v : List ρ) (fuel i : Nat) : ∀ x ∈ pairVisits isPair nev dflt v fuel i, i ≤ x ∧ x < nev := by
  fun_induction pairVisits isPair nev dflt v fuel i with
  | case1 i => intro x hx; cases hx
  | case2 f i h hp ih =>
    exact List.forall_mem_cons.mpr
      ⟨⟨Nat.le_refl _, h⟩, fun x hx => ⟨Nat.le_of_succ_le (Nat.le_of_succ_le (ih x hx).1), (ih x hx).2⟩⟩
  | case3 f i h hp ih =>
    exact List.forall_mem_cons.mpr ⟨⟨Nat.le_refl _, h⟩, fun x hx => ⟨Nat.le_of_succ_le (ih x hx).1, (ih x hx).2⟩⟩
  | case4 f i h => intro x hx; cases hx

/-- the slot after a visited pair start is never visited (the `i++` of the pair branch) -/
theorem pairVisits_skip (v : List ρ) (fuel i : Nat) : ∀ j ∈ pairVisits isPair nev dflt v fuel i,
    isPair (v.getD j dflt) = true → j + 1 ∉ pairVisits isPair nev dflt v fuel i := by
  fun_induction pairVisits isPair nev dflt v fuel i with
  | case1 i => intro j hj; cases hj
  | case2 f i h hp ih =>
    intro j hj hjp hj1
    rw [List.mem_cons] at hj hj1
    have hb := pairVisits_mem_bounds isPair nev dflt v f (i + 2)
    rcases hj with rfl | hj
    · rcases hj1 with h1 | h1
      · omega
      · have := (hb _ h1).1; omega
    · have := (hb _ hj).1
      exact ih j hj hjp (hj1.resolve_left (by omega))
  | case3 f i h hp ih =>
    intro j hj hjp hj1
    rw [List.mem_cons] at hj hj1
    rcases hj with rfl | hj
    · exact hp hjp
    · have := (pairVisits_mem_bounds isPair nev dflt v _ _ j hj).1
      exact ih j hj hjp (hj1.resolve_left (by omega))
  | case4 f i h => intro j hj; cases hj

/-! ## (1b) what the loop stores -/

theorem getD_set_self {w : List ρ} {i : Nat} {a d : ρ} (h : i < w.length) : (w.set i a).getD i d = a := by
  simp [List.getD_eq_getElem?_getD, List.getElem?_set_self h]

theorem getD_set_ne {w : List ρ} {i j : Nat} {a d : ρ} (h : i ≠ j) : (w.set i a).getD j d = w.getD j d := by
  simp [List.getD_eq_getElem?_getD, List.getElem?_set_ne h]

/-- unconditional: the length never changes -/
theorem pairLoop_length (fuel i : Nat) (w : List ρ) :
    (pairLoop pick isPair cj re nev dflt fuel i w).length = w.length := by
  fun_induction pairLoop pick isPair cj re nev dflt fuel i w with
  | case1 i w => rfl
  | case2 f i w h lam hp ih => rw [ih, List.length_set, List.length_set]
  | case3 f i w h lam hp ih => rw [ih, List.length_set]
  | case4 f i w h => rfl

/-- unconditional: the loop started at `i` writes only slots `i … nev` -/
theorem pairLoop_untouched {fuel i : Nat} {w : List ρ} {j : Nat} (hj : j < i ∨ nev < j) :
    (pairLoop pick isPair cj re nev dflt fuel i w).getD j dflt = w.getD j dflt := by
  fun_induction pairLoop pick isPair cj re nev dflt fuel i w with
  | case1 i w => rfl
  | case2 f i w h lam hp ih => rw [ih (by omega), getD_set_ne (by omega), getD_set_ne (by omega)]
  | case3 f i w h lam hp ih => rw [ih (by omega), getD_set_ne (by omega)]
  | case4 f i w h => rfl

/-- unconditional semantics, general form: `w` is the current list, equal to the original `v` from slot `i` on.  A visited slot `j`
    on which the pair test fails receives `re` of its own eigenvalue; a visited slot on which it fires receives its own eigenvalue
    and slot `j + 1` receives the conjugate of slot `j`'s eigenvalue.  The value read at a visited slot is always the ORIGINAL `v[j]`. -/
theorem pairLoop_visited_gen (v : List ρ) (fuel i : Nat) (w : List ρ) (hl : w.length = v.length)
    (hw : ∀ j, i ≤ j → w.getD j dflt = v.getD j dflt) :
    ∀ j ∈ pairVisits isPair nev dflt v fuel i, j < v.length →
      (isPair (v.getD j dflt) = false →
        (pairLoop pick isPair cj re nev dflt fuel i w).getD j dflt = re (own pick dflt v j)) ∧
      (isPair (v.getD j dflt) = true →
        (pairLoop pick isPair cj re nev dflt fuel i w).getD j dflt = own pick dflt v j ∧
        (j + 1 < v.length → (pairLoop pick isPair cj re nev dflt fuel i w).getD (j + 1) dflt = cj (own pick dflt v j))) := by
  fun_induction pairVisits isPair nev dflt v fuel i generalizing w with
  | case1 i => intro j hj; cases hj
  | case2 f i hi hp ih =>
    intro j hj hjl
    simp only [pairLoop, hi, hw i (Nat.le_refl _), hp, if_true]
    rcases List.mem_cons.mp hj with rfl | hj
    · refine ⟨fun h => (by rw [hp] at h; cases h), fun _ => ⟨?_, fun h1 => ?_⟩⟩
      · rw [pairLoop_untouched pick isPair cj re nev dflt (Or.inl (by omega)), getD_set_ne (by omega),
          getD_set_self (hl ▸ hjl)]
        rfl
      · rw [pairLoop_untouched pick isPair cj re nev dflt (Or.inl (by omega)),
          getD_set_self (by rw [List.length_set, hl]; exact h1)]
        rfl
    · exact ih _ (by rw [List.length_set, List.length_set]; exact hl)
        (fun j' hj' => by
          rw [getD_set_ne (by omega), getD_set_ne (by omega)]; exact hw j' (by omega))
        j hj hjl
  | case3 f i hi hp ih =>
    intro j hj hjl
    have hr := (Bool.not_eq_true _).mp hp
    simp only [pairLoop, hi, hw i (Nat.le_refl _), hr, if_true, if_false, Bool.false_eq_true]
    rcases List.mem_cons.mp hj with rfl | hj
    · refine ⟨fun _ => ?_, fun h => absurd h hp⟩
      rw [pairLoop_untouched pick isPair cj re nev dflt (Or.inl (Nat.lt_succ_self _)), getD_set_self (hl ▸ hjl)]
      rfl
    · exact ih _ (by rw [List.length_set]; exact hl)
        (fun j' hj' => by rw [getD_set_ne (by omega)]; exact hw j' (by omega)) j hj hjl
  | case4 f i h => intro j hj; cases hj

/-! ## (1b) under P1 (`NBlocks`): the only slots overwritten with a conjugate HELD the conjugate of the slot before -/

/-- classification: under `NBlocks` every slot `i ≤ j < nev` is either visited, or the partner `j' + 1` of a visited pair start `j'`
    whose transformed value is the exact conjugate of the pair start's -/
theorem NBlocks_classify (v : List ρ) {i : Nat} (hb : NBlocks isPair cj (fun j => v.getD j dflt) nev i) :
    ∀ fuel, nev - i ≤ fuel → ∀ j, i ≤ j → j < nev →
      j ∈ pairVisits isPair nev dflt v fuel i ∨
      ∃ j', j = j' + 1 ∧ j' ∈ pairVisits isPair nev dflt v fuel i ∧ isPair (v.getD j' dflt) = true ∧
        v.getD (j' + 1) dflt = cj (v.getD j' dflt) := by
  induction hb with
  | done h => intro fuel _ j h1 h2; omega
  | @real i h hr _ ih =>
    intro fuel hf j h1 h2
    obtain ⟨f, rfl, hf'⟩ := fuel_succ h hf
    rw [pairVisits, if_pos h, if_neg (by rw [hr]; exact Bool.false_ne_true)]
    rcases Nat.eq_or_lt_of_le h1 with rfl | h1
    · exact Or.inl List.mem_cons_self
    · exact (ih f hf' j h1 h2).imp (List.mem_cons_of_mem _) fun ⟨j', e, h4, h56⟩ => ⟨j', e, List.mem_cons_of_mem _ h4, h56⟩
  | @pair i h hp hc _ ih =>
    intro fuel hf j h1 h2
    obtain ⟨f, rfl, hf'⟩ := fuel_succ h hf
    rw [pairVisits, if_pos h, if_pos hp]
    rcases Nat.eq_or_lt_of_le h1 with rfl | h1
    · exact Or.inl List.mem_cons_self
    · rcases Nat.eq_or_lt_of_le h1 with rfl | h1
      · exact Or.inr ⟨i, rfl, List.mem_cons_self, hp, hc⟩
      · exact (ih f (Nat.le_trans (Nat.sub_le_sub_left (Nat.le_succ _) _) hf') j h1 h2).imp (List.mem_cons_of_mem _)
          fun ⟨j', e, h4, h56⟩ => ⟨j', e, List.mem_cons_of_mem _ h4, h56⟩

/-- (1b) under P1 every slot `j < nev` is visited — and then holds what the loop stores at a visited slot — or is the partner `j' + 1`
    of a visited pair start `j'`: it HELD the exact conjugate of `v[j']` and holds the conjugate of slot `j'`'s eigenvalue -/
theorem pairLoop_slot (v : List ρ) (fuel : Nat) (hb : NBlocks isPair cj (fun j => v.getD j dflt) nev 0)
    (hlen : nev ≤ v.length) (hf : nev ≤ fuel) {j : Nat} (hj : j < nev) :
    (j ∈ pairVisits isPair nev dflt v fuel 0 ∧
      (isPair (v.getD j dflt) = false → (pairLoop pick isPair cj re nev dflt fuel 0 v).getD j dflt = re (own pick dflt v j)) ∧
      (isPair (v.getD j dflt) = true → (pairLoop pick isPair cj re nev dflt fuel 0 v).getD j dflt = own pick dflt v j)) ∨
    ∃ j', j = j' + 1 ∧ j' ∈ pairVisits isPair nev dflt v fuel 0 ∧ isPair (v.getD j' dflt) = true ∧
      v.getD (j' + 1) dflt = cj (v.getD j' dflt) ∧
      (pairLoop pick isPair cj re nev dflt fuel 0 v).getD (j' + 1) dflt = cj (own pick dflt v j') := by
  -- the call made by `csBack`: `i = 0`, current list = original list
  have vis := pairLoop_visited_gen pick isPair cj re nev dflt v fuel 0 v rfl (fun _ _ => rfl)
  rcases NBlocks_classify isPair cj nev dflt v hb fuel hf j (Nat.zero_le _) hj with h | ⟨j', rfl, h1, h2, h3⟩
  · have hv := vis j h (Nat.lt_of_lt_of_le hj hlen)
    exact Or.inl ⟨h, hv.1, fun hp => (hv.2 hp).1⟩
  · exact Or.inr ⟨j', rfl, h1, h2, h3, ((vis j' h1 (by omega)).2 h2).2 (Nat.lt_of_lt_of_le hj hlen)⟩

/-- the two cases of `pairLoop_slot` exclude one another (unconditionally): a slot is not both visited and the partner of a
    visited pair start -/
theorem pairLoop_cases_exclusive (v : List ρ) (fuel j : Nat) (hj : j ∈ pairVisits isPair nev dflt v fuel 0) :
    ¬ (0 < j ∧ j - 1 ∈ pairVisits isPair nev dflt v fuel 0 ∧ isPair (v.getD (j - 1) dflt) = true) := by
  rintro ⟨h0, h1, h2⟩
  have := pairVisits_skip isPair nev dflt v fuel 0 (j - 1) h1 h2
  rw [Nat.sub_add_cancel h0] at this
  exact this hj

/-- under P1 and equivariance of the root selection under conjugation (`hE`), every slot
    `j < nev` ends with ITS OWN eigenvalue, or (visited real slots) with its real projection -/
theorem pairLoop_slots_own' (v : List ρ) (fuel : Nat) (hb : NBlocks isPair cj (fun j => v.getD j dflt) nev 0)
    (hE : ∀ i, i < nev → isPair (v.getD i dflt) = true → pick (i + 1) (cj (v.getD i dflt)) = cj (pick i (v.getD i dflt)))
    (hlen : nev ≤ v.length) (hf : nev ≤ fuel) :
    ∀ j, j < nev →
      (pairLoop pick isPair cj re nev dflt fuel 0 v).getD j dflt = own pick dflt v j ∨
      (isPair (v.getD j dflt) = false ∧
        (pairLoop pick isPair cj re nev dflt fuel 0 v).getD j dflt = re (own pick dflt v j)) := by
  intro j hj
  rcases pairLoop_slot pick isPair cj re nev dflt v fuel hb hlen hf hj with ⟨_, hr, hp⟩ | ⟨j', rfl, h1, h2, h3, h4⟩
  · cases hc : isPair (v.getD j dflt)
    · exact Or.inr ⟨rfl, hr hc⟩
    · exact Or.inl (hp hc)
  · -- the stored conjugate is the partner slot's own eigenvalue, by `hE`
    rw [h4, own, own, h3]
    exact Or.inl (hE j' (pairVisits_mem_bounds isPair nev dflt v fuel 0 j' h1).2 h2).symm

end Pair

/-! # PART 2: the single/double-shift loop of `GenEigsBase::restart` -/

section Shift
open Gen.Restart
variable {α : Type} [Add α] [Sub α] [Mul α] [Div α] [Neg α] [Sc α]

/-- the Ritz-value slots whose shift one pass applies -/
def applied (p : Nat × Bool) : List Nat := if p.2 then [p.1, p.1 + 1] else [p.1]

/-- degree of the filter polynomial applied by a pass list (`m_k` is decreased by this much in total) -/
def degree (passes : List (Nat × Bool)) : Nat := (passes.map (fun p => if p.2 then 2 else 1)).sum

/-- the branch condition of the loop body at index `i` (with the bounds guard `i + 1 < m_ncv` of the F9 repair) -/
def dbl (ritz : Int → α × α) (ncv i : Nat) : Bool :=
  is_complex (ritz (i : Int)) && decide (i + 1 < ncv) && is_conj (ritz (i : Int)) (ritz ((i : Int) + 1))

/-- the unwanted Ritz values in slots `i … ncv-1` are real values and ADJACENT conjugate pairs (as `is_complex`/`is_conj` see them),
    and no pair straddles `ncv` -/
inductive SBlocks (ritz : Int → α × α) (ncv : Nat) : Nat → Prop
  | done {i : Nat} (h : ncv ≤ i) : SBlocks ritz ncv i
  | real {i : Nat} (h : i < ncv) (hr : is_complex (ritz (i : Int)) = false) (rest : SBlocks ritz ncv (i + 1)) : SBlocks ritz ncv i
  | pair {i : Nat} (h : i + 1 < ncv) (hc : is_complex (ritz (i : Int)) = true)
      (hj : is_conj (ritz (i : Int)) (ritz ((i : Int) + 1)) = true) (rest : SBlocks ritz ncv (i + 2)) : SBlocks ritz ncv i

variable (ritz : Int → α × α) (ncv : Nat)

theorem shiftPasses_ge (fuel : Nat) {i : Nat} (h : ncv ≤ i) : shiftPasses ritz ncv fuel i = [] := by
  cases fuel <;> simp [shiftPasses, Nat.not_lt.mpr h]

/-- unconditional: a pass `(i, b)` of the list lies in `k ≤ i < ncv` and `b` is the value of the branch condition at `i` -/
theorem shiftPasses_mem (fuel k i : Nat) (b : Bool) (h : (i, b) ∈ shiftPasses ritz ncv fuel k) :
    k ≤ i ∧ i < ncv ∧ b = dbl ritz ncv i := by
  fun_induction shiftPasses ritz ncv fuel k with
  | case1 k => cases h
  | case2 f k hk hd ih =>
    rcases List.mem_cons.mp h with h | h
    · cases h; exact ⟨Nat.le_refl _, hk, hd.symm⟩
    · exact ⟨Nat.le_of_succ_le (Nat.le_of_succ_le (ih h).1), (ih h).2⟩
  | case3 f k hk hd ih =>
    rcases List.mem_cons.mp h with h | h
    · cases h; exact ⟨Nat.le_refl _, hk, ((Bool.not_eq_true _).mp hd).symm⟩
    · exact ⟨Nat.le_of_succ_le (ih h).1, (ih h).2⟩
  | case4 f k hk => cases h

/-! ## (2b) unconditional facts (no `SBlocks`) -/

/-- every double pass sits on a value that `is_complex`/`is_conj` accept as a conjugate pair with its right neighbour -/
theorem shiftPasses_double_is_conj (fuel k i : Nat) (h : (i, true) ∈ shiftPasses ritz ncv fuel k) :
    is_complex (ritz (i : Int)) = true ∧ is_conj (ritz (i : Int)) (ritz ((i : Int) + 1)) = true := by
  obtain ⟨_, _, h3⟩ := shiftPasses_mem ritz ncv fuel k i true h
  have := h3.symm
  simp only [dbl, Bool.and_eq_true] at this
  exact ⟨this.1.1, this.2⟩

/-- … and the right neighbour is inside the array: no double pass straddles `ncv` -/
theorem shiftPasses_double_lt (fuel k i : Nat) (h : (i, true) ∈ shiftPasses ritz ncv fuel k) : i + 1 < ncv := by
  obtain ⟨_, _, h3⟩ := shiftPasses_mem ritz ncv fuel k i true h
  have := h3.symm
  simp only [dbl, Bool.and_eq_true, decide_eq_true_eq] at this
  exact this.1.2

/-- memory safety of the repaired loop, no hypothesis at all: every index of `m_ritz_val` that a pass evaluates is `< ncv` -/
theorem shiftPasses_reads_in_range (fuel k : Nat) :
    ∀ p ∈ shiftPasses ritz ncv fuel k, ∀ j ∈ passReads ritz ncv p, j < ncv := by
  rintro ⟨i, b⟩ hp j hj
  obtain ⟨_, hi, _⟩ := shiftPasses_mem ritz ncv fuel k i b hp
  unfold passReads at hj
  split at hj
  · rename_i hc
    simp only [Bool.and_eq_true, decide_eq_true_eq] at hc
    simp only [List.mem_cons, List.not_mem_nil, or_false] at hj
    rcases hj with rfl | rfl
    · exact hi
    · exact hc.2
  · simp only [List.mem_cons, List.not_mem_nil, or_false] at hj
    subst hj; exact hi

theorem degree_eq_length (L : List (Nat × Bool)) : degree L = (L.flatMap applied).length := by
  induction L with
  | nil => rfl
  | cons p L ih =>
    obtain ⟨i, b⟩ := p
    rw [List.flatMap_cons, List.length_append, ← ih]
    cases b <;> rfl

/-- unconditional: the applied slots are exactly `k, …, ncv-1`, each once and in order (a double pass needs `i + 1 < ncv`, so the
    passes cannot overshoot: `m_k` always ends at `k`) -/
theorem shiftPasses_contiguous (fuel k : Nat) (hf : ncv - k ≤ fuel) :
    (shiftPasses ritz ncv fuel k).flatMap applied = List.range' k (ncv - k) := by
  fun_induction shiftPasses ritz ncv fuel k with
  | case1 k => rw [Nat.le_zero.mp hf]; rfl
  | case2 f k hk hd ih =>
    have hk1 : k + 1 < ncv := by
      simp only [Bool.and_eq_true, decide_eq_true_eq] at hd; exact hd.1.2
    rw [sub_eq_succ hk, sub_eq_succ hk1] at hf ⊢
    rw [List.flatMap_cons, ih (Nat.le_of_succ_le (Nat.le_of_succ_le_succ hf))]
    rfl
  | case3 f k hk hd ih =>
    rw [sub_eq_succ hk] at hf ⊢
    rw [List.flatMap_cons, ih (Nat.le_of_succ_le_succ hf)]
    rfl
  | case4 f k hk => rw [Nat.sub_eq_zero_of_le (Nat.le_of_not_lt hk)]; rfl

theorem shiftPasses_degree (fuel k : Nat) (hf : ncv - k ≤ fuel) : degree (shiftPasses ritz ncv fuel k) = ncv - k := by
  rw [degree_eq_length, shiftPasses_contiguous ritz ncv fuel k hf, List.length_range']

/-- unconditional: the applied slots form a strictly increasing list of indices `≥ k`, starting at `k` when `k < ncv` -/
theorem shiftPasses_applied_increasing (fuel k : Nat) (hf : ncv - k ≤ fuel) :
    ((shiftPasses ritz ncv fuel k).flatMap applied).Pairwise (· < ·) ∧
    (∀ x ∈ (shiftPasses ritz ncv fuel k).flatMap applied, k ≤ x) ∧
    (k < ncv → ((shiftPasses ritz ncv fuel k).flatMap applied).head? = some k) := by
  rw [shiftPasses_contiguous ritz ncv fuel k hf]
  refine ⟨List.pairwise_lt_range' 1, fun x hx => (List.mem_range'_1.mp hx).1, fun hk => ?_⟩
  rw [sub_eq_succ hk]
  rfl

/-! ## (2a) the schedule under `SBlocks` -/

/-- under `SBlocks` every single pass sits on a real value: a pair block is consumed whole by one double pass -/
theorem shiftPasses_single_real {k : Nat} (hb : SBlocks ritz ncv k) : ∀ fuel, ncv - k ≤ fuel →
    ∀ i, (i, false) ∈ shiftPasses ritz ncv fuel k → is_complex (ritz (i : Int)) = false := by
  induction hb with
  | done h => intro fuel _ i hi; rw [shiftPasses_ge ritz ncv fuel h] at hi; cases hi
  | @real k h hr _ ih =>
    intro fuel hf i hi
    obtain ⟨f, rfl, hf'⟩ := fuel_succ h hf
    rw [shiftPasses, if_pos h, if_neg (by rw [hr]; exact Bool.false_ne_true), List.mem_cons] at hi
    rcases hi with hi | hi
    · cases hi; exact hr
    · exact ih f hf' i hi
  | @pair k h hc hj _ ih =>
    intro fuel hf i hi
    obtain ⟨f, rfl, hf'⟩ := fuel_succ (Nat.lt_of_succ_lt h) hf
    rw [shiftPasses, if_pos (Nat.lt_of_succ_lt h), if_pos (by rw [hc, hj, decide_eq_true h]; rfl), List.mem_cons] at hi
    rcases hi with hi | hi
    · cases hi
    · exact ih f (Nat.le_trans (Nat.sub_le_sub_left (Nat.le_succ _) _) hf') i hi

end Shift

/-! ## (2c) exact arithmetic: the double shift is the real quadratic `(x - μ)(x - conj μ)` -/

section Field
open Gen.Restart
variable {K : Type} [Field K] [LinearOrder K] [IsStrictOrderedRing K] (F : FieldFns K)

theorem is_conj_field (μ ν : K × K) : @is_conj K _ _ _ _ _ (scOfField F) μ ν = true ↔ ν = (μ.1, -μ.2) := by
  obtain ⟨a, b⟩ := μ; obtain ⟨c, d⟩ := ν
  simp only [is_conj, Sc.ceq, Sc.conj, ScF.eq, Bool.and_eq_true, decide_eq_true_eq, Prod.mk.injEq]
  constructor
  · rintro ⟨rfl, rfl⟩; simp
  · rintro ⟨rfl, rfl⟩; simp

theorem is_complex_field (μ : K × K) : @is_complex K _ _ _ _ _ (scOfField F) μ = true ↔ μ.2 ≠ 0 := by
  simp [is_complex]

/-- the C++ parameters `s = Scalar(2) * real(μ)`, `t = norm(μ)` of `DoubleShiftQR::compute` (as in `GenSolver.shiftStep`) give
    `x² - s x + t = (x - Re μ)² + (Im μ)²` -/
theorem double_shift_poly (μ : K × K) (x : K) :
    x * x - (@GenSolver.two K (scOfField F) * μ.1) * x + Sc.cnorm μ = (x - μ.1) ^ 2 + μ.2 ^ 2 := by
  simp only [GenSolver.two, ScF.ofInt, Sc.cnorm]
  push_cast
  ring

/-- … which is the product `(x - μ)(x - conj μ)` of complex numbers (`GenSolver.cmul` = `__muldc3`), with zero imaginary part -/
theorem double_shift_factor (μ : K × K) (x : K) :
    GenSolver.cmul (x - μ.1, -μ.2) (x - μ.1, - -μ.2) =
      (x * x - (@GenSolver.two K (scOfField F) * μ.1) * x + Sc.cnorm μ, 0) := by
  simp only [GenSolver.cmul, GenSolver.two, ScF.ofInt, Sc.cnorm, Prod.mk.injEq]
  push_cast
  constructor <;> ring

end Field

/-! ## examples and counter-models -/

section Examples
open Gen.Restart

/-- any `FieldFns` will do: `sqrt`, `pow`, `eps`, `minPos` are not used by the two loops -/
def F0 : FieldFns ℚ := ⟨fun x => x, fun x _ => x, 0, 0⟩

/-- list as `Int`-indexed function, zero outside (as `GenSolver.clistFn`) -/
def ofList (l : List (ℚ × ℚ)) : Int → ℚ × ℚ := fun i => if i < 0 then (0, 0) else l.getD i.toNat (0, 0)

/-- (2c) `SBlocks` is satisfiable: one real value and one conjugate pair, `ncv = 3`, `k = 0` -/
example : @SBlocks ℚ _ _ _ _ _ (scOfField F0) (ofList [(3, 0), (1, 2), (1, -2)]) 3 0 :=
  @SBlocks.real ℚ _ _ _ _ _ (scOfField F0) _ _ _ (by omega) (by decide)
    (@SBlocks.pair ℚ _ _ _ _ _ (scOfField F0) _ _ _ (by omega) (by decide) (by decide)
      (@SBlocks.done ℚ _ _ _ _ _ (scOfField F0) _ _ _ (by omega)))

example : @shiftPasses ℚ _ _ _ _ _ (scOfField F0) (ofList [(3, 0), (1, 2), (1, -2)]) 3 3 0 = [(0, false), (1, true)] := by
  decide

/-- (2d) what still fails without P1 (conjugates NOT adjacent), after the bounds repair of F9: four SINGLE passes although all four
    values are complex: every unwanted complex value is applied as the REAL shift `Re μ`, i.e. not as its own value. -/
example :
    @shiftPasses ℚ _ _ _ _ _ (scOfField F0) (ofList [(1, 2), (2, 1), (1, -2), (2, -1)]) 4 4 0 =
      [(0, false), (1, false), (2, false), (3, false)] ∧
    (∀ i : Nat, i < 4 →
      @is_complex ℚ _ _ _ _ _ (scOfField F0) (ofList [(1, 2), (2, 1), (1, -2), (2, -1)] (i : Int)) = true) ∧
    ¬ @SBlocks ℚ _ _ _ _ _ (scOfField F0) (ofList [(1, 2), (2, 1), (1, -2), (2, -1)]) 4 0 := by
  refine ⟨by decide, by decide, ?_⟩
  intro h
  cases h with
  | done h => omega
  | real _ hr _ => exact absurd hr (by decide)
  | pair _ _ hj _ => exact absurd hj (by decide)

/-- the last pass reads slot 3 only (the guard `i + 1 < ncv` stops the evaluation of `m_ritz_val[4]`) -/
example : @passReads ℚ _ _ _ _ _ (scOfField F0) (ofList [(1, 2), (2, 1), (1, -2), (2, -1)]) 4 (3, false) = [3] ∧
    @passReads ℚ _ _ _ _ _ (scOfField F0) (ofList [(1, 2), (2, 1), (1, -2), (2, -1)]) 4 (2, false) = [2, 3] := by
  refine ⟨by decide, by decide⟩

/-! ### (1c) the pair loop at `ρ := Int × Int` -/

def zPair (z : Int × Int) : Bool := z.2 ≠ 0
def zCj (z : Int × Int) : Int × Int := (z.1, -z.2)
def zRe (z : Int × Int) : Int × Int := (z.1, 0)

/-- `NBlocks` is satisfiable: a real value followed by an adjacent conjugate pair; the loop then leaves the list as it is -/
example : NBlocks zPair zCj (fun j => ([(3, 0), (1, 2), (1, -2)] : List (Int × Int)).getD j (0, 0)) 3 0 :=
  .real (by omega) (by decide) (.pair (by omega) (by decide) (by decide) (.done (by omega)))

example : pairLoop (fun _ z => z) zPair zCj zRe 3 (0, 0) 3 0 [(3, 0), (1, 2), (1, -2)] = [(3, 0), (1, 2), (1, -2)] := by decide

/-- root selection whose root for the REAL transformed value of slot 0 carries a non-zero imaginary part (rounding) -/
def pickP2 (i : Nat) (z : Int × Int) : Int × Int := if i = 0 then (2, -1) else if i = 1 then (5, 0) else z

/-- the situation of finding F14 (real transformed value, complex selected root): the pair test looks at the real transformed
    value `(1, 0)`, so slot 0 gets the real part of its root and slot 1 KEEPS its own eigenvalue `5`; `NBlocks` holds. -/
example :
    pairLoop pickP2 zPair zCj zRe 2 (0, 0) 2 0 [(1, 0), (3, 0), (0, 0)] = [(2, 0), (5, 0), (0, 0)] ∧
    own pickP2 (0, 0) [(1, 0), (3, 0), (0, 0)] 1 = (5, 0) ∧
    NBlocks zPair zCj (fun j => ([(1, 0), (3, 0), (0, 0)] : List (Int × Int)).getD j (0, 0)) 2 0 :=
  ⟨by decide, by decide, .real (by omega) (by decide) (.real (by omega) (by decide) (.done (by omega)))⟩

/-- WITHOUT P1 (a tie of the sort key separates the conjugates): the eigenvalues `2 ± i` are lost, `1 ± 2i` appear twice -/
example :
    pairLoop (fun _ z => z) zPair zCj zRe 4 (0, 0) 4 0 [(1, 2), (2, 1), (1, -2), (2, -1), (0, 0)] =
      [(1, 2), (1, -2), (1, -2), (1, 2), (0, 0)] ∧
    ((2, 1) : Int × Int) ∉ pairLoop (fun _ z => z) zPair zCj zRe 4 (0, 0) 4 0 [(1, 2), (2, 1), (1, -2), (2, -1), (0, 0)] ∧
    ((2, -1) : Int × Int) ∉ pairLoop (fun _ z => z) zPair zCj zRe 4 (0, 0) 4 0 [(1, 2), (2, 1), (1, -2), (2, -1), (0, 0)] ∧
    pairVisits zPair 4 (0, 0) [(1, 2), (2, 1), (1, -2), (2, -1), (0, 0)] 4 0 = [0, 2] ∧
    ¬ NBlocks zPair zCj (fun j => ([(1, 2), (2, 1), (1, -2), (2, -1), (0, 0)] : List (Int × Int)).getD j (0, 0)) 4 0 := by
  refine ⟨by decide, by decide, by decide, by decide, ?_⟩
  intro h
  cases h with
  | done h => omega
  | real _ hr _ => exact absurd hr (by decide)
  | pair _ _ hc _ => exact absurd hc (by decide)

end Examples

end C02L
