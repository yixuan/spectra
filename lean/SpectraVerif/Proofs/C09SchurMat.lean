/-
  C09, whole-run similarity of UpperHessenbergSchur: matrix-level algebra.
  * the 3x3 reflector `P = I − τ v vᵀ` in rows/columns `k, k+1, k+2` as an `n × n` Mathlib matrix (`Pm`), the bridge from the
    entrywise formulas `mulP / mulPt / conjP` to matrix products, orthogonality of `Pm` (ideal reflector) and of the rotation `Gm`;
  * window operations (`Win`: a map on vectors that touches the coordinates `k ≤ a < k + w` only; `WinQ`: one that is an orthogonal
    matrix), with the reflector and the rotation as instances;
  * the shift matrix `Sm m ex = ex · diag(1 on rows < m)` and its commutation with window operations acting inside `[0, m)` or
    outside it;
  * the error-budget predicate `Bnd E b` (`|xᵀ E y| ≤ b` for all `x, y` of Euclidean norm `≤ 1`): it is invariant under orthogonal
    conjugation, grows by `|d|` when a single entry `d` is added, and bounds every entry of `E`.
-/
import Mathlib.LinearAlgebra.Matrix.NonsingularInverse
import SpectraVerif.Proofs.C09SimBand

set_option linter.unusedSectionVars false

namespace C09SS
open C09Step C09Sim C09OrthU Finset
open scoped Matrix

section ring
variable {R : Type} [CommRing R]

/-- `P M` on the rows `k, k+1, k+2` (all columns), `P = I − τ v vᵀ`, `v = (1, v1, v2)` -/
def mulPt (M : ℕ → ℕ → R) (k : ℕ) (v1 v2 tau : R) : ℕ → ℕ → R := fun i j =>
  if i = k then M k j - tau * (M k j + v1 * M (k + 1) j + v2 * M (k + 2) j)
  else if i = k + 1 then M (k + 1) j - tau * (M k j + v1 * M (k + 1) j + v2 * M (k + 2) j) * v1
  else if i = k + 2 then M (k + 2) j - tau * (M k j + v1 * M (k + 1) j + v2 * M (k + 2) j) * v2
  else M i j

/-- `P M P` -/
def conjP (M : ℕ → ℕ → R) (k : ℕ) (v1 v2 tau : R) : ℕ → ℕ → R := mulPt (mulP M k v1 v2 tau) k v1 v2 tau

def delta : ℕ → ℕ → R := fun i j => if i = j then 1 else 0

/-- the reflector as an `n × n` matrix -/
def Pm (n k : ℕ) (v1 v2 tau : R) : Matrix (Fin n) (Fin n) R := mat n (mulP delta k v1 v2 tau)

/-- the vector `v = e_k + v1 e_{k+1} + v2 e_{k+2}` -/
def wv (k : ℕ) (v1 v2 : R) (i : ℕ) : R := if i = k then 1 else if i = k + 1 then v1 else if i = k + 2 then v2 else 0

theorem wv_eq (k : ℕ) (v1 v2 : R) (a : ℕ) : wv k v1 v2 a = delta a k + v1 * delta a (k + 1) + v2 * delta a (k + 2) := by
  simp only [wv, delta]
  by_cases h0 : a = k
  · rw [if_pos h0, if_pos h0, if_neg (by omega), if_neg (by omega)]; ring
  · rw [if_neg h0, if_neg h0]
    by_cases h1 : a = k + 1
    · rw [if_pos h1, if_pos h1, if_neg (by omega)]; ring
    · rw [if_neg h1, if_neg h1]
      by_cases h2 : a = k + 2
      · rw [if_pos h2, if_pos h2]; ring
      · rw [if_neg h2, if_neg h2]; ring

/-- `M P = M − τ (M v) vᵀ`, entrywise -/
theorem mulP_wv (M : ℕ → ℕ → R) (k : ℕ) (v1 v2 tau : R) (i j : ℕ) :
    mulP M k v1 v2 tau i j = M i j - tau * (M i k + v1 * M i (k + 1) + v2 * M i (k + 2)) * wv k v1 v2 j :=
  mulP_eq M k v1 v2 tau i j

theorem mulP_delta (k : ℕ) (v1 v2 tau : R) (i j : ℕ) :
    mulP delta k v1 v2 tau i j = delta i j - tau * wv k v1 v2 i * wv k v1 v2 j := by
  rw [mulP_wv, ← wv_eq k v1 v2 i]

theorem Pm_symm (n k : ℕ) (v1 v2 tau : R) : (Pm n k v1 v2 tau)ᵀ = Pm n k v1 v2 tau := by
  ext i j
  simp only [Pm, mat, Matrix.transpose_apply, Matrix.of_apply, mulP_delta, delta]
  by_cases h : i.val = j.val
  · rw [if_pos h, if_pos h.symm]; ring
  · rw [if_neg h, if_neg (fun hh => h hh.symm)]; ring

theorem sum_delta' (n k : ℕ) (hk : k < n) (f : ℕ → R) : ∑ a ∈ range n, f a * delta a k = f k := by
  simp only [delta]; exact sum_delta n k hk f

theorem sum_wv (n k : ℕ) (hk : k + 2 < n) (f : ℕ → R) (v1 v2 : R) :
    ∑ a ∈ range n, f a * wv k v1 v2 a = f k + v1 * f (k + 1) + v2 * f (k + 2) := by
  rw [Finset.sum_congr rfl (fun a _ => show f a * wv k v1 v2 a = f a * delta a k + v1 * (f a * delta a (k + 1)) + v2 * (f a * delta a (k + 2)) by
      rw [wv_eq]; ring),
    Finset.sum_add_distrib, Finset.sum_add_distrib, ← Finset.mul_sum, ← Finset.mul_sum, sum_delta' n k (by omega), sum_delta' n (k + 1) (by omega),
    sum_delta' n (k + 2) hk]

theorem mat_mulP (n k : ℕ) (hk : k + 2 < n) (M : ℕ → ℕ → R) (v1 v2 tau : R) :
    mat n (mulP M k v1 v2 tau) = mat n M * Pm n k v1 v2 tau := by
  ext i j
  simp only [mat, Pm, Matrix.mul_apply, Matrix.of_apply]
  rw [Fin.sum_univ_eq_sum_range (fun a => M i.val a * mulP delta k v1 v2 tau a j.val) n,
    Finset.sum_congr rfl (fun a _ => show M i.val a * mulP delta k v1 v2 tau a j.val =
      M i.val a * delta a j.val - tau * wv k v1 v2 j.val * (M i.val a * wv k v1 v2 a) by rw [mulP_delta]; ring),
    Finset.sum_sub_distrib, ← Finset.mul_sum, sum_delta' n j.val j.isLt, sum_wv n k hk, mulP_wv]
  ring

theorem mat_mulPt (n k : ℕ) (hk : k + 2 < n) (M : ℕ → ℕ → R) (v1 v2 tau : R) :
    mat n (mulPt M k v1 v2 tau) = Pm n k v1 v2 tau * mat n M := by
  have e : mat n (mulPt M k v1 v2 tau) = (mat n (mulP (fun i j => M j i) k v1 v2 tau))ᵀ := by
    ext i j; simp only [mat, Matrix.transpose_apply, Matrix.of_apply, mulPt, mulP]
  rw [e, mat_mulP n k hk, Matrix.transpose_mul, Pm_symm, ← mat_transpose]
  rfl

/-- `P M P` entrywise is the matrix product -/
theorem mat_conjP (n k : ℕ) (hk : k + 2 < n) (M : ℕ → ℕ → R) (v1 v2 tau : R) :
    mat n (conjP M k v1 v2 tau) = Pm n k v1 v2 tau * mat n M * Pm n k v1 v2 tau := by
  simp only [conjP]; rw [mat_mulPt n k hk, mat_mulP n k hk, Matrix.mul_assoc]

/-- the reflector is `1 − τ w wᵀ` -/
theorem Pm_eq (n k : ℕ) (v1 v2 tau : R) :
    Pm n k v1 v2 tau = 1 - tau • Matrix.vecMulVec (fun i : Fin n => wv k v1 v2 i.val) (fun i : Fin n => wv k v1 v2 i.val) := by
  ext i j
  simp only [Pm, mat, Matrix.of_apply, mulP_delta, delta, Matrix.sub_apply, Matrix.one_apply, Matrix.smul_apply,
    Matrix.vecMulVec_apply, smul_eq_mul, Fin.ext_iff, mul_assoc]

/-- an ideal reflector (`τ (τ wᵀw − 2) = 0`) is an involution -/
theorem Pm_sq (n k : ℕ) (hk : k + 2 < n) (v1 v2 tau : R) (ht : tau * (tau * (1 + v1 * v1 + v2 * v2) - 2) = 0) :
    Pm n k v1 v2 tau * Pm n k v1 v2 tau = 1 := by
  have hww : (fun i : Fin n => wv k v1 v2 i.val) ⬝ᵥ (fun i : Fin n => wv k v1 v2 i.val) = 1 + v1 * v1 + v2 * v2 := by
    rw [dotProduct, Fin.sum_univ_eq_sum_range (fun i => wv k v1 v2 i * wv k v1 v2 i) n, sum_wv n k hk]
    simp [wv]
  rw [Pm_eq]
  generalize (fun i : Fin n => wv k v1 v2 i.val) = w at hww
  have hVV : Matrix.vecMulVec w w * Matrix.vecMulVec w w = (1 + v1 * v1 + v2 * v2) • Matrix.vecMulVec w w := by
    rw [Matrix.vecMulVec_mul_vecMulVec, Matrix.vecMulVec_smul, hww]
  have key : tau • Matrix.vecMulVec w w + tau • Matrix.vecMulVec w w
      - (tau * tau * (1 + v1 * v1 + v2 * v2)) • Matrix.vecMulVec w w = 0 := by
    rw [← add_smul, ← sub_smul, show tau + tau - tau * tau * (1 + v1 * v1 + v2 * v2) =
      -(tau * (tau * (1 + v1 * v1 + v2 * v2) - 2)) by ring, ht, neg_zero, zero_smul]
  rw [sub_mul, mul_sub, mul_sub, Matrix.one_mul, Matrix.mul_one, Matrix.one_mul, Matrix.smul_mul, Matrix.mul_smul, hVV, smul_smul,
    smul_smul, sub_sub, ← add_sub_assoc, key, sub_zero]

/-- an ideal reflector is orthogonal -/
theorem Pm_orth (n k : ℕ) (hk : k + 2 < n) (v1 v2 tau : R) (ht : tau * (tau * (1 + v1 * v1 + v2 * v2) - 2) = 0) :
    (Pm n k v1 v2 tau)ᵀ * Pm n k v1 v2 tau = 1 := by
  rw [Pm_symm]; exact Pm_sq n k hk v1 v2 tau ht

/-- the shift matrix `ex · diag(1 on rows < m)` -/
def Sm (n m : ℕ) (ex : R) : Matrix (Fin n) (Fin n) R := Matrix.diagonal (fun i : Fin n => if i.val < m then ex else 0)

theorem comm_diag (n : ℕ) (A : Matrix (Fin n) (Fin n) R) (d : Fin n → R) (h : ∀ i j, A i j * d j = d i * A i j) :
    A * Matrix.diagonal d = Matrix.diagonal d * A := by
  ext i j
  rw [Matrix.mul_diagonal, Matrix.diagonal_mul]; exact h i j

theorem wv_zero (k : ℕ) (v1 v2 : R) (i : ℕ) (h : i < k ∨ k + 2 < i) : wv k v1 v2 i = 0 := by
  simp only [wv]
  rw [if_neg (by omega), if_neg (by omega), if_neg (by omega)]

/-- `P M = M − τ v (vᵀ M)`, entrywise -/
theorem mulPt_wv (M : ℕ → ℕ → R) (k : ℕ) (v1 v2 tau : R) (i j : ℕ) :
    mulPt M k v1 v2 tau i j = M i j - tau * (M k j + v1 * M (k + 1) j + v2 * M (k + 2) j) * wv k v1 v2 i :=
  mulP_wv (fun a b => M b a) k v1 v2 tau j i

/-! ### window operations
  Reflector and rotation are two instances of one notion: a map `op` on vectors that reads and writes only the coordinates
  `k ≤ a < k + w`.  `rmul op M` applies it to every row (`M Q`), `lmul op M` to every column (`Qᵀ M`). -/

def rmul (op : (ℕ → R) → ℕ → R) (M : ℕ → ℕ → R) : ℕ → ℕ → R := fun i j => op (M i) j
def lmul (op : (ℕ → R) → ℕ → R) (M : ℕ → ℕ → R) : ℕ → ℕ → R := fun i j => op (fun a => M a j) i

/-- `op` reads and writes the coordinates `k ≤ a < k + w` only, and fixes a vector that vanishes there -/
structure Win (k w : ℕ) (op : (ℕ → R) → ℕ → R) : Prop where
  out : ∀ x j, j < k ∨ k + w ≤ j → op x j = x j
  congr : ∀ x y j, (∀ a, k ≤ a → a < k + w → x a = y a) → x j = y j → op x j = op y j
  zero : ∀ x j, (∀ a, k ≤ a → a < k + w → x a = 0) → op x j = x j

/-- the reflector `x ↦ x − τ (vᵀ x) v`, `v = e_k + v1 e_{k+1} + v2 e_{k+2}` -/
def opP (k : ℕ) (v1 v2 tau : R) : (ℕ → R) → ℕ → R := fun x j => x j - tau * (x k + v1 * x (k + 1) + v2 * x (k + 2)) * wv k v1 v2 j
/-- the plane rotation in the coordinates `k, k + 1` -/
def opG (k : ℕ) (c s : R) : (ℕ → R) → ℕ → R := fun x j =>
  if j = k then c * x k - s * x (k + 1) else if j = k + 1 then s * x k + c * x (k + 1) else x j

theorem mulP_op (M : ℕ → ℕ → R) (k : ℕ) (v1 v2 tau : R) : mulP M k v1 v2 tau = rmul (opP k v1 v2 tau) M :=
  funext fun i => funext fun j => mulP_wv M k v1 v2 tau i j
theorem mulPt_op (M : ℕ → ℕ → R) (k : ℕ) (v1 v2 tau : R) : mulPt M k v1 v2 tau = lmul (opP k v1 v2 tau) M :=
  funext fun i => funext fun j => mulPt_wv M k v1 v2 tau i j
theorem mulG_op (M : ℕ → ℕ → R) (k : ℕ) (c s : R) : mulG M k c s = rmul (opG k c s) M := rfl
theorem mulGt_op (M : ℕ → ℕ → R) (k : ℕ) (c s : R) : mulGt M k c s = lmul (opG k c s) M := rfl

theorem winP (k : ℕ) (v1 v2 tau : R) : Win k 3 (opP k v1 v2 tau) where
  out x j h := by simp only [opP]; rw [wv_zero k v1 v2 j (by omega), mul_zero, sub_zero]
  congr x y j h e := by
    simp only [opP, h k (by omega) (by omega), h (k + 1) (by omega) (by omega), h (k + 2) (by omega) (by omega), e]
  zero x j h := by
    simp only [opP, h k (by omega) (by omega), h (k + 1) (by omega) (by omega), h (k + 2) (by omega) (by omega)]; ring

theorem winG (k : ℕ) (c s : R) : Win k 2 (opG k c s) where
  out x j h := by simp only [opG]; rw [if_neg (by omega), if_neg (by omega)]
  congr x y j h e := by simp only [opG, h k (by omega) (by omega), h (k + 1) (by omega) (by omega), e]
  zero x j h := by
    simp only [opG, h k (by omega) (by omega), h (k + 1) (by omega) (by omega), mul_zero, sub_zero, add_zero]
    split_ifs with h1 h2
    · rw [h1, h k (by omega) (by omega)]
    · rw [h2, h (k + 1) (by omega) (by omega)]
    · rfl

/-- a reflector with `τ = 0` and the rotation `c = 1`, `s = 0` are the identity (a skipped step) -/
theorem opP_tau0 (k : ℕ) (v1 v2 : R) : opP k v1 v2 0 = fun x => x := by
  funext x j; simp only [opP, zero_mul, sub_zero]
theorem opG_id (k : ℕ) : opG k (1 : R) 0 = fun x => x := by
  funext x j; simp only [opG, one_mul, zero_mul, sub_zero, zero_add]
  split_ifs with h1 h2
  · rw [h1]
  · rw [h2]
  · rfl

/-- the matrix of a window operation -/
def Qm (n : ℕ) (op : (ℕ → R) → ℕ → R) : Matrix (Fin n) (Fin n) R := mat n (rmul op delta)

/-- a window operation that acts on the first `n` coordinates as an orthogonal matrix -/
structure WinQ (n k w : ℕ) (op : (ℕ → R) → ℕ → R) : Prop extends Win k w op where
  rmat : ∀ M, mat n (rmul op M) = mat n M * Qm n op
  lmat : ∀ M, mat n (lmul op M) = (Qm n op)ᵀ * mat n M
  orth : (Qm n op)ᵀ * Qm n op = 1

/-- outside the window block the matrix of `op` is the identity -/
theorem Win.delta_out {k w : ℕ} {op : (ℕ → R) → ℕ → R} (W : Win k w op) (i j : ℕ)
    (h : (i < k ∨ k + w ≤ i) ∨ (j < k ∨ k + w ≤ j)) : rmul op delta i j = delta i j := by
  rcases h with h | h
  · by_cases hij : i = j
    · subst hij; exact W.out _ i h
    · exact W.zero _ j (fun a h1 h2 => if_neg (by omega))
  · exact W.out _ j h

/-- a window inside `[0, m)` or outside it: `Q` commutes with the shift matrix, since an entry that links the two sides of `m` is `0` -/
theorem Win.comm_Sm {k w : ℕ} {op : (ℕ → R) → ℕ → R} (W : Win k w op) (n m : ℕ) (hk : k + w ≤ m ∨ m ≤ k) (ex : R) :
    Qm n op * Sm n m ex = Sm n m ex * Qm n op := by
  apply comm_diag
  intro i j
  by_cases hd : i.val < m ↔ j.val < m
  · rw [if_congr hd rfl rfl]; exact mul_comm _ _
  · have h0 : Qm n op i j = 0 := by
      simp only [Qm, mat, Matrix.of_apply]
      rw [W.delta_out i.val j.val (by omega)]; exact if_neg (by omega)
    rw [h0, zero_mul, mul_zero]

theorem WinQ.conj_Sm {n k w : ℕ} {op : (ℕ → R) → ℕ → R} (W : WinQ n k w op) (m : ℕ) (hk : k + w ≤ m ∨ m ≤ k) (ex : R) :
    (Qm n op)ᵀ * Sm n m ex * Qm n op = Sm n m ex := by
  rw [Matrix.mul_assoc, ← W.toWin.comm_Sm n m hk, ← Matrix.mul_assoc, W.orth, Matrix.one_mul]

theorem winQ_P (n k : ℕ) (hk : k + 2 < n) (v1 v2 tau : R) (ht : tau * (tau * (1 + v1 * v1 + v2 * v2) - 2) = 0) :
    WinQ n k 3 (opP k v1 v2 tau) where
  toWin := winP k v1 v2 tau
  rmat M := by rw [← mulP_op, mat_mulP n k hk]; simp only [Qm, ← mulP_op]; rfl
  lmat M := by rw [← mulPt_op, mat_mulPt n k hk]; simp only [Qm, ← mulP_op]; rw [← Pm, Pm_symm]
  orth := by simp only [Qm, ← mulP_op]; exact Pm_orth n k hk v1 v2 tau ht

theorem winQ_G (n k : ℕ) (hk : k + 1 < n) (c s : R) (hcs : c * c + s * s = 1) : WinQ n k 2 (opG k c s) where
  toWin := winG k c s
  rmat M := mat_mulG n k hk M c s
  lmat M := mat_mulGt n k hk M c s
  orth := Gm_orth n k hk c s hcs

/-- single-entry matrix (function level) -/
def sgl (a c : ℕ) (d : R) : ℕ → ℕ → R := fun i j => if i = a ∧ j = c then d else 0

theorem mat_add (n : ℕ) (f g : ℕ → ℕ → R) : mat n (fun i j => f i j + g i j) = mat n f + mat n g := by
  ext i j; simp [mat]

theorem mat_sub (n : ℕ) (f g : ℕ → ℕ → R) : mat n (fun i j => f i j - g i j) = mat n f - mat n g := by
  ext i j; simp [mat]

theorem Sm_split1 (n m : ℕ) (ex : R) : Sm n (m + 1) ex = Sm n m ex + mat n (sgl m m ex) := by
  ext i j
  simp only [Sm, Matrix.diagonal_apply, Matrix.add_apply, mat, Matrix.of_apply, sgl, Fin.ext_iff]
  by_cases hij : i.val = j.val
  · rw [if_pos hij, if_pos hij]
    by_cases h1 : i.val < m
    · rw [if_pos h1, if_pos (by omega), if_neg (by omega)]; ring
    · by_cases h2 : i.val = m
      · rw [if_neg h1, if_pos (by omega), if_pos (by omega)]; ring
      · rw [if_neg h1, if_neg (by omega), if_neg (by omega)]; ring
  · rw [if_neg hij, if_neg hij, if_neg (by omega)]; ring

end ring

section field
variable {K : Type} [Field K] [LinearOrder K] [IsStrictOrderedRing K]

/-- **error budget**: `|xᵀ E y| ≤ b` for all `x, y` with `xᵀx ≤ 1`, `yᵀy ≤ 1` (the spectral norm of `E` is at most `b`) -/
def Bnd {n : ℕ} (E : Matrix (Fin n) (Fin n) K) (b : K) : Prop :=
  ∀ x y : Fin n → K, x ⬝ᵥ x ≤ 1 → y ⬝ᵥ y ≤ 1 → |x ⬝ᵥ (E *ᵥ y)| ≤ b

theorem bnd_zero (n : ℕ) : Bnd (0 : Matrix (Fin n) (Fin n) K) 0 := by
  intro x y _ _; rw [Matrix.zero_mulVec, dotProduct_zero, abs_zero]

theorem bnd_mono {n : ℕ} {E : Matrix (Fin n) (Fin n) K} {b b' : K} (h : Bnd E b) (hb : b ≤ b') : Bnd E b' :=
  fun x y hx hy => le_trans (h x y hx hy) hb

theorem bnd_nonneg {n : ℕ} {E : Matrix (Fin n) (Fin n) K} {b : K} (h : Bnd E b) : 0 ≤ b :=
  le_trans (abs_nonneg _) (h 0 0 (by rw [zero_dotProduct]; exact zero_le_one) (by rw [zero_dotProduct]; exact zero_le_one))

/-- orthogonal conjugation keeps the budget -/
theorem bnd_conj {n : ℕ} {E Q : Matrix (Fin n) (Fin n) K} {b : K} (hQ : Qᵀ * Q = 1) (h : Bnd E b) : Bnd (Qᵀ * E * Q) b := by
  intro x y hx hy
  have nrm : ∀ z : Fin n → K, (Q *ᵥ z) ⬝ᵥ (Q *ᵥ z) = z ⬝ᵥ z := by
    intro z
    rw [Matrix.dotProduct_mulVec, ← Matrix.mulVec_transpose, Matrix.mulVec_mulVec, hQ, Matrix.one_mulVec]
  have e : x ⬝ᵥ ((Qᵀ * E * Q) *ᵥ y) = (Q *ᵥ x) ⬝ᵥ (E *ᵥ (Q *ᵥ y)) := by
    rw [← Matrix.mulVec_mulVec, ← Matrix.mulVec_mulVec, Matrix.dotProduct_mulVec x Qᵀ, Matrix.vecMul_transpose]
  rw [e]
  exact h _ _ (by rw [nrm]; exact hx) (by rw [nrm]; exact hy)

theorem coord_le_one {n : ℕ} (x : Fin n → K) (hx : x ⬝ᵥ x ≤ 1) (a : Fin n) : |x a| ≤ 1 := by
  rw [abs_le_one_iff_mul_self_le_one]
  refine le_trans ?_ hx
  simp only [dotProduct]
  exact Finset.single_le_sum (f := fun i => x i * x i) (fun i _ => mul_self_nonneg _) (Finset.mem_univ a)

theorem sgl_form (n a c : ℕ) (d : K) (x y : Fin n → K) :
    x ⬝ᵥ (mat n (sgl a c d) *ᵥ y) = if h : a < n ∧ c < n then x ⟨a, h.1⟩ * d * y ⟨c, h.2⟩ else 0 := by
  simp only [dotProduct, Matrix.mulVec, mat, Matrix.of_apply, sgl]
  split
  · rename_i h
    rw [Finset.sum_eq_single (⟨a, h.1⟩ : Fin n)]
    · rw [Finset.sum_eq_single (⟨c, h.2⟩ : Fin n)]
      · simp; ring
      · intro b _ hb
        rw [if_neg (by intro hh; exact hb (Fin.ext hh.2))]; ring
      · intro hh; exact absurd (Finset.mem_univ _) hh
    · intro b _ hb
      have : ∀ j : Fin n, (if b.val = a ∧ j.val = c then d else 0) * y j = 0 := by
        intro j; rw [if_neg (by intro hh; exact hb (Fin.ext hh.1))]; ring
      simp only [this, Finset.sum_const_zero, mul_zero]
    · intro hh; exact absurd (Finset.mem_univ _) hh
  · rename_i h
    apply Finset.sum_eq_zero
    intro i _
    have : ∀ j : Fin n, (if i.val = a ∧ j.val = c then d else 0) * y j = 0 := by
      intro j; rw [if_neg (by intro hh; exact h ⟨hh.1 ▸ i.isLt, hh.2 ▸ j.isLt⟩)]; ring
    simp only [this, Finset.sum_const_zero, mul_zero]

/-- adding a single entry `d` costs `|d|` -/
theorem bnd_add_sgl {n : ℕ} {E : Matrix (Fin n) (Fin n) K} {b : K} (h : Bnd E b) (a c : ℕ) (d : K) :
    Bnd (E + mat n (sgl a c d)) (b + |d|) := by
  intro x y hx hy
  rw [Matrix.add_mulVec, dotProduct_add]
  refine le_trans (abs_add_le _ _) (add_le_add (h x y hx hy) ?_)
  rw [sgl_form]
  split
  · rename_i hh
    rw [abs_mul, abs_mul]
    have h1 := coord_le_one x hx ⟨a, hh.1⟩
    have h2 := coord_le_one y hy ⟨c, hh.2⟩
    calc |x ⟨a, hh.1⟩| * |d| * |y ⟨c, hh.2⟩| ≤ 1 * |d| * 1 :=
          mul_le_mul (mul_le_mul_of_nonneg_right h1 (abs_nonneg _)) h2 (abs_nonneg _) (by positivity)
      _ = |d| := by ring
  · simp

/-- the budget bounds every entry -/
theorem bnd_entry {n : ℕ} {E : Matrix (Fin n) (Fin n) K} {b : K} (h : Bnd E b) (i j : Fin n) : |E i j| ≤ b := by
  have := h (Pi.single i 1) (Pi.single j 1) (by simp) (by simp)
  rwa [Matrix.mulVec_single_one, single_dotProduct, one_mul] at this

theorem bnd_eq_zero {n : ℕ} {E : Matrix (Fin n) (Fin n) K} (h : Bnd E 0) : E = 0 := by
  ext i j
  have := bnd_entry h i j
  simpa using abs_nonpos_iff.mp this

/-- **one similarity step**: from `Uᵀ H U = L + S + E`, an orthogonal `Q` with `Qᵀ S Q = S` gives
    `(UQ)ᵀ H (UQ) = QᵀLQ + S + QᵀEQ` -/
theorem sim_step {n : ℕ} (U H L S E Q : Matrix (Fin n) (Fin n) K) (h : Uᵀ * H * U = L + S + E) (hS : Qᵀ * S * Q = S) :
    (U * Q)ᵀ * H * (U * Q) = Qᵀ * L * Q + S + Qᵀ * E * Q := by
  have : (U * Q)ᵀ * H * (U * Q) = Qᵀ * (Uᵀ * H * U) * Q := by
    rw [Matrix.transpose_mul]; simp only [Matrix.mul_assoc]
  rw [this, h, Matrix.mul_add, Matrix.mul_add, Matrix.add_mul, Matrix.add_mul, hS]

/-- **one window step, matrix level**: `U ← U Q`, `L ← Qᵀ L Q − D` keeps `Uᵀ H U = L + S + E`; the budget grows by that of `D` -/
theorem WinQ.sim {n k w : ℕ} {op : (ℕ → K) → ℕ → K} (W : WinQ n k w op) (m : ℕ) (hkm : k + w ≤ m ∨ m ≤ k)
    (H : Matrix (Fin n) (Fin n) K) (ex : K) (U U' L L' D : ℕ → ℕ → K) (E : Matrix (Fin n) (Fin n) K) (b d : K) (hE : Bnd E b)
    (hD : ∀ E' b', Bnd E' b' → Bnd (E' + mat n D) (b' + d))
    (sim : (mat n U)ᵀ * H * mat n U = mat n L + Sm n m ex + E)
    (hU : ∀ i j, i < n → j < n → U' i j = rmul op U i j)
    (hT : ∀ i j, i < n → j < n → L' i j = rmul op (lmul op L) i j - D i j) :
    ∃ E', Bnd E' (b + d) ∧ (mat n U')ᵀ * H * mat n U' = mat n L' + Sm n m ex + E' := by
  have eU : mat n U' = mat n U * Qm n op := (mat_congr _ _ _ hU).trans (W.rmat U)
  have eL : mat n L' = (Qm n op)ᵀ * mat n L * Qm n op - mat n D := by
    rw [← W.lmat, ← W.rmat, ← mat_sub]; exact mat_congr _ _ _ hT
  refine ⟨(Qm n op)ᵀ * E * Qm n op + mat n D, hD _ _ (bnd_conj W.orth hE), ?_⟩
  rw [eU, sim_step _ H _ _ _ _ sim (W.conj_Sm m hkm ex), eL]; abel

end field
end C09SS
