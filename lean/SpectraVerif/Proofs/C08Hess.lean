/-
  C08 — `QRModel.UpperHessenbergQR` (Model/HessQR.lean, the statement-by-statement model of
  `Spectra::UpperHessenbergQR`): structural and exact-arithmetic correctness, for EVERY size `n`, matrix and shift.

  The loops are analysed once, generically: section `Generic` works over any field `α` with any `Sc α` instance whose
  `Sc.ofInt 0` is `0` (hypothesis `hz`) and treats `Gen.Givens.compute_rotation` as a black box; the properties of the
  rotations enter only as hypotheses (`Ideal`).  Section `AtField` names the model functions at `scOfField F`, discharges
  `Ideal` with `C08Givens.rot_std_of_cutoff_nonpos` (`ideal_of`) and states B4/B5 entrywise (`hqr_rot_pivot`, `hqr_factor`, `hqr_orth`, `hqr_QR`).

  The theorems about `compute` (`*_gen`; at `scOfField F` they apply with `zero_eq F`, `ideal_of F hsqrt hcut`) carry the labels
  B1 sizes; B2 `R` upper triangular; B3 `matrix_QtHQ` upper Hessenberg; B4 the stored rotations; B5 `Qᵀ (H - s I) = R`, `Q`/`Qᵀ` mutually
  inverse, `Q R = H - s I`; B6 the vector overloads, and `matrix_QtHQ = R Q + s I`.
-/
import Mathlib.Tactic.LinearCombination
import Mathlib.Algebra.Order.Field.Basic
import SpectraVerif.Proofs.ScField
import SpectraVerif.Proofs.C08Givens
import SpectraVerif.Proofs.C08Rot

set_option linter.unusedSectionVars false
set_option linter.unusedVariables false

namespace C08Hess
open Lin QRModel C08Mat
open QRModel.UpperHessenbergQR

section Generic
variable {α : Type} [Field α] [Sc α]

/-! ### one step of `compute` -/

/-- `(r, c, s)` of the pivot pair `(R(i,i), R(i+1,i))` -/
def pivRot (R : Mat α) (i : Nat) : α × α × α := Gen.Givens.compute_rotation (R.get i i) (R.get (i + 1) i)

theorem computeStep_eq (n : Nat) (st : Mat α × Vec α × Vec α) (i : Nat) :
    computeStep n st i =
      (rowsPair (rotT (pivRot (zeroBelow st.1 n i) i).2.1 (pivRot (zeroBelow st.1 n i) i).2.2)
          (((zeroBelow st.1 n i).set i i (pivRot (zeroBelow st.1 n i) i).1).set (i + 1) i zero) i (i + 1) (n - i - 1),
        st.2.1.push (pivRot (zeroBelow st.1 n i) i).2.1, st.2.2.push (pivRot (zeroBelow st.1 n i) i).2.2) := rfl

/-- entry `(a, b)` after step `i` with rotation `rcs = (r, c, s)` on the matrix with entries `g`: the pivot column gets `r` and
    zeros below it, the columns to its right get rows `i`, `i+1` rotated, the columns to its left are kept -/
def stepFn (g : Nat → Nat → α) (rcs : α × α × α) (i a b : Nat) : α :=
  if b = i then (if a = i then rcs.1 else if i < a then zero else g a b)
  else if i < b then
    (if a = i then (rotT rcs.2.1 rcs.2.2 (g i b) (g (i + 1) b)).1
     else if a = i + 1 then (rotT rcs.2.1 rcs.2.2 (g i b) (g (i + 1) b)).2
     else g a b)
  else g a b

theorem computeStep_rep {n : Nat} {st : Mat α × Vec α × Vec α} {g : Nat → Nat → α} (h : Rep st.1 n n g) {i : Nat}
    (hi : i + 1 < n) :
    Rep (computeStep n st i).1 n n (stepFn g (Gen.Givens.compute_rotation (g i i) (g (i + 1) i)) i) ∧
    (computeStep n st i).2.1 = st.2.1.push (Gen.Givens.compute_rotation (g i i) (g (i + 1) i)).2.1 ∧
    (computeStep n st i).2.2 = st.2.2.push (Gen.Givens.compute_rotation (g i i) (g (i + 1) i)).2.2 := by
  have hin : i < n := Nat.lt_of_succ_lt hi
  have h1 := h.zeroBelow hi
  have hp : pivRot (zeroBelow st.1 n i) i = Gen.Givens.compute_rotation (g i i) (g (i + 1) i) := by
    unfold pivRot
    rw [h1.get i i hin hin, h1.get (i + 1) i hi hin, if_neg (by omega), if_neg (by omega)]
  rw [computeStep_eq, hp]
  generalize Gen.Givens.compute_rotation (g i i) (g (i + 1) i) = rcs
  refine ⟨(((h1.set hin hin rcs.1).set hi hin zero).rowsPair (rotT rcs.2.1 rcs.2.2) (n - i - 1) hi (by omega)).congr
    fun a b ha hb => ?_, rfl, rfl⟩
  unfold stepFn
  by_cases hb1 : b = i
  · subst hb1
    rw [if_neg (by omega), if_pos rfl]
    by_cases h1 : a = b + 1
    · rw [if_pos ⟨h1, rfl⟩, if_neg (by omega), if_pos (by omega)]
    · rw [if_neg (fun h => h1 h.1)]
      by_cases h2 : a = b
      · rw [if_pos ⟨h2, rfl⟩, if_pos h2]
      · rw [if_neg (fun h => h2 h.1), if_neg h2]
        by_cases h3 : b < a
        · rw [if_pos ⟨rfl, by omega⟩, if_pos h3]
        · rw [if_neg (fun h => h3 (by omega)), if_neg h3]
  · simp only [hb1, and_false, false_and, if_false]
    by_cases hb2 : i < b
    · rw [if_pos (by omega), if_pos hb2]
    · rw [if_neg (by omega), if_neg hb2]

/-! ### the state sequence of `compute` -/

/-- the state `(R, cos, sin)` after `k` iterations of the main loop -/
def cst (n : Nat) (R0 : Mat α) (k : Nat) : Mat α × Vec α × Vec α :=
  (List.range k).foldl (computeStep n) (R0, (#[] : Vec α), (#[] : Vec α))

theorem cst_zero (n : Nat) (R0 : Mat α) : cst n R0 0 = (R0, #[], #[]) := rfl

theorem cst_succ (n : Nat) (R0 : Mat α) (k : Nat) : cst n R0 (k + 1) = computeStep n (cst n R0 k) k :=
  ListFold.foldl_range_succ _ _ _

/-- the initial `R`: a copy of `mat` minus `shift` on the diagonal -/
def R0of (mat : Mat α) (shift : α) : Mat α :=
  subDiag (Mat.ofFn mat.rows mat.rows (fun i j => mat.get i j)) mat.rows shift

theorem compute_eq (mat : Mat α) (shift : α) :
    compute mat shift =
      ⟨mat.rows, (cst mat.rows (R0of mat shift) (mat.rows - 1)).1, shift,
        (cst mat.rows (R0of mat shift) (mat.rows - 1)).2.1, (cst mat.rows (R0of mat shift) (mat.rows - 1)).2.2⟩ := rfl

theorem R0of_rep (mat : Mat α) (shift : α) :
    Rep (R0of mat shift) mat.rows mat.rows fun a b => if a = b then mat.get a b - shift else mat.get a b :=
  ((Rep.ofFn mat.rows mat.rows fun i j => mat.get i j).mapDiag (· - shift) mat.rows (Nat.le_refl _) (Nat.le_refl _)).congr
    fun a b ha _ => ite_iff ⟨fun h => h.1, fun h => ⟨h, ha⟩⟩ _ _

section loop
variable {n : Nat} {R0 : Mat α} {f0 : Nat → Nat → α}

/-- invariant of the main loop (no hypothesis on the rotations): shapes, and columns `< k` are `zero` below the diagonal -/
theorem cst_inv (h0 : Rep R0 n n f0) (k : Nat) (hk : k ≤ n - 1) :
    Rep (cst n R0 k).1 n n (cst n R0 k).1.get ∧
    ∀ a b, a < n → b < n → b < a → b < k → (cst n R0 k).1.get a b = zero := by
  induction k with
  | zero => exact ⟨.of h0.wf h0.rows h0.cols, fun a b _ _ _ h => absurd h (Nat.not_lt_zero b)⟩
  | succ k ih =>
    obtain ⟨h, g⟩ := ih (by omega)
    have h' := (computeStep_rep h (i := k) (by omega)).1
    rw [cst_succ]
    refine ⟨.of h'.wf h'.rows h'.cols, fun a b ha hb hba hbk => ?_⟩
    rw [h'.get a b ha hb, stepFn]
    by_cases h1 : b = k
    · rw [if_pos h1, if_neg (by omega), if_pos (by omega)]
    · rw [if_neg h1, if_neg (by omega)]
      exact g a b ha hb hba (by omega)

/-- step `k` of the main loop, on the entries of the working matrix -/
theorem cst_step (h0 : Rep R0 n n f0) (k : Nat) (hk : k + 1 < n) :
    Rep (cst n R0 (k + 1)).1 n n (stepFn (cst n R0 k).1.get (pivRot (cst n R0 k).1 k) k) ∧
    (cst n R0 (k + 1)).2.1 = (cst n R0 k).2.1.push (pivRot (cst n R0 k).1 k).2.1 ∧
    (cst n R0 (k + 1)).2.2 = (cst n R0 k).2.2.push (pivRot (cst n R0 k).1 k).2.2 := by
  rw [cst_succ]
  exact computeStep_rep (cst_inv h0 k (by omega)).1 hk

/-- `cos` and `sin` have one entry per step, and entry `i` is that of the rotation of the pivot pair at the time of step `i` -/
theorem cst_rot (h0 : Rep R0 n n f0) (k : Nat) (hk : k ≤ n - 1) :
    ((cst n R0 k).2.1.size = k ∧ ∀ i, i < k → vget (cst n R0 k).2.1 i = (pivRot (cst n R0 i).1 i).2.1) ∧
    ((cst n R0 k).2.2.size = k ∧ ∀ i, i < k → vget (cst n R0 k).2.2 i = (pivRot (cst n R0 i).1 i).2.2) :=
  ⟨vget_of_pushes (fun j => (cst n R0 j).2.1) _ (n - 1) rfl (fun j hj => (cst_step h0 j (by omega)).2.1) k hk,
    vget_of_pushes (fun j => (cst n R0 j).2.2) _ (n - 1) rfl (fun j hj => (cst_step h0 j (by omega)).2.2) k hk⟩

end loop

/-- later steps keep the rows above the pivot -/
theorem cst_row_final {n : Nat} {R0 : Mat α} (hw : WF R0) (hr : R0.rows = n) (hc : R0.cols = n) (k : Nat) (hk : k + 1 ≤ n - 1)
    (a b : Nat) (ha : a < k) (hb : b < n) : (cst n R0 (k + 1)).1.get a b = (cst n R0 k).1.get a b := by
  rw [(cst_step (Rep.of hw hr hc) k (by omega)).1.get a b (by omega) hb, stepFn]
  have h1 : ¬ a = k := by omega
  by_cases hb1 : b = k
  · rw [if_pos hb1, if_neg h1, if_neg (by omega)]
  · rw [if_neg hb1]
    by_cases hb2 : k < b
    · rw [if_pos hb2, if_neg h1, if_neg (by omega)]
    · rw [if_neg hb2]

/-! ### `matrix_QtHQ` and `apply_YQ` -/

/-- `RQ` after `k` column-pair steps of `matrix_QtHQ` -/
def rqk (q : UpperHessenbergQR α) (k : Nat) : Mat α := (List.range k).foldl (rqStep q) q.R

theorem rqk_succ (q : UpperHessenbergQR α) (k : Nat) : rqk q (k + 1) = rqStep q (rqk q k) k :=
  ListFold.foldl_range_succ _ _ _

theorem matrix_QtHQ_eq (q : UpperHessenbergQR α) : matrix_QtHQ q = addDiag (rqk q (q.n - 1)) q.n q.shift := rfl

theorem apply_YQ_eq (q : UpperHessenbergQR α) (Y : Mat α) : apply_YQ q Y = C08HessMatrix.yqkg q.cos q.sin (q.n - 1) Y := rfl

theorem rotT_zero (c s : α) : rotT c s (0 : α) 0 = (0, 0) := by
  unfold rotT; simp

/-- invariant of the `matrix_QtHQ` loop for an upper triangular `R`: shapes; zero pattern (below the subdiagonal
    everywhere, below the diagonal in the columns not yet touched); the truncated row range of `rqStep` computes the
    same as the full-column rotation of `apply_YQ` -/
theorem rqk_inv (q : UpperHessenbergQR α) {f : Nat → Nat → α} (h : Rep q.R q.n q.n f)
    (hup : ∀ a b, a < q.n → b < q.n → b < a → f a b = 0) (k : Nat) (hk : k ≤ q.n - 1) :
    Rep (rqk q k) q.n q.n (rqk q k).get ∧
    (∀ a b, a < q.n → b < q.n → (b + 1 < a ∨ (b < a ∧ k ≤ b)) → (rqk q k).get a b = 0) ∧
    rqk q k = C08HessMatrix.yqkg q.cos q.sin k q.R := by
  induction k with
  | zero =>
    exact ⟨.of h.wf h.rows h.cols, fun a b ha hb hh => (h.get a b ha hb).trans (hup a b ha hb (by omega)), rfl⟩
  | succ k ih =>
    obtain ⟨hg, z, e⟩ := ih (by omega)
    have hk1 : k + 1 < q.n := by omega
    have h' := hg.colsPair (rotT (vget q.cos k) (vget q.sin k)) (k + 2) hk1 hk1
    rw [rqk_succ, C08HessMatrix.yqkg_succ, ← e]
    refine ⟨.of h'.wf h'.rows h'.cols, fun a b ha hb hh => ?_, colsPair_trunc _ (rotT_zero _ _) hg hk1 hk1
      fun a h1 h2 => ⟨z a k h2 (by omega) (by omega), z a (k + 1) h2 hk1 (by omega)⟩⟩
    refine (h'.get a b ha hb).trans ?_
    by_cases h1 : a < k + 2
    · rw [if_pos h1, if_neg (by omega), if_neg (by omega)]
      exact z a b ha hb (by omega)
    · rw [if_neg h1]
      exact z a b ha hb (by omega)

/-- B6: `matrix_QtHQ = R Q + shift I`, for any object whose `R` is upper triangular -/
theorem rq_gen (q : UpperHessenbergQR α) {f : Nat → Nat → α} (h : Rep q.R q.n q.n f)
    (hup : ∀ a b, a < q.n → b < q.n → b < a → f a b = 0) (i j : Nat) (hi : i < q.n) (hj : j < q.n) :
    (matrix_QtHQ q).get i j = (apply_YQ q q.R).get i j + (if i = j then q.shift else 0) := by
  obtain ⟨hg, _, e⟩ := rqk_inv q h hup (q.n - 1) (Nat.le_refl _)
  have g : (matrix_QtHQ q).get i j = _ := (hg.mapDiag (· + q.shift) q.n (Nat.le_refl _) (Nat.le_refl _)).get i j hi hj
  rw [g, apply_YQ_eq, ← e]
  by_cases h : i = j
  · rw [if_pos ⟨h, hi⟩, if_pos h]
  · rw [if_neg (fun e => h e.1), if_neg h, add_zero]

/-- B3 for any object whose `R` is upper triangular -/
theorem qthq_hessenberg_gen (q : UpperHessenbergQR α) {f : Nat → Nat → α} (h : Rep q.R q.n q.n f)
    (hup : ∀ a b, a < q.n → b < q.n → b < a → f a b = 0)
    (i j : Nat) (hi : i < q.n) (hj : j < q.n) (hij : j + 1 < i) : (matrix_QtHQ q).get i j = 0 := by
  obtain ⟨_, z, e⟩ := rqk_inv q h hup (q.n - 1) (Nat.le_refl _)
  rw [rq_gen q h hup i j hi hj, apply_YQ_eq, ← e, if_neg (by omega), add_zero]
  exact z i j hi hj (Or.inl hij)

/-! ### `apply_QtY_mat`, `apply_QY_mat` are the loops `qtk`, `qk` of `C08Rot` -/

theorem apply_QtY_mat_eq (q : UpperHessenbergQR α) (Y : Mat α) : apply_QtY_mat q Y = qtk q.cos q.sin (q.n - 1) Y := rfl
theorem apply_QY_mat_eq (q : UpperHessenbergQR α) (Y : Mat α) : apply_QY_mat q Y = qk q.cos q.sin (q.n - 1) Y := rfl

theorem qk_dims (cs sn : Vec α) (k : Nat) : ∀ {Y : Mat α}, WF Y → k ≤ Y.rows - 1 →
    WF (qk cs sn k Y) ∧ (qk cs sn k Y).rows = Y.rows ∧ (qk cs sn k Y).cols = Y.cols := by
  intro Y hw hk
  have h := (C08HessMatrix.IsM.of hw rfl rfl).qk cs sn k hk
  exact ⟨h.wf, h.rows, h.cols⟩

/-! ### `Qᵀ (H - s I) = R` -/

/-- the Givens kernel is ideal: `Gᵀ (x, y)ᵀ = (r, 0)ᵀ` with `c² + s² = 1`, for every input pair -/
def Ideal (α : Type) [Field α] [Sc α] : Prop :=
  ∀ x y : α,
    (Gen.Givens.compute_rotation x y).2.1 * x - (Gen.Givens.compute_rotation x y).2.2 * y
      = (Gen.Givens.compute_rotation x y).1 ∧
    (Gen.Givens.compute_rotation x y).2.2 * x + (Gen.Givens.compute_rotation x y).2.1 * y = 0 ∧
    (Gen.Givens.compute_rotation x y).2.1 * (Gen.Givens.compute_rotation x y).2.1 +
      (Gen.Givens.compute_rotation x y).2.2 * (Gen.Givens.compute_rotation x y).2.2 = 1

theorem rotT_fst (c s x y : α) : (rotT c s x y).1 = c * x - s * y := rfl
theorem rotT_snd (c s x y : α) : (rotT c s x y).2 = s * x + c * y := rfl

/-- joint invariant of the main loop of `compute` (started at `R0`) and of the `apply_QtY_mat` loop (started at a
    Hessenberg matrix `A` that agrees with `R0` on and above the subdiagonal) -/
theorem factor_inv (hz : (zero : α) = 0) (hid : Ideal α) {n : Nat} {R0 A : Mat α} {f0 fA : Nat → Nat → α}
    (h0 : Rep R0 n n f0) (hA : Rep A n n fA)
    (hA0 : ∀ a b, a < n → b < n → b + 1 < a → fA a b = 0)
    (hA1 : ∀ a b, a < n → b < n → a ≤ b + 1 → f0 a b = fA a b)
    (cs sn : Vec α)
    (hcs : ∀ i, i + 1 < n → vget cs i = (pivRot (cst n R0 i).1 i).2.1)
    (hsn : ∀ i, i + 1 < n → vget sn i = (pivRot (cst n R0 i).1 i).2.2)
    (k : Nat) (hk : k ≤ n - 1) :
    (∀ a b, a < n → b < n → b + 1 < a → (qtk cs sn k A).get a b = 0) ∧
    (∀ a b, a < n → b < n → (a ≤ b + 1 ∨ b < k) → (cst n R0 k).1.get a b = (qtk cs sn k A).get a b) := by
  induction k with
  | zero =>
    exact ⟨fun a b ha hb h => (hA.get a b ha hb).trans (hA0 a b ha hb h),
      fun a b ha hb h => (h0.get a b ha hb).trans ((hA1 a b ha hb (by omega)).trans (hA.get a b ha hb).symm)⟩
  | succ k ih =>
    have hk1 : k + 1 < n := by omega
    have hk0 : k ≤ n - 1 := by omega
    obtain ⟨i2, i3⟩ := ih hk0
    have gA := (qtk_step cs sn hA hk1).get
    have gz := (cst_inv h0 k hk0).2
    have g' := (cst_step h0 k hk1).1.get
    unfold stepFn at g'
    have i1 : ∀ a b, a < n → b < n → b < a → b < k → (qtk cs sn k A).get a b = 0 := by
      intro a b ha hb h1 h2
      rw [← i3 a b ha hb (Or.inr h2), gz a b ha hb h1 h2, hz]
    obtain ⟨hx1, hx2, _⟩ := hid ((cst n R0 k).1.get k k) ((cst n R0 k).1.get (k + 1) k)
    have hpiv : pivRot (cst n R0 k).1 k =
        Gen.Givens.compute_rotation ((cst n R0 k).1.get k k) ((cst n R0 k).1.get (k + 1) k) := rfl
    rw [← hpiv] at hx1 hx2
    rw [hcs k hk1, hsn k hk1] at gA
    clear hcs hsn ih hA0 hA1
    generalize pivRot (cst n R0 k).1 k = rcs at hx1 hx2 g' gA ⊢
    generalize (cst n R0 (k + 1)).1 = R' at g' ⊢
    generalize (cst n R0 k).1 = Rk at gz g' i3 hx1 hx2 ⊢
    generalize qtk cs sn (k + 1) A = A' at gA ⊢
    generalize qtk cs sn k A = Ak at i1 i2 i3 gA ⊢
    have hkn : k < n := Nat.lt_of_succ_lt hk1
    constructor
    · intro a b ha hb h
      rw [gA a b ha hb]
      by_cases h1 : a = k
      · rw [if_pos h1, i2 k b hkn hb (by omega), i2 (k + 1) b hk1 hb (by omega), rotT_zero]
      · rw [if_neg h1]
        by_cases h2 : a = k + 1
        · rw [if_pos h2, i1 k b hkn hb (by omega) (by omega), i2 (k + 1) b hk1 hb (by omega), rotT_zero]
        · rw [if_neg h2]; exact i2 a b ha hb h
    · intro a b ha hb h
      rw [g' a b ha hb, gA a b ha hb]
      by_cases hb1 : b = k
      · -- the pivot column: the rotation sends the pivot pair to `(r, 0)`
        rw [if_pos hb1, hb1]
        rw [i3 k k hkn hkn (Or.inl (by omega)), i3 (k + 1) k hk1 hkn (Or.inl (by omega))] at hx1 hx2
        by_cases h1 : a = k
        · rw [if_pos h1, if_pos h1, rotT_fst, hx1]
        · rw [if_neg h1, if_neg h1]
          by_cases h2 : a = k + 1
          · rw [if_pos (by omega), if_pos h2, rotT_snd, hx2, hz]
          · rw [if_neg h2]
            by_cases h3 : k < a
            · rw [if_pos h3, hz, i2 a k ha hkn (by omega)]
            · rw [if_neg h3]; exact i3 a k ha hkn (Or.inl (by omega))
      · rw [if_neg hb1]
        by_cases hb2 : k < b
        · -- right of the pivot both loops rotate the same pair of rows
          rw [if_pos hb2, i3 k b hkn hb (Or.inl (by omega)), i3 (k + 1) b hk1 hb (Or.inl (by omega)),
            i3 a b ha hb (Or.inl (by omega))]
        · -- left of the pivot the rotated pair is `(0, 0)`
          have hbk : b < k := by omega
          have z1 : Rk.get k b = 0 := by rw [gz k b hkn hb hbk hbk, hz]
          have z2 : Rk.get (k + 1) b = 0 := by rw [gz (k + 1) b hk1 hb (by omega) hbk, hz]
          rw [if_neg hb2, ← i3 k b hkn hb (Or.inr hbk), z1, i2 (k + 1) b hk1 hb (by omega), rotT_zero]
          by_cases h1 : a = k
          · rw [if_pos h1, h1, z1]
          · rw [if_neg h1]
            by_cases h2 : a = k + 1
            · rw [if_pos h2, h2, z2]
            · rw [if_neg h2]; exact i3 a b ha hb (Or.inr hbk)

/-! ### vector overloads -/

/-- the `n × 1` matrix with column `y` -/
def colMat (n : Nat) (y : Vec α) : Mat α := Mat.ofFn n 1 (fun i _ => vget y i)

/-- `Y` is the `n × 1` array holding the vector `y` -/
def Corr (n : Nat) (Y : Mat α) (y : Vec α) : Prop := Rep Y n 1 (fun i _ => vget y i) ∧ y.size = n

theorem corr_colMat (n : Nat) (y : Vec α) (hy : y.size = n) : Corr n (colMat n y) y := ⟨Rep.ofFn n 1 _, hy⟩

theorem corr_step (f : α → α → α × α) {n : Nat} {Y : Mat α} {y : Vec α} (h : Corr n Y y) {i : Nat} (hi : i + 1 < n) :
    Corr n (rowsPair f Y i 0 Y.cols) (vecPair f y i) := by
  obtain ⟨sz1, g2⟩ := vecPair_spec f y (i := i) (by rw [h.2]; exact hi)
  exact ⟨(h.1.rowsPair_full f hi).congr fun a _ _ _ => (g2 a).symm, sz1.trans h.2⟩

/-- B6: the vector overloads agree with the matrix overloads on the one-column matrix -/
theorem apply_vec_gen (q : UpperHessenbergQR α) (y : Vec α) (hy : y.size = q.n) :
    ((apply_QY q y).size = q.n ∧ ∀ i, i < q.n → vget (apply_QY q y) i = (apply_QY_mat q (colMat q.n y)).get i 0) ∧
    ((apply_QtY q y).size = q.n ∧ ∀ i, i < q.n → vget (apply_QtY q y) i = (apply_QtY_mat q (colMat q.n y)).get i 0) := by
  have fold := fun (f : Nat → α → α → α × α) (l : List Nat) (hl : ∀ i ∈ l, i + 1 < q.n) =>
    ListFold.foldl_rel (Corr q.n) (fun Y i => rowsPair (f i) Y i 0 Y.cols) (fun y i => vecPair (f i) y i) l _ _
      (corr_colMat q.n y hy) fun _ _ i hi h => corr_step (f i) h (hl i hi)
  have h1 := fold (fun i => rotG (vget q.cos i) (vget q.sin i)) (downFrom q.n)
    (by intro i hi; unfold downFrom at hi; rw [List.mem_reverse, List.mem_range] at hi; omega)
  have h2 := fold (fun i => rotT (vget q.cos i) (vget q.sin i)) (List.range (q.n - 1))
    (by intro i hi; rw [List.mem_range] at hi; omega)
  exact ⟨⟨h1.2, fun i hi => (h1.1.get i 0 hi Nat.one_pos).symm⟩, h2.2, fun i hi => (h2.1.get i 0 hi Nat.one_pos).symm⟩

/-! ### the theorems about `compute`, generic form -/

theorem compute_n (mat : Mat α) (shift : α) : (compute mat shift).n = mat.rows := rfl
theorem compute_shift (mat : Mat α) (shift : α) : (compute mat shift).shift = shift := rfl
theorem compute_R (mat : Mat α) (shift : α) :
    (compute mat shift).R = (cst mat.rows (R0of mat shift) (mat.rows - 1)).1 := rfl
theorem compute_cos (mat : Mat α) (shift : α) :
    (compute mat shift).cos = (cst mat.rows (R0of mat shift) (mat.rows - 1)).2.1 := rfl
theorem compute_sin (mat : Mat α) (shift : α) :
    (compute mat shift).sin = (cst mat.rows (R0of mat shift) (mat.rows - 1)).2.2 := rfl

/-- the shape of the final `R` -/
theorem compute_R_rep (mat : Mat α) (shift : α) : Rep (compute mat shift).R mat.rows mat.rows (compute mat shift).R.get :=
  (cst_inv (R0of_rep mat shift) (mat.rows - 1) (Nat.le_refl _)).1

/-- B1 -/
theorem sizes_gen (mat : Mat α) (shift : α) :
    (compute mat shift).n = mat.rows ∧ (compute mat shift).R.rows = mat.rows ∧ (compute mat shift).R.cols = mat.rows ∧
    WF (compute mat shift).R ∧ (compute mat shift).cos.size = mat.rows - 1 ∧
    (compute mat shift).sin.size = mat.rows - 1 :=
  have h := compute_R_rep mat shift
  have s := cst_rot (R0of_rep mat shift) (mat.rows - 1) (Nat.le_refl _)
  ⟨rfl, h.rows, h.cols, h.wf, s.1.1, s.2.1⟩

/-- B2 -/
theorem R_upper_gen (hz : (zero : α) = 0) (mat : Mat α) (shift : α) (i j : Nat) (hi : i < mat.rows) (hj : j < mat.rows)
    (hji : j < i) : (compute mat shift).R.get i j = 0 :=
  ((cst_inv (R0of_rep mat shift) (mat.rows - 1) (Nat.le_refl _)).2 i j hi hj hji (by omega)).trans hz

/-- B3 -/
theorem qthq_gen (hz : (zero : α) = 0) (mat : Mat α) (shift : α) (i j : Nat) (hi : i < mat.rows) (hj : j < mat.rows)
    (hji : j + 1 < i) : (matrix_QtHQ (compute mat shift)).get i j = 0 :=
  qthq_hessenberg_gen (compute mat shift) (compute_R_rep mat shift) (R_upper_gen hz mat shift) i j hi hj hji

/-- B6: `matrix_QtHQ = R Q + shift I` for the computed decomposition, whatever the rotations are -/
theorem rq_compute (hz : (zero : α) = 0) (mat : Mat α) (shift : α) (i j : Nat) (hi : i < mat.rows) (hj : j < mat.rows) :
    (matrix_QtHQ (compute mat shift)).get i j =
      (apply_YQ (compute mat shift) (compute mat shift).R).get i j + (if i = j then shift else 0) :=
  rq_gen (compute mat shift) (compute_R_rep mat shift) (R_upper_gen hz mat shift) i j hi hj

/-- B4: the stored rotation `i` is the kernel's answer for the pivot pair `(R_i(i,i), R_i(i+1,i))` of the working
    matrix `R_i` after `i` steps -/
theorem rot_gen (mat : Mat α) (shift : α) (i : Nat) (hi : i < mat.rows - 1) :
    vget (compute mat shift).cos i
      = (Gen.Givens.compute_rotation ((cst mat.rows (R0of mat shift) i).1.get i i)
          ((cst mat.rows (R0of mat shift) i).1.get (i + 1) i)).2.1 ∧
    vget (compute mat shift).sin i
      = (Gen.Givens.compute_rotation ((cst mat.rows (R0of mat shift) i).1.get i i)
          ((cst mat.rows (R0of mat shift) i).1.get (i + 1) i)).2.2 := by
  obtain ⟨⟨_, g1⟩, _, g2⟩ := cst_rot (R0of_rep mat shift) (mat.rows - 1) (Nat.le_refl _)
  exact ⟨g1 i hi, g2 i hi⟩

theorem rot_orth_gen (hid : Ideal α) (mat : Mat α) (shift : α) (i : Nat) (hi : i < mat.rows - 1) :
    vget (compute mat shift).cos i * vget (compute mat shift).cos i +
      vget (compute mat shift).sin i * vget (compute mat shift).sin i = 1 := by
  obtain ⟨e1, e2⟩ := rot_gen mat shift i hi
  rw [e1, e2]
  exact (hid _ _).2.2

/-- the upper Hessenberg part of `mat` minus `shift I` -/
def Hshift (mat : Mat α) (shift : α) : Mat α :=
  Mat.ofFn mat.rows mat.rows (fun i j => if i ≤ j + 1 then mat.get i j - (if i = j then shift else 0) else 0)

/-- B5: `Qᵀ (H - s I) = R`, as an equality of matrices -/
theorem factor_gen (hz : (zero : α) = 0) (hid : Ideal α) (mat : Mat α) (shift : α) :
    apply_QtY_mat (compute mat shift) (Hshift mat shift) = (compute mat shift).R := by
  have hA : Rep (Hshift mat shift) mat.rows mat.rows _ := Rep.ofFn _ _ _
  obtain ⟨i2, i3⟩ := factor_inv hz hid (R0of_rep mat shift) hA (fun a b _ _ h => if_neg (by omega))
    (fun a b _ _ h => by
      rw [if_pos h]
      by_cases e : a = b
      · rw [if_pos e, if_pos e]
      · rw [if_neg e, if_neg e, sub_zero])
    (compute mat shift).cos (compute mat shift).sin
    (fun i hi => (rot_gen mat shift i (by omega)).1) (fun i hi => (rot_gen mat shift i (by omega)).2)
    (mat.rows - 1) (Nat.le_refl _)
  rw [apply_QtY_mat_eq, compute_n]
  refine Rep.ext (hA.isM.qtk _ _ _ (Nat.le_refl _)).rep ((compute_R_rep mat shift).congr fun a b ha hb => ?_)
  by_cases h : a ≤ b + 1
  · exact i3 a b ha hb (Or.inl h)
  · have hba : b + 1 < a := Nat.lt_of_not_le h
    rw [i2 a b ha hb hba, R_upper_gen hz mat shift a b ha hb (Nat.lt_of_succ_lt hba)]

/-- `Q (Qᵀ Y) = Y` and `Qᵀ (Q Y) = Y`, as equalities of matrices -/
theorem orth_gen (hid : Ideal α) (mat : Mat α) (shift : α) (Y : Mat α) (hY : WF Y) (hYr : Y.rows = mat.rows) :
    apply_QY_mat (compute mat shift) (apply_QtY_mat (compute mat shift) Y) = Y ∧
    apply_QtY_mat (compute mat shift) (apply_QY_mat (compute mat shift) Y) = Y := by
  rw [apply_QtY_mat_eq, apply_QY_mat_eq, apply_QtY_mat_eq, apply_QY_mat_eq, compute_n]
  exact ⟨qk_qtk _ _ _ (rot_orth_gen hid mat shift) hY (by omega), qtk_qk _ _ _ (rot_orth_gen hid mat shift) hY (by omega)⟩

/-- `Q R = H - s I` -/
theorem QR_gen (hz : (zero : α) = 0) (hid : Ideal α) (mat : Mat α) (shift : α) :
    apply_QY_mat (compute mat shift) (compute mat shift).R = Hshift mat shift := by
  rw [← factor_gen hz hid mat shift]
  exact (orth_gen hid mat shift (Hshift mat shift) (ofFn_WF _ _ _) rfl).1

end Generic

/-! ### instantiation at the exact-arithmetic scalar instance `scOfField F` -/

section AtField
variable {K : Type} [Field K] [LinearOrder K] [IsStrictOrderedRing K] (F : FieldFns K)

/-- `Lin.zero` (= `Sc.ofInt 0`) is the field's `0` -/
@[simp] theorem zero_eq : @Lin.zero K (scOfField F) = (0 : K) := by
  show ((0 : Int) : K) = 0
  exact Int.cast_zero

/-- with an exact square root and the series branch disabled the generated kernel is ideal -/
theorem ideal_of (hsqrt : ∀ x : K, 0 ≤ x → F.sqrt x * F.sqrt x = x ∧ 0 ≤ F.sqrt x) (hcut : C08Givens.cutoff F ≤ 0) :
    @Ideal K _ (scOfField F) := by
  intro x y
  obtain ⟨h1, h2, _, _, h5⟩ := C08Givens.rot_std_of_cutoff_nonpos F hsqrt hcut x y
    (C08Givens.rot F x y).1 (C08Givens.rot F x y).2.1 (C08Givens.rot F x y).2.2 rfl
  exact ⟨h2, h5, h1⟩

/-! the model functions at `scOfField F` (reducible abbreviations: each unfolds to the `@`-form on the right) -/

abbrev hqr (mat : Mat K) (shift : K) : UpperHessenbergQR K := @compute K _ _ _ _ _ (scOfField F) mat shift
abbrev mget (M : Mat K) (i j : Nat) : K := @Mat.get K (scOfField F) M i j
abbrev vgt (v : Vec K) (i : Nat) : K := @vget K (scOfField F) v i
abbrev QtYm (q : UpperHessenbergQR K) (Y : Mat K) : Mat K := @apply_QtY_mat K _ _ _ (scOfField F) q Y
abbrev QYm (q : UpperHessenbergQR K) (Y : Mat K) : Mat K := @apply_QY_mat K _ _ _ (scOfField F) q Y
abbrev QtYv (q : UpperHessenbergQR K) (y : Vec K) : Vec K := @apply_QtY K _ _ _ (scOfField F) q y
abbrev QYv (q : UpperHessenbergQR K) (y : Vec K) : Vec K := @apply_QY K _ _ _ (scOfField F) q y
abbrev YQm (q : UpperHessenbergQR K) (Y : Mat K) : Mat K := @apply_YQ K _ _ _ (scOfField F) q Y
abbrev QtHQ (q : UpperHessenbergQR K) : Mat K := @matrix_QtHQ K _ _ _ (scOfField F) q

/-- `A`: the upper Hessenberg part of `mat` minus `shift I` (entries below the subdiagonal are ignored by the class) -/
abbrev Hsh (mat : Mat K) (shift : K) : Mat K :=
  Mat.ofFn mat.rows mat.rows
    (fun i j => if i ≤ j + 1 then mget F mat i j - (if i = j then shift else 0) else 0)

theorem Hsh_eq (mat : Mat K) (shift : K) : Hsh F mat shift = @Hshift K _ (scOfField F) mat shift := rfl

/-- the working matrix `R` after `i` iterations of the main loop of `compute` -/
abbrev work (mat : Mat K) (shift : K) (i : Nat) : Mat K :=
  ((List.range i).foldl (@computeStep K _ _ _ _ _ (scOfField F) mat.rows)
    (@subDiag K _ (scOfField F) (Mat.ofFn mat.rows mat.rows (fun i j => mget F mat i j)) mat.rows shift,
      (#[] : Vec K), (#[] : Vec K))).1

theorem work_eq (mat : Mat K) (shift : K) (i : Nat) :
    work F mat shift i = (@cst K _ (scOfField F) mat.rows (@R0of K _ (scOfField F) mat shift) i).1 := rfl

/-- the final `R` is the working matrix after `n - 1` steps -/
theorem work_last (mat : Mat K) (shift : K) : (hqr F mat shift).R = work F mat shift (mat.rows - 1) := rfl

/-- the `n × 1` matrix with column `y` -/
abbrev colM (n : Nat) (y : Vec K) : Mat K := Mat.ofFn n 1 (fun i _ => vgt F y i)

/-- B4: with ideal rotations the diagonal of the pivot column receives `r = cx - sy ≥ 0`, `r² = x² + y²`, and the
    stored pair annihilates the subdiagonal entry -/
theorem hqr_rot_pivot (hsqrt : ∀ x : K, 0 ≤ x → F.sqrt x * F.sqrt x = x ∧ 0 ≤ F.sqrt x) (hcut : C08Givens.cutoff F ≤ 0)
    (mat : Mat K) (hw : WF mat) (hsq : mat.cols = mat.rows) (shift : K) (i : Nat) (hi : i < mat.rows - 1) :
    vgt F (hqr F mat shift).sin i * mget F (work F mat shift i) i i +
      vgt F (hqr F mat shift).cos i * mget F (work F mat shift i) (i + 1) i = 0 ∧
    0 ≤ vgt F (hqr F mat shift).cos i * mget F (work F mat shift i) i i -
      vgt F (hqr F mat shift).sin i * mget F (work F mat shift i) (i + 1) i := by
  obtain ⟨_, h2, _, h4, h5⟩ := C08Givens.rot_std_of_cutoff_nonpos F hsqrt hcut
    (mget F (work F mat shift i) i i) (mget F (work F mat shift i) (i + 1) i) _ _ _ rfl
  obtain ⟨e1, e2⟩ :
      vgt F (hqr F mat shift).cos i =
        (C08Givens.rot F (mget F (work F mat shift i) i i) (mget F (work F mat shift i) (i + 1) i)).2.1 ∧
      vgt F (hqr F mat shift).sin i =
        (C08Givens.rot F (mget F (work F mat shift i) i i) (mget F (work F mat shift i) (i + 1) i)).2.2 :=
    @rot_gen K _ (scOfField F) mat shift i hi
  rw [e1, e2]
  exact ⟨h5, le_of_le_of_eq h4 h2.symm⟩

/-- B5 (main), entrywise -/
theorem hqr_factor (hsqrt : ∀ x : K, 0 ≤ x → F.sqrt x * F.sqrt x = x ∧ 0 ≤ F.sqrt x) (hcut : C08Givens.cutoff F ≤ 0)
    (mat : Mat K) (hw : WF mat) (hsq : mat.cols = mat.rows) (shift : K)
    (i j : Nat) (hi : i < mat.rows) (hj : j < mat.rows) :
    mget F (QtYm F (hqr F mat shift) (Hsh F mat shift)) i j = mget F (hqr F mat shift).R i j := by
  exact congrArg (mget F · i j) (@factor_gen K _ (scOfField F) (zero_eq F) (ideal_of F hsqrt hcut) mat shift)

/-- B5, entrywise (the equalities hold for all index pairs, in range or not) -/
theorem hqr_orth (hsqrt : ∀ x : K, 0 ≤ x → F.sqrt x * F.sqrt x = x ∧ 0 ≤ F.sqrt x) (hcut : C08Givens.cutoff F ≤ 0)
    (mat : Mat K) (hw : WF mat) (hsq : mat.cols = mat.rows) (shift : K) (Y : Mat K) (hY : WF Y) (hYr : Y.rows = mat.rows)
    (i j : Nat) :
    mget F (QYm F (hqr F mat shift) (QtYm F (hqr F mat shift) Y)) i j = mget F Y i j ∧
    mget F (QtYm F (hqr F mat shift) (QYm F (hqr F mat shift) Y)) i j = mget F Y i j := by
  obtain ⟨e1, e2⟩ := @orth_gen K _ (scOfField F) (ideal_of F hsqrt hcut) mat shift Y hY hYr
  exact ⟨congrArg (mget F · i j) e1, congrArg (mget F · i j) e2⟩

/-- B5 corollary: `Q R = H - s I`, entrywise -/
theorem hqr_QR (hsqrt : ∀ x : K, 0 ≤ x → F.sqrt x * F.sqrt x = x ∧ 0 ≤ F.sqrt x) (hcut : C08Givens.cutoff F ≤ 0)
    (mat : Mat K) (hw : WF mat) (hsq : mat.cols = mat.rows) (shift : K) (i j : Nat) (hi : i < mat.rows) (hj : j < mat.rows) :
    mget F (QYm F (hqr F mat shift) (hqr F mat shift).R) i j = mget F (Hsh F mat shift) i j := by
  exact congrArg (mget F · i j) (@QR_gen K _ (scOfField F) (zero_eq F) (ideal_of F hsqrt hcut) mat shift)

end AtField

end C08Hess
-- #print axioms C08Hess.hqr_factor
-- #print axioms C08Hess.hqr_orth
-- #print axioms C08Hess.hqr_QR
