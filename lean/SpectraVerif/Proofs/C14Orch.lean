/-
  C14: lifting the kernel-level fault theorems to `Orch.init` / `Orch.compute`.

  Generic part (all kernels): let `KF` differ from `K` only in the three kernels that apply the operator, such that every call
  of such a kernel either AGREES with the fault-free kernel or reports the exception `e`, and such that the faulted kernels keep
  the invariant "operation counter of the factorization object = `m_nmatop` < k" (they never complete a k-th application).
  Then for every fault index `k` up to the number of applications of the fault-free `init(v); compute(args)`, the faulted
  `init`/`compute` ends with exactly `e`.
  Solver kernels given as computations over the operator (`progKern`; `hermKernF` and `genKernF` are of this form): with
  an operator that never fails they are the fault-free kernels (`progKern_never`), with `faultAt op.A k e` they satisfy the
  hypotheses of the generic part (`progKern_faultedBy`, from `runF_faultAt_hit/_miss` and the counter lemmas); `hermKernF` and, at the
  end of the file, `genKernF` (Model/FaultOpGen.lean) are the two instances.
-/
import SpectraVerif.Proofs.C14Kernel
import SpectraVerif.Proofs.OrchNonint
import SpectraVerif.Model.FaultOpGen
import SpectraVerif.Proofs.C06Gen

/-! ### where an exception that leaves `compute` comes from -/

namespace Orch
variable {φ ρ ε κ β τ ω : Type} (K : Kern φ ρ ε κ β τ ω) (c : Cfg)

/-- `e` is an exception that some kernel call reports (the orchestration layer has no `throw` of its own and no `catch`) -/
def Raised (e : Exn) : Prop :=
  (∃ v a, (K.facInit v a).exn = some e) ∨ (∃ k m a, (K.factorize k m a).exn = some e) ∨ (∃ a, K.eig a = .error e) ∨
  (∃ s v n, K.select s v n = .error e) ∨ (∃ k v a, (K.restartFac k v a).exn = some e) ∨ (∃ r v n, K.sortIdx r v n = .error e)

theorem retrieve_raised (sel : Int) (s : St φ ρ ε κ) (e : Exn) (h : (retrieve K c sel s).2 = some e) : Raised K e := by
  revert h
  fun_cases retrieve K c sel s with
  | case1 e' he => exact fun h => Option.some.inj h ▸ Or.inr (Or.inr (Or.inl ⟨_, he⟩))
  | case2 evals lastRow cols he e' hs => exact fun h => Option.some.inj h ▸ Or.inr (Or.inr (Or.inr (Or.inl ⟨_, _, _, hs⟩)))
  | case3 => nofun

theorem restart_raised (k : Nat) (sel : Int) (s : St φ ρ ε κ) (e : Exn) (h : (restart K c k sel s).2 = some e) : Raised K e := by
  revert h
  fun_cases restart K c k sel s with
  | case1 => nofun
  | case2 hk r s1 e' he => exact fun h => Option.some.inj h ▸ Or.inr (Or.inr (Or.inr (Or.inr (Or.inl ⟨_, _, _, he⟩))))
  | case3 hk r s1 he => exact retrieve_raised K c sel s1 e

theorem loop_raised (sel : Int) (tol : τ) (rem i nconv nres : Nat) (s : St φ ρ ε κ) (e : Exn)
    (h : (loop K c sel tol rem i nconv nres s).exn = some e) : Raised K e := by
  fun_induction loop K c sel tol rem i nconv nres s with
  | case1 => cases h
  | case2 => cases h
  | case3 rem i x nres s flags s1 nconv hlt k s2 e' heq =>
    exact restart_raised K c k sel s1 e (heq ▸ h)
  | case4 rem i x nres s flags s1 nconv hlt k s2 heq ih => exact ih h

/-- an exception that leaves `compute` is one that some kernel call can report (`Raised`: the orchestration layer has no `throw`
    of its own); the statement does not say which call of this run reported it -/
theorem compute_raised (sel : Int) (maxit : Nat) (tol : τ) (sorting : Int) (s : St φ ρ ε κ) (e : Exn)
    (h : (compute K c sel maxit tol sorting s).out = .error e) : Raised K e := by
  revert h
  fun_cases compute K c sel maxit tol sorting s with
  | case1 r s1 e' he => exact fun h => Except.error.inj h ▸ Or.inr (Or.inl ⟨_, _, _, he⟩)
  | case2 r s1 hf s2 e' hr => exact fun h => retrieve_raised K c sel s1 e (hr ▸ congrArg some (Except.error.inj h))
  | case3 r s1 hf s2 hr L e' hl => exact fun h => loop_raised K c sel tol maxit 0 0 0 s2 e (hl.trans (congrArg some (Except.error.inj h)))
  | case4 r s1 hf s2 hr L hl F s4 e' hs =>
    intro h
    revert hs
    fun_cases sortRitz K c sorting F.1 with
    | case1 s0 e'' he => exact fun hs => Except.error.inj h ▸ Option.some.inj (Prod.mk.inj hs).2 ▸ Or.inr (Or.inr (Or.inr (Or.inr (Or.inr ⟨_, _, _, he⟩))))
    | case2 => exact fun hs => nomatch (Prod.mk.inj hs).2
  | case5 => nofun

/-- an exception reported by the initial factorization is the outcome of `compute`, the same object -/
theorem compute_propagates_factorize (sel : Int) (maxit : Nat) (tol : τ) (sorting : Int) (s : St φ ρ ε κ) (e : Exn)
    (h : (K.factorize (max 1 (K.facDim s.fac)) c.ncv s.fac).exn = some e) : (compute K c sel maxit tol sorting s).out = .error e := by
  unfold compute; dsimp only; rw [h]

/-- the exception of the factorization's `init`, if any, is the outcome of `init` -/
theorem init_propagates (v0 : β) (s : St φ ρ ε κ) : (init K c v0 s).2 = (K.facInit v0 s.fac).exn := rfl

/-- an exception reported by the re-factorization of a `restart` call is the outcome of that call -/
theorem restart_propagates (k : Nat) (sel : Int) (s : St φ ρ ε κ) (e : Exn) (hk : k < c.ncv)
    (h : (K.restartFac k s.ritzVal s.fac).exn = some e) : (restart K c k sel s).2 = some e := by
  unfold restart
  rw [if_neg (by omega)]
  dsimp only
  rw [h]

end Orch

namespace Orch
variable {φ ρ ε κ β τ ω : Type}

/-- `K` with the three operator-applying kernels replaced -/
def withFac (K : Kern φ ρ ε κ β τ ω) (fi : β → φ → FacRes φ) (fz : Nat → Nat → φ → FacRes φ)
    (rf : Nat → List ρ → φ → FacRes φ) : Kern φ ρ ε κ β τ ω :=
  { K with facInit := fi, factorize := fz, restartFac := rf }

/-- the replaced kernels agree with the fault-free ones or report `e`; they keep "`cnt fac = nmatop < k`".  `inv_init` asks for
    `exn = none` because a rejected start vector leaves the OLD object, whose counter is arbitrary; `facInit` is also the one call that
    starts from 0, which is where `0 < k` is needed -/
structure FaultedBy (K : Kern φ ρ ε κ β τ ω) (fi : β → φ → FacRes φ) (fz : Nat → Nat → φ → FacRes φ)
    (rf : Nat → List ρ → φ → FacRes φ) (cnt : φ → Nat) (k : Nat) (e : Exn) : Prop where
  agree_init : ∀ v a, fi v a = K.facInit v a ∨ (fi v a).exn = some e
  agree_fac : ∀ i m a, fz i m a = K.factorize i m a ∨ (fz i m a).exn = some e
  agree_restart : ∀ j vals a, rf j vals a = K.restartFac j vals a ∨ (rf j vals a).exn = some e
  inv_init : ∀ v a, (fi v a).exn = none → cnt (fi v a).fac = (fi v a).ops ∧ (fi v a).ops < k
  inv_fac : ∀ i m a, cnt a < k → cnt (fz i m a).fac = cnt a + (fz i m a).ops ∧ cnt (fz i m a).fac < k
  inv_restart : ∀ j vals a, cnt a < k → cnt (rf j vals a).fac = cnt a + (rf j vals a).ops ∧ cnt (rf j vals a).fac < k

section
variable (K : Kern φ ρ ε κ β τ ω) (c : Cfg) (fi : β → φ → FacRes φ) (fz : Nat → Nat → φ → FacRes φ)
  (rf : Nat → List ρ → φ → FacRes φ)

theorem retrieve_withFac (sel : Int) (s : St φ ρ ε κ) : retrieve (withFac K fi fz rf) c sel s = retrieve K c sel s := rfl
theorem convFlags_withFac (tol : τ) (s : St φ ρ ε κ) : convFlags (withFac K fi fz rf) c tol s = convFlags K c tol s := rfl
theorem sortRitz_withFac (rule : Int) (s : St φ ρ ε κ) : sortRitz (withFac K fi fz rf) c rule s = sortRitz K c rule s := rfl
theorem refresh_withFac (tol : τ) (maxit : Nat) (L : LoopRes φ ρ ε κ) :
    refresh (withFac K fi fz rf) c tol maxit L = refresh K c tol maxit L := rfl

variable {cnt : φ → Nat} {k : Nat} {e : Exn} (hF : FaultedBy K fi fz rf cnt k e)
include hF

/-! ### agree or fault -/

/-- replaced kernels that agree with the fault-free ones or report `e`: the two runs from ONE state stay equal or the
    faulted one leaves with `e` -/
theorem FaultedBy.lockstep : Lockstep (withFac K fi fz rf) K c (τ := τ) Eq (· = e) where
  factorize s _ h := h ▸ (hF.agree_fac (max 1 (K.facDim s.fac)) c.ncv s.fac).imp
    (fun h => ⟨congrArg (fun r => (applyFac s r).1) h, congrArg (fun r => (applyFac s r).2) h⟩) (fun h => ⟨e, h, rfl⟩)
  retrieve _ _ _ h := h ▸ Or.inl ⟨rfl, rfl⟩
  flags _ _ _ h := h ▸ rfl
  store _ _ _ h := h ▸ rfl
  nevAdj _ _ _ h := h ▸ rfl
  restartFac j s _ h := h ▸ (hF.agree_restart j s.ritzVal s.fac).imp
    (fun h => ⟨congrArg (fun r => (applyFac s r).1) h, congrArg (fun r => (applyFac s r).2) h⟩) (fun h => ⟨e, h, rfl⟩)
  sortRitz _ _ _ h := h ▸ Or.inl ⟨rfl, rfl⟩
  finish _ _ _ _ h := h ▸ rfl

theorem compute_agree (sel : Int) (maxit : Nat) (tol : τ) (sorting : Int) (s : St φ ρ ε κ) :
    CompRel Eq (· = e) (compute (withFac K fi fz rf) c sel maxit tol sorting s) (compute K c sel maxit tol sorting s) :=
  compute_rel (hF.lockstep K c fi fz rf) id id (fun _ _ h => h) sel maxit tol sorting s s rfl

/-! ### the faulted kernels never complete a k-th application -/

omit hF in
theorem inv_step {a : φ} {n : Nat} (r : FacRes φ) (h : cnt r.fac = cnt a + r.ops ∧ cnt r.fac < k) (hI : cnt a = n ∧ n < k) :
    cnt r.fac = n + r.ops ∧ n + r.ops < k := by omega

theorem restart_inv (j : Nat) (sel : Int) (s : St φ ρ ε κ) (hI : cnt s.fac = s.nmatop ∧ s.nmatop < k) :
    cnt (restart (withFac K fi fz rf) c j sel s).1.fac = (restart (withFac K fi fz rf) c j sel s).1.nmatop ∧
    (restart (withFac K fi fz rf) c j sel s).1.nmatop < k := by
  have h := inv_step _ (hF.inv_restart j s.ritzVal s.fac (hI.1 ▸ hI.2)) hI
  fun_cases restart (withFac K fi fz rf) c j sel s with
  | case1 => exact hI
  | case2 => exact h
  | case3 hj r s1 hx =>
    obtain ⟨_, _, _, h4, h5⟩ := retrieve_frame (withFac K fi fz rf) c sel s1
    rw [h4, h5]
    exact h

theorem compute_inv (sel : Int) (maxit : Nat) (tol : τ) (sorting : Int) (s : St φ ρ ε κ)
    (hI : cnt s.fac = s.nmatop ∧ s.nmatop < k) :
    (compute (withFac K fi fz rf) c sel maxit tol sorting s).st.nmatop < k := by
  have h := inv_step _ (hF.inv_fac (max 1 (K.facDim s.fac)) c.ncv s.fac (hI.1 ▸ hI.2)) hI
  exact (compute_rule (withFac K fi fz rf) c (fun s => cnt s.fac = s.nmatop ∧ s.nmatop < k) (fun s => cnt s.fac = s.nmatop ∧ s.nmatop < k)
    (fun _ _ e1 e2 h => e1 ▸ e2 ▸ h) (fun _ _ e1 e2 h => e1 ▸ e2 ▸ h) (fun _ h => h) sel maxit tol sorting s ⟨h, fun _ => h⟩
    (fun _ s h => ⟨restart_inv K c fi fz rf hF _ sel s h, fun _ => restart_inv K c fi fz rf hF _ sel s h⟩)).2

/-- **propagation, all fault positions**: if the fault-free `init(v)` succeeds and the fault index is at most the number of
    operator applications the fault-free `init(v); compute(args)` makes (`num_operations()` afterwards), then the faulted
    `init` ends with `e`, or it returns normally and the faulted `compute` ends with `e` -/
theorem init_compute_faulted (v0 : β) (sel : Int) (maxit : Nat) (tol : τ) (sorting : Int) (s : St φ ρ ε κ)
    (hinit : (init K c v0 s).2 = none)
    (hk : k ≤ (compute K c sel maxit tol sorting (init K c v0 s).1).st.nmatop) :
    (init (withFac K fi fz rf) c v0 s).2 = some e ∨
    ((init (withFac K fi fz rf) c v0 s).2 = none ∧
      (compute (withFac K fi fz rf) c sel maxit tol sorting (init (withFac K fi fz rf) c v0 s).1).out = .error e) := by
  rcases hF.agree_init v0 s.fac with h | h
  · right
    have hi : init (withFac K fi fz rf) c v0 s = init K c v0 s := by
      unfold init
      have : (withFac K fi fz rf).facInit v0 s.fac = K.facInit v0 s.fac := h
      rw [this]; rfl
    rw [hi]
    refine ⟨hinit, ?_⟩
    have hx : (fi v0 s.fac).exn = none := by rw [h]; exact hinit
    have hI := hF.inv_init v0 s.fac hx
    rw [h] at hI
    have hI' : cnt (init K c v0 s).1.fac = (init K c v0 s).1.nmatop ∧ (init K c v0 s).1.nmatop < k := by
      unfold init; dsimp only; omega
    rcases compute_agree K c fi fz rf hF sel maxit tol sorting (init K c v0 s).1 with ⟨ha, _⟩ | ⟨_, ha, rfl⟩
    · have := compute_inv K c fi fz rf hF sel maxit tol sorting (init K c v0 s).1 hI'
      rw [ha] at this
      omega
    · exact ha
  · left
    exact h

end
end Orch

namespace FaultOp
open Lin Arnoldi Orch Prog

section
variable {α : Type} [Add α] [Sub α] [Mul α] [Div α] [Neg α] [Sc α]

omit [Add α] [Sub α] [Mul α] [Div α] [Neg α] [Sc α] in
theorem facRes_never (A : Vec α → Vec α) (P : Prog α (Option (State α))) (s sOld : State α) (msg : String) (c : Nat) :
    facRes s sOld msg (P.runF (never A) c) =
      (match evalT A P with
       | some s' => ⟨s', s'.ops - s.ops, none⟩
       | none => ⟨sOld, 0, some (.invalidArgument msg)⟩) := by
  rw [runF_never]
  unfold facRes
  dsimp only
  cases evalT A P <;> rfl

omit [Add α] [Sub α] [Mul α] [Div α] [Neg α] [Sc α] in
/-- a kernel call `r` with the operator whose `k`-th application fails: it is the fault-free call or ends with `e`; it keeps
    the counter invariant; and if the fault index lies in its window it stops at `k - 1` -/
theorem facRes_fault (A : Vec α → Vec α) (k : Nat) (e : Exn) (P : Prog α (Option (State α))) (s sOld : State α) (msg : String)
    (hsome : ∀ s', evalT A P = some s' → s'.ops = s.ops + count A P)
    (r : FacRes (State α)) (hr : r = facRes s sOld msg (P.runF (faultAt A k e) s.ops)) :
    (r = facRes s sOld msg (P.runF (never A) s.ops) ∨ r.exn = some e) ∧
    (s.ops < k → (r.exn = none ∨ sOld.ops = s.ops) → r.fac.ops = s.ops + r.ops ∧ r.fac.ops < k) ∧
    (s.ops < k → k ≤ s.ops + count A P → r = ⟨{ s with ops := k - 1 }, k - 1 - s.ops, some e⟩) := by
  subst hr
  by_cases hit : s.ops < k ∧ k ≤ s.ops + count A P
  · have hr := runF_faultAt_hit A k e P s.ops hit.1 hit.2
    rw [hr]
    have hv : facRes s sOld msg ⟨.error e, k - 1, (log A P).take (k - s.ops)⟩ = ⟨{ s with ops := k - 1 }, k - 1 - s.ops, some e⟩ := rfl
    rw [hv]
    refine ⟨Or.inr rfl, fun h1 _ => ?_, fun _ _ => rfl⟩
    dsimp only; omega
  · have hr := runF_faultAt_miss A k e P s.ops (by omega)
    rw [hr]
    refine ⟨Or.inl rfl, fun h1 hx => ?_, fun h1 h2 => absurd ⟨h1, h2⟩ hit⟩
    rw [facRes_never] at hx ⊢
    cases hev : evalT A P with
    | none =>
      rw [hev] at hx
      dsimp only at hx ⊢
      rcases hx with hx | hx
      · cases hx
      · omega
    | some s' =>
      have := hsome s' hev
      dsimp only
      omega

/-! ### solver kernels given as computations over the operator -/

section prog
variable {ρ ε κ τ ω : Type} (K : Kern (State α) ρ ε κ (Vec α) τ ω) (op : Op α)
  (pZ : State α → Nat → Nat → Prog α (Option (State α))) (pre : Nat → List ρ → State α → State α) (ncv : Nat)

/-- `K` with its three operator-applying kernels run through a fallible operator: `facInit` runs `Arnoldi::init`, `factorize`
    runs `pZ`, `restartFac` runs `pZ … j ncv` on the object `pre` that shifts and compressions leave (`hermKernF` and `genKernF` are
    of this form) -/
def progKern (opF : Nat → Vec α → Except Exn (Vec α)) : Kern (State α) ρ ε κ (Vec α) τ ω :=
  withFac K
    (fun v0 s => facRes { s with ops := 0 } s "initial residual vector cannot be zero" ((initF op { s with ops := 0 } v0).runF opF 0))
    (fun a b s => facRes s s "Arnoldi: from_k is larger than the current subspace dimension" ((pZ s a b).runF opF s.ops))
    (fun j vals s => facRes s (pre j vals s) "Arnoldi: from_k is larger than the current subspace dimension"
      ((pZ (pre j vals s) j ncv).runF opF s.ops))

theorem progKern_never
    (hI : ∀ v0 s, K.facInit v0 s = (match Arnoldi.init op { s with ops := 0 } v0 with
      | some s' => ⟨s', s'.ops, none⟩
      | none => ⟨s, 0, some (.invalidArgument "initial residual vector cannot be zero")⟩))
    (hZ : ∀ a b s, K.factorize a b s =
      facRes s s "Arnoldi: from_k is larger than the current subspace dimension" ((pZ s a b).runF (never op.A) s.ops))
    (hR : ∀ j vals s, K.restartFac j vals s = facRes s (pre j vals s) "Arnoldi: from_k is larger than the current subspace dimension"
      ((pZ (pre j vals s) j ncv).runF (never op.A) s.ops)) :
    progKern K op pZ pre ncv (never op.A) = K := by
  have h1 : (progKern K op pZ pre ncv (never op.A)).facInit = K.facInit := by
    funext v0 s
    show facRes _ _ _ _ = _
    rw [facRes_never, initF_eval, hI]
    cases Arnoldi.init op { s with ops := 0 } v0 <;> rfl
  have h2 : (progKern K op pZ pre ncv (never op.A)).factorize = K.factorize := by
    funext a b s
    exact (hZ a b s).symm
  have h3 : (progKern K op pZ pre ncv (never op.A)).restartFac = K.restartFac := by
    funext j vals s
    exact (hR j vals s).symm
  show withFac K (progKern K op pZ pre ncv (never op.A)).facInit (progKern K op pZ pre ncv (never op.A)).factorize
    (progKern K op pZ pre ncv (never op.A)).restartFac = K
  rw [h1, h2, h3]
  rfl

theorem progKern_faultedBy (hN : progKern K op pZ pre ncv (never op.A) = K)
    (hZ : ∀ a b s s', evalT op.A (pZ s a b) = some s' → s'.ops = s.ops + count op.A (pZ s a b))
    (hpre : ∀ j vals s, (pre j vals s).ops = s.ops)
    (k : Nat) (e : Exn) (hk : 1 ≤ k) :
    FaultedBy K (progKern K op pZ pre ncv (faultAt op.A k e)).facInit (progKern K op pZ pre ncv (faultAt op.A k e)).factorize
      (progKern K op pZ pre ncv (faultAt op.A k e)).restartFac (fun s => s.ops) k e := by
  -- the three conjuncts of `facRes_fault` (agree or fault, counter invariant, stop at `k - 1`) for each kind of call
  have fI : ∀ v0 (s : State α), _ := fun v0 (s : State α) =>
    facRes_fault op.A k e (initF op { s with ops := 0 } v0) { s with ops := 0 } s "initial residual vector cannot be zero"
      (by rw [initF_eval]; exact initF_count op { s with ops := 0 } v0) _ rfl
  have fZ : ∀ a b (s : State α), _ := fun a b (s : State α) =>
    facRes_fault op.A k e (pZ s a b) s s "Arnoldi: from_k is larger than the current subspace dimension" (hZ a b s) _ rfl
  have fR : ∀ j vals (s : State α), _ := fun j vals (s : State α) =>
    facRes_fault op.A k e (pZ (pre j vals s) j ncv) s (pre j vals s) "Arnoldi: from_k is larger than the current subspace dimension"
      (hpre j vals s ▸ hZ j ncv (pre j vals s)) _ rfl
  refine ⟨fun v a => ?_, fun i m a => ?_, fun j vals a => ?_, fun v a hx => ?_, fun i m a hlt => (fZ i m a).2.1 hlt (Or.inr rfl),
    fun j vals a hlt => (fR j vals a).2.1 hlt (Or.inr (hpre j vals a))⟩
  · rw [← hN]; exact (fI v a).1
  · rw [← hN]; exact (fZ i m a).1
  · rw [← hN]; exact (fR j vals a).1
  · have h := (fI v a).2.1 (by show 0 < k; omega) (Or.inl hx)
    have h0 : ({ a with ops := 0 } : State α).ops = 0 := rfl
    rw [h0, Nat.zero_add] at h
    exact ⟨h.1, h.1 ▸ h.2⟩

end prog

variable (op : Op α) (c : Cfg) (eps23 : α) (back : α → α)

theorem hermKernF_eq (opF : Nat → Vec α → Except Exn (Vec α)) :
    hermKernF op opF c eps23 back = progKern (HermSolver.hermKern op c eps23 back) op (lanczosFactorizeF op)
      (restartPre op c.ncv) c.ncv opF := rfl

/-- with an operator that never fails the fault-aware solver kernels ARE the kernels of `HermSolver.hermKern`
    (so the bit-exact correspondence of C05/C07 carries over) -/
theorem hermKernF_never : hermKernF op (never op.A) c eps23 back = HermSolver.hermKern op c eps23 back :=
  progKern_never _ op _ _ _ (fun _ _ => rfl) (fun a b s => by rw [facRes_never, lanczosFactorizeF_eval]; rfl)
    (fun j vals s => by rw [facRes_never]; exact restartFacF_eval op c j vals s)

/-- the solver kernels with the operator whose `k`-th application (since `init()`) fails are `FaultedBy` the fault-free ones -/
theorem hermKernF_faultedBy (k : Nat) (e : Exn) (hk : 1 ≤ k) :
    FaultedBy (HermSolver.hermKern op c eps23 back)
      (hermKernF op (faultAt op.A k e) c eps23 back).facInit (hermKernF op (faultAt op.A k e) c eps23 back).factorize
      (hermKernF op (faultAt op.A k e) c eps23 back).restartFac (fun s => s.ops) k e :=
  progKern_faultedBy _ op _ _ _ (hermKernF_never op c eps23 back)
    (fun a b s => by rw [lanczosFactorizeF_eval]; exact lanczosFactorizeF_count op s a b)
    (restartPre_ops op c.ncv) k e hk

end
end FaultOp

/-! ### the general family: `FaultOpGen.genKernF` against `GenSolver.genKern` -/

namespace FaultOpGen
open Lin Arnoldi Orch FaultOp FaultOp.Prog

section
variable {α : Type} [Add α] [Sub α] [Mul α] [Div α] [Neg α] [Sc α]

/-- shifts, QR sweeps and the two compressions apply no operator and leave the counter alone -/
theorem restartPreG_ops (op : Op α) (ncv k : Nat) (ritzVal : List (GenSolver.Cx α)) (s : State α) :
    (restartPreG op ncv k ritzVal s).ops = s.ops :=
  C06Footprint.genShiftLoop_ops ncv k ritzVal s

theorem restartFacGF_eval (op : Op α) (c : Cfg) (k : Nat) (ritzVal : List (GenSolver.Cx α)) (s : State α) :
    GenSolver.restartFac op c.ncv k ritzVal s =
      (match evalT op.A (restartFacGF op c.ncv k ritzVal s) with
       | some s3 => ⟨s3, s3.ops - s.ops, none⟩
       | none => ⟨restartPreG op c.ncv k ritzVal s, 0,
           some (.invalidArgument "Arnoldi: from_k is larger than the current subspace dimension")⟩) := by
  unfold restartFacGF
  rw [arnoldiFactorizeF_eval]
  unfold GenSolver.restartFac restartPreG
  rfl

variable (op : Op α) (c : Cfg) (eps23 : α) (back : GenSolver.Cx α → GenSolver.Cx α)

theorem genKernF_eq (opF : Nat → Vec α → Except Exn (Vec α)) :
    genKernF op opF c eps23 back = progKern (GenSolver.genKern op c eps23 back) op (arnoldiFactorizeF op)
      (restartPreG op c.ncv) c.ncv opF := rfl

/-- with an operator that never fails the fault-aware kernels of the general family ARE the kernels of `GenSolver.genKern` -/
theorem genKernF_never : genKernF op (never op.A) c eps23 back = GenSolver.genKern op c eps23 back :=
  progKern_never _ op _ _ _ (fun _ _ => rfl) (fun a b s => by rw [facRes_never, arnoldiFactorizeF_eval]; rfl)
    (fun j vals s => by rw [facRes_never]; exact restartFacGF_eval op c j vals s)

/-- the kernels of the general family with the operator whose `k`-th application (since `init()`) fails are `FaultedBy` the
    fault-free ones -/
theorem genKernF_faultedBy (k : Nat) (e : Exn) (hk : 1 ≤ k) :
    FaultedBy (GenSolver.genKern op c eps23 back)
      (genKernF op (faultAt op.A k e) c eps23 back).facInit (genKernF op (faultAt op.A k e) c eps23 back).factorize
      (genKernF op (faultAt op.A k e) c eps23 back).restartFac (fun s => s.ops) k e :=
  progKern_faultedBy _ op _ _ _ (genKernF_never op c eps23 back)
    (fun a b s => by rw [arnoldiFactorizeF_eval]; exact arnoldiFactorizeF_count op s a b)
    (restartPreG_ops op c.ncv) k e hk

/-- at the throw point the by-reference counter holds `k - 1`: a kernel call of the general family whose window contains the
    fault index reports `e`, `k - 1 - (counter before)` applications and leaves the counter at `k - 1` -/
theorem genKernF_factorize_hit (k : Nat) (e : Exn) (a b : Nat) (s : State α) (h1 : s.ops < k)
    (h2 : k ≤ s.ops + count op.A (arnoldiFactorizeF op s a b)) :
    (genKernF op (faultAt op.A k e) c eps23 back).factorize a b s = ⟨{ s with ops := k - 1 }, k - 1 - s.ops, some e⟩ :=
  (facRes_fault op.A k e (arnoldiFactorizeF op s a b) s s "Arnoldi: from_k is larger than the current subspace dimension"
      (by rw [arnoldiFactorizeF_eval]; exact arnoldiFactorizeF_count op s a b) _ rfl).2.2 h1 h2

end
end FaultOpGen
