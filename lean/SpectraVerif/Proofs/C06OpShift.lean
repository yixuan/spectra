/-
  C06 — lemmas about the operator-side shift model (`Model/OpShift.lean`).
-/
import SpectraVerif.Model.OpShift

namespace OpShift
variable {σ : Type}

/-- events that are operator applications only (no `set_shift`, no `try` region) -/
def NoSet : List (Ev σ) → Prop
  | [] => True
  | .performOp :: r => NoSet r
  | _ :: _ => False

theorem noSet_applications (n : Nat) : NoSet (applications n : List (Ev σ)) := by
  induction n with
  | zero => trivial
  | succ n ih => exact ih

/-- without a `set_shift` the installed shift is what it was, whether or not an application throws -/
theorem exec_noSet : ∀ (evs : List (Ev σ)) (th : Option Nat) (s : σ), NoSet evs → (exec evs th s).1 = s := by
  intro evs
  induction evs with
  | nil => intro th s _; rfl
  | cons e r ih =>
    intro th s h
    cases e with
    | setShift t => exact absurd h (by simp [NoSet])
    | tryRestore t => exact absurd h (by simp [NoSet])
    | endTry => exact absurd h (by simp [NoSet])
    | performOp =>
      cases th with
      | none => exact ih none s h
      | some k =>
        cases k with
        | zero => rfl
        | succ k => exact ih (some k) s h

/-- `n` applications in front of `rest`: only a throw among the `n` ends the call there, and the handler in force (if any) installs
    its shift; otherwise `rest` runs with the throw index moved down by `n` -/
theorem execH_apps (n : Nat) (rest : List (Ev σ)) (th : Option Nat) (h : Option σ) (s : σ) :
    execH (applications n ++ rest) th h s =
      match th with
      | none => execH rest none h s
      | some k => if k < n then (h.getD s, true) else execH rest (some (k - n)) h s := by
  induction n generalizing th with
  | zero => cases th <;> rfl
  | succ n ih =>
    cases th with
    | none => exact ih none
    | some k =>
      cases k with
      | zero => exact (if_pos (Nat.succ_pos n)).symm
      | succ k =>
        simp only [Nat.add_lt_add_iff_right, Nat.add_sub_add_right]
        exact ih (some k)

/-- does application `k` of `compute` fall into the root-selection probe? -/
def inProbe (nIter nProbe : Nat) (reachedSort : Bool) : Option Nat → Bool
  | none => false
  | some k => reachedSort && decide (nIter ≤ k) && decide (k < nIter + nProbe)

/-- complete description of `GenEigsComplexShiftSolver::compute` on the installed shift (code as it is now): once `sort_ritzpair`
    is reached the constructor's shift is installed at exit on EVERY path — normal return, exception after the probe, and exception
    of the user's operator inside the probe (the handler restores) -/
theorem exec_computeComplex (sigma probe : σ) (nIter nProbe : Nat) (rs : Bool) (th : Option Nat) (s : σ) :
    (exec (computeComplex sigma probe nIter nProbe rs) th s).1 =
      if rs && (th.all (fun k => decide (nIter ≤ k))) then sigma else s := by
  unfold computeComplex exec
  cases rs with
  | false =>
    simp only [Bool.false_and, Bool.false_eq_true, if_false]
    have h : NoSet (applications nIter ++ ([] : List (Ev σ))) := by
      rw [List.append_nil]; exact noSet_applications nIter
    exact exec_noSet _ th s h
  | true =>
    simp only [if_true]
    rw [execH_apps]
    cases th with
    | none =>
      show (execH (applications nProbe ++ [Ev.endTry, Ev.setShift sigma]) none (some sigma) probe).1 = _
      rw [execH_apps]
      rfl
    | some k =>
      by_cases h1 : k < nIter
      · simp [h1, Nat.not_le.mpr h1]
      · have h1' : nIter ≤ k := Nat.le_of_not_lt h1
        simp only [h1, if_false]
        show (execH (applications nProbe ++ [Ev.endTry, Ev.setShift sigma]) (some (k - nIter)) (some sigma) probe).1 = _
        rw [execH_apps]
        by_cases h2 : k - nIter < nProbe
        · simp [h1', h2]
        · simp [h1', h2, execH]

/-- the code BEFORE the catch-restore (F3b): a throw of the user's operator inside the probe leaves the probe shift installed -/
theorem exec_computeComplexUnguarded_inProbe (sigma probe : σ) (nIter nProbe k : Nat) (s : σ) (h1 : nIter ≤ k) (h2 : k < nIter + nProbe) :
    (exec (computeComplexUnguarded sigma probe nIter nProbe true) (some k) s).1 = probe := by
  unfold computeComplexUnguarded exec
  simp only [if_true]
  rw [execH_apps]
  simp only [Nat.not_lt.mpr h1, if_false]
  show (execH (applications nProbe ++ [Ev.setShift sigma]) (some (k - nIter)) none probe).1 = _
  rw [execH_apps]
  dsimp only
  rw [if_pos (by omega)]
  rfl

/-- before the first repair (F3): whenever `sort_ritzpair` is reached and no exception ends the call earlier, the probe shift stays -/
theorem exec_computeComplexOld_none (probe : σ) (nIter nProbe : Nat) (s : σ) :
    (exec (computeComplexOld probe nIter nProbe true) none s).1 = probe := by
  unfold computeComplexOld exec
  rw [execH_apps]
  show (exec (applications nProbe) none probe).1 = probe
  exact exec_noSet _ none probe (noSet_applications nProbe)

theorem runCalls_cons (c : CallEv σ) (h : List (CallEv σ)) (s : σ) : runCalls (c :: h) s = runCalls h (exec c.evs c.throwAt s).1 := rfl

end OpShift
