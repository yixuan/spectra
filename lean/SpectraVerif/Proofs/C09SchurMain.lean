/-
  C09, whole-run similarity of UpperHessenbergSchur: the main loop and `compute`.
  Ghost budget `mainLoopDrop` (mirrors the loop) and the invariant `Uᵀ H U = T + ex·D_m + E`, `Bnd E (accumulated drop)`.
-/
import SpectraVerif.Proofs.C09SchurDefl
import SpectraVerif.Proofs.C09SimLoop

set_option linter.unusedSectionVars false

namespace C09SS
open Lin EigenPrims HessSchur C09Mat C09Step C09Sim C09OrthU C09Orth
open scoped Matrix

section gen
variable {α : Type} [Add α] [Sub α] [Mul α] [Div α] [Neg α] [Sc α]

/-- **`find_small_subdiag` returns a row whose sub-diagonal entry passed the negligibility test** (or row `0`): for `il` = the result,
    `il = 0` or `|T(il, il−1)| ≤ max(eps·(|T(il−1,il−1)| + |T(il,il)|), near_0)` tested true — any scalar type -/
theorem findSmallSubdiag_spec (t : Mat α) (near0 : α) (r : ℕ) :
    HessSchur.findSmallSubdiag t near0 r = 0 ∨
      Sc.le (Sc.abs (t.get (HessSchur.findSmallSubdiag t near0 r) (HessSchur.findSmallSubdiag t near0 r - 1)))
        (HessSchur.maxi ((Sc.abs (t.get (HessSchur.findSmallSubdiag t near0 r - 1) (HessSchur.findSmallSubdiag t near0 r - 1)) +
          Sc.abs (t.get (HessSchur.findSmallSubdiag t near0 r) (HessSchur.findSmallSubdiag t near0 r))) * Sc.eps) near0) = true := by
  induction r with
  | zero => left; simp [HessSchur.findSmallSubdiag]
  | succ r ih =>
    simp only [HessSchur.findSmallSubdiag]
    split
    · rename_i h; right; simpa using h
    · exact ih

end gen

section field
variable {K : Type} [Field K] [LinearOrder K] [IsStrictOrderedRing K] (F : FieldFns K)

/-- **ghost: the perturbation budget of a run of the Schur main loop** (mirrors `HessSchur.mainLoop`): the sum of
    * `|T(iu, iu−1)|` at every 1x1 deflation and `|T(iu−1, iu−2)|` at every 2x2 split (the sub-diagonal entries the code found
      negligible and overwrote with `0`),
    * `performFrancisDrop` of every Francis step (what the sweep does not transform exactly, see `francisDrop`). -/
def mainLoopDrop (n : ℕ) (near0 : K) : ℕ → ℕ → ℕ → ℕ → K → TU K → K
  | 0, _, _, _, _, _ => 0
  | f + 1, m, iter, total, exShift, s =>
    letI : Sc K := scOfField F
    if m = 0 then 0 else
    let iu := m - 1
    let il := findSmallSubdiag s.t near0 iu
    if il = iu then
      let t := s.t.set iu iu (s.t.get iu iu + exShift)
      let t := if 0 < iu then t.set iu (iu - 1) zero else t
      (if 0 < iu then |s.t.get iu (iu - 1)| else 0) + mainLoopDrop n near0 f (m - 1) 0 total exShift ⟨t, s.u⟩
    else if il + 1 = iu then
      (if 1 < iu then |s.t.get (iu - 1) (iu - 2)| else 0) + mainLoopDrop n near0 f (m - 2) 0 total exShift (splitOffTwoRows n iu exShift s)
    else
      let (t, exShift, sh) := computeShift iu iter exShift s.t
      let iter := iter + 1
      let total := total + 1
      if 40 * n < total then 0 else
      let (im, v0, v1, v2) := initFrancis t il sh (iu - 1 - il) (iu - 2)
      performFrancisDrop F n il im iu near0 (v0, v1, v2) ⟨t, s.u⟩ +
        mainLoopDrop n near0 f m iter total exShift (performFrancis n il im iu near0 (v0, v1, v2) ⟨t, s.u⟩)

theorem mainLoopDrop_nonneg (n : ℕ) (near0 : K) (f m iter total : ℕ) (ex : K) (s : TU K) :
    0 ≤ mainLoopDrop F n near0 f m iter total ex s := by
  induction f generalizing m iter total ex s with
  | zero => exact le_refl _
  | succ f ih =>
    rw [mainLoopDrop]
    refine ite_nonneg le_rfl (ite_nonneg (add_nonneg (ite_nonneg (abs_nonneg _) le_rfl) (ih _ _ _ _ _))
      (ite_nonneg (add_nonneg (ite_nonneg (abs_nonneg _) le_rfl) (ih _ _ _ _ _)) ?_))
    split
    refine ite_nonneg le_rfl ?_
    split
    exact add_nonneg (performFrancisDrop_nonneg F n _ _ _ near0 _ _) (ih _ _ _ _ _)

/-- **main-loop invariant** (`m = iu + 1` rows are still active): block structure and Hessenberg shape of `T`, `U` orthonormal,
    `Uᵀ H U = T + ex·D_m + E` with `E` within the budget `b` -/
structure MInv (n m : ℕ) (H : Matrix (Fin n) (Fin n) K) (ex : K) (s : TU K) (b : K) : Prop where
  inv : @C09Schur.Inv K (scOfField F) n m s.t
  hess : @C09Hess.Hess K (scOfField F) n s.t
  orth : ColsOrth F n s.u
  sim : ∃ E : Matrix (Fin n) (Fin n) K, Bnd E b ∧
    (mat n (gf F s.u))ᵀ * H * mat n (gf F s.u) = mat n (gf F s.t) + Sm n m ex + E

theorem Sm_zero (n : ℕ) (ex : K) : Sm n 0 ex = 0 := by
  ext i j; simp [Sm, Matrix.diagonal_apply]

/-- **the Schur main loop carries the similarity invariant** (exact `sqrt ≥ 0`, `min ≥ 0`; every size, every input, every outcome of
    every comparison): on a normal exit `Uᵀ H U = T + E` with `E` within the initial budget plus `mainLoopDrop` -/
theorem mainLoop_sim (hs : ∀ x : K, 0 ≤ x → F.sqrt x * F.sqrt x = x) (hs0 : ∀ x : K, 0 ≤ F.sqrt x) (hmin : 0 ≤ F.minPos)
    (n : ℕ) (near0 : K) (H : Matrix (Fin n) (Fin n) K) (f m iter total : ℕ) (ex : K) (s : TU K) (b : K)
    (h : MInv F n m H ex s b)
    (hd : (@mainLoop K _ _ _ _ _ (scOfField F) n near0 f m iter total ex s).exit = Exit.done) :
    ∃ E : Matrix (Fin n) (Fin n) K, Bnd E (b + mainLoopDrop F n near0 f m iter total ex s) ∧
      (mat n (gf F (@mainLoop K _ _ _ _ _ (scOfField F) n near0 f m iter total ex s).u))ᵀ * H *
          mat n (gf F (@mainLoop K _ _ _ _ _ (scOfField F) n near0 f m iter total ex s).u) =
        mat n (gf F (@mainLoop K _ _ _ _ _ (scOfField F) n near0 f m iter total ex s).t) + E := by
  let _ : Sc K := scOfField F
  have hu : UnitRot F := makeGivens_unit F hs
  have hh : IdealHH F := makeHouseholder_ideal F hs hs0 hmin
  induction f generalizing m iter total ex s b with
  | zero => cases hd
  | succ f ih =>
    simp only [mainLoop, mainLoopDrop] at hd ⊢
    obtain ⟨E, hE, sim⟩ := h.sim
    by_cases hm : m = 0
    · simp only [if_pos hm] at hd ⊢
      refine ⟨E, by rw [add_zero]; exact hE, ?_⟩
      rw [sim, hm, Sm_zero, add_zero]
    · simp only [if_neg hm] at hd ⊢
      obtain ⟨iu, rfl⟩ : ∃ iu, m = iu + 1 := ⟨m - 1, by omega⟩
      simp only [Nat.add_sub_cancel, show iu + 1 - 2 = iu - 1 from rfl] at hd ⊢
      have hI := h.inv
      have hH : C09Hess.HInv n (iu + 1) s.t := ⟨hI.wf, hI.rows, hI.cols, hI.le, h.hess⟩
      have hmn := hI.le
      have hle := C09Schur.findSmallSubdiag_le s.t near0 iu
      by_cases h1 : findSmallSubdiag s.t near0 iu = iu
      · simp only [if_pos h1] at hd ⊢
        rw [← add_assoc]
        exact ih _ _ _ _ _ _ ⟨C09Schur.inv_deflate hI ex,
          (C09Hess.hinv_keepM hH (C09Schur.presK_deflate s.t hI.wf iu ex) (Nat.le_succ _)).hess, h.orth,
          defl1_sim F n iu H ex s.t (gf F s.u) b (by omega) hI.wf hI.rows hI.cols E hE sim⟩ hd
      · simp only [if_neg h1] at hd ⊢
        by_cases h2 : findSmallSubdiag s.t near0 iu + 1 = iu
        · simp only [if_pos h2] at hd ⊢
          obtain ⟨p, rfl⟩ : ∃ p, iu = p + 1 := ⟨iu - 1, by omega⟩
          simp only [Nat.add_sub_cancel, show p + 1 - 2 = p - 1 from rfl] at hd ⊢
          rw [← add_assoc]
          exact ih _ _ _ _ _ _ ⟨C09Schur.inv_split hI ex,
            (C09Hess.hinv_keepM hH (C09Schur.presK_split n (p + 1) ex s hI.wf).1 (Nat.le_add_right p 2)).hess,
            split_orth F hu n (p + 1) ex s (by omega) (by omega) h.orth,
            split_sim F hs hs0 n p H ex s b (by omega) hI.wf hI.rows hI.cols h.hess
              (fun hlt => (hI.bnd (by omega) hlt).trans (zero_eq F)) h.orth E hE sim⟩ hd
        · simp only [if_neg h2] at hd ⊢
          have hcsim := shift_sim F n iu iter ex s.t hI.wf hI.rows hI.cols (by omega)
          have hI1 := C09Schur.inv_pres hI (C09Schur.pres_computeShift (iu + 1) s.t hI.wf iu iter ex (by omega))
          have hH1 := C09Hess.hinv_keepM hH (C09Hess.presK_computeShift (C09Schur.KeepM iu) s.t hI.wf iu iter ex
            (by intro i _; unfold C09Schur.KeepM; omega)) (Nat.le_refl _)
          have hifle := C09Schur.initFrancis_le (computeShift iu iter ex s.t).1 (findSmallSubdiag s.t near0 iu) (computeShift iu iter ex s.t).2.2
            (iu - 1 - findSmallSubdiag s.t near0 iu) (iu - 2)
          generalize computeShift iu iter ex s.t = cs at hd hcsim hI1 hH1 hifle ⊢
          obtain ⟨t, ex', sh⟩ := cs
          simp only at hd hcsim hI1 hH1 hifle ⊢
          by_cases hcap : 40 * n < total + 1
          · simp only [if_pos hcap] at hd; cases hd
          · simp only [if_neg hcap] at hd ⊢
            generalize initFrancis t (findSmallSubdiag s.t near0 iu) sh (iu - 1 - findSmallSubdiag s.t near0 iu) (iu - 2) = fr at hd hifle ⊢
            obtain ⟨im, v0, v1, v2⟩ := fr
            simp only at hd hifle ⊢
            rw [← add_assoc]
            exact ih _ _ _ _ _ _ ⟨C09Schur.inv_pres hI1 (C09Schur.pres_performFrancis n _ im iu near0 (v0, v1, v2) ⟨t, s.u⟩ hI1.wf),
              (C09Hess.hinv_performFrancis (s := ⟨t, s.u⟩) hH1 _ im near0 (v0, v1, v2)).hess,
              performFrancis_orth F hu hh n _ im iu near0 (v0, v1, v2) ⟨t, s.u⟩ (by omega) (by omega) h.orth,
              performFrancis_sim F hs hh n _ im iu near0 (v0, v1, v2) H ex' ⟨t, s.u⟩ b (by omega) (by omega) hI1.wf hI1.rows hI1.cols
                hH1.hess (fun hlt => (hI1.bnd (by omega) hlt).trans (zero_eq F)) h.orth E hE (by rw [sim, ← hcsim])⟩ hd

/-- **the perturbation budget of `UpperHessenbergSchur::compute`** (`0` in the `norm == 0` early exit, where `T = H`, `U = I`) -/
def schurDrop (n : ℕ) (h : Mat K) : K :=
  letI : Sc K := scOfField F
  if Sc.ne (l1norm n h) (zero : K) = true then mainLoopDrop F n (near0Of (l1norm n h)) (41 * n + 1) n 0 0 zero ⟨h, Mat.identity n⟩ else 0

theorem schurDrop_nonneg (n : ℕ) (h : Mat K) : 0 ≤ schurDrop F n h := by
  simp only [schurDrop]; split
  · exact mainLoopDrop_nonneg F n _ _ _ _ _ _ _
  · exact le_refl _

/-- **whole-run similarity of `UpperHessenbergSchur::compute`**, exact arithmetic: `Uᵀ H U = T + E`, `UᵀU = UUᵀ = 1`, `E` within the
    budget `schurDrop` (as a bilinear form on unit vectors, hence entrywise) -/
theorem compute_sim (hs : ∀ x : K, 0 ≤ x → F.sqrt x * F.sqrt x = x) (hs0 : ∀ x : K, 0 ≤ F.sqrt x) (hmin : 0 ≤ F.minPos)
    (n : ℕ) (h : Mat K) (hw : @WF K h) (hr : h.rows = n) (hc : h.cols = n) (hH : @C09Hess.Hess K (scOfField F) n h)
    (r : Decomp K) (hok : @compute K _ _ _ _ _ (scOfField F) n h = Res.ok r) :
    ∃ E : Matrix (Fin n) (Fin n) K, Bnd E (schurDrop F n h) ∧
      (mat n (gf F r.u))ᵀ * mat n (gf F h) * mat n (gf F r.u) = mat n (gf F r.t) + E ∧
      (mat n (gf F r.u))ᵀ * mat n (gf F r.u) = 1 ∧ mat n (gf F r.u) * (mat n (gf F r.u))ᵀ = 1 := by
  let _ : Sc K := scOfField F
  have hu : UnitRot F := makeGivens_unit F hs
  have hh : IdealHH F := makeHouseholder_ideal F hs hs0 hmin
  have horth := colsOrth_mat F n r.u (compute_orthU F hu hh n h r hok)
  have horth' := mul_eq_one_comm.mp horth
  have hI : mat n (gf F (Mat.identity n : Mat K)) = 1 := mat_identity F n
  simp only [schurDrop]
  obtain ⟨hn, rfl⟩ | ⟨hn, hd, rfl⟩ := C09Schur.compute_ok_cases n h r hok
  · rw [if_neg (by rw [hn]; exact Bool.false_ne_true)]
    refine ⟨0, bnd_zero n, ?_, horth, horth'⟩
    rw [hI, Matrix.transpose_one, Matrix.one_mul, Matrix.mul_one, add_zero]
  · rw [if_pos hn]
    have h0 : MInv F n n (mat n (gf F h)) (zero : K) ⟨h, Mat.identity n⟩ 0 := by
      refine ⟨C09Schur.inv_init n h hw hr hc, hH, colsOrth_identity F n, 0, bnd_zero n, ?_⟩
      show (mat n (gf F (Mat.identity n : Mat K)))ᵀ * _ * mat n (gf F (Mat.identity n : Mat K)) = _
      rw [hI, Matrix.transpose_one, Matrix.one_mul, Matrix.mul_one, add_zero]
      have : Sm n n (zero : K) = 0 := by ext i j; simp [Sm, Matrix.diagonal_apply, zero_eq]
      rw [this, add_zero]
    obtain ⟨E, hE, sim⟩ := mainLoop_sim F hs hs0 hmin n _ _ _ n 0 0 zero _ 0 h0 hd
    exact ⟨E, by simpa using hE, sim, horth, horth'⟩

/-- **what a reflector trip that is not the first of its sweep drops**: at most the two bulge entries below `T(k, k−1)`, and NOTHING
    when the reflector is applied and `makeHouseholder` did not take its degenerate exit (ideal reflector: `P v = β e₁` exactly) -/
theorem francisDrop_nonfirst (hs : ∀ x : K, 0 ≤ x → F.sqrt x * F.sqrt x = x) (hs0 : ∀ x : K, 0 ≤ F.sqrt x) (hmin : 0 ≤ F.minPos)
    (il im : ℕ) (near0 : K) (fv : K × K × K) (s : TU K) (k : ℕ) (hk0 : k ≠ 0) (hne : k ≠ im) :
    francisDrop F il im near0 fv s k ≤ |@Mat.get K (scOfField F) s.t (k + 1) (k - 1)| + |@Mat.get K (scOfField F) s.t (k + 2) (k - 1)| ∧
    (F.minPos < @Mat.get K (scOfField F) s.t (k + 1) (k - 1) * @Mat.get K (scOfField F) s.t (k + 1) (k - 1) +
        @Mat.get K (scOfField F) s.t (k + 2) (k - 1) * @Mat.get K (scOfField F) s.t (k + 2) (k - 1) →
      @Sc.gt K (scOfField F) (@Sc.abs K (scOfField F) (@makeHouseholder K _ _ _ _ _ (scOfField F) (@Mat.get K (scOfField F) s.t k (k - 1))
        (@Mat.get K (scOfField F) s.t (k + 1) (k - 1)) (@Mat.get K (scOfField F) s.t (k + 2) (k - 1))).beta) near0 = true →
      francisDrop F il im near0 fv s k = 0) := by
  let _ : Sc K := scOfField F
  simp only [francisDrop, if_neg hk0, if_neg hne]
  have hrefl := C09SimU.makeHouseholder_reflects F hs hs0 hmin (s.t.get k (k - 1)) (s.t.get (k + 1) (k - 1)) (s.t.get (k + 2) (k - 1))
  simp only at hrefl
  generalize makeHouseholder (s.t.get k (k - 1)) (s.t.get (k + 1) (k - 1)) (s.t.get (k + 2) (k - 1)) = q at hrefl ⊢
  by_cases happ : Sc.gt (Sc.abs q.beta) near0 = true
  · simp only [if_pos happ]
    rcases hrefl with ⟨hdeg, ht, hb⟩ | hker
    · refine ⟨?_, fun hnd _ => absurd hdeg (not_le.mpr hnd)⟩
      simp only [hhKernel, ht, hb]; simp
    · rw [hker]; simp; positivity
  · simp only [if_neg happ]
    exact ⟨le_refl _, fun _ h => absurd h happ⟩

/-- **a sweep that starts at an exact zero loses nothing at its first column**: if `T(im, im−1) = 0` (and the two entries below it,
    which are `0` for an upper Hessenberg `T`) then the first trip of the reflector loop drops nothing -/
theorem francisDrop_first_zero (il im : ℕ) (near0 : K) (fv : K × K × K) (s : TU K)
    (h0 : @Mat.get K (scOfField F) s.t im (im - 1) = 0) (h1 : @Mat.get K (scOfField F) s.t (im + 1) (im - 1) = 0)
    (h2 : @Mat.get K (scOfField F) s.t (im + 2) (im - 1) = 0) : francisDrop F il im near0 fv s im = 0 := by
  let _ : Sc K := scOfField F
  by_cases hk0 : im = 0
  · simp only [francisDrop, if_pos hk0]
  · simp only [francisDrop, if_neg hk0, if_true, h0, h1, h2, hhKernel]
    split <;> simp

end field
end C09SS
