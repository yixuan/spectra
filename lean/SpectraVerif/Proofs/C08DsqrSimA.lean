/-
  C08 — DoubleShiftQR similarity, part A: pure `Matrix` facts about `I − 2wwᵀ` acting on "Hessenberg plus bulge" shapes, and
  the refinement of the TRUNCATED kernels `apply_PX(H.block(k, c0, ·, n − c0), k)` / `apply_XP(H.block(0, k, nrow, ·), k)` that
  `update_block` uses to full left / right multiplications by `Pₖ` (valid because the skipped entries are zero).

  * `Low Zb a b`          position `(a, b)` is structurally zero: below the subdiagonal, or separated by a block boundary `z ∈ Zb`
  * `Sh Zb iu c k M`      every structurally-zero position of `M` is zero except the bulge window `c ≤ b ∧ a ≤ k + 2 ∧ a ≤ iu`
  * `Sh_left`, `Sh_right`, `Sh_tighten`, `Sh_Hes`   how the window moves under `P·`, `·P`, exact annihilation, end of block
  * `PX_toM` (with `C08DsqrMatrix.XP_toM`)         truncated kernels = multiplication by `Pm`
-/
import Mathlib.Data.Matrix.Basic
import Mathlib.Data.Matrix.Mul
import Mathlib.Tactic.Ring
import SpectraVerif.Proofs.C08DsqrMatrix

namespace C08DsqrSim
open Lin C08Mat C08DsqrQ C08DsqrMatrix
open QRModel.DoubleShiftQR
open C08HessMatrix (toM)

section Pure
variable {K : Type} [Field K]

/-- `(a, b)` is a structurally zero position: below the subdiagonal, or a block boundary `z` separates column `b` from row `a` -/
def Low (Zb : Nat → Prop) (a b : Nat) : Prop := b + 2 ≤ a ∨ ∃ z, Zb z ∧ b < z ∧ z ≤ a

/-- block upper Hessenberg with respect to the boundaries `Zb` -/
def Hes (Zb : Nat → Prop) {n : Nat} (M : Matrix (Fin n) (Fin n) K) : Prop :=
  ∀ a b : Fin n, Low Zb a.val b.val → M a b = 0

/-- block upper Hessenberg except for the bulge window `c ≤ b ∧ a ≤ k + 2 ∧ a ≤ iu` -/
def Sh (Zb : Nat → Prop) (iu c k : Nat) {n : Nat} (M : Matrix (Fin n) (Fin n) K) : Prop :=
  ∀ a b : Fin n, Low Zb a.val b.val → ¬ (c ≤ b.val ∧ a.val ≤ k + 2 ∧ a.val ≤ iu) → M a b = 0

theorem Hes_Sh (Zb : Nat → Prop) (iu c k : Nat) {n : Nat} {M : Matrix (Fin n) (Fin n) K} (h : Hes Zb M) :
    Sh Zb iu c k M := fun a b hL _ => h a b hL

/-- left multiplication by a reflector supported on rows `k … min (k+2) iu` keeps the window -/
theorem Sh_left (Zb : Nat → Prop) (iu c k : Nat) {n : Nat} (M : Matrix (Fin n) (Fin n) K) (w : Fin n → K)
    (hsupp : ∀ l : Fin n, (l.val < k ∨ k + 2 < l.val ∨ iu < l.val) → w l = 0)
    (hlow : ∀ b l, b < c → k ≤ l → Low Zb l b) (h : Sh Zb iu c k M) : Sh Zb iu c k (Rm w * M) := by
  intro a b hL hna
  rw [Rm_mul_apply, h a b hL hna]
  by_cases hwa : w a = 0
  · rw [hwa]; ring
  · have ha : ¬ (a.val < k ∨ k + 2 < a.val ∨ iu < a.val) := fun hh => hwa (hsupp a hh)
    have hbc : b.val < c := by omega
    have hs : ∑ l, M l b * w l = 0 := by
      apply Finset.sum_eq_zero
      intro l _
      by_cases hwl : w l = 0
      · rw [hwl]; ring
      · have hl : ¬ (l.val < k ∨ k + 2 < l.val ∨ iu < l.val) := fun hh => hwl (hsupp l hh)
        rw [h l b (hlow b.val l.val hbc (by omega)) (by omega)]; ring
    rw [hs]; ring

/-- right multiplication by the same reflector moves the window one step down: `(k, k) → (k, k + 1)` -/
theorem Sh_right (Zb : Nat → Prop) (iu k : Nat) {n : Nat} (M : Matrix (Fin n) (Fin n) K) (w : Fin n → K)
    (hsupp : ∀ l : Fin n, (l.val < k ∨ k + 2 < l.val ∨ iu < l.val) → w l = 0)
    (hZ : Zb (iu + 1)) (h : Sh Zb iu k k M) : Sh Zb iu k (k + 1) (M * Rm w) := by
  intro a b hL hna
  rw [mul_Rm_apply, h a b hL (by omega)]
  by_cases hwb : w b = 0
  · rw [hwb]; ring
  · have hb : ¬ (b.val < k ∨ k + 2 < b.val ∨ iu < b.val) := fun hh => hwb (hsupp b hh)
    have hfar : k + 3 < a.val ∨ iu < a.val := by omega
    have hs : ∑ l, M a l * w l = 0 := by
      apply Finset.sum_eq_zero
      intro l _
      by_cases hwl : w l = 0
      · rw [hwl]; ring
      · have hl : ¬ (l.val < k ∨ k + 2 < l.val ∨ iu < l.val) := fun hh => hwl (hsupp l hh)
        have hLl : Low Zb a.val l.val := by
          rcases hfar with hf | hf
          · exact Or.inl (by omega)
          · exact Or.inr ⟨iu + 1, hZ, by omega, by omega⟩
        rw [h a l hLl (by omega)]; ring
    rw [hs]; ring

/-- exact annihilation of column `c` inside the window shrinks the window to columns `≥ c + 1` -/
theorem Sh_tighten (Zb : Nat → Prop) (iu c k : Nat) {n : Nat} (M : Matrix (Fin n) (Fin n) K)
    (h : Sh Zb iu c k M)
    (hz : ∀ a b : Fin n, b.val = c → Low Zb a.val b.val → a.val ≤ k + 2 → a.val ≤ iu → M a b = 0) :
    Sh Zb iu (c + 1) k M := by
  intro a b hL hna
  by_cases hb : b.val = c
  · by_cases hin : a.val ≤ k + 2 ∧ a.val ≤ iu
    · exact hz a b hb hL hin.1 hin.2
    · exact h a b hL (by omega)
  · exact h a b hL (by omega)

/-- the window is empty once its first column is `≥ iu − 1` (no boundary strictly inside the block) -/
theorem Sh_Hes (Zb : Nat → Prop) (il iu c k : Nat) {n : Nat} (M : Matrix (Fin n) (Fin n) K)
    (hZin : ∀ z, Zb z → z ≤ il ∨ iu < z) (hil : il ≤ c) (hc : iu ≤ c + 1) (h : Sh Zb iu c k M) : Hes Zb M := by
  intro a b hL
  apply h a b hL
  intro hh
  rcases hL with hL | ⟨z, hz, h1, h2⟩
  · omega
  · rcases hZin z hz with h3 | h3 <;> omega

/-- widening the window -/
theorem Sh_mono (Zb : Nat → Prop) (iu c k c' k' : Nat) {n : Nat} (M : Matrix (Fin n) (Fin n) K)
    (hc : c' ≤ c) (hk : k ≤ k') (h : Sh Zb iu c k M) : Sh Zb iu c' k' M := by
  intro a b hL hna
  exact h a b hL (by omega)

end Pure

section AtField
variable {K : Type} [Field K] [LinearOrder K] [IsStrictOrderedRing K] (F : FieldFns K)

/-- the support of the embedded column -/
theorem wv_supp (n : Nat) (u : Mat K) (nr : Array Nat) (k : Nat) (l : Fin n)
    (h : l.val < k ∨ k + nr.getD k 0 ≤ l.val) : wv F n u nr k l = 0 := by
  rw [wv_apply, if_neg (by omega)]

/-- one call `apply_PX(H.block(k, c0, nrow, p − c0), k)` is a LEFT multiplication by `Pₖ`, provided the loop the code takes matches
    `nr[k]` (`h3`) and the live rows vanish in the skipped columns `< c0` -/
theorem PX_toM {n p : Nat} (u : Mat K) (nr : Array Nat) {H : Mat K} (hw : WF H) (hr : H.rows = n) (hc : H.cols = p)
    (k c0 nrow ncol : Nat) (hcol : c0 + ncol = p) (hl : Live n nr k) (h3 : nr.getD k 0 = 3 → nrow ≠ 2)
    (hz : ∀ d b, b < c0 → d < nr.getD k 0 → mget F H (k + d) b = 0) :
    toM F n p (aPX F H u nr k c0 nrow ncol k) = Pm F n u nr k * toM F n p H := by
  by_cases h1 : nr.getD k 0 = 1
  · have e : aPX F H u nr k c0 nrow ncol k = H := C08Nr.apply_PX_nr F H u nr k c0 nrow ncol k h1
    rw [e, Pm_one F n u nr k h1, Matrix.one_mul]
  · have h23 := hl.two_or_three h1
    have hlive := hl.2.2
    ext i j
    have hi := i.isLt
    have hj := j.isLt
    rw [Pm_mul_toM F u hl h1, toM_get,
      apply_PX_window F hw u nr k c0 nrow ncol k (by omega) h1 _ (branch_eq h23 h3) (by omega) (by omega) (by omega)]
    by_cases hin : c0 ≤ j.val
    · rw [if_pos ⟨hin, by omega⟩]; ring
    · rw [if_neg (fun hh => hin hh.1), wdot_zero _ _ h23 (fun d hd => hz d j.val (by omega) hd)]; ring

/-! ### the reflector tables: `Pm` / `Qd` depend only on the columns they name -/

/-- tables `(u, nr)` and `(u', nr')` agree on column `j` -/
def ColEq (u : Mat K) (nr : Array Nat) (u' : Mat K) (nr' : Array Nat) (j : Nat) : Prop :=
  nr'.getD j 0 = nr.getD j 0 ∧ mget F u' 0 j = mget F u 0 j ∧ mget F u' 1 j = mget F u 1 j ∧ mget F u' 2 j = mget F u 2 j

theorem ColEq.refl (u : Mat K) (nr : Array Nat) (j : Nat) : ColEq F u nr u nr j := ⟨rfl, rfl, rfl, rfl⟩

theorem ColEq.trans {u nr u' nr' u'' nr'' j} (h1 : ColEq F u nr u' nr' j) (h2 : ColEq F u' nr' u'' nr'' j) :
    ColEq F u nr u'' nr'' j :=
  ⟨h2.1.trans h1.1, h2.2.1.trans h1.2.1, h2.2.2.1.trans h1.2.2.1, h2.2.2.2.trans h1.2.2.2⟩

theorem wv_congr (n : Nat) {u u' : Mat K} {nr nr' : Array Nat} {k : Nat} (h : ColEq F u nr u' nr' k)
    (hle : nr.getD k 0 ≤ 3) : wv F n u' nr' k = wv F n u nr k := by
  obtain ⟨e, e0, e1, e2⟩ := h
  funext i
  rw [wv_apply, wv_apply, e]
  by_cases hc : nr.getD k 0 ≠ 1 ∧ k ≤ i.val ∧ i.val < k + nr.getD k 0
  · rw [if_pos hc, if_pos hc]
    have : i.val - k = 0 ∨ i.val - k = 1 ∨ i.val - k = 2 := by omega
    rcases this with h | h | h <;> rw [h] <;> assumption
  · rw [if_neg hc, if_neg hc]

theorem Pm_congr (n : Nat) {u u' : Mat K} {nr nr' : Array Nat} {k : Nat} (h : ColEq F u nr u' nr' k)
    (hle : nr.getD k 0 ≤ 3) : Pm F n u' nr' k = Pm F n u nr k := by
  unfold Pm; rw [wv_congr F n h hle]

theorem Qd_congr (n : Nat) {u u' : Mat K} {nr nr' : Array Nat} (m : Nat)
    (h : ∀ j, j < m → ColEq F u nr u' nr' j ∧ nr.getD j 0 ≤ 3) : Qd F n u' nr' m = Qd F n u nr m := by
  induction m with
  | zero => rfl
  | succ m ih =>
    rw [Qd_succ, Qd_succ, ih (fun j hj => h j (by omega)), Pm_congr F n (h m (by omega)).1 (h m (by omega)).2]

end AtField

end C08DsqrSim
