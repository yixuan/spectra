/-
  C08 — the first pass of `DoubleShiftQR::compute` (deflation test on the subdiagonal, zeroing below it) at the exact-arithmetic
  scalar instance, entry by entry.

  * `pStep`, `pStep_spec`, `pFold_spec`: the first and the last pass of `compute` are one loop over the subdiagonal (with / without
    zeroing the column below), and every test it makes is a test on the ORIGINAL matrix.
  * `sFold_fst`, `sFold_snd`, `zi_fold_mem`, `zi_mem`, `zeroInd_first_block`: `zero_ind` holds `0`, `n` and the deflated positions.
  * `st0_H_spec`: the matrix the block loop starts from.
-/
import Mathlib.Data.Matrix.Basic
import Mathlib.Data.Matrix.Mul
import Mathlib.Data.Fintype.BigOperators
import Mathlib.Algebra.BigOperators.Fin
import Mathlib.Tactic.Ring
import Mathlib.Tactic.LinearCombination
import SpectraVerif.Proofs.C08DsqrKernel
import SpectraVerif.Proofs.C08Nr
import SpectraVerif.Proofs.C08HessMatrix
import SpectraVerif.Proofs.C08Local
import SpectraVerif.Proofs.C08Refl

namespace C08DsqrMatrix
open Lin QRModel C08Mat C08DsqrQ
open QRModel.DoubleShiftQR
open Matrix
open C08HessMatrix (toM)

section AtField
variable {K : Type} [Field K] [LinearOrder K] [IsStrictOrderedRing K] (F : FieldFns K)

/-- the deflation test of `compute` at subdiagonal position `i` of `H` -/
abbrev dfl (e : K) (H : Mat K) (i : Nat) : Bool :=
  @negligible K _ _ (scOfField F) e (mget F H (i + 1) i) (mget F H i i) (mget F H (i + 1) (i + 1))

abbrev sStep (n : Nat) (e : K) (st : Mat K × Array Nat) (i : Nat) : Mat K × Array Nat :=
  @splitStep K _ _ (scOfField F) n e st i

/-- one step of a pass over the subdiagonal: `(i+1, i)` is zeroed if it is negligible; with `zc` column `i` is zeroed from row `i + 2`
    down as well.  `zc = true` is the matrix part of `splitStep` (first pass of `compute`), `zc = false` the step of its last pass -/
def pStep (zc : Bool) (n : Nat) (e : K) (H : Mat K) (i : Nat) : Mat K :=
  bif zc then @zeroCol K (scOfField F) (if dfl F e H i = true then H.set (i + 1) i (@Lin.zero K (scOfField F)) else H) i (n - i - 2)
  else (if dfl F e H i = true then H.set (i + 1) i (@Lin.zero K (scOfField F)) else H)

theorem sStep_pStep (n : Nat) (e : K) (st : Mat K × Array Nat) (i : Nat) :
    sStep F n e st i = (pStep F true n e st.1 i, if dfl F e st.1 i = true then st.2.push (i + 1) else st.2) := rfl

theorem pStep_spec (zc : Bool) (n : Nat) (e : K) {H : Mat K} (hw : WF H) (hr : H.rows = n) (hc : H.cols = n) (i : Nat)
    (hi : i + 1 < n) :
    WF (pStep F zc n e H i) ∧ (pStep F zc n e H i).rows = n ∧ (pStep F zc n e H i).cols = n ∧
    ∀ a b, a < n → b < n → mget F (pStep F zc n e H i) a b =
      if b = i ∧ ((zc = true ∧ i + 2 ≤ a) ∨ (a = i + 1 ∧ dfl F e H i = true)) then 0 else mget F H a b := by
  have hd : WF (if dfl F e H i = true then H.set (i + 1) i (@Lin.zero K (scOfField F)) else H) ∧
      (if dfl F e H i = true then H.set (i + 1) i (@Lin.zero K (scOfField F)) else H).rows = n ∧
      (if dfl F e H i = true then H.set (i + 1) i (@Lin.zero K (scOfField F)) else H).cols = n ∧
      ∀ a b, a < n → b < n → mget F (if dfl F e H i = true then H.set (i + 1) i (@Lin.zero K (scOfField F)) else H) a b =
        if b = i ∧ a = i + 1 ∧ dfl F e H i = true then 0 else mget F H a b := by
    by_cases dd : dfl F e H i = true
    · rw [if_pos dd]
      refine ⟨set_WF hw _ _ _, by simp [hr], by simp [hc], fun a b ha hb => ?_⟩
      have g := @get_set K (scOfField F) H hw (i + 1) i a b (@Lin.zero K (scOfField F)) (by omega) (by omega) (by omega)
      show @Mat.get K (scOfField F) _ a b = _
      rw [g, zero_eq]
      exact C08Mat.ite_iff ⟨fun h => ⟨h.2, h.1, dd⟩, fun h => ⟨h.2.1, h.1⟩⟩ _ _
    · rw [if_neg dd]
      exact ⟨hw, hr, hc, fun a b _ _ => by rw [if_neg (fun h => dd h.2.2)]⟩
  unfold pStep
  generalize (if dfl F e H i = true then H.set (i + 1) i (@Lin.zero K (scOfField F)) else H) = D at hd ⊢
  obtain ⟨dw, dr, dc, dg⟩ := hd
  cases zc
  · refine ⟨dw, dr, dc, fun a b ha hb => ?_⟩
    show mget F D a b = _
    rw [dg a b ha hb]
    exact C08Mat.ite_iff ⟨fun h => ⟨h.1, Or.inr h.2⟩, fun h => ⟨h.1, h.2.resolve_left (fun c => absurd c.1 (by simp))⟩⟩ _ _
  · obtain ⟨z1, z2, z3, z4⟩ := @zeroCol_spec K (scOfField F) _ dw i (n - i - 2) (by omega) (by omega)
    refine ⟨z1, z2.trans dr, z3.trans dc, fun a b ha hb => ?_⟩
    show @Mat.get K (scOfField F) (@zeroCol K (scOfField F) D i (n - i - 2)) a b = _
    rw [z4 a b (by omega) (by omega), zero_eq]
    by_cases c1 : b = i ∧ i + 2 ≤ a ∧ a < i + 2 + (n - i - 2)
    · rw [if_pos c1, if_pos ⟨c1.1, Or.inl ⟨rfl, c1.2.1⟩⟩]
    · rw [if_neg c1]
      show mget F D a b = _
      rw [dg a b ha hb]
      exact C08Mat.ite_iff ⟨fun h => ⟨h.1, Or.inr h.2⟩,
        fun h => ⟨h.1, h.2.resolve_left (fun c => c1 ⟨h.1, c.2, by omega⟩)⟩⟩ _ _

theorem dfl_congr (e : K) (H H0 : Mat K) (i : Nat) (e1 : mget F H (i + 1) i = mget F H0 (i + 1) i)
    (e2 : mget F H i i = mget F H0 i i) (e3 : mget F H (i + 1) (i + 1) = mget F H0 (i + 1) (i + 1)) :
    dfl F e H i = dfl F e H0 i := by
  show @negligible K _ _ (scOfField F) e (mget F H (i + 1) i) (mget F H i i) (mget F H (i + 1) (i + 1)) = _
  rw [e1, e2, e3]

/-- the pass after `m` steps, in closed form: step `i` writes column `i` only and its test reads columns `≥ i`, so every test is a test
    on the ORIGINAL matrix -/
theorem pFold_spec (zc : Bool) (n : Nat) (e : K) {H0 : Mat K} (hw : WF H0) (hr : H0.rows = n) (hc : H0.cols = n) (m : Nat)
    (hm : m + 1 ≤ n) :
    WF ((List.range m).foldl (pStep F zc n e) H0) ∧ ((List.range m).foldl (pStep F zc n e) H0).rows = n ∧
    ((List.range m).foldl (pStep F zc n e) H0).cols = n ∧
    ∀ a b, a < n → b < n → mget F ((List.range m).foldl (pStep F zc n e) H0) a b =
      if b < m ∧ ((zc = true ∧ b + 2 ≤ a) ∨ (a = b + 1 ∧ dfl F e H0 b = true)) then 0 else mget F H0 a b := by
  refine ListFold.foldl_range_inv (fun m S => WF S ∧ S.rows = n ∧ S.cols = n ∧ ∀ a b, a < n → b < n → mget F S a b =
      if b < m ∧ ((zc = true ∧ b + 2 ≤ a) ∨ (a = b + 1 ∧ dfl F e H0 b = true)) then 0 else mget F H0 a b) _ m H0
    ⟨hw, hr, hc, fun a b _ _ => by rw [if_neg (fun h => absurd h.1 (Nat.not_lt_zero b))]⟩ (fun m S hm' ⟨w, r, c, g⟩ => ?_)
  obtain ⟨w1, r1, c1, g1⟩ := pStep_spec F zc n e w r c m (by omega)
  have same : ∀ a b, a < n → b < n → m ≤ b → mget F S a b = mget F H0 a b := fun a b ha hb hmb => by
    rw [g a b ha hb, if_neg (fun h => absurd h.1 (by omega))]
  have hd : dfl F e S m = dfl F e H0 m :=
    dfl_congr F e S H0 m (same _ _ (by omega) (by omega) (Nat.le_refl _)) (same _ _ (by omega) (by omega) (Nat.le_refl _))
      (same _ _ (by omega) (by omega) (Nat.le_succ _))
  refine ⟨w1, r1, c1, fun a b ha hb => ?_⟩
  rw [g1 a b ha hb, hd]
  by_cases e0 : b = m
  · subst e0
    rw [same a b ha hb (Nat.le_refl _)]
    exact C08Mat.ite_iff ⟨fun h => ⟨Nat.lt_succ_self _, h.2⟩, fun h => ⟨rfl, h.2⟩⟩ _ _
  · rw [if_neg (fun h => e0 h.1), g a b ha hb]
    exact C08Mat.ite_iff ⟨fun h => ⟨Nat.lt_succ_of_lt h.1, h.2⟩, fun h => ⟨by omega, h.2⟩⟩ _ _

/-- the matrix of the first pass does not depend on `zero_ind` -/
theorem sFold_fst (n : Nat) (e : K) (H0 : Mat K) (zi0 : Array Nat) (m : Nat) :
    ((List.range m).foldl (sStep F n e) (H0, zi0)).1 = (List.range m).foldl (pStep F true n e) H0 :=
  (List.foldl_hom Prod.fst (fun _ _ => rfl)).symm

/-- `zero_ind` receives `m + 1` at step `m` iff the ORIGINAL subdiagonal entry is negligible -/
theorem sFold_snd (n : Nat) (e : K) {H0 : Mat K} (hw : WF H0) (hr : H0.rows = n) (hc : H0.cols = n) (zi0 : Array Nat) (m : Nat)
    (hm : m + 2 ≤ n) :
    ((List.range (m + 1)).foldl (sStep F n e) (H0, zi0)).2 =
      if dfl F e H0 m = true then ((List.range m).foldl (sStep F n e) (H0, zi0)).2.push (m + 1)
      else ((List.range m).foldl (sStep F n e) (H0, zi0)).2 := by
  rw [ListFold.foldl_range_succ, sStep_pStep, sFold_fst]
  obtain ⟨_, _, _, g⟩ := pFold_spec F true n e hw hr hc m (by omega)
  have same : ∀ a b, a < n → b < n → m ≤ b → mget F ((List.range m).foldl (pStep F true n e) H0) a b = mget F H0 a b :=
    fun a b ha hb hmb => by rw [g a b ha hb, if_neg (fun h => absurd h.1 (by omega))]
  rw [dfl_congr F e _ H0 m (same _ _ (by omega) (by omega) (Nat.le_refl _)) (same _ _ (by omega) (by omega) (Nat.le_refl _))
    (same _ _ (by omega) (by omega) (Nat.le_succ _))]

/-- `eps_abs` of `compute` -/
abbrev epsA (mat : Mat K) : K := C08Nr.nz F * (@Sc.ofInt K (scOfField F) (mat.rows : Int) / F.eps)

/-- the copy `m_mat_H` of the input that `compute` starts from -/
abbrev H0of (mat : Mat K) : Mat K := @Mat.ofFn K mat.rows mat.rows (fun i j => @Mat.get K (scOfField F) mat i j)

theorem H0of_get (mat : Mat K) {a b : Nat} (ha : a < mat.rows) (hb : b < mat.rows) :
    mget F (H0of F mat) a b = mget F mat a b :=
  @get_ofFn K (scOfField F) mat.rows mat.rows _ a b ha hb

theorem dfl_H0of (mat : Mat K) (i : Nat) (hi : i + 1 < mat.rows) :
    dfl F (epsA F mat) (H0of F mat) i = dfl F (epsA F mat) mat i :=
  dfl_congr F _ _ _ i (H0of_get F mat (by omega) (by omega)) (H0of_get F mat (by omega) (by omega))
    (H0of_get F mat (by omega) (by omega))

theorem zi_fold_mem (mat : Mat K) (m : Nat) (hm : m + 1 ≤ mat.rows) :
    let zi := ((List.range m).foldl (sStep F mat.rows (epsA F mat)) (H0of F mat, (#[0] : Array Nat))).2
    ∀ a, a < zi.size → zi.getD a 0 = 0 ∨
      (1 ≤ zi.getD a 0 ∧ zi.getD a 0 ≤ m ∧ dfl F (epsA F mat) mat (zi.getD a 0 - 1) = true) := by
  dsimp only
  induction m with
  | zero =>
    intro a ha
    left
    have : a = 0 := by simpa using ha
    subst this; simp
  | succ m ih =>
    have ih' := ih (by omega)
    have h := sFold_snd F mat.rows (epsA F mat) (H0 := H0of F mat) (ofFn_WF _ _ _) rfl rfl (#[0] : Array Nat) m (by omega)
    rw [h, dfl_H0of F mat m (by omega)]
    generalize ((List.range m).foldl (sStep F mat.rows (epsA F mat)) (H0of F mat, (#[0] : Array Nat))).2 = zi at ih' ⊢
    by_cases dd : dfl F (epsA F mat) mat m = true
    · rw [if_pos dd]
      intro a ha
      rw [Array.size_push] at ha
      rw [C08ReuseDs.getD_push]
      by_cases hl : a < zi.size
      · rw [if_pos hl]
        rcases ih' a hl with h0 | ⟨h1, h2, h3⟩
        · exact Or.inl h0
        · exact Or.inr ⟨h1, by omega, h3⟩
      · rw [if_neg hl, if_pos (by omega)]
        exact Or.inr ⟨by omega, by omega, by rw [Nat.add_sub_cancel]; exact dd⟩
    · rw [if_neg dd]
      intro a ha
      rcases ih' a ha with h0 | ⟨h1, h2, h3⟩
      · exact Or.inl h0
      · exact Or.inr ⟨h1, by omega, h3⟩

/-- every entry of `zero_ind` is `0`, `n`, or a deflated subdiagonal position -/
theorem zi_mem (mat : Mat K) (hn : 1 ≤ mat.rows) (a : Nat) (ha : a < (C08Nr.zeroInd F mat).size) :
    (C08Nr.zeroInd F mat).getD a 0 = 0 ∨ (C08Nr.zeroInd F mat).getD a 0 = mat.rows ∨
    (1 ≤ (C08Nr.zeroInd F mat).getD a 0 ∧ (C08Nr.zeroInd F mat).getD a 0 + 1 ≤ mat.rows ∧
      dfl F (epsA F mat) mat ((C08Nr.zeroInd F mat).getD a 0 - 1) = true) := by
  have key := zi_fold_mem F mat (mat.rows - 1) (by omega)
  have e : C08Nr.zeroInd F mat =
      ((List.range (mat.rows - 1)).foldl (sStep F mat.rows (epsA F mat)) (H0of F mat, (#[0] : Array Nat))).2.push mat.rows :=
    rfl
  rw [e] at ha ⊢
  generalize ((List.range (mat.rows - 1)).foldl (sStep F mat.rows (epsA F mat)) (H0of F mat, (#[0] : Array Nat))).2 = zi
    at key ha ⊢
  rw [Array.size_push] at ha
  rw [C08ReuseDs.getD_push]
  by_cases hl : a < zi.size
  · rw [if_pos hl]
    rcases key a hl with h0 | ⟨h1, h2, h3⟩
    · exact Or.inl h0
    · exact Or.inr (Or.inr ⟨h1, by omega, h3⟩)
  · rw [if_neg hl, if_pos (by omega)]
    exact Or.inr (Or.inl rfl)

/-- if neither of the first two subdiagonal entries of the input is deflated, the first block has size ≥ 3 -/
theorem zeroInd_first_block (mat : Mat K) (hn : 3 ≤ mat.rows)
    (hd0 : dfl F (epsA F mat) mat 0 = false) (hd1 : dfl F (epsA F mat) mat 1 = false) :
    3 ≤ (C08Nr.zeroInd F mat).getD 1 0 := by
  obtain ⟨z1, z2, _, z4, _⟩ := C08Nr.zeroInd_spec F mat (by omega)
  have h01 : (C08Nr.zeroInd F mat).getD 0 0 < (C08Nr.zeroInd F mat).getD 1 0 := z4 0 (by omega)
  rcases zi_mem F mat (by omega) 1 (by omega) with h | h | ⟨_, _, h3⟩
  · omega
  · omega
  · by_contra hlt
    have e : (C08Nr.zeroInd F mat).getD 1 0 - 1 = 0 ∨ (C08Nr.zeroInd F mat).getD 1 0 - 1 = 1 := by omega
    rcases e with e | e <;> rw [e] at h3
    · rw [hd0] at h3; exact absurd h3 (by simp)
    · rw [hd1] at h3; exact absurd h3 (by simp)

/-- the first-pass matrix `(C08Nr.st0 F mat).1` that the block loop of `compute` starts from: it is upper Hessenberg, agrees with
    the input on and above the diagonal, and a subdiagonal entry is zeroed iff it is deflated -/
theorem st0_H_spec (mat : Mat K) (hn : 1 ≤ mat.rows) :
    (∀ a b, a < mat.rows → b < mat.rows → b + 2 ≤ a → mget F (C08Nr.st0 F mat).1 a b = 0) ∧
    (∀ a b, a < mat.rows → b < mat.rows → a ≤ b → mget F (C08Nr.st0 F mat).1 a b = mget F mat a b) ∧
    (∀ b, b + 1 < mat.rows → dfl F (epsA F mat) mat b = false →
      mget F (C08Nr.st0 F mat).1 (b + 1) b = mget F mat (b + 1) b) ∧
    (∀ b, b + 1 < mat.rows → mget F (C08Nr.st0 F mat).1 (b + 1) b =
      if dfl F (epsA F mat) mat b = true then 0 else mget F mat (b + 1) b) ∧
    WF (C08Nr.st0 F mat).1 ∧ (C08Nr.st0 F mat).1.rows = mat.rows ∧ (C08Nr.st0 F mat).1.cols = mat.rows := by
  obtain ⟨w, r, c, g⟩ := pFold_spec F true mat.rows (epsA F mat) (H0 := H0of F mat) (ofFn_WF _ _ _) rfl rfl (mat.rows - 1) (by omega)
  rw [← sFold_fst F mat.rows (epsA F mat) (H0of F mat) (#[0] : Array Nat)] at w r c g
  have q4 : ∀ b, b + 1 < mat.rows → mget F (C08Nr.st0 F mat).1 (b + 1) b =
      if dfl F (epsA F mat) mat b = true then 0 else mget F mat (b + 1) b := by
    intro b hb
    rw [← dfl_H0of F mat b hb, ← H0of_get F mat hb (Nat.lt_of_succ_lt hb)]
    exact (g (b + 1) b hb (by omega)).trans
      (C08Mat.ite_iff ⟨fun h => (h.2.resolve_left (fun c => absurd c.2 (by omega))).2, fun h => ⟨by omega, Or.inr ⟨rfl, h⟩⟩⟩ _ _)
  refine ⟨fun a b ha hb hab => (g a b ha hb).trans (if_pos ⟨by omega, Or.inl ⟨rfl, hab⟩⟩),
    fun a b ha hb hab => ((g a b ha hb).trans (if_neg (fun h => by rcases h.2 with c | c <;> omega))).trans (H0of_get F mat ha hb),
    fun b hb hd => ?_, q4, w, r, c⟩
  rw [q4 b hb, hd]; rfl

end AtField

end C08DsqrMatrix
