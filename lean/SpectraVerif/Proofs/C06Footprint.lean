/-
  C06 — read/write footprint of the factorization kernels (`Model/Arnoldi.lean`, `Model/Lanczos.lean`) and of the numeric kernel
  record of the symmetric family (`HermSolver.hermKern`).

  * `erase` forgets the two trace counters `nexpand`, `nreorth` (model-side bookkeeping for the correspondence check).  Every model
    function commutes with `erase`: the trace counters flow only into themselves, never into `V, H, f, beta, k, ops` or into a result
    (`*_erase` lemmas; for the re-orthogonalisation loops this needs an induction on the loop: `lanczos_reorth_np`, `arnoldi_reorth_np`).
  * `consts` (n, m, near0, eps: the `const` members of the C++ class) are never written (`*_consts` lemmas).
  * `Arnoldi.init` rebuilds `V, H, f, beta, k` from `(op, v0)` and the constants alone, from ANY old object (`init_any`): in the model
    `m_fac_V`/`m_fac_H` are rebuilt from zero matrices.  (The C++ `resize()` of an already allocated `m_fac_V` keeps the stale columns
    >= 1; `Proofs/C06StaleV.lean` proves that this is invisible: `Lanczos::factorize_from` writes column i before any read of it,
    `init_stale_columns_harmless`.)
  * `facInit`, `factorize` and `restartFac` of both families run an `Option`-valued piece of the factorization and report what it
    did (`facResOf`); two such calls on objects that agree on the live part are related as `Orch.Respects` asks (`facResOf_live`).
  * `herm_respects`: the kernel record of the symmetric family respects `Live` ("same constants, equal up to trace counters"), i.e.
    the hypothesis `Orch.Respects` of the orchestration-level noninterference theorems is DISCHARGED for the numeric model.
    `hermKernC` is `hermKern` with the constants pinned in `facInit` (`pinnedInit`; on every object whose constants are the
    constructor's it is the plain `facInit` of both kernel records, `pinnedInit_eq`), and no stage of `Orch.compute` uses `facInit`
    (`Lockstep.wfi`).
  * histories, for any kernel record whose `facInit` is `plainInit` and which respects `Live` once pinned: the constants survive
    every history (`run_consts_of`) and `init` with the pinned kernel is `init` with the record itself (`init_bridge_of`).
-/
import SpectraVerif.Model.HermSolver
import SpectraVerif.Proofs.OrchNonint
import SpectraVerif.Proofs.ListFold

namespace C06Footprint
open Lin Arnoldi

/-! ### `Orch.compute` and the accessors never call the kernel `facInit` (only `Orch.init` does): replacing it leaves them unchanged -/

section wfi
open Orch
variable {φ ρ ε κ β τ ω : Type} (K : Kern φ ρ ε κ β τ ω) (c : Cfg) (g : β → φ → FacRes φ)

def withFacInit : Kern φ ρ ε κ β τ ω := { K with facInit := g }

theorem retrieve_wfi (sel : Int) (s : St φ ρ ε κ) : retrieve (withFacInit K g) c sel s = retrieve K c sel s := rfl
theorem convFlags_wfi (tol : τ) (s : St φ ρ ε κ) : convFlags (withFacInit K g) c tol s = convFlags K c tol s := rfl
theorem restart_wfi (k : Nat) (sel : Int) (s : St φ ρ ε κ) : restart (withFacInit K g) c k sel s = restart K c k sel s := rfl
theorem sortRitz_wfi (rule : Int) (s : St φ ρ ε κ) : sortRitz (withFacInit K g) c rule s = sortRitz K c rule s := rfl
theorem refresh_wfi (tol : τ) (maxit : Nat) (L : LoopRes φ ρ ε κ) :
    refresh (withFacInit K g) c tol maxit L = refresh K c tol maxit L := rfl

/-- no stage of `compute` calls `facInit`: a lockstep of two records with replaced `facInit` is one of the records themselves -/
theorem Lockstep.wfi {g1 g2 : β → φ → FacRes φ} {K1 K2 : Kern φ ρ ε κ β τ ω} {R : St φ ρ ε κ → St φ ρ ε κ → Prop} {E : Exn → Prop}
    (h : Lockstep (withFacInit K1 g1) (withFacInit K2 g2) c (τ := τ) R E) : Lockstep K1 K2 c (τ := τ) R E :=
  ⟨h.1, h.2, h.3, h.4, h.5, h.6, h.7, h.8⟩

theorem eigenvalues_wfi (s : St φ ρ ε κ) : eigenvalues (withFacInit K g) c s = eigenvalues K c s := rfl
theorem eigenvectors_wfi (nvec : Nat) (s : St φ ρ ε κ) :
    eigenvectors (withFacInit K g) c nvec s = eigenvectors K c nvec s := rfl

end wfi

section
variable {α : Type} [Add α] [Sub α] [Mul α] [Div α] [Neg α] [Sc α]
set_option linter.unusedSectionVars false

/-! ### the trace counters and the constants -/

/-- forget the trace counters -/
def erase (s : State α) : State α := { s with nexpand := 0, nreorth := 0 }

/-- the `const` data members of `Arnoldi` -/
def consts (s : State α) : Nat × Nat × α × α := (s.n, s.m, s.near0, s.eps)

theorem erase_with (s : State α) : s = { erase s with nexpand := s.nexpand, nreorth := s.nreorth } := by
  cases s; rfl

/-- a function of the state that ignores explicit updates of the trace counters depends on `erase` only -/
theorem of_upd {γ : Type} {G : State α → γ} (h : ∀ (s : State α) (a b : Nat), G { s with nexpand := a, nreorth := b } = G s)
    {s t : State α} (hst : erase s = erase t) : G s = G t := by
  have e : ∀ u : State α, G u = G (erase u) := fun u => by
    have := h (erase u) u.nexpand u.nreorth
    rwa [← erase_with u] at this
  rw [e s, e t, hst]

theorem erase_k {s t : State α} (h : erase s = erase t) : s.k = t.k :=
  (congrArg State.k h :)
theorem erase_ops {s t : State α} (h : erase s = erase t) : s.ops = t.ops :=
  (congrArg State.ops h :)
theorem erase_H {s t : State α} (h : erase s = erase t) : s.H = t.H :=
  (congrArg State.H h :)
theorem erase_V {s t : State α} (h : erase s = erase t) : s.V = t.V :=
  (congrArg State.V h :)
theorem erase_beta {s t : State α} (h : erase s = erase t) : s.beta = t.beta :=
  (congrArg State.beta h :)
theorem erase_f {s t : State α} (h : erase s = erase t) : s.f = t.f :=
  (congrArg State.f h :)

/-! ### the frame both `factorize_from` share -/

/-- guard, zero `H` outside the leading block, run the steps `from_k … to_m - 1`, set `k` -/
def factorizeWith (step : State α → Nat → State α) (s : State α) (k m : Nat) : Option (State α) :=
  if m ≤ k then some s
  else if k > s.k then none
  else some { (List.range (m - k)).foldl (fun st d => step st (k + d)) { s with H := keepTopLeft s.H k } with k := m }

theorem factorizeWith_upd (step : State α → Nat → State α)
    (hstep : ∀ (i : Nat) {x y : State α}, erase x = erase y → erase (step x i) = erase (step y i))
    (k m : Nat) (s : State α) (a b : Nat) :
    (factorizeWith step { s with nexpand := a, nreorth := b } k m).map erase = (factorizeWith step s k m).map erase := by
  unfold factorizeWith
  dsimp only
  split
  · rfl
  · split
    · rfl
    · simp only [Option.map_some, Option.some.injEq]
      have h := ListFold.foldl_rel (fun x y : State α => erase x = erase y) (fun st d => step st (k + d)) (fun st d => step st (k + d))
        (List.range (m - k)) { s with H := keepTopLeft s.H k, nexpand := a, nreorth := b } { s with H := keepTopLeft s.H k } rfl
        (fun x y i _ hxy => hstep _ hxy)
      exact congrArg (fun x : State α => { x with k := m }) h

theorem factorizeWith_consts (step : State α → Nat → State α) (hstep : ∀ x i, consts (step x i) = consts x)
    (k m : Nat) (s s' : State α) (h : factorizeWith step s k m = some s') : consts s' = consts s := by
  unfold factorizeWith at h
  dsimp only at h
  split at h
  · cases h; rfl
  · split at h
    · cases h
    · cases h
      exact ListFold.foldl_fix (σ := State α) consts _ _ _ (fun x i => hstep x _)

/-! ### Lanczos::factorize_from -/

/-- the numeric results of the Lanczos re-orthogonalisation loop do not depend on the pass counter (stated against the counter 0,
    so that it rewrites the counter away) -/
theorem lanczos_reorth_np (op : Op α) (eps bt : α) (V : Mat α) (i n fuel count : Nat) (f : Vec α) (H : Mat α) (beta : α) (Vf : Vec α)
    (oerr : α) (np : Nat) :
    (Lanczos.reorth op eps bt V i n fuel count f H beta Vf oerr np).1 = (Lanczos.reorth op eps bt V i n fuel count f H beta Vf oerr 0).1 ∧
    (Lanczos.reorth op eps bt V i n fuel count f H beta Vf oerr np).2.1 = (Lanczos.reorth op eps bt V i n fuel count f H beta Vf oerr 0).2.1 ∧
    (Lanczos.reorth op eps bt V i n fuel count f H beta Vf oerr np).2.2.1 = (Lanczos.reorth op eps bt V i n fuel count f H beta Vf oerr 0).2.2.1 := by
  induction fuel generalizing count f H beta Vf oerr np with
  | zero => exact ⟨rfl, rfl, rfl⟩
  | succ fuel ih =>
    unfold Lanczos.reorth
    split
    · split
      · exact ⟨rfl, rfl, rfl⟩
      · exact ⟨(ih _ _ _ _ _ _ _).1.trans (ih _ _ _ _ _ _ _).1.symm, (ih _ _ _ _ _ _ _).2.1.trans (ih _ _ _ _ _ _ _).2.1.symm,
          (ih _ _ _ _ _ _ _).2.2.trans (ih _ _ _ _ _ _ _).2.2.symm⟩
    · exact ⟨rfl, rfl, rfl⟩

/-- one Lanczos step: `V, H, f, beta, ops` of the result are functions of `V, H, f, beta, ops` (and the constants) of the input -/
theorem lanczos_factorStep_upd (op : Op α) (bt es : α) (i : Nat) (s : State α) (a b : Nat) :
    erase (Lanczos.factorStep op bt es { s with nexpand := a, nreorth := b } i) = erase (Lanczos.factorStep op bt es s i) := by
  unfold Lanczos.factorStep
  simp only [erase, apply_ite Prod.fst, apply_ite Prod.snd, lanczos_reorth_np]

theorem lanczos_factorStep_erase (op : Op α) (bt es : α) (i : Nat) {s t : State α} (h : erase s = erase t) :
    erase (Lanczos.factorStep op bt es s i) = erase (Lanczos.factorStep op bt es t i) :=
  of_upd (G := fun s => erase (Lanczos.factorStep op bt es s i)) (lanczos_factorStep_upd op bt es i) h

theorem lanczos_factorStep_consts (op : Op α) (bt es : α) (s : State α) (i : Nat) :
    consts (Lanczos.factorStep op bt es s i) = consts s := by
  unfold Lanczos.factorStep; rfl

/-- `Lanczos::factorize_from` reads and writes only the live part (`Lanczos.factorize_from op s k m` unfolds to
    `factorizeWith (Lanczos.factorStep op …) s k m`; `Arnoldi.factorize_from` likewise) -/
theorem lanczos_factorize_erase (op : Op α) (k m : Nat) {s t : State α} (h : erase s = erase t) :
    (Lanczos.factorize_from op s k m).map erase = (Lanczos.factorize_from op t k m).map erase :=
  of_upd (G := fun s => (Lanczos.factorize_from op s k m).map erase)
    (fun s => factorizeWith_upd (Lanczos.factorStep op (s.eps * Sc.sqrt (Sc.ofInt (s.n : Int))) (Sc.sqrt s.eps))
      (fun i _ _ hxy => lanczos_factorStep_erase op _ _ i hxy) k m s) h

theorem lanczos_factorize_consts (op : Op α) (k m : Nat) (s s' : State α) (h : Lanczos.factorize_from op s k m = some s') :
    consts s' = consts s :=
  factorizeWith_consts (Lanczos.factorStep op (s.eps * Sc.sqrt (Sc.ofInt (s.n : Int))) (Sc.sqrt s.eps))
    (fun x i => lanczos_factorStep_consts op _ _ x i) k m s s' h

/-! ### Arnoldi::factorize_from (general family) -/

theorem arnoldi_reorth_np (op : Op α) (eps bt : α) (V : Mat α) (i1 n fuel count : Nat) (f h : Vec α) (beta : α) (Vf : Vec α)
    (oerr : α) (np : Nat) :
    (Arnoldi.reorth op eps bt V i1 n fuel count f h beta Vf oerr np).1 = (Arnoldi.reorth op eps bt V i1 n fuel count f h beta Vf oerr 0).1 ∧
    (Arnoldi.reorth op eps bt V i1 n fuel count f h beta Vf oerr np).2.1 = (Arnoldi.reorth op eps bt V i1 n fuel count f h beta Vf oerr 0).2.1 ∧
    (Arnoldi.reorth op eps bt V i1 n fuel count f h beta Vf oerr np).2.2.1 = (Arnoldi.reorth op eps bt V i1 n fuel count f h beta Vf oerr 0).2.2.1 := by
  induction fuel generalizing count f h beta Vf oerr np with
  | zero => exact ⟨rfl, rfl, rfl⟩
  | succ fuel ih =>
    unfold Arnoldi.reorth
    split
    · split
      · exact ⟨rfl, rfl, rfl⟩
      · exact ⟨(ih _ _ _ _ _ _ _).1.trans (ih _ _ _ _ _ _ _).1.symm, (ih _ _ _ _ _ _ _).2.1.trans (ih _ _ _ _ _ _ _).2.1.symm,
          (ih _ _ _ _ _ _ _).2.2.trans (ih _ _ _ _ _ _ _).2.2.symm⟩
    · exact ⟨rfl, rfl, rfl⟩

theorem arnoldi_stepCore_upd (op : Op α) (bt : α) (i : Nat) (f : Vec α) (beta : α) (restart : Bool) (ops nexp nexp' : Nat)
    (s : State α) (a b : Nat) :
    erase (Arnoldi.stepCore op bt { s with nexpand := a, nreorth := b } i f beta restart ops nexp) =
    erase (Arnoldi.stepCore op bt s i f beta restart ops nexp') := by
  unfold Arnoldi.stepCore
  simp only [erase, arnoldi_reorth_np]
  split <;> rfl

theorem arnoldi_factorStep_upd (op : Op α) (bt : α) (i : Nat) (s : State α) (a b : Nat) :
    erase (Arnoldi.factorStep op bt { s with nexpand := a, nreorth := b } i) = erase (Arnoldi.factorStep op bt s i) := by
  unfold Arnoldi.factorStep
  dsimp only
  split <;> exact arnoldi_stepCore_upd op bt i _ _ _ _ _ _ s a b

theorem arnoldi_factorStep_erase (op : Op α) (bt : α) (i : Nat) {s t : State α} (h : erase s = erase t) :
    erase (Arnoldi.factorStep op bt s i) = erase (Arnoldi.factorStep op bt t i) :=
  of_upd (G := fun s => erase (Arnoldi.factorStep op bt s i)) (arnoldi_factorStep_upd op bt i) h

theorem arnoldi_stepCore_consts (op : Op α) (bt : α) (s : State α) (i : Nat) (f : Vec α) (beta : α) (restart : Bool) (ops nexp : Nat) :
    consts (Arnoldi.stepCore op bt s i f beta restart ops nexp) = consts s := by
  unfold Arnoldi.stepCore
  dsimp only
  split <;> rfl

theorem arnoldi_factorStep_consts (op : Op α) (bt : α) (s : State α) (i : Nat) :
    consts (Arnoldi.factorStep op bt s i) = consts s := by
  unfold Arnoldi.factorStep
  split <;> exact arnoldi_stepCore_consts op bt s i _ _ _ _ _

/-- `Arnoldi::factorize_from` reads and writes only the live part -/
theorem arnoldi_factorize_erase (op : Op α) (k m : Nat) {s t : State α} (h : erase s = erase t) :
    (Arnoldi.factorize_from op s k m).map erase = (Arnoldi.factorize_from op t k m).map erase :=
  of_upd (G := fun s => (Arnoldi.factorize_from op s k m).map erase)
    (fun s => factorizeWith_upd (Arnoldi.factorStep op (s.eps * Sc.sqrt (Sc.ofInt (s.n : Int))))
      (fun i _ _ hxy => arnoldi_factorStep_erase op _ i hxy) k m s) h

theorem arnoldi_factorize_consts (op : Op α) (k m : Nat) (s s' : State α) (h : Arnoldi.factorize_from op s k m = some s') :
    consts s' = consts s :=
  factorizeWith_consts (Arnoldi.factorStep op (s.eps * Sc.sqrt (Sc.ofInt (s.n : Int))))
    (fun x i => arnoldi_factorStep_consts op _ x i) k m s s' h

/-! ### Arnoldi::init, compress_H, compress_V -/

/-- `Arnoldi::init` on an object with pinned constants and op counter: the live part of the result does not depend on the old
    object AT ALL (every field `init` touches is rebuilt from `(op, v0)` and the constants) -/
theorem init_any (op : Op α) (n m : Nat) (near0 eps : α) (v0 : Vec α) (s t : State α) :
    (Arnoldi.init op { s with n := n, m := m, near0 := near0, eps := eps, ops := 0 } v0).map erase =
    (Arnoldi.init op { t with n := n, m := m, near0 := near0, eps := eps, ops := 0 } v0).map erase := by
  unfold Arnoldi.init
  dsimp only
  split <;> rfl

theorem init_consts (op : Op α) (v0 : Vec α) (s s' : State α) (h : Arnoldi.init op s v0 = some s') : consts s' = consts s := by
  unfold Arnoldi.init at h
  dsimp only at h
  split at h
  · cases h
  · cases h; rfl

/-- whether `init` rejects the start vector depends on the operator, the vector and `near0` only -/
theorem init_isSome (op : Op α) (v0 : Vec α) (s t : State α) (h : s.near0 = t.near0) :
    (Arnoldi.init op s v0).isSome = (Arnoldi.init op t v0).isSome := by
  unfold Arnoldi.init
  dsimp only
  rw [h]
  split <;> rfl

theorem compress_H_upd (QtHQ : Mat α) (sh : Nat) (s : State α) (a b : Nat) :
    erase (compress_H { s with nexpand := a, nreorth := b } QtHQ sh) = erase (compress_H s QtHQ sh) := rfl

theorem compress_V_upd (op : Op α) (Q : Mat α) (s : State α) (a b : Nat) :
    erase (compress_V op { s with nexpand := a, nreorth := b } Q) = erase (compress_V op s Q) := rfl

theorem compress_H_erase (QtHQ : Mat α) (sh : Nat) {s t : State α} (h : erase s = erase t) :
    erase (compress_H s QtHQ sh) = erase (compress_H t QtHQ sh) :=
  of_upd (G := fun s => erase (compress_H s QtHQ sh)) (compress_H_upd QtHQ sh) h

theorem compress_V_erase (op : Op α) (Q : Mat α) {s t : State α} (h : erase s = erase t) :
    erase (compress_V op s Q) = erase (compress_V op t Q) :=
  of_upd (G := fun s => erase (compress_V op s Q)) (compress_V_upd op Q) h

theorem compress_H_consts (QtHQ : Mat α) (sh : Nat) (s : State α) : consts (compress_H s QtHQ sh) = consts s := rfl
theorem compress_V_consts (op : Op α) (Q : Mat α) (s : State α) : consts (compress_V op s Q) = consts s := rfl

/-! ### the shift loop of `HermEigsBase::restart` -/

/-- projection used for the shift loops of `restart`: live part of the factorization and the accumulated `Q` -/
def eraseP (p : State α × Mat α) : State α × Mat α := (erase p.1, p.2)

/-- the shift loop of `HermEigsBase::restart` (QR sweeps + `compress_H`) -/
def shiftLoop (shifts : List α) (s : State α) (Q0 : Mat α) : State α × Mat α :=
  shifts.foldl (fun (acc : State α × Mat α) mu =>
      let decomp := QRModel.TridiagQR.compute acc.1.H mu
      let Q := decomp.apply_YQ acc.2
      (Arnoldi.compress_H acc.1 decomp.matrix_QtHQ 1, Q)) (s, Q0)

theorem shiftLoop_erase (shifts : List α) (Q0 : Mat α) {s t : State α} (h : erase s = erase t) :
    eraseP (shiftLoop shifts s Q0) = eraseP (shiftLoop shifts t Q0) := by
  unfold shiftLoop
  apply ListFold.foldl_rel (fun x y : State α × Mat α => eraseP x = eraseP y)
  · simp only [eraseP, h]
  · intro x y mu _ hxy
    obtain ⟨x1, x2⟩ := x
    obtain ⟨y1, y2⟩ := y
    simp only [eraseP, Prod.mk.injEq] at hxy
    obtain ⟨h1, h2⟩ := hxy
    subst h2
    have hH : x1.H = y1.H := erase_H h1
    simp only [eraseP, hH, Prod.mk.injEq, and_true]
    exact compress_H_erase _ 1 h1

theorem shiftLoop_consts (shifts : List α) (Q0 : Mat α) (s : State α) : consts (shiftLoop shifts s Q0).1 = consts s := by
  unfold shiftLoop
  exact ListFold.foldl_fix (σ := State α × Mat α) (fun p => consts p.1)
    (fun (acc : State α × Mat α) mu =>
      let decomp := QRModel.TridiagQR.compute acc.1.H mu
      let Q := decomp.apply_YQ acc.2
      (Arnoldi.compress_H acc.1 decomp.matrix_QtHQ 1, Q)) shifts (s, Q0) (fun x mu => rfl)

/-! ### kernels that run an `Option`-valued piece of the factorization -/

/-- same constants, and equal up to the trace counters -/
def Live (n m : Nat) (near0 eps : α) (a b : State α) : Prop :=
  consts a = (n, m, near0, eps) ∧ consts b = (n, m, near0, eps) ∧ erase a = erase b

theorem Live.refl {n m : Nat} {near0 eps : α} {a : State α} (h : consts a = (n, m, near0, eps)) : Live n m near0 eps a a :=
  ⟨h, h, rfl⟩

theorem Live.compress_V (op : Op α) {n m : Nat} {near0 eps : α} {p q : State α × Mat α} (h : eraseP p = eraseP q)
    (cp : consts p.1 = (n, m, near0, eps)) (cq : consts q.1 = (n, m, near0, eps)) :
    Live n m near0 eps (compress_V op p.1 p.2) (compress_V op q.1 q.2) := by
  obtain ⟨h1, h2⟩ := Prod.mk.inj h
  rw [← show p.2 = q.2 from h2]
  exact ⟨(compress_V_consts op p.2 p.1).trans cp, (compress_V_consts op p.2 q.1).trans cq, compress_V_erase op p.2 h1⟩

/-- what `facInit`, `factorize` and `restartFac` of both families return: if the piece of the factorization succeeds, the new
    object and the advance of its counter over `base`; if it rejects its arguments, the object `keep`, no applications and
    `invalid_argument msg` -/
def facResOf (base : Nat) (r : Option (State α)) (keep : State α) (msg : String) : Orch.FacRes (State α) :=
  match r with
  | some s' => ⟨s', s'.ops - base, none⟩
  | none => ⟨keep, 0, some (.invalidArgument msg)⟩

/-- two such calls whose results agree on the live part (and keep the constants) are related as `Orch.Respects` asks -/
theorem facResOf_live {n m : Nat} {near0 eps : α} {ra rb : Option (State α)} {ka kb : State α} {ca cb : Nat} (msg : String)
    (hk : Live n m near0 eps ka kb) (hc : ca = cb) (hr : ra.map erase = rb.map erase)
    (hca : ∀ s', ra = some s' → consts s' = (n, m, near0, eps)) (hcb : ∀ s', rb = some s' → consts s' = (n, m, near0, eps)) :
    Live n m near0 eps (facResOf ca ra ka msg).fac (facResOf cb rb kb msg).fac ∧
    (facResOf ca ra ka msg).ops = (facResOf cb rb kb msg).ops ∧ (facResOf ca ra ka msg).exn = (facResOf cb rb kb msg).exn := by
  subst hc
  cases ra with
  | none =>
    cases rb with
    | none => exact ⟨hk, rfl, rfl⟩
    | some b' => cases hr
  | some a' =>
    cases rb with
    | none => cases hr
    | some b' =>
      have h : erase a' = erase b' := Option.some.inj hr
      exact ⟨⟨hca a' rfl, hcb b' rfl, h⟩, congrArg (· - ca) (erase_ops h), rfl⟩

/-- `facInit` as both kernel records have it: `Arnoldi::init` with the counter reset, the old object kept on rejection -/
def plainInit (op : Arnoldi.Op α) (v0 : Vec α) (s : State α) : Orch.FacRes (State α) :=
  facResOf 0 (Arnoldi.init op { s with ops := 0 } v0) s "initial residual vector cannot be zero"

/-- `facInit` with the constants of the factorization object pinned (what the C++ gets from `const` members), and a canonical
    object in the rejected-start-vector case -/
def pinnedInit (op : Arnoldi.Op α) (c : Orch.Cfg) (near0 eps : α) (v0 : Vec α) (s : State α) : Orch.FacRes (State α) :=
  facResOf 0 (Arnoldi.init op { s with n := c.n, m := c.ncv, near0 := near0, eps := eps, ops := 0 } v0)
    (State.mk0 c.n c.ncv near0 eps) "initial residual vector cannot be zero"

theorem pinnedInit_live (op : Arnoldi.Op α) (c : Orch.Cfg) (near0 eps : α) (v : Vec α) (a b : State α) :
    Live c.n c.ncv near0 eps (pinnedInit op c near0 eps v a).fac (pinnedInit op c near0 eps v b).fac ∧
    (pinnedInit op c near0 eps v a).ops = (pinnedInit op c near0 eps v b).ops ∧
    (pinnedInit op c near0 eps v a).exn = (pinnedInit op c near0 eps v b).exn :=
  facResOf_live _ (Live.refl rfl) rfl (init_any op c.n c.ncv near0 eps v a b)
    (fun s' h => init_consts op v _ s' h) (fun s' h => init_consts op v _ s' h)

/-- on an object with the constructor's constants the pinned `facInit` is the plain one (same exception; same result
    whenever the start vector is accepted) -/
theorem pinnedInit_eq (op : Arnoldi.Op α) (c : Orch.Cfg) (near0 eps : α) (v0 : Vec α) (s : State α)
    (hs : consts s = (c.n, c.ncv, near0, eps)) :
    (pinnedInit op c near0 eps v0 s).exn = (plainInit op v0 s).exn ∧
    ((plainInit op v0 s).exn = none → pinnedInit op c near0 eps v0 s = plainInit op v0 s) := by
  have e : ({ s with n := c.n, m := c.ncv, near0 := near0, eps := eps, ops := 0 } : State α) = { s with ops := 0 } := by
    obtain ⟨n, m, k, V, H, f, beta, nr0, ep, ops, ne, nr⟩ := s
    simp only [consts, Prod.mk.injEq] at hs
    obtain ⟨h1, h2, h3, h4⟩ := hs
    subst h1 h2 h3 h4
    rfl
  unfold pinnedInit plainInit
  rw [e]
  cases Arnoldi.init op { s with ops := 0 } v0 with
  | none => exact ⟨rfl, fun h => by cases h⟩
  | some s' => exact ⟨rfl, fun _ => rfl⟩

/-! ### the kernel record of the symmetric family -/

/-- `hermKern` with the constants of the factorization object pinned in `facInit` (what the C++ gets from `const` members), and a
    canonical object in the rejected-start-vector case -/
def hermKernC (op : Arnoldi.Op α) (c : Orch.Cfg) (eps23 : α) (back : α → α) (near0 eps : α) :
    Orch.Kern (Arnoldi.State α) α α (Vec α) (Vec α) α (Vec α) :=
  withFacInit (HermSolver.hermKern op c eps23 back) (fun v0 s =>
      match Arnoldi.init op { s with n := c.n, m := c.ncv, near0 := near0, eps := eps, ops := 0 } v0 with
      | some s' => ⟨s', s'.ops, none⟩
      | none => ⟨State.mk0 c.n c.ncv near0 eps, 0, some (.invalidArgument "initial residual vector cannot be zero")⟩)

-- In the proof, `facInit`, `factorize` and `restartFac` of the record unfold to `facResOf …` (by `rfl`); likewise in `gen_respects`.
/-- **the obligation**: every numeric kernel of the symmetric family reads only the live part of the factorization object, and
    `facInit` rebuilds the live part from ANY old object -/
theorem herm_respects (op : Arnoldi.Op α) (c : Orch.Cfg) (eps23 : α) (back : α → α) (near0 eps : α) :
    Orch.Respects (hermKernC op c eps23 back near0 eps) (Live c.n c.ncv near0 eps) where
  facInit := pinnedInit_live op c near0 eps
  factorize := fun k m a b hab =>
    facResOf_live _ hab (erase_ops hab.2.2) (lanczos_factorize_erase op k m hab.2.2)
      (fun s' h => (lanczos_factorize_consts op k m a s' h).trans hab.1)
      (fun s' h => (lanczos_factorize_consts op k m b s' h).trans hab.2.1)
  facDim := fun a b hab => erase_k hab.2.2
  eig := by
    intro a b hab
    simp only [hermKernC, withFacInit, HermSolver.hermKern, HermSolver.eigH, erase_H hab.2.2]
  convTest := by
    intro t a b x y hab
    simp only [hermKernC, withFacInit, HermSolver.hermKern, HermSolver.convTest, erase_beta hab.2.2]
  restartFac := fun k vals a b hab => by
    have hL := Live.compress_V op (shiftLoop_erase (HermSolver.restartShifts c.ncv k vals) (Mat.identity c.ncv) hab.2.2)
      ((shiftLoop_consts _ _ a).trans hab.1) ((shiftLoop_consts _ _ b).trans hab.2.1)
    exact facResOf_live _ hL (erase_ops hab.2.2) (lanczos_factorize_erase op k c.ncv hL.2.2)
      (fun s' h => (lanczos_factorize_consts op k c.ncv _ s' h).trans hL.1)
      (fun s' h => (lanczos_factorize_consts op k c.ncv _ s' h).trans hL.2.1)
  assemble := by
    intro a b x hab
    simp only [hermKernC, withFacInit, HermSolver.hermKern, HermSolver.assemble, erase_V hab.2.2]

end

/-! ### histories: the constants survive, and on objects that carry them the pinned `facInit` is the plain one -/

section histories
open Orch
variable {α : Type} [Add α] [Sub α] [Mul α] [Div α] [Neg α] [Sc α] {ρ ε κ τ ω : Type}
variable (K : Kern (State α) ρ ε κ (Vec α) τ ω) (op : Arnoldi.Op α) (c : Cfg) (near0 eps : α)

theorem init_consts_of (hI : K.facInit = plainInit op) (v0 : Vec α) {s : St (State α) ρ ε κ}
    (h : consts s.fac = (c.n, c.ncv, near0, eps)) : consts (init K c v0 s).1.fac = (c.n, c.ncv, near0, eps) := by
  show consts (K.facInit v0 s.fac).fac = _
  rw [hI]
  unfold plainInit facResOf
  cases hi : Arnoldi.init op { s.fac with ops := 0 } v0 with
  | none => exact h
  | some s' => exact (init_consts op v0 _ s' hi).trans h

variable (hR : Respects (withFacInit K (pinnedInit op c near0 eps)) (Live c.n c.ncv near0 eps))
include hR

omit [Neg α] in
/-- `compute` on two similar objects, stated for `K` itself -/
theorem compute_sim_of (sel : Int) (maxit : Nat) (tol : τ) (sorting : Int) (s1 s2 : St (State α) ρ ε κ)
    (h : SimSt (Live c.n c.ncv near0 eps) s1 s2) :
    CompRel (SimSt (Live c.n c.ncv near0 eps)) (fun _ => False) (compute K c sel maxit tol sorting s1) (compute K c sel maxit tol sorting s2) :=
  compute_rel (Lockstep.wfi c (hR.lockstep _ c)) id id (fun _ _ h => h) sel maxit tol sorting s1 s2 h

/-- the constants survive every history (runs that did not converge, runs that threw, anything) -/
theorem run_consts_of (hI : K.facInit = plainInit op) (hist : List (Call (Vec α) τ)) {s : St (State α) ρ ε κ}
    (h : consts s.fac = (c.n, c.ncv, near0, eps)) : consts (run K c s hist).fac = (c.n, c.ncv, near0, eps) := by
  refine ListFold.foldl_inv (fun s : St (State α) ρ ε κ => consts s.fac = (c.n, c.ncv, near0, eps)) (step K c) hist s h ?_
  intro s call _ hs
  cases call with
  | init v0 => exact init_consts_of K op c near0 eps hI v0 hs
  | compute sel maxit tol sorting =>
    exact (compute_sim_of K op c near0 eps hR sel maxit tol sorting s s ⟨Live.refl hs, rfl, rfl, rfl, rfl, rfl, rfl⟩).sim.1.fac.1

omit hR in
/-- on an object carrying the constructor's constants `init` with the pinned kernel is `init` with `K`: same exception, and the
    same new object whenever the start vector is accepted -/
theorem init_bridge_of (hI : K.facInit = plainInit op) (v0 : Vec α) {s : St (State α) ρ ε κ}
    (h : consts s.fac = (c.n, c.ncv, near0, eps)) :
    (init (withFacInit K (pinnedInit op c near0 eps)) c v0 s).2 = (init K c v0 s).2 ∧
    ((init K c v0 s).2 = none → (init (withFacInit K (pinnedInit op c near0 eps)) c v0 s).1 = (init K c v0 s).1) := by
  obtain ⟨h1, h2⟩ := pinnedInit_eq op c near0 eps v0 s.fac h
  rw [← hI] at h1 h2
  refine ⟨h1, fun hn => ?_⟩
  have e : (withFacInit K (pinnedInit op c near0 eps)).facInit v0 s.fac = K.facInit v0 s.fac := h2 hn
  unfold Orch.init
  rw [e]
  rfl

/-- the common core of the unconditional statements.  The pinned kernel gives noninterference from ANY two objects; on objects
    carrying the constants it is `K` itself.  `comp` is `compute K` or a variant of it that maps similar objects to similar ones;
    the conclusion lists what a caller can observe of the two results -/
theorem init_total_of (hI : K.facInit = plainInit op) (comp : St (State α) ρ ε κ → CompRes (State α) ρ ε κ)
    (hcomp : ∀ s1 s2, SimSt (Live c.n c.ncv near0 eps) s1 s2 → CompRel (SimSt (Live c.n c.ncv near0 eps)) (fun _ => False) (comp s1) (comp s2))
    (s1 s2 : St (State α) ρ ε κ) (h1 : consts s1.fac = (c.n, c.ncv, near0, eps)) (h2 : consts s2.fac = (c.n, c.ncv, near0, eps))
    (v0 : Vec α) :
    (init K c v0 s1).2 = (init K c v0 s2).2 ∧
    ((init K c v0 s1).2 = none →
      (comp (init K c v0 s1).1).out = (comp (init K c v0 s2).1).out ∧
      eigenvalues K c (comp (init K c v0 s1).1).st = eigenvalues K c (comp (init K c v0 s2).1).st ∧
      (∀ nvec, eigenvectors K c nvec (comp (init K c v0 s1).1).st = eigenvectors K c nvec (comp (init K c v0 s2).1).st) ∧
      (comp (init K c v0 s1).1).st.niter = (comp (init K c v0 s2).1).st.niter ∧
      (comp (init K c v0 s1).1).st.nmatop = (comp (init K c v0 s2).1).st.nmatop ∧
      ∀ r, (comp (init K c v0 s2).1).out = .ok r → (comp (init K c v0 s1).1).st.info = (comp (init K c v0 s2).1).st.info) := by
  obtain ⟨hs, he⟩ := init_sim _ c hR v0 s1 s2
  obtain ⟨b1e, b1s⟩ := init_bridge_of K op c near0 eps hI v0 h1
  obtain ⟨b2e, b2s⟩ := init_bridge_of K op c near0 eps hI v0 h2
  have he' : (init K c v0 s1).2 = (init K c v0 s2).2 := by rw [← b1e, ← b2e]; exact he
  refine ⟨he', fun hn => ?_⟩
  rw [b1s hn, b2s (he' ▸ hn)] at hs
  obtain ⟨q1, q2, _, _, q5⟩ := (hcomp _ _ hs).sim
  exact ⟨q2, (accessors_sim _ c hR _ _ q1 0).1, fun nvec => (accessors_sim _ c hR _ _ q1 nvec).2.1, q1.niter, q1.nmatop, q5⟩

end histories

/-! ### solver objects of the symmetric family -/

section herm
open Orch
variable {α : Type} [Add α] [Sub α] [Mul α] [Div α] [Neg α] [Sc α]
variable (op : Arnoldi.Op α) (c : Orch.Cfg) (eps23 : α) (back : α → α) (near0 eps : α)

/-- state of a solver object of the symmetric family -/
abbrev HSt (α : Type) := St (State α) α α (Vec α)

/-- the object carries the constants its constructor installed (`m_n`, `m_m`, `m_near_0`, `m_eps` are `const` members) -/
def Wf (s : HSt α) : Prop := consts s.fac = (c.n, c.ncv, near0, eps)

omit [Add α] [Sub α] [Mul α] [Div α] [Neg α] in
theorem construct_wf : Wf c near0 eps (construct (State.mk0 c.n c.ncv near0 eps) : HSt α) := rfl

theorem run_wf (hist : List (Call (Vec α) α)) {s : HSt α} (h : Wf c near0 eps s) :
    Wf c near0 eps (run (HermSolver.hermKern op c eps23 back) c s hist) :=
  run_consts_of (HermSolver.hermKern op c eps23 back) op c near0 eps (herm_respects op c eps23 back near0 eps) rfl hist h

end herm
end C06Footprint
