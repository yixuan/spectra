/-
  C11 helper lemmas: triangle algebra of the MatOp wrappers (`Model/Ops.lean`), the permutation around the sparse Cholesky factor,
  the lift of the regenerated solver-call table to "no undocumented configuration call" and the pivoting rule of SparseLU.
-/
import Mathlib.Tactic.Ring
import Mathlib.Data.Matrix.Mul
import Mathlib.LinearAlgebra.Matrix.NonsingularInverse
import Mathlib.Algebra.Order.Field.Basic
import Mathlib.Algebra.Order.AbsoluteValue.Basic
import SpectraVerif.Model.Ops
import SpectraVerif.Proofs.ScField
import SpectraVerif.Proofs.ListFold
set_option linter.unusedSectionVars false
namespace Ops
open Lin

/-! ### triangles -/

theorem inTri_total (u : Uplo) (i j : Nat) (h : inTri u i j = false) : inTri u j i = true := by
  cases u <;> simp [inTri] at * <;> omega

theorem inTri_both (u : Uplo) (i j : Nat) (h : inTri u i j = true) (h' : inTri u j i = true) : i = j := by
  cases u <;> simp [inTri] at * <;> omega

/-- the opposite triangle -/
theorem inTri_opp {u v : Uplo} (huv : u ≠ v) (i j : Nat) : inTri v i j = inTri u j i := by
  cases u <;> cases v <;> simp [inTri] at * 

theorem symFromTri_congr_at {β : Type} (u : Uplo) (M M' : Nat → Nat → β) (i j : Nat)
    (h1 : inTri u i j = true → M i j = M' i j) (h2 : inTri u j i = true → M j i = M' j i) :
    symFromTri u M i j = symFromTri u M' i j := by
  unfold symFromTri
  cases hij : inTri u i j
  · simpa using h2 (inTri_total u i j hij)
  · simpa using h1 hij

theorem symFromTri_congr {β : Type} (u : Uplo) (M M' : Nat → Nat → β)
    (h : ∀ i j, inTri u i j = true → M i j = M' i j) : symFromTri u M = symFromTri u M' := by
  funext i j
  exact symFromTri_congr_at u M M' i j (h i j) (h j i)

theorem symFromTri_symm {β : Type} (u : Uplo) (M : Nat → Nat → β) (i j : Nat) :
    symFromTri u M i j = symFromTri u M j i := by
  unfold symFromTri
  by_cases h1 : inTri u i j = true <;> by_cases h2 : inTri u j i = true
  · have := inTri_both u i j h1 h2; subst this; rfl
  · simp [h1, h2]
  · simp [h1, h2]
  · have hf : inTri u i j = false := by simpa using h1
    exact absurd (inTri_total u i j hf) h2

/-- how the factorized matrix of `SymShiftInvert` combines the two symmetric completions, per pairing (no ring laws used) -/
def ssiCombine {β : Type} [Add β] [Sub β] [Mul β] [Neg β] (p : Pairing) (a b sigma : β) : β :=
  match p with
  | .denseDense | .denseSparse => a - b * sigma
  | .sparseDense => (-sigma) * b + a
  | .sparseSparse => a - sigma * b

theorem ssiMatrix_eq_combine {β : Type} [Add β] [Sub β] [Mul β] [Neg β]
    (p : Pairing) (ua ub : Uplo) (A B : Nat → Nat → β) (sigma : β) (junk : Nat → Nat → β) (i j : Nat) :
    ssiMatrix p ua ub A B sigma junk i j = ssiCombine p (symFromTri ua A i j) (symFromTri ub B i j) sigma := by
  rcases Nat.lt_trichotomy i j with h | h | h
  · have h1 : ¬ j ≤ i := by omega
    have h2 : i ≤ j := by omega
    cases p <;> cases ua <;> cases ub <;>
      simp [ssiMatrix, ssiCombine, symFromTri, ssiAssembleDenseA, ssiAssembleDenseB, ssiAssembleSparse, inTri, h1, h2]
  · subst h
    cases p <;> cases ua <;> cases ub <;>
      simp [ssiMatrix, ssiCombine, symFromTri, ssiAssembleDenseA, ssiAssembleDenseB, ssiAssembleSparse, inTri]
  · have h1 : ¬ i ≤ j := by omega
    have h2 : j ≤ i := by omega
    cases p <;> cases ua <;> cases ub <;>
      simp [ssiMatrix, ssiCombine, symFromTri, ssiAssembleDenseA, ssiAssembleDenseB, ssiAssembleSparse, inTri, h1, h2]

theorem hermFromTri_congr {β : Type} [Neg β] (u : Uplo) (M M' : Nat → Nat → β × β)
    (h : ∀ i j, inTri u i j = true → M i j = M' i j) : hermFromTri u M = hermFromTri u M' := by
  funext i j
  unfold hermFromTri
  cases hij : inTri u i j
  · simp [h j i (inTri_total u i j hij)]
  · simp [h i j hij]

/-- in a commutative ring all pairings combine to `a - σ b` -/
theorem ssiCombine_ring {R : Type} [CommRing R] (p : Pairing) (a b sigma : R) : ssiCombine p a b sigma = a - sigma * b := by
  cases p <;> simp [ssiCombine] <;> ring

/-! ### the same on the executable `Lin.Mat` layer -/

section
variable {α : Type} [Add α] [Sub α] [Mul α] [Div α] [Neg α] [Sc α]

theorem Mat_ofFn_congr (r c : Nat) (f g : Nat → Nat → α) (h : ∀ i j, i < r → j < c → f i j = g i j) :
    Mat.ofFn r c f = Mat.ofFn r c g := by
  unfold Mat.ofFn
  congr 1
  apply congrArg
  funext k
  have hk := k.isLt
  have hr : 0 < r := by
    rcases Nat.eq_zero_or_pos r with h0 | h0
    · subst h0; simp at hk
    · exact h0
  exact h _ _ (Nat.mod_lt _ hr) (Nat.div_lt_of_lt_mul hk)

theorem symFromTri_get_congr (u : Uplo) (M M' : Mat α) (n : Nat)
    (h : ∀ i j, i < n → j < n → inTri u i j = true → M.get i j = M'.get i j) (i j : Nat) (hi : i < n) (hj : j < n) :
    symFromTri u (fun a b => M.get a b) i j = symFromTri u (fun a b => M'.get a b) i j :=
  symFromTri_congr_at u _ _ i j (h i j hi hj) (h j i hj hi)

/-- two stored square matrices that agree on triangle `u` denote the same symmetric matrix -/
theorem symMat_congr (u : Uplo) (M M' : Mat α) (n : Nat) (hr : M.rows = n) (hc : M.cols = n) (hr' : M'.rows = n) (hc' : M'.cols = n)
    (h : ∀ i j, i < n → j < n → inTri u i j = true → M.get i j = M'.get i j) : symMat u M = symMat u M' := by
  unfold symMat
  rw [hr, hc, hr', hc']
  exact Mat_ofFn_congr n n _ _ (symFromTri_get_congr u M M' n h)

/-- two stored `n × n` matrices agree on triangle `u` -/
def AgreeOn (u : Uplo) (n : Nat) (M M' : Mat α) : Prop :=
  M.rows = n ∧ M.cols = n ∧ M'.rows = n ∧ M'.cols = n ∧ ∀ i j, i < n → j < n → inTri u i j = true → M.get i j = M'.get i j

theorem AgreeOn.symMat_eq {u : Uplo} {n : Nat} {M M' : Mat α} (h : AgreeOn u n M M') : symMat u M = symMat u M' :=
  symMat_congr u M M' n h.1 h.2.1 h.2.2.1 h.2.2.2.1 h.2.2.2.2

/-- the matrix factorized by `SymShiftInvert::set_shift` depends on `A` only through triangle `ua`, on `B` only through `ub` -/
theorem ssiMat_congr (p : Pairing) (ua ub : Uplo) (A A' B B' : Mat α) (sigma : α) (n : Nat)
    (hA : A.rows = n) (hA' : A'.rows = n)
    (ha : ∀ i j, i < n → j < n → inTri ua i j = true → A.get i j = A'.get i j)
    (hb : ∀ i j, i < n → j < n → inTri ub i j = true → B.get i j = B'.get i j) :
    ssiMat p ua ub A B sigma = ssiMat p ua ub A' B' sigma := by
  unfold ssiMat matOfFn
  rw [hA, hA']
  apply Mat_ofFn_congr
  intro i j hi hj
  rw [ssiMatrix_eq_combine, ssiMatrix_eq_combine, symFromTri_get_congr ua A A' n ha i j hi hj, symFromTri_get_congr ub B B' n hb i j hi hj]
end

/-! ### sparse Cholesky permutation (Mathlib matrices over a commutative ring) -/
open Matrix

section comp
variable {n R : Type} [Fintype n] [DecidableEq n] [CommRing R]

theorem sparse_chol_perm (P L Linv : Matrix n n R) (hP : Pᵀ * P = 1) (hL : L * Linv = 1) :
    (Pᵀ * (L * Lᵀ) * P) * (Pᵀ * Linvᵀ * (Linv * P)) = 1 ∧ Linv * P * (Pᵀ * (L * Lᵀ) * P) * (Pᵀ * Linvᵀ) = 1 := by
  have hP' : P * Pᵀ = 1 := mul_eq_one_comm.mp hP
  have hL' : Linv * L = 1 := mul_eq_one_comm.mp hL
  have hLt : Lᵀ * Linvᵀ = 1 := by rw [← Matrix.transpose_mul, hL', Matrix.transpose_one]
  constructor
  · calc (Pᵀ * (L * Lᵀ) * P) * (Pᵀ * Linvᵀ * (Linv * P))
        = Pᵀ * (L * (Lᵀ * ((P * Pᵀ) * (Linvᵀ * (Linv * P))))) := by simp only [Matrix.mul_assoc]
      _ = Pᵀ * (L * ((Lᵀ * Linvᵀ) * (Linv * P))) := by rw [hP', Matrix.one_mul, Matrix.mul_assoc]
      _ = Pᵀ * ((L * Linv) * P) := by rw [hLt, Matrix.one_mul, Matrix.mul_assoc]
      _ = 1 := by rw [hL, Matrix.one_mul, hP]
  · calc Linv * P * (Pᵀ * (L * Lᵀ) * P) * (Pᵀ * Linvᵀ)
        = Linv * ((P * Pᵀ) * (L * (Lᵀ * ((P * Pᵀ) * Linvᵀ)))) := by simp only [Matrix.mul_assoc]
      _ = (Linv * L) * (Lᵀ * Linvᵀ) := by rw [hP', Matrix.one_mul, Matrix.one_mul, Matrix.mul_assoc]
      _ = 1 := by rw [hL', hLt, Matrix.one_mul]
end comp

/-! ### the executable permutation functions -/
theorem find_range_inj (p : Nat → Nat) (n i : Nat) (hi : i < n)
    (hinj : ∀ a b, a < n → b < n → p a = p b → a = b) :
    (List.range n).find? (fun a => p a == p i) = some i := by
  rw [List.find?_eq_some_iff_getElem]
  refine ⟨by simp, i, by simpa using hi, by simp, ?_⟩
  intro j hj
  simp only [List.getElem_range, Bool.not_eq_true', beq_eq_false_iff_ne, ne_eq]
  intro h
  have := hinj j i (by omega) hi h
  omega

/-! ### solver-object footprint -/

/-- a documented call has a documented name (or is the one documented hand-over) -/
theorem documentedCall_name (call args : String) (h : documentedCall call args = true) : call ∈ documentedNames ∨ call = "(use)" := by
  simp only [documentedCall, Bool.or_eq_true, Bool.and_eq_true, beq_iff_eq] at h
  simp only [documentedNames, List.mem_cons, List.mem_nil_iff, or_false]
  rcases h with (((h | h) | ⟨((((h | h) | h) | h) | h), _⟩) | ⟨h, _⟩) | ⟨h, _⟩ <;> simp [h]

/-- **lift from the finite table to all names**: if every entry of a table is a documented call, then NO member function outside the documented
    list is called in it -/
theorem only_documented_names (tbl : List SolverCall) (h : ∀ e ∈ tbl, documentedCall e.call e.args = true)
    (name : String) (hn : name ∉ documentedNames) (hu : name ≠ "(use)") : ∀ e ∈ tbl, e.call ≠ name := by
  intro e he heq
  rcases documentedCall_name _ _ (h e he) with h1 | h1
  · exact hn (heq ▸ h1)
  · exact hu (heq ▸ h1)

theorem LUConfig.step_threshold (c : LUConfig) (call args : String) (h : call ≠ "setPivotThreshold") :
    (c.step call args).pivotThreshold = c.pivotThreshold := by
  unfold LUConfig.step
  split <;> rfl

/-- a history without `setPivotThreshold` leaves the pivot threshold where it was (any length, any order) -/
theorem LUConfig.run_threshold (hist : List SolverCall) (c : LUConfig) (h : ∀ e ∈ hist, e.call ≠ "setPivotThreshold") :
    (c.run hist).pivotThreshold = c.pivotThreshold :=
  ListFold.foldl_inv (fun c' : LUConfig => c'.pivotThreshold = c.pivotThreshold) _ hist c rfl
    fun c' e he hc => (LUConfig.step_threshold c' _ _ (h e he)).trans hc

theorem LUConfig.step_symmetric (c : LUConfig) (call args : String) (h : call = "isSymmetric" → args = "true") (hc : c.symmetricMode = true ∨ call = "isSymmetric") :
    (c.step call args).symmetricMode = true := by
  unfold LUConfig.step
  by_cases h1 : call = "isSymmetric"
  · simp [h1, h h1]
  · rcases hc with hc | hc
    · simp only [h1, if_false]; split <;> simp [hc]
    · exact absurd hc h1

section pivot
variable {K : Type} [Field K] [LinearOrder K] [IsStrictOrderedRing K]

/-- the multipliers of a column whose accepted diagonal pivot is `d`: with threshold `t > 0` they are bounded by `1 / t` -/
theorem diagPivot_multiplier_bound (F : FieldFns K) (t pivmax d : K) (ht : 0 < t)
    (hacc : @diagPivotAccepted K _ (scOfField F) t pivmax d = true) (a : K) (ha : |a| ≤ pivmax) : |a / d| ≤ 1 / t := by
  simp only [diagPivotAccepted, Bool.and_eq_true, Bool.not_eq_true', ScF.eq, ScF.le, ScF.abs, ScF.ofInt, decide_eq_false_iff_not, decide_eq_true_eq, Int.cast_zero] at hacc
  obtain ⟨hd0, hle⟩ := hacc
  have hd : 0 < |d| := lt_of_le_of_ne (abs_nonneg d) (Ne.symm hd0)
  rw [abs_div, div_le_div_iff₀ hd ht, one_mul]
  calc |a| * t ≤ pivmax * t := by gcongr
    _ = t * pivmax := by ring
    _ ≤ |d| := hle

/-- threshold 1 (the constructor's value) is partial pivoting: all multipliers are at most 1 in magnitude -/
theorem diagPivot_partial (F : FieldFns K) (pivmax d : K)
    (hacc : @diagPivotAccepted K _ (scOfField F) 1 pivmax d = true) (a : K) (ha : |a| ≤ pivmax) : |a / d| ≤ 1 := by
  simpa using diagPivot_multiplier_bound F 1 pivmax d one_pos hacc a ha
end pivot

end Ops
