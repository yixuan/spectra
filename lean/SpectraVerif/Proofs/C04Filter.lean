/-
  The polynomial filter of implicit restarting, and the elementary Rayleigh-quotient bounds for Ritz values
  (helper lemmas for Properties/C04; exact arithmetic, matrices over finite index types).

  Setting: a Krylov (Arnoldi / Lanczos) relation  `A V = V H + f gᵀ`  (`vecMulVec f g`; initially `g = e_lastᵀ`, written
  `Pi.single last 1`), and one implicitly shifted QR step with shift `μ`:  `H - μ I = Q R`, `H⁺ = Q⁻¹ H Q`, `V⁺ = V Q`.
  One exact shift multiplies the start vector by `(A - μ I)` (`filter_step`): if `μ` is an eigenvalue of `A` (or, approximately, a
  converged Ritz value) the component of the start vector along that eigenvector is annihilated (damped), so shifting with the
  unwanted Ritz values filters them out of the restart vector.  The relation is handed on to the rotated basis with residual row
  `gᵀ Q` (`filter_relation`); for Hessenberg `H` and `p` shifts its first `m - p - 1` entries remain zero, which is what the next
  step asks of it.  Ritz values are Rayleigh quotients of `A` on the columns of `V`, hence lie in the spectral interval; over `ℝ`
  Mathlib's spectral theorem supplies the decomposition for every symmetric matrix.
-/
import Mathlib.Data.Matrix.Mul
import Mathlib.LinearAlgebra.Matrix.NonsingularInverse
import Mathlib.Analysis.Matrix.Spectrum
import Mathlib.LinearAlgebra.Matrix.Notation
import Mathlib.Algebra.Module.BigOperators
import Mathlib.Algebra.Order.Field.Basic
import Mathlib.Algebra.Order.BigOperators.Ring.Finset
import Mathlib.Tactic.Ring
import Mathlib.Tactic.Abel
import Mathlib.Tactic.NormNum
import Mathlib.Tactic.FinCases

set_option linter.unusedSectionVars false
open Matrix

namespace C04Filter

section Filter
variable {n m : Type} [Fintype n] [Fintype m] [DecidableEq n] [DecidableEq m] {K : Type} [CommRing K]

/-- a column with zeros off the index `first`, applied to `e_first`, is a multiple of `e_first` -/
theorem mulVec_single_of_col (R : Matrix m m K) (first : m) (hR : ∀ i, i ≠ first → R i first = 0) :
    R *ᵥ Pi.single first 1 = R first first • Pi.single first 1 := by
  ext i
  rw [mulVec_single_one]
  by_cases h : i = first
  · subst h; simp
  · simp [hR i h, h]

/-- the rank-one residual term applied to a vector: `(f gᵀ) y = (g·y) f`; at `e_first` it is `g first • f` -/
theorem vecMulVec_mulVec_single (f : n → K) (g : m → K) (first : m) :
    vecMulVec f g *ᵥ Pi.single first 1 = g first • f := by
  ext i
  simp [mulVec, vecMulVec, dotProduct, Pi.single_apply, mul_comm]

/-- shifted Krylov relation: `(A - μ I) V = V (H - μ I) + f gᵀ` -/
theorem shifted_relation (A : Matrix n n K) (V : Matrix n m K) (H : Matrix m m K) (f : n → K) (g : m → K) (μ : K)
    (hfac : A * V = V * H + vecMulVec f g) :
    (A - μ • (1 : Matrix n n K)) * V = V * (H - μ • (1 : Matrix m m K)) + vecMulVec f g := by
  rw [Matrix.sub_mul, Matrix.mul_sub, hfac]
  simp only [Matrix.smul_mul, Matrix.mul_smul, Matrix.one_mul, Matrix.mul_one]
  abel

/-- **polynomial filter of one exact shift**: the first column of `V⁺ = V Q` is parallel to `(A - μ I) v₁`, with
    scalar `R₁₁`. -/
theorem filter_step (A : Matrix n n K) (V : Matrix n m K) (H Q R : Matrix m m K) (f : n → K) (g : m → K)
    (first : m) (μ : K)
    (hfac : A * V = V * H + vecMulVec f g)
    (hg : g first = 0)
    (hqr : H - μ • (1 : Matrix m m K) = Q * R)
    (hR : ∀ i, i ≠ first → R i first = 0) :
    (A - μ • (1 : Matrix n n K)) *ᵥ (V *ᵥ Pi.single first 1)
      = R first first • ((V * Q) *ᵥ Pi.single first 1) := by
  rw [mulVec_mulVec, shifted_relation A V H f g μ hfac, hqr, add_mulVec, vecMulVec_mulVec_single, hg, zero_smul,
    add_zero, ← Matrix.mul_assoc, ← mulVec_mulVec, mulVec_single_of_col R first hR, mulVec_smul]

/-- **the relation is handed on** to the rotated basis `V Q` with `H⁺ = Q⁻¹ H Q` and residual row `gᵀ Q`. -/
theorem filter_relation (A : Matrix n n K) (V : Matrix n m K) (H Q Qinv : Matrix m m K) (f : n → K) (g : m → K)
    (hfac : A * V = V * H + vecMulVec f g)
    (hQ : Q * Qinv = 1) :
    A * (V * Q) = (V * Q) * (Qinv * H * Q) + vecMulVec f (g ᵥ* Q) := by
  have h1 : (V * Q) * (Qinv * H * Q) = V * H * Q := by
    calc (V * Q) * (Qinv * H * Q) = V * (Q * Qinv) * H * Q := by simp only [Matrix.mul_assoc]
      _ = V * H * Q := by rw [hQ, Matrix.mul_one]
  rw [h1, ← Matrix.mul_assoc, hfac, Matrix.add_mul, vecMulVec_mul]

/-- the hypotheses of `filter_step` / `filter_relation` are satisfiable: a concrete 2×2 instance over ℚ with a genuine
    (non-diagonal) shifted factorization `H - 1·I = Q R`, a non-zero residual `f e_lastᵀ`, and an invertible `Q`. -/
example :
    let A : Matrix (Fin 2) (Fin 2) ℚ := !![2, 1; 1, 7]
    let V : Matrix (Fin 2) (Fin 2) ℚ := 1
    let H : Matrix (Fin 2) (Fin 2) ℚ := !![2, 1; 1, 2]
    let Q : Matrix (Fin 2) (Fin 2) ℚ := !![1, 0; 1, 1]
    let Qinv : Matrix (Fin 2) (Fin 2) ℚ := !![1, 0; -1, 1]
    let R : Matrix (Fin 2) (Fin 2) ℚ := !![1, 1; 0, 0]
    let f : Fin 2 → ℚ := ![0, 5]
    let g : Fin 2 → ℚ := Pi.single 1 1
    A * V = V * H + vecMulVec f g ∧ g 0 = 0 ∧ H - (1 : ℚ) • (1 : Matrix (Fin 2) (Fin 2) ℚ) = Q * R
      ∧ (∀ i, i ≠ 0 → R i 0 = 0) ∧ Q * Qinv = 1 := by
  intro A V H Q Qinv R f g
  have hg : g = ![0, 1] := by ext i; fin_cases i <;> rfl
  refine ⟨?_, rfl, ?_, ?_, ?_⟩
  · rw [Matrix.mul_one, Matrix.one_mul, hg, vecMulVec_eq (Fin 1), ← Matrix.ext_iff]
    simp [A, H, f, Fin.forall_fin_two, Matrix.mul_apply]; norm_num
  · simp only [H, Q, R, Matrix.one_fin_two, Matrix.mul_fin_two, Matrix.smul_of, Matrix.smul_cons, Matrix.smul_empty, Matrix.of_sub_of, Matrix.cons_sub_cons, Matrix.empty_sub_empty]; norm_num
  · intro i hi; fin_cases i
    · exact absurd rfl hi
    · rfl
  · simp only [Q, Qinv, Matrix.one_fin_two, Matrix.mul_fin_two]; norm_num

/-! ### `p` successive shifts -/

/-- the data of one implicitly shifted QR step: shift, the factors of `H - μ I = Q R`, and an inverse of `Q` -/
structure ShiftRec (m K : Type) where
  μ : K
  Q : Matrix m m K
  Qinv : Matrix m m K
  R : Matrix m m K

/-- the list of shift records is a valid sequence of shifted QR steps starting from `(H, g)`:
    at each step `g first = 0`, `H - μ I = Q R`, `R` has zeros below the diagonal in column `first`, `Q Qinv = 1`,
    and the next step starts from `(Qinv H Q, gᵀ Q)`. -/
def ShiftChain (first : m) : Matrix m m K → (m → K) → List (ShiftRec m K) → Prop
  | _, _, [] => True
  | H, g, s :: L =>
      g first = 0 ∧ H - s.μ • (1 : Matrix m m K) = s.Q * s.R ∧ (∀ i, i ≠ first → s.R i first = 0) ∧ s.Q * s.Qinv = 1 ∧
        ShiftChain first (s.Qinv * H * s.Q) (g ᵥ* s.Q) L

/-- applying the filter factors to a scaled vector -/
theorem foldl_filter_smul (A : Matrix n n K) (shifts : List K) (c : K) (w : n → K) :
    List.foldl (fun w μ => (A - μ • (1 : Matrix n n K)) *ᵥ w) (c • w) shifts
      = c • List.foldl (fun w μ => (A - μ • (1 : Matrix n n K)) *ᵥ w) w shifts := by
  induction shifts generalizing w with
  | nil => rfl
  | cons μ L ih => simp only [List.foldl_cons, mulVec_smul, ih]

/-- **polynomial filter of `p` exact shifts**: `∏ⱼ (A - μⱼ I) v₁ = (∏ⱼ (Rⱼ)₁₁) • (V Q₁ ⋯ Q_p) e₁`
    (the factors are applied in list order; they commute, being polynomials in `A`). -/
theorem filter_list (A : Matrix n n K) (f : n → K) (first : m) (L : List (ShiftRec m K)) :
    ∀ (V : Matrix n m K) (H : Matrix m m K) (g : m → K),
      A * V = V * H + vecMulVec f g → ShiftChain first H g L →
      List.foldl (fun w μ => (A - μ • (1 : Matrix n n K)) *ᵥ w) (V *ᵥ Pi.single first 1) (L.map (·.μ))
        = (L.map (fun s => s.R first first)).prod • ((V * (L.map (·.Q)).prod) *ᵥ Pi.single first 1) := by
  induction L with
  | nil => intro V H g _ _; simp
  | cons s L ih =>
    intro V H g hfac hch
    obtain ⟨hg, hqr, hR, hQ, hrest⟩ := hch
    simp only [List.map_cons, List.foldl_cons, List.prod_cons]
    rw [filter_step A V H s.Q s.R f g first s.μ hfac hg hqr hR, foldl_filter_smul,
      ih (V * s.Q) (s.Qinv * H * s.Q) (g ᵥ* s.Q) (filter_relation A V H s.Q s.Qinv f g hfac hQ) hrest,
      smul_smul, Matrix.mul_assoc]

/-- the relation after the whole list of shifts (what the compression step of the restart starts from) -/
theorem filter_list_relation (A : Matrix n n K) (f : n → K) (first : m) (L : List (ShiftRec m K)) :
    ∀ (V : Matrix n m K) (H : Matrix m m K) (g : m → K),
      A * V = V * H + vecMulVec f g → ShiftChain first H g L →
      A * (V * (L.map (·.Q)).prod)
        = (V * (L.map (·.Q)).prod) * (L.foldl (fun H s => s.Qinv * H * s.Q) H)
          + vecMulVec f (g ᵥ* (L.map (·.Q)).prod) := by
  induction L with
  | nil => intro V H g hfac _; simpa using hfac
  | cons s L ih =>
    intro V H g hfac hch
    obtain ⟨hg, hqr, hR, hQ, hrest⟩ := hch
    have := ih (V * s.Q) (s.Qinv * H * s.Q) (g ᵥ* s.Q) (filter_relation A V H s.Q s.Qinv f g hfac hQ) hrest
    simp only [List.map_cons, List.foldl_cons, List.prod_cons]
    rw [← Matrix.mul_assoc V s.Q, this, vecMul_vecMul]

/-- consistency of the list formulation: a two-element list gives the two-shift statement -/
example (A : Matrix n n K) (V : Matrix n m K) (H Q₁ Qinv₁ R₁ Q₂ Qinv₂ R₂ : Matrix m m K) (f : n → K) (g : m → K)
    (first : m) (μ₁ μ₂ : K)
    (hfac : A * V = V * H + vecMulVec f g) (hg : g first = 0)
    (hqr₁ : H - μ₁ • (1 : Matrix m m K) = Q₁ * R₁) (hR₁ : ∀ i, i ≠ first → R₁ i first = 0) (hQ₁ : Q₁ * Qinv₁ = 1)
    (hg₂ : (g ᵥ* Q₁) first = 0)
    (hqr₂ : Qinv₁ * H * Q₁ - μ₂ • (1 : Matrix m m K) = Q₂ * R₂) (hR₂ : ∀ i, i ≠ first → R₂ i first = 0)
    (hQ₂ : Q₂ * Qinv₂ = 1) :
    (A - μ₂ • (1 : Matrix n n K)) *ᵥ ((A - μ₁ • (1 : Matrix n n K)) *ᵥ (V *ᵥ Pi.single first 1))
      = (R₁ first first * R₂ first first) • ((V * Q₁ * Q₂) *ᵥ Pi.single first 1) := by
  have h := filter_list A f first [⟨μ₁, Q₁, Qinv₁, R₁⟩, ⟨μ₂, Q₂, Qinv₂, R₂⟩] V H g hfac
    ⟨hg, hqr₁, hR₁, hQ₁, hg₂, hqr₂, hR₂, hQ₂, trivial⟩
  simpa [Matrix.mul_assoc] using h

end Filter

/-! ### Rayleigh quotient bounds; Ritz values are Rayleigh quotients -/

section Rayleigh
variable {n m k : Type} [Fintype n] [Fintype m] [Fintype k] [DecidableEq n] [DecidableEq m] [DecidableEq k]

section Ring
variable {K : Type} [CommRing K]

/-- `xᵀ (U D Uᵀ) x = Σ dᵢ yᵢ²` with `y = Uᵀ x` -/
theorem quad_form_diag (U : Matrix n k K) (d : k → K) (x : n → K) :
    x ⬝ᵥ ((U * diagonal d * Uᵀ) *ᵥ x) = ∑ i, d i * ((Uᵀ *ᵥ x) i * (Uᵀ *ᵥ x) i) := by
  rw [← mulVec_mulVec, ← mulVec_mulVec, dotProduct_mulVec, ← mulVec_transpose]
  simp only [dotProduct, mulVec_diagonal]
  exact Finset.sum_congr rfl (fun i _ => by ring)

/-- `xᵀ x = yᵀ y` with `y = Uᵀ x` when `U Uᵀ = I` -/
theorem norm_sq_orth (U : Matrix n k K) (hU : U * Uᵀ = 1) (x : n → K) :
    (Uᵀ *ᵥ x) ⬝ᵥ (Uᵀ *ᵥ x) = x ⬝ᵥ x := by
  calc (Uᵀ *ᵥ x) ⬝ᵥ (Uᵀ *ᵥ x) = (x ᵥ* U) ⬝ᵥ (Uᵀ *ᵥ x) := by rw [← mulVec_transpose]
    _ = x ⬝ᵥ x := by rw [← dotProduct_mulVec, mulVec_mulVec, hU, one_mulVec]

/-- **Ritz values are Rayleigh quotients** (numerator): `yᵀ (Vᵀ A V) y = (V y)ᵀ A (V y)`. -/
theorem ritz_is_rayleigh (A : Matrix n n K) (V : Matrix n m K) (H : Matrix m m K) (hH : H = Vᵀ * A * V) (y : m → K) :
    y ⬝ᵥ (H *ᵥ y) = (V *ᵥ y) ⬝ᵥ (A *ᵥ (V *ᵥ y)) := by
  rw [hH, ← mulVec_mulVec, ← mulVec_mulVec, dotProduct_mulVec, vecMul_transpose]

/-- (denominator): `(V y)ᵀ (V y) = yᵀ y` for orthonormal columns. -/
theorem ritz_norm (V : Matrix n m K) (hV : Vᵀ * V = 1) (y : m → K) :
    (V *ᵥ y) ⬝ᵥ (V *ᵥ y) = y ⬝ᵥ y := by
  calc (V *ᵥ y) ⬝ᵥ (V *ᵥ y) = (y ᵥ* Vᵀ) ⬝ᵥ (V *ᵥ y) := by rw [vecMul_transpose]
    _ = y ⬝ᵥ y := by rw [← dotProduct_mulVec, mulVec_mulVec, hV, one_mulVec]

end Ring

variable {K : Type} [Field K] [LinearOrder K] [IsStrictOrderedRing K]

/-- **Rayleigh quotient bounds**: if `A = U diag(d) Uᵀ`, `U Uᵀ = I` and `lo ≤ dᵢ ≤ hi` then
    `lo · xᵀx ≤ xᵀ A x ≤ hi · xᵀx`.  (`U` may be rectangular `n × k`; for square `U` the hypothesis is equivalent to
    `Uᵀ U = I`.) -/
theorem rayleigh_bounds (A : Matrix n n K) (U : Matrix n k K) (d : k → K) (hA : A = U * diagonal d * Uᵀ)
    (hU : U * Uᵀ = 1) (x : n → K) (lo hi : K) (hlo : ∀ i, lo ≤ d i) (hhi : ∀ i, d i ≤ hi) :
    lo * (x ⬝ᵥ x) ≤ x ⬝ᵥ (A *ᵥ x) ∧ x ⬝ᵥ (A *ᵥ x) ≤ hi * (x ⬝ᵥ x) := by
  rw [hA, quad_form_diag, ← norm_sq_orth U hU x]
  simp only [dotProduct, Finset.mul_sum]
  constructor
  · exact Finset.sum_le_sum (fun i _ => mul_le_mul_of_nonneg_right (hlo i) (mul_self_nonneg _))
  · exact Finset.sum_le_sum (fun i _ => mul_le_mul_of_nonneg_right (hhi i) (mul_self_nonneg _))

/-- square `U`: the hypothesis may equally be given as `Uᵀ U = I` -/
theorem rayleigh_bounds_sq (A : Matrix n n K) (U : Matrix n n K) (d : n → K) (hA : A = U * diagonal d * Uᵀ)
    (hU : Uᵀ * U = 1) (x : n → K) (lo hi : K) (hlo : ∀ i, lo ≤ d i) (hhi : ∀ i, d i ≤ hi) :
    lo * (x ⬝ᵥ x) ≤ x ⬝ᵥ (A *ᵥ x) ∧ x ⬝ᵥ (A *ᵥ x) ≤ hi * (x ⬝ᵥ x) :=
  rayleigh_bounds A U d hA (mul_eq_one_comm.mp hU) x lo hi hlo hhi

/-- the hypotheses of `rayleigh_bounds` are satisfiable: a concrete 2×2 instance over ℚ (rotation by the 3-4-5 angle,
    eigenvalues 1 and 2). -/
example :
    let U : Matrix (Fin 2) (Fin 2) ℚ := !![3/5, 4/5; -4/5, 3/5]
    let d : Fin 2 → ℚ := ![1, 2]
    let A : Matrix (Fin 2) (Fin 2) ℚ := !![41/25, 12/25; 12/25, 34/25]
    A = U * diagonal d * Uᵀ ∧ U * Uᵀ = 1 ∧ Uᵀ * U = 1 ∧ (∀ i, 1 ≤ d i) ∧ (∀ i, d i ≤ 2) := by
  intro U d A
  have hd : diagonal d = !![1, 0; 0, 2] := by ext i j; fin_cases i <;> fin_cases j <;> simp [d]
  have hU : Uᵀ = !![3/5, -4/5; 4/5, 3/5] := by ext i j; fin_cases i <;> fin_cases j <;> simp [U]
  refine ⟨?_, ?_, ?_, ?_, ?_⟩
  · rw [hd, hU]; simp only [A, U, Matrix.mul_fin_two]; norm_num
  · rw [hU]; simp only [U, Matrix.mul_fin_two, Matrix.one_fin_two]; norm_num
  · rw [hU]; simp only [U, Matrix.mul_fin_two, Matrix.one_fin_two]; norm_num
  · intro i; fin_cases i <;> simp [d]
  · intro i; fin_cases i <;> simp [d]

/-! ### the instance over `ℝ`: Mathlib's spectral theorem supplies `U`, `d` for every real symmetric matrix -/

/-- Mathlib's spectral theorem in the shape used above: `A = U diag(λ) Uᵀ` with `U` the matrix of eigenvectors -/
theorem spectral_real (A : Matrix n n ℝ) (hA : A.IsHermitian) :
    A = (hA.eigenvectorUnitary : Matrix n n ℝ) * diagonal hA.eigenvalues * (hA.eigenvectorUnitary : Matrix n n ℝ)ᵀ := by
  conv_lhs => rw [hA.spectral_theorem]
  rw [Unitary.conjStarAlgAut_apply]
  rfl

theorem eigenvectorUnitary_mul_transpose (A : Matrix n n ℝ) (hA : A.IsHermitian) :
    (hA.eigenvectorUnitary : Matrix n n ℝ) * (hA.eigenvectorUnitary : Matrix n n ℝ)ᵀ = 1 := by
  have := mem_unitaryGroup_iff.mp hA.eigenvectorUnitary.2
  rwa [star_eq_conjTranspose, conjTranspose_eq_transpose_of_trivial] at this

/-- **Rayleigh quotient bounds for a real symmetric matrix**, by its (Mathlib) eigenvalues. -/
theorem rayleigh_bounds_real (A : Matrix n n ℝ) (hA : A.IsHermitian) (x : n → ℝ) (lo hi : ℝ)
    (hlo : ∀ i, lo ≤ hA.eigenvalues i) (hhi : ∀ i, hA.eigenvalues i ≤ hi) :
    lo * (x ⬝ᵥ x) ≤ x ⬝ᵥ (A *ᵥ x) ∧ x ⬝ᵥ (A *ᵥ x) ≤ hi * (x ⬝ᵥ x) :=
  rayleigh_bounds A _ hA.eigenvalues (spectral_real A hA) (eigenvectorUnitary_mul_transpose A hA) x lo hi hlo hhi

end Rayleigh

end C04Filter
