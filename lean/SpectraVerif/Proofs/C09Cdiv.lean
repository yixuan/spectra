/-
  C09 helper lemmas: the port of libgcc's __divdc3 (`HessEigen.cdiv`) is complex division; normalisation of a complex column is exact.
-/
import Mathlib.Tactic.Ring
import Mathlib.Algebra.BigOperators.Field
import Mathlib.Tactic.LinearCombination
import SpectraVerif.Proofs.SumFold
import SpectraVerif.Model.HessEigen


namespace C09Cdiv
open Lin EigenPrims HessEigen
variable {K : Type} [Field K] [LinearOrder K] [IsStrictOrderedRing K] (F : FieldFns K)

/-- `z = (a + ib) / (c + id)`, said without division: `z · (c + id) = a + ib` -/
def IsQuot (z : K × K) (a b c d : K) : Prop := z.1 * c - z.2 * d = a ∧ z.1 * d + z.2 * c = b

theorem sumsq_ne {c d : K} (h : c ≠ 0 ∨ d ≠ 0) : c * c + d * d ≠ 0 := fun e =>
  h.elim (· (mul_self_add_mul_self_eq_zero.mp e).1) (· (mul_self_add_mul_self_eq_zero.mp e).2)

/-- Smith's formulas of the branch `|c| < |d|` (`v`: which of the two orders of evaluation is taken) -/
theorem smith_cd (v : Bool) (a b c d : K) (hd : d ≠ 0) :
    IsQuot (if v then ((a * (c / d) + b) / (c * (c / d) + d), (b * (c / d) - a) / (c * (c / d) + d))
      else ((c * (a / d) + b) / (c * (c / d) + d), (c * (b / d) - a) / (c * (c / d) + d))) a b c d := by
  -- write `c = r d`, `a = s d`, `b = t d`: every quotient by `d` is then a name, and the common denominator is `(r² + 1) d`
  obtain ⟨r, rfl⟩ : ∃ r, c = r * d := ⟨c / d, (div_mul_cancel₀ c hd).symm⟩
  obtain ⟨s, rfl⟩ : ∃ s, a = s * d := ⟨a / d, (div_mul_cancel₀ a hd).symm⟩
  obtain ⟨t, rfl⟩ : ∃ t, b = t * d := ⟨b / d, (div_mul_cancel₀ b hd).symm⟩
  have hden : r * d * r + d ≠ 0 := by
    rw [show r * d * r + d = (r * r + 1 * 1) * d by ring]
    exact mul_ne_zero (sumsq_ne (Or.inr one_ne_zero)) hd
  simp only [mul_div_cancel_right₀ _ hd]
  cases v <;> constructor <;>
    simp only [if_true, Bool.false_eq_true, if_false, div_mul_eq_mul_div, ← sub_div, ← add_div, div_eq_iff hden] <;> ring

/-- the branch `|c| ≥ |d|` -/
theorem smith_dc (v : Bool) (a b c d : K) (hc : c ≠ 0) :
    IsQuot (if v then ((b * (d / c) + a) / (d * (d / c) + c), (b - a * (d / c)) / (d * (d / c) + c))
      else ((d * (b / c) + a) / (d * (d / c) + c), (b - d * (a / c)) / (d * (d / c) + c))) a b c d := by
  obtain ⟨r, rfl⟩ : ∃ r, d = r * c := ⟨d / c, (div_mul_cancel₀ d hc).symm⟩
  obtain ⟨s, rfl⟩ : ∃ s, a = s * c := ⟨a / c, (div_mul_cancel₀ a hc).symm⟩
  obtain ⟨t, rfl⟩ : ∃ t, b = t * c := ⟨b / c, (div_mul_cancel₀ b hc).symm⟩
  have hden : r * c * r + c ≠ 0 := by
    rw [show r * c * r + c = (r * r + 1 * 1) * c by ring]
    exact mul_ne_zero (sumsq_ne (Or.inr one_ne_zero)) hc
  simp only [mul_div_cancel_right₀ _ hc]
  cases v <;> constructor <;>
    simp only [if_true, Bool.false_eq_true, if_false, div_mul_eq_mul_div, ← sub_div, ← add_div, div_eq_iff hden] <;> ring

/-- a scaling stage of `__divdc3`: all four arguments go through the same `s = (· * l)`, `l ≠ 0`, or all are left alone -/
theorem IsQuot.of_stage {z : K × K} {a b c d : K} (P : Bool) (s : K → K) (l : K) (hl : l ≠ 0) (hs : ∀ x, s x = x * l)
    (h : IsQuot z (if P then s a else a) (if P then s b else b) (if P then s c else c) (if P then s d else d)) :
    IsQuot z a b c d := by
  cases P
  · exact h
  · simp only [if_true, hs] at h
    exact ⟨mul_right_cancel₀ hl (by linear_combination h.1), mul_right_cancel₀ hl (by linear_combination h.2)⟩

theorem stage_ne {x : K} (P : Bool) (s : K → K) (l : K) (hl : l ≠ 0) (hs : ∀ x, s x = x * l) (hx : x ≠ 0) :
    (if P then s x else x) ≠ 0 := by
  cases P
  · exact hx
  · rw [if_pos rfl, hs]; exact mul_ne_zero hx hl

/-- **the port of libgcc `__divdc3` is complex division** (field instance, any machine parameters with `eps ≠ 0`): for
    `(c, d) ≠ (0, 0)` the returned pair `(x, y)` satisfies `(x + iy)(c + id) = a + ib`, in every scaling branch and for both
    orders of evaluation. -/
theorem cdiv_spec (heps : F.eps ≠ 0) (a b c d : K) (hcd : c ≠ 0 ∨ d ≠ 0) :
    let _ : Sc K := scOfField F
    (cdiv a b c d).1 * c - (cdiv a b c d).2 * d = a ∧ (cdiv a b c d).1 * d + (cdiv a b c d).2 * c = b := by
  intro _
  have h2 : ∀ x : K, x / Sc.ofInt 2 = x * 2⁻¹ := fun x => by rw [div_eq_mul_inv]; simp
  have h20 : (2 : K)⁻¹ ≠ 0 := inv_ne_zero two_ne_zero
  have hk : (one : K) / Sc.eps ≠ 0 := by simpa [one] using heps
  show IsQuot (cdiv a b c d) a b c d
  -- the `let`s of `cdiv` stay local definitions, so that each scaled argument is one name below
  unfold cdiv
  -- libgcc's `RMIN = DBL_MIN`, `RMIN2 = DBL_EPSILON`, `RMINSCAL = 1/DBL_EPSILON`, `RBIG = DBL_MAX/2`, `RMAX2 = RBIG·RMIN2`; only
  -- `RMINSCAL ≠ 0` (from `eps ≠ 0`) matters here, the tests that use the others are arbitrary booleans to this proof
  extract_lets +onlyGivenNames two rmin rmin2 rminscal rbig rmax2
  by_cases hlt : Sc.lt (Sc.abs c) (Sc.abs d) = true
  · rw [if_pos hlt]
    have hd : d ≠ 0 := by
      intro h0; simp only [ScF.lt, ScF.abs, decide_eq_true_eq] at hlt; rw [h0, abs_zero] at hlt; exact absurd hlt (not_lt.mpr (abs_nonneg c))
    extract_lets big a1 b1 c1 d1 sc a2 b2 c2 d2 ratio denom
    have hd2 : d2 ≠ 0 := stage_ne sc _ _ hk (fun _ => rfl) (stage_ne big _ _ h20 h2 hd)
    exact .of_stage big _ _ h20 h2 (.of_stage sc _ _ hk (fun _ => rfl) (smith_cd _ a2 b2 c2 d2 hd2))
  · rw [if_neg hlt]
    have hc : c ≠ 0 := by
      rcases hcd with h | h
      · exact h
      · intro h0; apply hlt; simp only [ScF.lt, ScF.abs, decide_eq_true_eq]; rw [h0, abs_zero]; exact abs_pos.mpr h
    extract_lets big a1 b1 c1 d1 sc a2 b2 c2 d2 ratio denom
    have hc2 : c2 ≠ 0 := stage_ne sc _ _ hk (fun _ => rfl) (stage_ne big _ _ h20 h2 hc)
    exact .of_stage big _ _ h20 h2 (.of_stage sc _ _ hk (fun _ => rfl) (smith_dc _ a2 b2 c2 d2 hc2))

section norm
open Finset

/-- **`col.normalize()` is exact in exact arithmetic**: if the squared norm `z` of the complex column is positive and
    `sqrt z · sqrt z = z`, the normalised column has squared norm exactly `1` (the division is the `__divdc3` port) -/
theorem cnormalize_unit (heps : F.eps ≠ 0) (c : Vec (K × K)) :
    let _ : Sc K := scOfField F
    0 < csqNorm c → F.sqrt (csqNorm c) * F.sqrt (csqNorm c) = csqNorm c → csqNorm (cnormalize c) = 1 := by
  intro _ hz hs
  have hz' : Sc.gt (csqNorm c) (zero : K) = true := by simp [Sc.gt, zero]; exact hz
  simp only [cnormalize, hz', if_true]
  generalize hsq : Sc.sqrt (csqNorm c) = s
  have hss : s * s = csqNorm c := by rw [← hsq]; exact hs
  have hs0 : s ≠ 0 := by intro h0; rw [h0, mul_zero] at hss; rw [← hss] at hz; exact lt_irrefl _ hz
  have hq : ∀ w : K × K, (cdiv w.1 w.2 s zero).1 * (cdiv w.1 w.2 s zero).1 + (cdiv w.1 w.2 s zero).2 * (cdiv w.1 w.2 s zero).2
      = (w.1 * w.1 + w.2 * w.2) / (s * s) := by
    intro w
    have h0 : (zero : K) = 0 := by simp [zero]
    obtain ⟨e1, e2⟩ := cdiv_spec F heps w.1 w.2 s zero (Or.inl hs0)
    rw [h0] at e1 e2 ⊢
    simp only [mul_zero, sub_zero, zero_add] at e1 e2
    generalize (cdiv w.1 w.2 s 0).1 = x at e1 ⊢
    generalize (cdiv w.1 w.2 s 0).2 = y at e2 ⊢
    rw [← e1, ← e2, show x * s * (x * s) + y * s * (y * s) = (x * x + y * y) * (s * s) by ring,
      mul_div_cancel_right₀ _ (mul_ne_zero hs0 hs0)]
  simp only [csqNorm, Array.size_map]
  rw [SumFold.sumFrom0_scOfField F]
  have : ∀ i ∈ range c.size, (let z := (Array.map (fun w => cdiv w.1 w.2 s zero) c).getD i (zero, zero); z.1 * z.1 + z.2 * z.2)
      = ((c.getD i (zero, zero)).1 * (c.getD i (zero, zero)).1 + (c.getD i (zero, zero)).2 * (c.getD i (zero, zero)).2) / (s * s) := by
    intro i hi
    have hi' : i < c.size := Finset.mem_range.mp hi
    simp only [Array.getD_eq_getD_getElem?, Array.getElem?_map, Array.getElem?_eq_getElem hi', Option.map_some, Option.getD_some]
    exact hq _
  rw [Finset.sum_congr rfl this, ← Finset.sum_div, hss]
  have : ∑ i ∈ range c.size, ((c.getD i (zero, zero)).1 * (c.getD i (zero, zero)).1 + (c.getD i (zero, zero)).2 * (c.getD i (zero, zero)).2) = csqNorm c := by
    simp only [csqNorm]; rw [SumFold.sumFrom0_scOfField F]
  rw [this]
  exact div_self (ne_of_gt hz)

end norm

end C09Cdiv
