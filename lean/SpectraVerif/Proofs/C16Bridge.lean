/-
  C16: bridge between the executable array layer (`Lin.Mat`, explicit left-to-right loops, the code the driver runs at `Float`)
  instantiated at exact arithmetic (`scOfField`) and Mathlib's `Matrix`: `Lin.Mat.mulVec`, `SVD.tmulVec`, `SVD.scaleCol`,
  `SVD.tallPerformOp`, `SVD.widePerformOp` ARE `A *ᵥ x`, `Aᵀ *ᵥ x`, `v / √λ`, `(AᵀA) *ᵥ x`, `(AAᵀ) *ᵥ x`.
-/
import Mathlib.Data.Matrix.Mul
import Mathlib.Algebra.BigOperators.Fin
import Mathlib.Algebra.BigOperators.Intervals
import SpectraVerif.Proofs.SumFold
import SpectraVerif.Proofs.ListFold
import SpectraVerif.Proofs.C16Model

namespace SVD
open Lin Matrix

section
variable {K : Type} [Field K] [LinearOrder K] [IsStrictOrderedRing K] (F : FieldFns K)

/-- the array matrix as a Mathlib matrix -/
def toMatrix (A : Mat K) : Matrix (Fin A.rows) (Fin A.cols) K := fun i j => @Mat.get K (scOfField F) A i.val j.val
/-- an array vector as a function on `Fin n` (entries past the end read as 0, like `vget`) -/
def toVec (n : Nat) (x : Vec K) : Fin n → K := fun i => @vget K (scOfField F) x i.val

theorem mulVec_eq (A : Mat K) (x : Vec K) :
    toVec F A.rows (@Mat.mulVec K _ _ (scOfField F) A x) = toMatrix F A *ᵥ toVec F A.cols x := by
  funext i
  unfold toVec Mat.mulVec Mat.mulVecK
  rw [ListFold.vget_vofFn (sc := scOfField F) _ _ _ i.isLt, SumFold.sumFrom0_scOfField]
  simp only [Matrix.mulVec, dotProduct, toMatrix]
  rw [← Fin.sum_univ_eq_sum_range (fun j => @Mat.get K (scOfField F) A i.val j * @vget K (scOfField F) x j)]

theorem tmulVec_eq (A : Mat K) (x : Vec K) :
    toVec F A.cols (@tmulVec K _ _ (scOfField F) A x) = (toMatrix F A)ᵀ *ᵥ toVec F A.rows x := by
  funext j
  unfold toVec tmulVec Mat.tmulVecK
  rw [ListFold.vget_vofFn (sc := scOfField F) _ _ _ j.isLt, SumFold.sumFrom0_scOfField]
  simp only [Matrix.mulVec, dotProduct, toMatrix, Matrix.transpose_apply]
  rw [← Fin.sum_univ_eq_sum_range (fun i => @Mat.get K (scOfField F) A i j.val * @vget K (scOfField F) x i)]

theorem mulVec_size (A : Mat K) (x : Vec K) : (@Mat.mulVec K _ _ (scOfField F) A x).size = A.rows := by
  simp [Mat.mulVec, Mat.mulVecK, vofFn]

theorem tmulVec_size (A : Mat K) (x : Vec K) : (@tmulVec K _ _ (scOfField F) A x).size = A.cols := by
  simp [tmulVec, Mat.tmulVecK, vofFn]

/-- a column of `scaled_evecs`: `v / σ` element by element for `σ > 0` (entries past the end stay 0), the zero vector otherwise -/
theorem scaleCol_eq (n : Nat) (v : Vec K) (σ : K) :
    toVec F n (@scaleCol K _ (scOfField F) v σ) = fun i => if 0 < σ then toVec F n v i / σ else 0 := by
  funext i
  simp only [toVec, scaleCol, vdivs, vget, Lin.zero, ScF.lt, ScF.ofInt, Int.cast_zero, decide_eq_true_eq]
  split
  · by_cases h : i.val < v.size <;> simp [Array.getD, h]
  · by_cases h : i.val < v.size <;> simp [Array.getD, h]

/-- `cwiseMax(0)` at exact arithmetic -/
theorem clamp0_eq (x : K) : @clamp0 K (scOfField F) x = max x 0 := by
  simp only [clamp0, Lin.zero, ScF.lt, ScF.ofInt, Int.cast_zero, decide_eq_true_eq]
  split
  · exact (max_eq_right (le_of_lt ‹_›)).symm
  · exact (max_eq_left (not_lt.mp ‹_›)).symm

theorem toVec_congr (n : Nat) (x y : Vec K) (h : ∀ i, i < n → @vget K (scOfField F) x i = @vget K (scOfField F) y i) :
    toVec F n x = toVec F n y := by
  funext i; exact h i.val i.isLt

/-- the computed side in the tall case: column = `A *ᵥ (v / √λ)` -/
theorem computed_col_tall (A : Mat K) (v : Vec K) (σ : K) (hσ : 0 < σ) :
    toVec F A.rows (@Mat.mulVec K _ _ (scOfField F) A (@scaleCol K _ (scOfField F) v σ)) =
      toMatrix F A *ᵥ (fun i => toVec F A.cols v i / σ) := by
  rw [mulVec_eq, scaleCol_eq]; simp only [hσ, if_true]

/-- the computed side in the wide case: column = `Aᵀ *ᵥ (u / √λ)` -/
theorem computed_col_wide (A : Mat K) (u : Vec K) (σ : K) (hσ : 0 < σ) :
    toVec F A.cols (@tmulVec K _ _ (scOfField F) A (@scaleCol K _ (scOfField F) u σ)) =
      (toMatrix F A)ᵀ *ᵥ (fun i => toVec F A.rows u i / σ) := by
  rw [tmulVec_eq, scaleCol_eq]; simp only [hσ, if_true]

/-- the column that belongs to a non-positive (zero) singular value is the zero vector: finite, and documented in the header -/
theorem computed_col_zero (A : Mat K) (v : Vec K) (σ : K) (hσ : ¬ 0 < σ) :
    toVec F A.rows (@Mat.mulVec K _ _ (scOfField F) A (@scaleCol K _ (scOfField F) v σ)) = 0 := by
  rw [mulVec_eq, scaleCol_eq]; simp only [hσ, if_false]
  exact Matrix.mulVec_zero _

/-- `SVDTallMatOp::perform_op` computes `(AᵀA) x` -/
theorem tallPerformOp_eq (A : Mat K) (x : Vec K) :
    toVec F A.cols (@tallPerformOp K _ _ (scOfField F) A x).1 = ((toMatrix F A)ᵀ * toMatrix F A) *ᵥ toVec F A.cols x := by
  rw [← Matrix.mulVec_mulVec, ← mulVec_eq, ← tmulVec_eq]; rfl

/-- `SVDWideMatOp::perform_op` computes `(AAᵀ) x` -/
theorem widePerformOp_eq (A : Mat K) (x : Vec K) :
    toVec F A.rows (@widePerformOp K _ _ (scOfField F) A x).1 = (toMatrix F A * (toMatrix F A)ᵀ) *ᵥ toVec F A.rows x := by
  rw [← Matrix.mulVec_mulVec, ← tmulVec_eq, ← mulVec_eq]; rfl

/-- column `j` of the computed side of the model -/
theorem specComputed_getD (mul : Vec K → Vec K) (lam : List K) (E : List (Vec K)) (k r j : Nat) (hj : j < min k r) :
    (@specComputed K _ (scOfField F) mul lam E k r).getD j #[] =
      mul (@scaleCol K _ (scOfField F) (E.getD j #[]) (lam.getD j 0)) := by
  simp [specComputed, List.getD_eq_getElem?_getD, hj, Lin.zero]

end
end SVD
