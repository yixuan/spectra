/-
  C10 — what one elimination step of the model stores, entry by entry (read-over-write reasoning on the packed array).
-/
import Mathlib.Tactic.Ring
import SpectraVerif.Proofs.C10Index
open Gen.BK

set_option linter.unusedSectionVars false
namespace BKLDLT
section
variable {α : Type} [Add α] [Sub α] [Mul α] [Div α] [Neg α] [Sc α]

/-- distinct legal index pairs have distinct packed offsets -/
theorem off_inj {n i j i' j' : Int} (h : 0 ≤ j ∧ j ≤ i ∧ i < n) (h' : 0 ≤ j' ∧ j' ≤ i' ∧ i' < n) (e : off n i j = off n i' j') : i = i' ∧ j = j' := by
  have key : ∀ {a b c d : Int}, 0 ≤ b → b ≤ a → a < n → 0 ≤ d → d ≤ c → c < n → b < d → off n a b < off n c d := by
    intro a b c d hb hba han hd hdc hcn hbd
    have m := colptr_mono n (b + 1) (d - (b + 1)).toNat (by omega)
    have e1 : b + 1 + ((d - (b + 1)).toNat : Int) = d := by omega
    rw [e1, colptr_succ] at m
    unfold off; omega
  rcases lt_trichotomy j j' with hlt | heq | hgt
  · have := key h.1 h.2.1 h.2.2 h'.1 h'.2.1 h'.2.2 hlt; omega
  · subst heq; unfold off at e; exact ⟨by omega, rfl⟩
  · have := key h'.1 h'.2.1 h'.2.2 h.1 h.2.1 h.2.2 hgt; omega

/-- the state has size `n` and `m_data` has `n(n+1)/2` entries -/
def Sized (n : Int) (s : St α) : Prop := s.n = n ∧ s.data.size = (packedSize n).toNat

theorem Inv.sized {n : Int} {a : Array Int} {s : St α} (h : Inv n a (packedSize n).toNat s) : Sized n s := ⟨h.n, h.size⟩

theorem sized_wr {n : Int} {s : St α} {i j : Int} {v : α} (h : Sized n s) : Sized n (s.wr i j v) := by
  refine ⟨h.1, ?_⟩; simp only [St.wr, Array.size_setIfInBounds]; exact h.2
theorem sized_get {n : Int} {s : St α} {i j : Int} (h : Sized n s) : Sized n (s.get i j).2 := h
@[simp] theorem rd_get (s : St α) (i j i' j' : Int) : (s.get i j).2.rd i' j' = s.rd i' j' := rfl
@[simp] theorem get_fst (s : St α) (i j : Int) : (s.get i j).1 = s.rd i j := rfl

theorem rd_wr {n : Int} {s : St α} {i j i' j' : Int} {v : α} (hs : Sized n s) (h : 0 ≤ j ∧ j ≤ i ∧ i < n) (h' : 0 ≤ j' ∧ j' ≤ i' ∧ i' < n) :
    (s.wr i j v).rd i' j' = if i' = i ∧ j' = j then v else s.rd i' j' := by
  have b := off_bounds h
  have b' := off_bounds h'
  simp only [St.rd, St.wr, hs.1, Array.getD_eq_getD_getElem?, Array.getElem?_setIfInBounds]
  by_cases hc : i' = i ∧ j' = j
  · obtain ⟨rfl, rfl⟩ := hc
    have : (off n i' j').toNat < s.data.size := by rw [hs.2]; omega
    simp [this]
  · have : (off n i j).toNat ≠ (off n i' j').toNat := by
      intro e
      have := off_inj h h' (by omega)
      exact hc ⟨this.1.symm, this.2.symm⟩
    simp [this, hc]

theorem sized_swap {n : Int} {s : St α} {a b c d : Int} (h : Sized n s) : Sized n (s.swap a b c d) := by
  simp only [St.swap]; exact sized_wr (sized_wr (sized_get (sized_get h)))

theorem rd_swap {n : Int} {s : St α} {a b c d i j : Int} (hs : Sized n s) (hab : 0 ≤ b ∧ b ≤ a ∧ a < n) (hcd : 0 ≤ d ∧ d ≤ c ∧ c < n)
    (hij : 0 ≤ j ∧ j ≤ i ∧ i < n) :
    (s.swap a b c d).rd i j = if i = c ∧ j = d then s.rd a b else if i = a ∧ j = b then s.rd c d else s.rd i j := by
  simp only [St.swap]
  rw [rd_wr (n := n) (sized_wr (sized_get (sized_get hs))) hcd hij, rd_wr (n := n) (sized_get (sized_get hs)) hab hij]
  simp only [get_fst, rd_get]

/-- `s'` is `s` with the entries at the positions `D` of the packed triangle replaced by the values `v`.  Every loop of the
    factorization is described this way: the invariant only has to say which positions are done, the values never change. -/
def Over (n : Int) (D : Int → Int → Prop) (v : Int → Int → α) (s s' : St α) : Prop :=
  Sized n s' ∧ ∀ i j, 0 ≤ j → j ≤ i → i < n → (D i j → s'.rd i j = v i j) ∧ (¬ D i j → s'.rd i j = s.rd i j)

namespace Over
variable {n : Int} {D : Int → Int → Prop} {v : Int → Int → α} {s s' : St α}

theorem start {s0 : St α} (hs : Sized n s0) (hrd : ∀ i j, s0.rd i j = s.rd i j) (hD : ∀ i j, ¬ D i j) : Over n D v s s0 :=
  ⟨hs, fun i j _ _ _ => ⟨fun h => absurd h (hD i j), fun _ => hrd i j⟩⟩

theorem refl (hs : Sized n s) : Over n (fun _ _ => False) v s s := start hs (fun _ _ => rfl) (fun _ _ h => h)

theorem congr {D' : Int → Int → Prop} (h : Over n D v s s') (hD : ∀ i j, 0 ≤ j → j ≤ i → i < n → (D' i j ↔ D i j)) :
    Over n D' v s s' :=
  ⟨h.1, fun i j a b c => ⟨fun d => (h.2 i j a b c).1 ((hD i j a b c).1 d), fun d => (h.2 i j a b c).2 (fun d' => d ((hD i j a b c).2 d'))⟩⟩

theorem get (h : Over n D v s s') (a b : Int) : Over n D v s (s'.get a b).2 := h

theorem old (h : Over n D v s s') {i j : Int} (hij : 0 ≤ j ∧ j ≤ i ∧ i < n) (hD : ¬ D i j) : s'.rd i j = s.rd i j :=
  (h.2 i j hij.1 hij.2.1 hij.2.2).2 hD
theorem new (h : Over n D v s s') {i j : Int} (hij : 0 ≤ j ∧ j ≤ i ∧ i < n) (hD : D i j) : s'.rd i j = v i j :=
  (h.2 i j hij.1 hij.2.1 hij.2.2).1 hD

theorem wr (h : Over n D v s s') {a b : Int} {x : α} (hab : 0 ≤ b ∧ b ≤ a ∧ a < n) (hx : x = v a b) :
    Over n (fun i j => D i j ∨ (i = a ∧ j = b)) v s (s'.wr a b x) := by
  refine ⟨sized_wr h.1, fun i j h1 h2 h3 => ?_⟩
  rw [rd_wr h.1 hab ⟨h1, h2, h3⟩]
  by_cases c : i = a ∧ j = b
  · rw [if_pos c, c.1, c.2]
    exact ⟨fun _ => hx, fun d => absurd (Or.inr ⟨rfl, rfl⟩) d⟩
  · rw [if_neg c]
    exact ⟨fun d => (h.2 i j h1 h2 h3).1 (d.resolve_right c), fun d => (h.2 i j h1 h2 h3).2 (fun d' => d (Or.inl d'))⟩

/-- a swap of two positions not yet done, whose final values are each other's original values -/
theorem swap (h : Over n D v s s') {a b c d : Int} (hab : 0 ≤ b ∧ b ≤ a ∧ a < n) (hcd : 0 ≤ d ∧ d ≤ c ∧ c < n)
    (nab : ¬ D a b) (ncd : ¬ D c d) (vab : v a b = s.rd c d) (vcd : v c d = s.rd a b) :
    Over n (fun i j => D i j ∨ (i = a ∧ j = b) ∨ (i = c ∧ j = d)) v s (s'.swap a b c d) := by
  refine ⟨sized_swap h.1, fun i j h1 h2 h3 => ?_⟩
  rw [rd_swap h.1 hab hcd ⟨h1, h2, h3⟩, h.old hab nab, h.old hcd ncd]
  by_cases e1 : i = c ∧ j = d
  · rw [if_pos e1, e1.1, e1.2]
    exact ⟨fun _ => vcd.symm, fun x => absurd (Or.inr (Or.inr ⟨rfl, rfl⟩)) x⟩
  · rw [if_neg e1]
    by_cases e2 : i = a ∧ j = b
    · rw [if_pos e2, e2.1, e2.2]
      exact ⟨fun _ => vab.symm, fun x => absurd (Or.inr (Or.inl ⟨rfl, rfl⟩)) x⟩
    · rw [if_neg e2]
      exact ⟨fun x => (h.2 i j h1 h2 h3).1 (x.resolve_right (fun y => y.elim e2 e1)), fun x => (h.2 i j h1 h2 h3).2 (fun y => x (Or.inl y))⟩

/-- the done set of a pass may be rewritten; `D` (what was done before the loop) is kept apart so that the equivalence only
    concerns the loop's own positions -/
theorem step {L L' P : Int → Int → Prop} (h : Over n (fun i j => (D i j ∨ L i j) ∨ P i j) v s s')
    (hL : ∀ i j, 0 ≤ j → j ≤ i → i < n → (L' i j ↔ L i j ∨ P i j)) : Over n (fun i j => D i j ∨ L' i j) v s s' :=
  h.congr (fun i j a b c => by rw [hL i j a b c, or_assoc])

/-- the same for a pass that advances two families of positions at once (a swap) -/
theorem step2 {L₁ L₂ L₁' L₂' P₁ P₂ : Int → Int → Prop} (h : Over n (fun i j => (D i j ∨ L₁ i j ∨ L₂ i j) ∨ P₁ i j ∨ P₂ i j) v s s')
    (h₁ : ∀ i j, 0 ≤ j → j ≤ i → i < n → (L₁' i j ↔ L₁ i j ∨ P₁ i j)) (h₂ : ∀ i j, 0 ≤ j → j ≤ i → i < n → (L₂' i j ↔ L₂ i j ∨ P₂ i j)) :
    Over n (fun i j => D i j ∨ L₁' i j ∨ L₂' i j) v s s' :=
  h.congr (fun i j a b c => by rw [h₁ i j a b c, h₂ i j a b c, or_or_or_comm]; simp only [or_assoc])

/-- a loop over `lo ≤ t < hi` that has done `L t` on top of `D` when it reaches `t` -/
theorem loop {L : Int → Int → Int → Prop} {f : St α → Int → St α} {lo hi : Int} {s0 : St α} (hle : lo ≤ hi) (h0 : Over n D v s s0)
    (hL : ∀ i j, ¬ L lo i j)
    (step : ∀ t s', lo ≤ t → t < hi → Over n (fun i j => D i j ∨ L t i j) v s s' → Over n (fun i j => D i j ∨ L (t + 1) i j) v s (f s' t)) :
    Over n (fun i j => D i j ∨ L hi i j) v s ((intRange lo hi).foldl f s0) :=
  ListFold.foldl_intRange_inv (fun t s' => Over n (fun i j => D i j ∨ L t i j) v s s') f lo hi s0 hle
    (h0.congr (fun i j _ _ _ => or_iff_left (hL i j))) step

/-- where `v` is the old value off `D`, every entry reads `v` -/
theorem rd_eq (h : Over n D v s s') (hv : ∀ i j, 0 ≤ j → j ≤ i → i < n → ¬ D i j → v i j = s.rd i j) :
    ∀ i j, 0 ≤ j → j ≤ i → i < n → s'.rd i j = v i j := by
  intro i j a b c
  by_cases d : D i j
  · exact (h.2 i j a b c).1 d
  · rw [(h.2 i j a b c).2 d, hv i j a b c d]

end Over

/-- what `ge1_update` stores: the Schur-complement entries `B(i,j) − (conj(l_j)/akk)·l_i` in the columns right of `k` -/
def upd1 (s : St α) (k : Int) (akk : α) (i j : Int) : α :=
  if k < j then s.rd i j - (scalarop_conj (s.rd j k) / akk) * s.rd i k else s.rd i j

theorem ge1_update_spec {n : Int} {s : St α} {k : Int} {akk : α} (hs : Sized n s) (hk : 0 ≤ k) (hkn : k < n) :
    Over n (fun _ j => k < j) (upd1 s k akk) s (ge1_update s k akk (n - k - 1)) := by
  unfold ge1_update
  refine ((Over.refl hs).loop (L := fun jj _ j => k < j ∧ j < k + 1 + jj)
    (by omega) (fun i j => by omega) (fun jj s' hj0 hj1 hP => ?_)).congr (fun i j _ _ _ => by rw [false_or]; omega)
  -- column `k + 1 + jj`, top to bottom; column `k` and the columns further right still hold their old values
  have hc : s'.rd (k + 1 + jj) k = s.rd (jj + k + 1) k := by
    rw [hP.old ⟨hk, by omega, by omega⟩ (fun h => h.elim id (by omega)), show k + 1 + jj = jj + k + 1 by ring]
  exact ((hP.get (k + 1 + jj) k).loop (L := fun t i j => j = k + 1 + jj ∧ j ≤ i ∧ i < k + 1 + jj + t) (by omega) (fun i j => by omega)
    (fun t s'' ht0 ht1 hQ =>
      (((hQ.get (k + 1 + jj + t) k).get (jj + k + 1 + t) (jj + k + 1)).wr (a := jj + k + 1 + t) (b := jj + k + 1)
        ⟨by omega, by omega, by omega⟩ (by
          show s''.rd _ _ - scalarop_conj (s'.rd _ k) / akk * s''.rd _ k = _
          rw [hc, hQ.old ⟨hk, by omega, by omega⟩ (fun h => h.elim (fun h => h.elim id (by omega)) (by omega)),
            hQ.old ⟨by omega, by omega, by omega⟩ (fun h => h.elim (fun h => h.elim id (by omega)) (by omega)),
            show k + 1 + jj + t = jj + k + 1 + t by ring, upd1, if_pos (by omega)])).step
        (fun i j _ _ _ => by omega))).step (fun i j _ _ hin => by omega)

theorem ge1_scale_spec {n : Int} {s : St α} {k : Int} {akk : α} (hs : Sized n s) (hk : 0 ≤ k) (hkn : k < n) :
    Over n (fun i j => j = k ∧ k < i) (fun i _ => s.rd i k / akk) s (ge1_scale s k akk (n - k - 1)) := by
  unfold ge1_scale
  exact ((Over.refl hs).loop (L := fun t i j => j = k ∧ k < i ∧ i < k + 1 + t)
    (by omega) (fun i j => by omega)
    (fun t s' ht0 ht1 hP =>
      ((hP.get (k + 1 + t) k).wr (a := k + 1 + t) (b := k) ⟨hk, by omega, by omega⟩
        (by rw [hP.old ⟨hk, by omega, by omega⟩ (fun h => h.elim id (by omega))])).step (fun i j _ _ _ => by omega))).congr
    (fun i j _ _ hin => by rw [false_or]; omega)

/-- One 1x1 elimination step of the model, entry by entry (any scalar type): the multipliers `l_i = A(i,k)/a_kk` are stored in
    column `k`, every entry right of column `k` receives `A(i,j) − (A(j,k)/a_kk)·A(i,k)`, everything else is untouched. -/
theorem elim1_model {n : Int} {s : St α} {k : Int} (hs : Sized n s) (hk : 0 ≤ k) (hkn : k < n)
    (hst : ge1_status (s.rd k k) = Successful) :
    (gaussian_elimination_1x1 s k).1 = Successful ∧
    ∀ i j, 0 ≤ j → j ≤ i → i < n → (gaussian_elimination_1x1 s k).2.rd i j =
      if j = k ∧ k < i then s.rd i k / s.rd k k
      else if k < j then s.rd i j - (s.rd j k / s.rd k k) * s.rd i k
      else s.rd i j := by
  -- the diagonal entry is written back unchanged (`real` is the identity on real scalars)
  have h1 := ((Over.refl (v := s.rd) hs).get k k).wr (x := s.rd k k)
    ⟨hk, le_refl _, hkn⟩ rfl
  have hs1 := h1.1
  have hr1 := h1.rd_eq (fun _ _ _ _ _ _ => rfl)
  unfold gaussian_elimination_1x1
  simp only [get_fst, scalarop_real, hst, ne_eq, not_true_eq_false, if_false]
  refine ⟨trivial, fun i j h1 h2 h3 => ?_⟩
  have hn1 : ((s.get k k).2.wr k k (s.rd k k)).n = n := hs1.1
  rw [hn1]
  have hu := ge1_update_spec (akk := s.rd k k) hs1 hk hkn
  have hsc := ge1_scale_spec (akk := s.rd k k) hu.1 hk hkn
  by_cases c : j = k ∧ k < i
  · rw [if_pos c, hsc.new ⟨h1, h2, h3⟩ c, hu.old ⟨hk, by omega, h3⟩ (by omega), hr1 i k hk (by omega) h3]
  · rw [if_neg c, hsc.old ⟨h1, h2, h3⟩ c]
    by_cases c2 : k < j
    · rw [if_pos c2, hu.new ⟨h1, h2, h3⟩ c2, upd1, if_pos c2, hr1 i j h1 h2 h3, hr1 j k hk (by omega) (by omega), hr1 i k hk (by omega) h3]; rfl
    · rw [if_neg c2, hu.old ⟨h1, h2, h3⟩ c2, hr1 i j h1 h2 h3]

/-! ### 2x2 step -/
theorem rd_congr {s s' : St α} (hd : s'.data = s.data) (hn : s'.n = s.n) (i j : Int) : s'.rd i j = s.rd i j := by
  unfold St.rd; rw [hd, hn]

theorem getD_push (x : Array α) (a : α) (u : Nat) : (x.push a).getD u zero = if u < x.size then x.getD u zero else if u = x.size then a else zero := by
  simp only [Array.getD_eq_getD_getElem?, Array.getElem?_push]
  by_cases h1 : u < x.size
  · have : u ≠ x.size := by omega
    simp [h1, this]
  · by_cases h2 : u = x.size
    · simp [h2]
    · have : ¬ u < x.size := h1
      simp [h1, h2]

/-- `X = l·E⁻¹` row by row -/
theorem ge2_X_spec {s : St α} {k : Int} {e11 e21 e22 : α} (ldim : Int) (hl : 0 ≤ ldim) :
    (ge2_X s k e11 e21 e22 ldim).2.2.data = s.data ∧ (ge2_X s k e11 e21 e22 ldim).2.2.n = s.n ∧
    ∀ u : Int, 0 ≤ u → u < ldim →
      (ge2_X s k e11 e21 e22 ldim).1.getD u.toNat zero = (solve_left_2x2 e11 e21 e22 (s.rd (k + 2 + u) k) (s.rd (k + 2 + u) (k + 1))).1 ∧
      (ge2_X s k e11 e21 e22 ldim).2.1.getD u.toNat zero = (solve_left_2x2 e11 e21 e22 (s.rd (k + 2 + u) k) (s.rd (k + 2 + u) (k + 1))).2 := by
  unfold ge2_X
  have inv := ListFold.foldl_intRange_inv (fun (t : Int) (acc : Array α × Array α × St α) =>
      acc.2.2.data = s.data ∧ acc.2.2.n = s.n ∧ acc.1.size = t.toNat ∧ acc.2.1.size = t.toNat ∧
      ∀ u : Int, 0 ≤ u → u < t →
        acc.1.getD u.toNat zero = (solve_left_2x2 e11 e21 e22 (s.rd (k + 2 + u) k) (s.rd (k + 2 + u) (k + 1))).1 ∧
        acc.2.1.getD u.toNat zero = (solve_left_2x2 e11 e21 e22 (s.rd (k + 2 + u) k) (s.rd (k + 2 + u) (k + 1))).2)
    (fun (acc : Array α × Array α × St α) (t : Int) =>
      (acc.1.push (solve_left_2x2 e11 e21 e22 (acc.2.2.get (k + 2 + t) k).1 ((acc.2.2.get (k + 2 + t) k).2.get (k + 2 + t) (k + 1)).1).1,
       acc.2.1.push (solve_left_2x2 e11 e21 e22 (acc.2.2.get (k + 2 + t) k).1 ((acc.2.2.get (k + 2 + t) k).2.get (k + 2 + t) (k + 1)).1).2,
       ((acc.2.2.get (k + 2 + t) k).2.get (k + 2 + t) (k + 1)).2))
    0 ldim ((#[] : Array α), (#[] : Array α), s) hl ⟨rfl, rfl, rfl, rfl, fun u h1 h2 => by omega⟩
    (fun t acc ht0 ht1 hP => by
      obtain ⟨x0, x1, s'⟩ := acc
      obtain ⟨hd, hn, hz0, hz1, hv⟩ := hP
      simp only [] at hd hn hz0 hz1 hv
      have hrd := rd_congr hd hn
      refine ⟨hd, hn, by simp [hz0]; omega, by simp [hz1]; omega, fun u hu0 hu1 => ?_⟩
      simp only [get_fst, rd_get, hrd]
      rw [getD_push, getD_push, hz0, hz1]
      by_cases c : u < t
      · rw [if_pos (by omega), if_pos (by omega)]; exact hv u hu0 c
      · have e : u = t := by omega
        subst e
        rw [if_neg (by omega), if_pos rfl, if_neg (by omega), if_pos rfl]
        exact ⟨rfl, rfl⟩)
  exact ⟨inv.1, inv.2.1, inv.2.2.2.2⟩

/-- what `ge2_update` stores: `B(i,j) − (X(i)₁·conj(l1_j) + X(i)₂·conj(l2_j))` in the columns right of `k + 1` -/
def upd2 (s : St α) (k : Int) (x0 x1 : Array α) (i j : Int) : α :=
  if k + 1 < j then s.rd i j - (x0.getD (i - k - 2).toNat zero * scalarop_conj (s.rd j k) + x1.getD (i - k - 2).toNat zero * scalarop_conj (s.rd j (k + 1)))
  else s.rd i j

theorem ge2_update_spec {n : Int} {s : St α} {k : Int} {x0 x1 : Array α} (hs : Sized n s) (hk : 0 ≤ k) (hkn : k + 1 < n) :
    Over n (fun _ j => k + 1 < j) (upd2 s k x0 x1) s (ge2_update s k (n - k - 2) x0 x1) := by
  unfold ge2_update
  refine ((Over.refl hs).loop (L := fun jj _ j => k + 1 < j ∧ j < k + 2 + jj)
    (by omega) (fun i j => by omega) (fun jj s' hj0 hj1 hP => ?_)).congr (fun i j _ _ _ => by rw [false_or]; omega)
  -- column `k + 2 + jj`; columns `k`, `k + 1` and the columns further right still hold their old values
  have hc : ∀ c, 0 ≤ c → c ≤ k + 1 → s'.rd (k + 2 + jj) c = s.rd (jj + k + 2) c := fun c h0 h1 => by
    rw [hP.old ⟨h0, by omega, by omega⟩ (fun h => h.elim id (by omega)), show k + 2 + jj = jj + k + 2 by ring]
  exact (((hP.get (k + 2 + jj) k).get (k + 2 + jj) (k + 1)).loop (L := fun t i j => j = k + 2 + jj ∧ j ≤ i ∧ i < k + 2 + jj + t)
    (by omega) (fun i j => by omega)
    (fun t s'' ht0 ht1 hQ =>
      ((hQ.get (jj + k + 2 + t) (jj + k + 2)).wr (a := jj + k + 2 + t) (b := jj + k + 2) ⟨by omega, by omega, by omega⟩ (by
          show s''.rd _ _ - (_ * scalarop_conj (s'.rd _ k) + _ * scalarop_conj (s'.rd _ (k + 1))) = _
          rw [hc k hk (by omega), hc (k + 1) (by omega) (le_refl _),
            hQ.old ⟨by omega, by omega, by omega⟩ (fun h => h.elim (fun h => h.elim id (by omega)) (by omega)),
            upd2, if_pos (by omega), show jj + k + 2 + t - k - 2 = jj + t by ring])).step
        (fun i j _ _ _ => by omega))).step (fun i j _ _ hin => by omega)

theorem ge2_store_spec {n : Int} {s : St α} {k : Int} {x0 x1 : Array α} (hs : Sized n s) (hk : 0 ≤ k) (hkn : k + 1 < n) :
    Over n (fun i j => (j = k ∨ j = k + 1) ∧ k + 2 ≤ i) (fun i j => (if j = k then x0 else x1).getD (i - k - 2).toNat zero) s
      (ge2_store s k (n - k - 2) x0 x1) := by
  unfold ge2_store
  have f1 := (Over.refl (v := fun i j => (if j = k then x0 else x1).getD (i - k - 2).toNat zero) hs).loop
    (f := fun (s' : St α) (t : Int) => s'.wr (k + 2 + t) k (x0.getD t.toNat zero)) (L := fun t i j => j = k ∧ k + 2 ≤ i ∧ i < k + 2 + t)
    (lo := 0) (hi := n - k - 2) (by omega) (fun i j => by omega)
    (fun t s' ht0 ht1 hP =>
      (hP.wr (a := k + 2 + t) (b := k) ⟨hk, by omega, by omega⟩ (by rw [if_pos rfl, show k + 2 + t - k - 2 = t by ring])).step
        (fun i j _ _ _ => by omega))
  exact (f1.loop (L := fun t i j => j = k + 1 ∧ k + 2 ≤ i ∧ i < k + 2 + t) (by omega) (fun i j => by omega)
    (fun t s' ht0 ht1 hP =>
      (hP.wr (a := k + 2 + t) (b := k + 1) ⟨by omega, by omega, by omega⟩
        (by rw [if_neg (by omega), show k + 2 + t - k - 2 = t by ring])).step (fun i j _ _ _ => by omega))).congr
    (fun i j _ _ hin => by rw [false_or]; omega)

/-- the head of the 2x2 step writes the two diagonal entries back unchanged (`real` is the identity on real scalars) -/
theorem ge2_head {n : Int} {s : St α} {k : Int} (hs : Sized n s) (hk : 0 ≤ k) (hkn : k + 1 < n) :
    Sized n ((((s.get k k).2.get (k + 1) (k + 1)).2.wr k k (s.rd k k)).wr (k + 1) (k + 1) (s.rd (k + 1) (k + 1))) ∧
    ∀ i j, 0 ≤ j → j ≤ i → i < n →
      ((((s.get k k).2.get (k + 1) (k + 1)).2.wr k k (s.rd k k)).wr (k + 1) (k + 1) (s.rd (k + 1) (k + 1))).rd i j = s.rd i j :=
  have h := ((((Over.refl (v := s.rd) hs).get k k).get (k + 1) (k + 1)).wr
    (x := s.rd k k) ⟨hk, le_refl _, by omega⟩ rfl).wr (x := s.rd (k + 1) (k + 1)) ⟨by omega, le_refl _, hkn⟩ rfl
  ⟨h.1, h.rd_eq (fun _ _ _ _ _ _ => rfl)⟩

/-- One 2x2 elimination step of the model, entry by entry (any scalar type): with `X(i) = (A(i,k), A(i,k+1))·E⁻¹` as `solve_left_2x2`
    returns it, rows `i ≥ k+2` of columns `k, k+1` receive `X(i)`, every entry right of column `k+1` receives
    `A(i,j) − (X(i)₁·A(j,k) + X(i)₂·A(j,k+1))`, everything else is untouched. -/
theorem elim2_model {n : Int} {s : St α} {k : Int} (hs : Sized n s) (hk : 0 ≤ k) (hkn : k + 1 < n)
    (hst : ge2_status (s.rd k k) (s.rd (k + 1) k) (s.rd (k + 1) (k + 1)) = Successful) :
    (gaussian_elimination_2x2 s k).1 = Successful ∧
    ∀ i j, 0 ≤ j → j ≤ i → i < n → (gaussian_elimination_2x2 s k).2.rd i j =
      if j = k ∧ k + 2 ≤ i then (solve_left_2x2 (s.rd k k) (s.rd (k + 1) k) (s.rd (k + 1) (k + 1)) (s.rd i k) (s.rd i (k + 1))).1
      else if j = k + 1 ∧ k + 2 ≤ i then (solve_left_2x2 (s.rd k k) (s.rd (k + 1) k) (s.rd (k + 1) (k + 1)) (s.rd i k) (s.rd i (k + 1))).2
      else if k + 1 < j then s.rd i j -
        ((solve_left_2x2 (s.rd k k) (s.rd (k + 1) k) (s.rd (k + 1) (k + 1)) (s.rd i k) (s.rd i (k + 1))).1 * s.rd j k +
         (solve_left_2x2 (s.rd k k) (s.rd (k + 1) k) (s.rd (k + 1) (k + 1)) (s.rd i k) (s.rd i (k + 1))).2 * s.rd j (k + 1))
      else s.rd i j := by
  obtain ⟨hs4, hr4⟩ := ge2_head hs hk hkn
  unfold gaussian_elimination_2x2
  simp only [get_fst, rd_get, scalarop_real]
  have he21 := hr4 (k + 1) k hk (by omega) hkn
  simp only [he21, hst, ne_eq, not_true_eq_false, if_false]
  refine ⟨trivial, fun i j h1 h2 h3 => ?_⟩
  have hs5' : Sized n (((((s.get k k).2.get (k + 1) (k + 1)).2.wr k k (s.rd k k)).wr (k + 1) (k + 1) (s.rd (k + 1) (k + 1))).get (k + 1) k).2 := sized_get hs4
  have hr5' : ∀ i j, 0 ≤ j → j ≤ i → i < n →
      (((((s.get k k).2.get (k + 1) (k + 1)).2.wr k k (s.rd k k)).wr (k + 1) (k + 1) (s.rd (k + 1) (k + 1))).get (k + 1) k).2.rd i j = s.rd i j := by
    intro i j a b c; rw [rd_get]; exact hr4 i j a b c
  generalize (((((s.get k k).2.get (k + 1) (k + 1)).2.wr k k (s.rd k k)).wr (k + 1) (k + 1) (s.rd (k + 1) (k + 1))).get (k + 1) k).2 = s5 at hs5' hr5' ⊢
  rw [hs5'.1]
  have hX := ge2_X_spec (s := s5) (k := k) (e11 := s.rd k k) (e21 := s.rd (k + 1) k) (e22 := s.rd (k + 1) (k + 1)) (n - k - 2) (by omega)
  generalize ge2_X s5 k (s.rd k k) (s.rd (k + 1) k) (s.rd (k + 1) (k + 1)) (n - k - 2) = X at hX ⊢
  obtain ⟨x0, x1, s6⟩ := X
  simp only [] at hX ⊢
  obtain ⟨hd6, hn6, hxv⟩ := hX
  have hs6 : Sized n s6 := ⟨by rw [hn6]; exact hs5'.1, by rw [hd6]; exact hs5'.2⟩
  have hr6 : ∀ i j, 0 ≤ j → j ≤ i → i < n → s6.rd i j = s.rd i j := by
    intro i j a b c
    rw [rd_congr hd6 hn6, hr5' i j a b c]
  have hu := ge2_update_spec (x0 := x0) (x1 := x1) hs6 hk hkn
  have hstore := ge2_store_spec (x0 := x0) (x1 := x1) hu.1 hk hkn
  have hx : ∀ i, k + 2 ≤ i → i < n →
      x0.getD (i - k - 2).toNat zero = (solve_left_2x2 (s.rd k k) (s.rd (k + 1) k) (s.rd (k + 1) (k + 1)) (s.rd i k) (s.rd i (k + 1))).1 ∧
      x1.getD (i - k - 2).toNat zero = (solve_left_2x2 (s.rd k k) (s.rd (k + 1) k) (s.rd (k + 1) (k + 1)) (s.rd i k) (s.rd i (k + 1))).2 := by
    intro i a b
    have := hxv (i - k - 2) (by omega) (by omega)
    have e : k + 2 + (i - k - 2) = i := by ring
    rw [e, hr5' i k hk (by omega) b, hr5' i (k + 1) (by omega) (by omega) b] at this
    exact this
  by_cases c : j = k ∧ k + 2 ≤ i
  · rw [if_pos c, hstore.new ⟨h1, h2, h3⟩ ⟨Or.inl c.1, c.2⟩, if_pos c.1]; exact (hx i c.2 h3).1
  · rw [if_neg c]
    by_cases c2 : j = k + 1 ∧ k + 2 ≤ i
    · rw [if_pos c2, hstore.new ⟨h1, h2, h3⟩ ⟨Or.inr c2.1, c2.2⟩, if_neg (by omega)]; exact (hx i c2.2 h3).2
    · rw [if_neg c2, hstore.old ⟨h1, h2, h3⟩ (by omega)]
      by_cases c3 : k + 1 < j
      · rw [if_pos c3, hu.new ⟨h1, h2, h3⟩ c3, upd2, if_pos c3, (hx i (by omega) h3).1, (hx i (by omega) h3).2,
          hr6 i j h1 h2 h3, hr6 j k hk (by omega) (by omega), hr6 j (k + 1) (by omega) (by omega) (by omega)]
        rfl
      · rw [if_neg c3, hu.old ⟨h1, h2, h3⟩ c3, hr6 i j h1 h2 h3]

theorem initSt_sized (n : Int) : Sized n (initSt (α := α) n) := (initSt_inv n).sized

end
end BKLDLT
