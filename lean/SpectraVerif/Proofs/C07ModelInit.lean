/-
  C07 at the level of the executable model: `Arnoldi.init` (Model/Arnoldi.lean) at an exact field establishes the loop invariant
  `C07L.PassInv n m A s' 1` of `factorize_from` (helper file of Properties/C07.lean and of the C01 discharge files).

  `hv0 : v0.size = n` of `init_passInv` is part of the signature but not used: `OpOK.size` gives the length of `A v0` for every
  `v0`, and `OpIs` is only needed for the second application, to the unit vector.
-/
import SpectraVerif.Proofs.C07ModelLanczos

set_option linter.unusedSectionVars false

open Finset Lin

namespace C07L
open C07
section
variable {K : Type} [Field K] [LinearOrder K] [IsStrictOrderedRing K] [Sc K]

/-- the unit start vector `v = A v0 / ‖A v0‖`, `w = A v`, `h00 = <v, w>`, raw residual `w - v h00` of `Arnoldi::init` -/
def initV (op : Arnoldi.Op K) (v0 : Lin.Vec K) : Lin.Vec K := Lin.vdivs (op.A v0) (op.norm (op.A v0))
def initH00 (op : Arnoldi.Op K) (v0 : Lin.Vec K) : K := op.inner (initV op v0) (op.A (initV op v0))
def initF (op : Arnoldi.Op K) (n : ℕ) (v0 : Lin.Vec K) : Lin.Vec K :=
  Lin.vofFn n (fun i => Lin.vget (op.A (initV op v0)) i - Lin.vget (initV op v0) i * initH00 op v0)

/-- `init` is regular: `‖A v0‖ ≠ 0` (the code divides by it unguarded) and the `f := 0` shortcut is not taken -/
def InitRegular (op : Arnoldi.Op K) (s : Arnoldi.State K) (v0 : Lin.Vec K) : Prop :=
  op.norm (op.A v0) ≠ 0 ∧ Sc.lt (Lin.maxAbs (initF op s.n v0)) (s.eps * Sc.abs (initH00 op v0)) = false

/-- the state a regular `init` returns -/
def initState (op : Arnoldi.Op K) (s : Arnoldi.State K) (v0 : Lin.Vec K) : Arnoldi.State K :=
  { s with V := (Mat.zeros s.n s.m).setCol 0 (initV op v0), H := (Mat.zeros s.m s.m).set 0 0 (initH00 op v0),
           f := initF op s.n v0, beta := op.norm (initF op s.n v0), k := 1, ops := s.ops + 2 }

theorem init_eq (op : Arnoldi.Op K) (s s' : Arnoldi.State K) (v0 : Lin.Vec K)
    (h : Arnoldi.init op s v0 = some s') (hreg : InitRegular op s v0) : s' = initState op s v0 := by
  unfold Arnoldi.init at h
  simp only [] at h
  split at h
  · cases h
  · have h2 := hreg.2
    unfold initF initH00 initV at h2
    rw [h2] at h
    simp only [Bool.false_eq_true, if_false] at h
    cases h
    rfl

end
end C07L

namespace C07L
open C07
section
variable {K : Type} [Field K] [LinearOrder K] [IsStrictOrderedRing K] [Sc K] (E : ExactSc K)
include E

/-- **a regular `Arnoldi.init` establishes the loop invariant at index 1** -/
theorem init_passInv (n m : ℕ) (A : (Fin n → K) →ₗ[K] (Fin n → K)) (op : Arnoldi.Op K) (hop : OpOK n op A)
    (s s' : Arnoldi.State K) (hn : s.n = n) (hm : s.m = m) (hm1 : 1 ≤ m) (heps : 0 ≤ s.eps) (v0 : Lin.Vec K) (hv0 : v0.size = n)
    (h : Arnoldi.init op s v0 = some s') (hreg : InitRegular op s v0) :
    PassInv n m A s' 1 ∧ s'.k = 1 ∧ s'.near0 = s.near0 ∧ s'.eps = s.eps := by
  have hs' := init_eq op s s' v0 h hreg
  subst hs' hn hm
  refine ⟨?_, rfl, rfl, rfl⟩
  have hm0 : 0 < s.m := hm1
  -- the unit start vector `v`, `<v, v> = 1`
  have hvsz : (initV op v0).size = s.n := (Array.size_map ..).trans (hop.size v0)
  have hvv : dotProduct (vecOf s.n (initV op v0)) (vecOf s.n (initV op v0)) = 1 := by
    rw [show vecOf s.n (initV op v0) = _ from vecOf_vdivs E.ofInt0 _ _ _]
    exact (C01E.dotIP s.n).normalize_self _ _ hreg.1 rfl (hop.norm_spec E _ (hop.size v0)).2
  have hAv : vecOf s.n (op.A (initV op v0)) = A (vecOf s.n (initV op v0)) := hop.is _ hvsz
  have hh00 : initH00 op v0 = dotProduct (vecOf s.n (initV op v0)) (A (vecOf s.n (initV op v0))) :=
    (hop.inner_eq E _ _ hvsz).trans (by rw [hAv])
  -- the three arrays of the returned state
  have hf : vecOf s.n (initState op s v0).f = A (vecOf s.n (initV op v0)) - initH00 op v0 • vecOf s.n (initV op v0) := by
    rw [← hAv]
    funext r
    exact (C08Mat.vget_vofFn _ _ r.isLt).trans (congrArg _ (mul_comm _ _))
  have Zw : C08Mat.WF (Mat.zeros s.n s.m : Mat K) := C08Mat.zeros_WF _ _
  obtain ⟨Vw', Vr', Vc', -⟩ := C08Mat.setCol_spec Zw (j := 0) hm0 (initV op v0)
  have hV0 : colOf s.n (initState op s v0).V 0 = vecOf s.n (initV op v0) :=
    (congrFun (colOf_setCol s.n Zw rfl (i := 0) hm0 (initV op v0)) 0).trans (Function.update_self ..)
  have HZw : C08Mat.WF (Mat.zeros s.m s.m : Mat K) := C08Mat.zeros_WF _ _
  have hH : ∀ a b, a < s.m → b < s.m → (initState op s v0).H.get a b = if a = 0 ∧ b = 0 then initH00 op v0 else 0 := fun a b ha hb =>
    (C08Mat.get_set HZw _ hm0 hm0 ha).trans (by rw [C08Mat.get_zeros, LinField.zero_eq E.ofInt0])
  refine .of ⟨rfl, rfl, Vw', Vr', Vc', C08Mat.set_WF HZw _ _ _, C08Mat.set_rows _ _ _ _, C08Mat.set_cols _ _ _ _⟩ hm1
    ((LInv.init (C01E.dotIP s.n) A _ hvv).congr (fun j hj => by rw [Nat.lt_one_iff.mp hj]; exact hV0) (fun a b ha hb => ?_) (hf.trans (by rw [hh00]; rfl)))
    (hop.norm_spec E _ (C08Mat.size_vofFn _ _)) (fun a b ha hb hab _ => ?_) heps
  · rw [Nat.lt_one_iff.mp ha, Nat.lt_one_iff.mp hb, maskH_lead 1 _ 0 0 Nat.one_pos Nat.one_pos, hH 0 0 hm0 hm0, if_pos ⟨rfl, rfl⟩, hh00]
    rfl
  · rw [hH a b ha hb, if_neg]
    rintro ⟨rfl, rfl⟩
    exact absurd hab (by decide)

omit E in
theorem init_none_or (op : Arnoldi.Op K) (s : Arnoldi.State K) (v0 : Lin.Vec K) :
    Arnoldi.init op s v0 = none ∨ ∃ s', Arnoldi.init op s v0 = some s' := by
  cases h : Arnoldi.init op s v0 with
  | none => exact Or.inl rfl
  | some s' => exact Or.inr ⟨s', rfl⟩

end
end C07L
