/-
  `Σ_k c_k • v_k` for a list of coefficients and a list of columns (truncated at the shorter list): the sum both block models reduce
  their accumulation loops to (`Lobpcg.lincomb`: `lincomb_zero_eq` in C17Lemmas; `Dav.lincomb`: `C15L.lincomb_eq`), with what a
  linear map and a bilinear form do to it.
-/
import Mathlib.Algebra.Module.LinearMap.Defs

namespace Lobpcg

section alg
variable {α V : Type} [CommRing α] [AddCommGroup V] [Module α V]

/-- `Σ_k c_k • v_k`, truncated at the shorter list (normal form of `lincomb 0`) -/
def sumZip : List α → List V → V
  | c :: cs, v :: vs => c • v + sumZip cs vs
  | _, _ => 0

@[simp] theorem sumZip_nil_left (vs : List V) : sumZip ([] : List α) vs = 0 := by
  cases vs <;> rfl

@[simp] theorem sumZip_nil_right (cs : List α) : sumZip cs ([] : List V) = 0 := by
  cases cs <;> rfl

@[simp] theorem sumZip_cons (c : α) (cs : List α) (v : V) (vs : List V) :
    sumZip (c :: cs) (v :: vs) = c • v + sumZip cs vs := rfl

/-- a left fold over the zipped lists that adds `c • v` (the loop of `Dav.lincomb`) -/
theorem foldl_zip_eq (cs : List α) (vs : List V) (a : V) :
    (List.zip cs vs).foldl (fun acc cv => acc + cv.1 • cv.2) a = a + sumZip cs vs := by
  induction cs generalizing a vs with
  | nil => simp
  | cons c cs ih =>
    cases vs with
    | nil => simp
    | cons v vs => simp only [List.zip_cons_cons, List.foldl_cons, ih, sumZip_cons, add_assoc]

variable {W : Type} [AddCommGroup W] [Module α W]

theorem map_sumZip (f : V → W) (hf : IsLinearMap α f) (cs : List α) (vs : List V) :
    f (sumZip cs vs) = sumZip cs (vs.map f) := by
  induction cs generalizing vs with
  | nil => simp [show f 0 = 0 from (hf.mk' f).map_zero]
  | cons c cs ih =>
    cases vs with
    | nil => simp [show f 0 = 0 from (hf.mk' f).map_zero]
    | cons v vs => simp only [sumZip_cons, List.map_cons, hf.map_add, hf.map_smul, ih]

theorem sumZip_take (cs : List α) (vs : List V) : sumZip (cs.take vs.length) vs = sumZip cs vs := by
  induction cs generalizing vs with
  | nil => simp
  | cons c cs ih =>
    cases vs with
    | nil => simp
    | cons v vs => simp only [List.length_cons, List.take_succ_cons, sumZip_cons, ih]

theorem sumZip_append (cs : List α) (X Y : List V) :
    sumZip cs (X ++ Y) = sumZip cs X + sumZip (cs.drop X.length) Y := by
  induction X generalizing cs with
  | nil => simp
  | cons x X ih =>
    cases cs with
    | nil => simp
    | cons c cs => simp only [List.cons_append, sumZip_cons, List.length_cons, List.drop_succ_cons, ih, add_assoc]

/-! ### bilinear forms on linear combinations -/

structure IsBilin (b : V → V → α) : Prop where
  add_left : ∀ x y z, b (x + y) z = b x z + b y z
  smul_left : ∀ (a : α) x z, b (a • x) z = a * b x z
  add_right : ∀ x y z, b x (y + z) = b x y + b x z
  smul_right : ∀ (a : α) x y, b x (a • y) = a * b x y

/-- `Σ_k c_k Σ_l d_l b(S_k, T_l)` (both sums truncated like `lincomb`): the `(c, d)` entry of `Cᵀ (Sᵀ B T) D` -/
def gramForm (b : V → V → α) (S T : List V) (c d : List α) : α :=
  sumZip c (S.map (fun s => sumZip d (T.map (fun t => b s t))))

theorem bilin_sumZip (b : V → V → α) (hb : IsBilin b) (c d : List α) (S T : List V) :
    b (sumZip c S) (sumZip d T) = gramForm b S T c d := by
  unfold gramForm
  have h1 : IsLinearMap α (fun s : V => b s (sumZip d T)) :=
    ⟨fun x y => hb.add_left x y _, fun a x => by simp only [hb.smul_left, smul_eq_mul]⟩
  have e1 := map_sumZip (fun s : V => b s (sumZip d T)) h1 c S
  rw [e1]
  congr 1
  apply List.map_congr_left
  intro s _
  exact map_sumZip (fun t : V => b s t)
    ⟨fun x y => hb.add_right s x y, fun a x => by simp only [hb.smul_right, smul_eq_mul]⟩ d T

end alg

end Lobpcg
