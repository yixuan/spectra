/-
  C09, whole-run similarity of UpperHessenbergSchur: array level.
  `Arr F n t A`: the array `t` is a well-formed `n × n` matrix with the entries `A`.  Every primitive of the model carries `Arr` to
  `Arr` (`Arr.set/setSub/drop/add`, `Arr.hhLeft/hhRight`, `Arr.rotLeft/rotRight`), the entry function being transformed by the
  windowed operations `wl / wr` of C09SchurFn; `Arr.mat` goes on to the matrix level.
-/
import SpectraVerif.Proofs.C09SchurFn
import SpectraVerif.Proofs.C09Schur
import SpectraVerif.Proofs.C09House

set_option linter.unusedSectionVars false

namespace C09SS
open Lin EigenPrims HessSchur C09Mat C09OrthU
open C08Mat hiding WF

section field
variable {K : Type} [Field K] [LinearOrder K] [IsStrictOrderedRing K] (F : FieldFns K)

/-- entry function of an array matrix (field instance) -/
def gf (t : Mat K) : ℕ → ℕ → K := fun i j => @Mat.get K (scOfField F) t i j

theorem zero_eq : (@zero K (scOfField F)) = 0 := by simp [zero]

/-- `t` is a well-formed `n × n` array with the entries `A` -/
def Arr (n : ℕ) (t : Mat K) (A : ℕ → ℕ → K) : Prop :=
  @WF K t ∧ t.rows = n ∧ t.cols = n ∧ ∀ i j, i < n → j < n → gf F t i j = A i j

variable {n : ℕ} {t : Mat K} {A : ℕ → ℕ → K}

theorem Arr.self (hw : @WF K t) (hr : t.rows = n) (hc : t.cols = n) : Arr F n t (gf F t) := ⟨hw, hr, hc, fun _ _ _ _ => rfl⟩

theorem Arr.congr (h : Arr F n t A) {B : ℕ → ℕ → K} (e : ∀ i j, i < n → j < n → A i j = B i j) : Arr F n t B :=
  ⟨h.1, h.2.1, h.2.2.1, fun i j hi hj => (h.2.2.2 i j hi hj).trans (e i j hi hj)⟩

theorem Arr.mat (h : Arr F n t A) : C09Sim.mat n (gf F t) = C09Sim.mat n A := C09Sim.mat_congr n _ _ h.2.2.2

/-- an array that keeps the shape of `t` (any footprint) and has the entries `B` -/
theorem Arr.of_pres (h : Arr F n t A) {t' : Mat K} {B : ℕ → ℕ → K} (p : @C09Schur.Pres K (scOfField F) n t t')
    (e : ∀ i j, i < n → j < n → gf F t' i j = B i j) : Arr F n t' B :=
  ⟨p.1, p.2.1.trans h.2.1, p.2.2.1.trans h.2.2.1, e⟩

theorem Arr.set (h : Arr F n t A) (i0 j0 : ℕ) (hi0 : i0 < n) (hj0 : j0 < n) (x : K) :
    Arr F n (@Mat.set K t i0 j0 x) (fun i j => if i = i0 ∧ j = j0 then x else A i j) := by
  let _ : Sc K := scOfField F
  refine ⟨set_WF h.1 _ _ _, by rw [set_rows, h.2.1], by rw [set_cols, h.2.2.1], fun i j hi hj => ?_⟩
  refine (get_set h.1 x (by rw [h.2.1]; exact hi0) (by rw [h.2.2.1]; exact hj0) (by rw [h.2.1]; exact hi)).trans ?_
  exact if_congr Iff.rfl rfl (h.2.2.2 i j hi hj)

/-- a write in front of the diagonal entry `(k, k)`, the column given as `j + 1 = k` -/
theorem Arr.setSub (h : Arr F n t A) (k : ℕ) (hk : k < n) (h0 : 0 < k) (x : K) :
    Arr F n (@Mat.set K t k (k - 1) x) (fun i j => if i = k ∧ j + 1 = k then x else A i j) :=
  (h.set F k (k - 1) hk (by omega) x).congr F fun _ _ _ _ => if_congr (and_congr_right' (by omega)) rfl rfl

/-- the conditional write of `0` in front of the diagonal entry `(k, k)` (there is no such position when `k = 0`) -/
theorem Arr.drop (h : Arr F n t A) (k : ℕ) (hk : k < n) (c : Prop) [Decidable c] (hck : c ↔ 0 < k) :
    Arr F n (if c then @Mat.set K t k (k - 1) (@zero K (scOfField F)) else t) (fun i j => if i = k ∧ j + 1 = k then 0 else A i j) := by
  by_cases h0 : 0 < k
  · rw [if_pos (hck.mpr h0)]
    exact (h.setSub F k hk h0 _).congr F fun _ _ _ _ => by rw [zero_eq]
  · rw [if_neg (fun h => h0 (hck.mp h))]
    exact h.congr F fun i j _ _ => (if_neg (by omega)).symm

theorem tu_ite (c : Prop) [Decidable c] (a b u : Mat K) : (if c then (⟨a, u⟩ : TU K) else ⟨b, u⟩) = ⟨if c then a else b, u⟩ := by
  split <;> rfl

/-- adding `d` to one entry adds the single-entry matrix -/
theorem Arr.add (h : Arr F n t A) (i0 j0 : ℕ) (hi0 : i0 < n) (hj0 : j0 < n) (d : K) :
    Arr F n (@Mat.set K t i0 j0 (@Mat.get K (scOfField F) t i0 j0 + d)) (fun i j => A i j + sgl i0 j0 d i j) :=
  (h.set F i0 j0 hi0 hj0 _).congr F fun i j _ _ => by
    simp only [sgl]
    split
    · rename_i e; rw [e.1, e.2]; exact congrArg (· + d) (h.2.2.2 i0 j0 hi0 hj0)
    · exact (add_zero _).symm

/-- one column of `applyOnTheLeft(adjoint)` -/
theorem colStep_get (m : Mat K) (h : @WF K m) (c s' : K) (p q j0 i j : Nat) (hpq : p ≠ q)
    (hp : p < m.rows) (hq : q < m.rows) (hj0 : j0 < m.cols) (hi : i < m.rows) :
    let _ : Sc K := scOfField F
    ((m.set p j0 (rotPair c s' (m.get p j0) (m.get q j0)).1).set q j0 (rotPair c s' (m.get p j0) (m.get q j0)).2).get i j =
      if j = j0 then (if i = p then c * m.get p j0 + s' * m.get q j0 else if i = q then (-s') * m.get p j0 + c * m.get q j0 else m.get i j)
      else m.get i j := by
  intro _
  rw [get_set (set_WF h _ _ _) _ (by rw [set_rows]; exact hq) (by rw [set_cols]; exact hj0) (by rw [set_rows]; exact hi),
      get_set h _ hp hj0 hi]
  simp only [rotPair]
  by_cases hjj : j = j0
  · subst hjj
    by_cases hiq : i = q
    · subst hiq; simp [Ne.symm hpq]
    · by_cases hip : i = p
      · subst hip; simp [hiq]
      · simp [hiq, hip]
  · simp [hjj]

/-- **entries of `M.rightCols/middleCols(…).applyOnTheLeft(p, q, rot.adjoint())`** (field instance): on the columns
    `c0 ≤ j < c0 + ncol` row `p` becomes `c·row_p − s·row_q`, row `q` becomes `s·row_p + c·row_q` (`Gᵀ M`) -/
theorem applyOnTheLeftAdj_get (m : Mat K) (h : @WF K m) (c0 ncol p q : Nat) (c s : K) (hpq : p ≠ q)
    (hp : p < m.rows) (hq : q < m.rows) (hn : c0 + ncol ≤ m.cols) (i j : Nat) (hi : i < m.rows) :
    let _ : Sc K := scOfField F
    (applyOnTheLeftAdj m c0 ncol p q c s).get i j =
      if c0 ≤ j ∧ j < c0 + ncol then
        (if i = p then c * m.get p j - s * m.get q j else if i = q then s * m.get p j + c * m.get q j else m.get i j)
      else m.get i j := by
  intro _
  simp only [applyOnTheLeftAdj]
  split
  · rename_i he
    simp only [Bool.and_eq_true, ScF.eq, decide_eq_true_eq, one, zero, ScF.ofInt, Int.cast_one, Int.cast_zero, neg_eq_zero] at he
    obtain ⟨hc, hs⟩ := he
    subst hc; subst hs
    split
    · split
      · rename_i hj; rw [hj, one_mul, zero_mul, sub_zero]
      · split
        · rename_i hj; rw [hj, zero_mul, one_mul, zero_add]
        · rfl
    · rfl
  · refine (ListFold.foldl_range_inv (fun k acc => @WF K acc ∧ acc.rows = m.rows ∧ acc.cols = m.cols ∧ ∀ i j, i < m.rows → acc.get i j =
        if c0 ≤ j ∧ j < c0 + k then
          (if i = p then c * m.get p j - s * m.get q j else if i = q then s * m.get p j + c * m.get q j else m.get i j)
        else m.get i j) _ ncol m ⟨h, rfl, rfl, fun i j _ => (if_neg (by omega)).symm⟩ ?_).2.2.2 i j hi
    rintro k acc hk ⟨wf, hr, hc', hg⟩
    refine ⟨set_WF (set_WF wf _ _ _) _ _ _, by rw [set_rows, set_rows, hr], by rw [set_cols, set_cols, hc'], fun i j hi => ?_⟩
    rw [colStep_get F _ wf c (-s) p q (c0 + k) i j hpq (by rw [hr]; exact hp) (by rw [hr]; exact hq)
      (by rw [hc']; omega) (by rw [hr]; exact hi)]
    by_cases hjk : j = c0 + k
    · subst hjk
      simp only [hg p _ hp, hg q _ hq, hg i _ hi, if_neg (show ¬ (c0 ≤ c0 + k ∧ c0 + k < c0 + k) by omega),
        if_pos (show c0 ≤ c0 + k ∧ c0 + k < c0 + (k + 1) by omega)]
      by_cases hip : i = p
      · subst hip; rw [if_pos rfl, if_pos rfl, if_pos trivial]; ring
      · rw [if_neg hip, if_neg hip]
        by_cases hiq : i = q
        · subst hiq; rw [if_pos rfl, if_pos rfl, if_pos trivial]; ring
        · rw [if_neg hiq, if_neg hiq, if_pos trivial]
    · simp only [if_neg hjk, hg i j hi]
      by_cases hlt : c0 ≤ j ∧ j < c0 + k
      · simp only [if_pos hlt, if_pos (show c0 ≤ j ∧ j < c0 + (k + 1) by omega)]
      · simp only [if_neg hlt, if_neg (show ¬ (c0 ≤ j ∧ j < c0 + (k + 1)) by omega)]

/-- `apply_householder_left` on the columns `c0 ..` -/
theorem Arr.hhLeft (h : Arr F n t A) (k c0 ncol : ℕ) (hk : k + 2 < n) (hc0 : c0 + ncol = n) (v1 v2 tau : K) :
    Arr F n (@applyHouseholderLeft K _ _ _ (scOfField F) t v1 v2 tau k c0 ncol) (wl (opP k v1 v2 tau) c0 A) := by
  let _ : Sc K := scOfField F
  refine h.of_pres F (C09Schur.pres_hhLeft n t h.1 v1 v2 tau k c0 ncol hk) fun i j hi hj => ?_
  have g := h.2.2.2
  simp only [gf] at g ⊢
  rw [C09HH.applyHouseholderLeft_get t h.1 v1 v2 tau k c0 ncol (by rw [h.2.1]; exact hk) (by rw [h.2.2.1]; omega) i j
    (by rw [h.2.1]; exact hi)]
  simp only [wl, ← mulPt_op, mulPt]
  by_cases hkb : c0 ≤ j
  · rw [if_pos ⟨hkb, by omega⟩, if_pos hkb, g k j (by omega) hj, g (k + 1) j (by omega) hj, g (k + 2) j hk hj, g i j hi hj]
  · rw [if_neg (by omega), if_neg hkb, g i j hi hj]

/-- `apply_householder_right` on the rows `< nr` -/
theorem Arr.hhRight (h : Arr F n t A) (k nr : ℕ) (hk : k + 2 < n) (hnr : nr ≤ n) (v1 v2 tau : K) :
    Arr F n (@applyHouseholderRight K _ _ _ (scOfField F) t v1 v2 tau k nr) (wr (opP k v1 v2 tau) nr A) := by
  let _ : Sc K := scOfField F
  refine h.of_pres F (C09Schur.pres_hhRight n t h.1 v1 v2 tau k nr hnr) fun i j hi hj => ?_
  have g := h.2.2.2
  simp only [gf] at g ⊢
  rw [C09HH.applyHouseholderRight_get t h.1 v1 v2 tau k nr (by rw [h.2.2.1]; exact hk) (by rw [h.2.1]; exact hnr) i j
    (by rw [h.2.1]; exact hi)]
  simp only [wr, ← mulP_op, mulP, g i k hi (by omega), g i (k + 1) hi (by omega), g i (k + 2) hi hk, g i j hi hj]

/-- the `U` update of a reflector trip -/
theorem Arr.hhRight_full (h : Arr F n t A) (k : ℕ) (hk : k + 2 < n) (v1 v2 tau : K) :
    Arr F n (@applyHouseholderRight K _ _ _ (scOfField F) t v1 v2 tau k n) (rmul (opP k v1 v2 tau) A) :=
  (h.hhRight F k n hk (le_refl n) v1 v2 tau).congr F fun i j hi _ => by simp only [wr, if_pos hi]

/-- `applyOnTheLeft(p, p+1, rot.adjoint())` on the columns `c0 ..` -/
theorem Arr.rotLeft (h : Arr F n t A) (p c0 ncol : ℕ) (hp : p + 1 < n) (hc0 : c0 + ncol = n) (c s : K) :
    Arr F n (@applyOnTheLeftAdj K _ _ _ (scOfField F) t c0 ncol p (p + 1) c s) (wl (opG p c s) c0 A) := by
  let _ : Sc K := scOfField F
  refine h.of_pres F (C09Schur.pres_rotLeft n t h.1 c0 ncol p (p + 1) c s (by omega) hp) fun i j hi hj => ?_
  have g := h.2.2.2
  have := applyOnTheLeftAdj_get F t h.1 c0 ncol p (p + 1) c s (by omega) (by rw [h.2.1]; omega) (by rw [h.2.1]; exact hp)
    (by rw [h.2.2.1]; omega) i j (by rw [h.2.1]; exact hi)
  simp only [gf] at g ⊢ this
  rw [this]
  simp only [wl, lmul, opG]
  by_cases hkb : c0 ≤ j
  · rw [if_pos ⟨hkb, by omega⟩, if_pos hkb, g p j (by omega) hj, g (p + 1) j hp hj, g i j hi hj]
  · rw [if_neg (by omega), if_neg hkb, g i j hi hj]

/-- `applyOnTheRight(p, p+1, rot)` on the rows `< nr` -/
theorem Arr.rotRight (h : Arr F n t A) (p nr : ℕ) (hp : p + 1 < n) (hnr : nr ≤ n) (c s : K) :
    Arr F n (@applyOnTheRight K _ _ _ (scOfField F) t nr p (p + 1) c s) (wr (opG p c s) nr A) := by
  let _ : Sc K := scOfField F
  refine h.of_pres F (C09Schur.pres_rotRight n t h.1 nr p (p + 1) c s hnr) fun i j hi hj => ?_
  have g := h.2.2.2
  have := applyOnTheRight_get F t h.1 nr p (p + 1) c s (by omega) (by rw [h.2.2.1]; omega) (by rw [h.2.2.1]; exact hp)
    (by rw [h.2.1]; exact hnr) i j (by rw [h.2.1]; exact hi)
  simp only [gf] at g ⊢ this
  rw [this]
  simp only [wr, rmul, opG, g i p hi (by omega), g i (p + 1) hi hp, g i j hi hj]

/-- the `U` update of a rotation -/
theorem Arr.rotRight_full (h : Arr F n t A) (p : ℕ) (hp : p + 1 < n) (c s : K) :
    Arr F n (@applyOnTheRight K _ _ _ (scOfField F) t n p (p + 1) c s) (rmul (opG p c s) A) :=
  (h.rotRight F p n hp (le_refl n) c s).congr F fun i j hi _ => by simp only [wr, if_pos hi]

end field
end C09SS
