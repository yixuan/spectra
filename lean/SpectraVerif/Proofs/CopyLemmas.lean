/-
  The copy loops of `retrieve_ritzpair` and `sort_ritzpair` as the SOURCE has them (`Gen.Copy`, regenerated from /repo on every
  run): what the folds leave behind, for every index vector, every source array and every prior content of the targets, and that
  the lists the orchestration model's `retrieve` / `sortRitz` store are the read-out of such arrays.
  Core Lean only.
-/
import SpectraVerif.Gen.Copy
import SpectraVerif.Proofs.AccessLemmas

namespace CopyLemmas

/-- the array `r0` after a loop has overwritten positions `0 .. n-1` with `g` -/
def overwritten {β : Type} (n : Nat) (g r0 : Int → β) : Int → β := fun x => if 0 ≤ x ∧ x < (n : Int) then g x else r0 x

theorem overwritten_at {β : Type} (n : Nat) (g r0 : Int → β) (i : Nat) (hi : i < n) : overwritten n g r0 (i : Int) = g i :=
  if_pos ⟨Int.natCast_nonneg i, Int.ofNat_lt.mpr hi⟩

/-- a list over `range n` is the read-out of an array overwritten on `0 .. n-1` with its entries -/
theorem map_range_overwritten {γ δ : Type} (n : Nat) (g r0 : Int → γ) (h : γ → δ) :
    (List.range n).map (fun (i : Nat) => h (overwritten n g r0 i)) = (List.range n).map (fun (i : Nat) => h (g i)) :=
  List.map_congr_left fun i hi => congrArg h (overwritten_at n g r0 i (List.mem_range.mp hi))

/-- `for (i < n) f[i] = g(i)` -/
theorem updFold {β : Type} (g : Int → β) (f : Int → β) (n : Nat) :
    (intRange 0 (n : Int)).foldl (fun f i => upd f i (g i)) f = overwritten n g f :=
  funext fun x => (ListFold.foldl_upd g _ f x).trans (ite_congr (propext mem_intRange) (fun _ => rfl) fun _ => rfl)

/-- the two loops of `retrieve_ritzpair`, for any type of Ritz value: each target array is overwritten on its range through `ind` -/
theorem retrieveFolds_spec {β : Type} (nev ncv : Nat) (evals row : Int → β) (ind : Int → Int) (v0 e0 : Int → β) (s0 : Int → Int) :
    (((intRange 0 (ncv : Int)).foldl (fun (p : (Int → β) × (Int → β)) i =>
          (upd p.1 i (evals (ind i)), upd p.2 i (row (ind i)))) (v0, e0)).1,
     ((intRange 0 (ncv : Int)).foldl (fun (p : (Int → β) × (Int → β)) i =>
          (upd p.1 i (evals (ind i)), upd p.2 i (row (ind i)))) (v0, e0)).2,
     (intRange 0 (nev : Int)).foldl (fun f i => upd f i (ind i)) s0) =
      (overwritten ncv (fun x => evals (ind x)) v0, overwritten ncv (fun x => row (ind x)) e0, overwritten nev ind s0) := by
  rw [ListFold.foldl_pair (fun f i => upd f i (evals (ind i))) (fun f i => upd f i (row (ind i))),
    updFold, updFold, updFold (fun i => ind i)]

/-- the loop of `sort_ritzpair`, for any type of Ritz value: ONE index vector moves values, vectors and flags -/
theorem sortFold_spec {β : Type} (nev : Nat) (val : Int → β) (conv : Int → Bool) (ind : Int → Int) (v0 : Int → β)
    (s0 : Int → Int) (c0 : Int → Bool) :
    (intRange 0 (nev : Int)).foldl (fun (p : (Int → β) × (Int → Int) × (Int → Bool)) i =>
        (upd p.1 i (val (ind i)), upd p.2.1 i (ind i), upd p.2.2 i (conv (ind i)))) (v0, s0, c0) =
      (overwritten nev (fun x => val (ind x)) v0, overwritten nev ind s0, overwritten nev (fun x => conv (ind x)) c0) := by
  rw [ListFold.foldl_pair (fun f i => upd f i (val (ind i)))
      (fun (q : (Int → Int) × (Int → Bool)) i => (upd q.1 i (ind i), upd q.2 i (conv (ind i)))),
    ListFold.foldl_pair (fun f i => upd f i (ind i)) (fun f i => upd f i (conv (ind i))), updFold, updFold (fun i => ind i), updFold]

/-- the loop of `sort_ritzpair` (symmetric family): ONE index vector moves values, vectors and flags -/
theorem hermSort_spec {α : Type} [Add α] [Sub α] [Mul α] [Div α] [Neg α] [Sc α]
    (nev ncv : Nat) (val : Int → α) (conv : Int → Bool) (ind : Int → Int) (v0 : Int → α) (s0 : Int → Int) (c0 : Int → Bool) :
    Gen.Copy.hermSort_loop (nev : Int) (ncv : Int) val conv ind v0 s0 c0 =
      ((fun x => if 0 ≤ x ∧ x < (nev : Int) then val (ind x) else v0 x),
       (fun x => if 0 ≤ x ∧ x < (nev : Int) then ind x else s0 x),
       (fun x => if 0 ≤ x ∧ x < (nev : Int) then conv (ind x) else c0 x)) :=
  sortFold_spec nev val conv ind v0 s0 c0

/-! ### the model's `retrieve` and `sortRitz` against such arrays -/

section model
open Orch
variable {φ ρ ε κ β τ ω : Type} (K : Kern φ ρ ε κ β τ ω) (c : Cfg)

/-- what `retrieve` stores is the read-out of arrays overwritten through the index vector `ind` (values and estimates on
    `0 .. ncv-1`, the column choice on `0 .. nev-1`), for every kernel record -/
theorem retrieve_arrays (sel : Int) (s : St φ ρ ε κ) (evals : List ρ) (lastRow : List ε) (cols : List κ) (ind : List Nat)
    (he : K.eig s.fac = .ok (evals, lastRow, cols)) (hs : K.select sel evals c.ncv = .ok ind)
    (r : (Int → ρ) × (Int → ε) × (Int → Int)) (v0 : Int → ρ) (e0 : Int → ε) (s0 : Int → Int)
    (hr : r = (overwritten c.ncv (fun x => evals.getD (ind.getD x.toNat 0) K.zeroρ) v0,
               overwritten c.ncv (fun x => lastRow.getD (ind.getD x.toNat 0) K.zeroε) e0,
               overwritten c.nev (fun x => ((ind.getD x.toNat 0 : Nat) : Int)) s0)) :
    (retrieve K c sel s).1.ritzVal = (List.range c.ncv).map (fun (i : Nat) => r.1 i) ∧
    (retrieve K c sel s).1.ritzEst = (List.range c.ncv).map (fun (i : Nat) => r.2.1 i) ∧
    (retrieve K c sel s).1.ritzVec = (List.range c.nev).map (fun (i : Nat) => cols.getD (r.2.2 i).toNat K.zeroκ) := by
  subst hr
  simp only [retrieve, he, hs]
  exact ⟨(map_range_overwritten c.ncv (fun x => evals.getD (ind.getD x.toNat 0) K.zeroρ) v0 id).symm,
    (map_range_overwritten c.ncv (fun x => lastRow.getD (ind.getD x.toNat 0) K.zeroε) e0 id).symm,
    (map_range_overwritten c.nev (fun x => ((ind.getD x.toNat 0 : Nat) : Int)) s0 (fun j => cols.getD j.toNat K.zeroκ)).symm⟩

/-- what `sortRitz` stores is the read-out of arrays overwritten on `0 .. nev-1` through ONE index vector `ind` -/
theorem sortRitz_arrays (rule : Int) (s : St φ ρ ε κ) (ind : List Nat)
    (hs : K.sortIdx rule (mapHead c.nev K.backTransform s.ritzVal) c.nev = .ok ind)
    (r : (Int → ρ) × (Int → Int) × (Int → Bool)) (v0 : Int → ρ) (s0 : Int → Int) (c0 : Int → Bool)
    (hr : r = (overwritten c.nev (fun x => (mapHead c.nev K.backTransform s.ritzVal).getD (ind.getD x.toNat 0) K.zeroρ) v0,
               overwritten c.nev (fun x => ((ind.getD x.toNat 0 : Nat) : Int)) s0,
               overwritten c.nev (fun x => s.ritzConv.getD (ind.getD x.toNat 0) false) c0)) :
    (sortRitz K c rule s).1.ritzVal = (List.range c.ncv).map (fun (i : Nat) => if i < c.nev then r.1 i else K.zeroρ) ∧
    (sortRitz K c rule s).1.ritzVec = (List.range c.nev).map (fun (i : Nat) => s.ritzVec.getD (r.2.1 i).toNat K.zeroκ) ∧
    (sortRitz K c rule s).1.ritzConv = (List.range c.nev).map (fun (i : Nat) => r.2.2 i) := by
  subst hr
  simp only [sortRitz, hs]
  refine ⟨List.map_congr_left fun i _ => ?_,
    (map_range_overwritten c.nev (fun x => ((ind.getD x.toNat 0 : Nat) : Int)) s0 (fun j => s.ritzVec.getD j.toNat K.zeroκ)).symm,
    (map_range_overwritten c.nev (fun x => s.ritzConv.getD (ind.getD x.toNat 0) false) c0 id).symm⟩
  by_cases h : i < c.nev
  · rw [if_pos h, if_pos h, overwritten_at _ _ _ i h]; rfl
  · rw [if_neg h, if_neg h]

end model

end CopyLemmas
