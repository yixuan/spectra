/-
  `K[i]` for a commutative ring `K`: the pairs (re, im) that the model of `UpperHessenbergEigen` computes with, as a commutative ring.
  The back-substitution for a complex eigenvalue is the one for a real eigenvalue read in `K[i]` (C09EigSolve, C09EigCplx); the port of
  `__divdc3` computes quotients in it (`C09Cdiv.cdiv_cx`).
-/
import Mathlib.Algebra.BigOperators.Intervals
import Mathlib.Algebra.BigOperators.Field
import Mathlib.Tactic.Ring
import Mathlib.Tactic.LinearCombination

namespace C09Eig

@[ext] structure Cx (K : Type) where
  re : K
  im : K

namespace Cx
variable {K : Type} [CommRing K]

instance : Zero (Cx K) := ⟨⟨0, 0⟩⟩
instance : One (Cx K) := ⟨⟨1, 0⟩⟩
instance : Add (Cx K) := ⟨fun z w => ⟨z.re + w.re, z.im + w.im⟩⟩
instance : Neg (Cx K) := ⟨fun z => ⟨-z.re, -z.im⟩⟩
instance : Sub (Cx K) := ⟨fun z w => ⟨z.re - w.re, z.im - w.im⟩⟩
instance : Mul (Cx K) := ⟨fun z w => ⟨z.re * w.re - z.im * w.im, z.re * w.im + z.im * w.re⟩⟩

@[simp] theorem zero_re : (0 : Cx K).re = 0 := rfl
@[simp] theorem zero_im : (0 : Cx K).im = 0 := rfl
@[simp] theorem one_re : (1 : Cx K).re = 1 := rfl
@[simp] theorem one_im : (1 : Cx K).im = 0 := rfl
@[simp] theorem add_re (z w : Cx K) : (z + w).re = z.re + w.re := rfl
@[simp] theorem add_im (z w : Cx K) : (z + w).im = z.im + w.im := rfl
@[simp] theorem neg_re (z : Cx K) : (-z).re = -z.re := rfl
@[simp] theorem neg_im (z : Cx K) : (-z).im = -z.im := rfl
@[simp] theorem sub_re (z w : Cx K) : (z - w).re = z.re - w.re := rfl
@[simp] theorem sub_im (z w : Cx K) : (z - w).im = z.im - w.im := rfl
@[simp] theorem mul_re (z w : Cx K) : (z * w).re = z.re * w.re - z.im * w.im := rfl
@[simp] theorem mul_im (z w : Cx K) : (z * w).im = z.re * w.im + z.im * w.re := rfl

instance : CommRing (Cx K) where
  add_assoc _ _ _ := Cx.ext (add_assoc _ _ _) (add_assoc _ _ _)
  zero_add _ := Cx.ext (zero_add _) (zero_add _)
  add_zero _ := Cx.ext (add_zero _) (add_zero _)
  add_comm _ _ := Cx.ext (add_comm _ _) (add_comm _ _)
  neg_add_cancel _ := Cx.ext (neg_add_cancel _) (neg_add_cancel _)
  sub_eq_add_neg _ _ := Cx.ext (sub_eq_add_neg _ _) (sub_eq_add_neg _ _)
  nsmul := nsmulRec
  zsmul := zsmulRec
  mul_assoc _ _ _ := by ext <;> simp only [mul_re, mul_im] <;> ring
  one_mul _ := by ext <;> simp
  mul_one _ := by ext <;> simp
  zero_mul _ := by ext <;> simp
  mul_zero _ := by ext <;> simp
  left_distrib _ _ _ := by ext <;> simp only [mul_re, mul_im, add_re, add_im] <;> ring
  right_distrib _ _ _ := by ext <;> simp only [mul_re, mul_im, add_re, add_im] <;> ring
  mul_comm _ _ := by ext <;> simp only [mul_re, mul_im] <;> ring

/-- a real number in `K[i]` -/
def ofReal : K →+* Cx K where
  toFun a := ⟨a, 0⟩
  map_one' := rfl
  map_zero' := rfl
  map_mul' a b := by ext <;> simp
  map_add' a b := by ext <;> simp

@[simp] theorem ofReal_re (a : K) : (ofReal a).re = a := rfl
@[simp] theorem ofReal_im (a : K) : (ofReal a).im = 0 := rfl

open Finset in
/-- a real combination of pairs, componentwise -/
theorem sum_ofReal_mul (s : Finset ℕ) (f g h : ℕ → K) :
    ∑ b ∈ s, ofReal (f b) * (⟨g b, h b⟩ : Cx K) = ⟨∑ b ∈ s, f b * g b, ∑ b ∈ s, f b * h b⟩ := by
  classical
  induction s using Finset.induction_on with
  | empty => rfl
  | insert a s ha ih => rw [sum_insert ha, sum_insert ha, sum_insert ha, ih]; ext <;> simp

theorem shift (a p q : K) : ofReal a - (⟨p, -q⟩ : Cx K) = ⟨a - p, q⟩ := Cx.ext rfl (by simp)

end Cx

/-- `c + id ≠ 0` cancels (multiply by the conjugate) -/
theorem Cx.cancel {K : Type} [Field K] [LinearOrder K] [IsStrictOrderedRing K] {c d : K} (h : c ≠ 0 ∨ d ≠ 0) (z : Cx K)
    (hz : (⟨c, d⟩ : Cx K) * z = 0) : z = 0 := by
  have h1 := congrArg Cx.re hz
  have h2 := congrArg Cx.im hz
  simp only [Cx.mul_re, Cx.mul_im, Cx.zero_re, Cx.zero_im] at h1 h2
  have hn : c * c + d * d ≠ 0 := fun e =>
    h.elim (· (mul_self_add_mul_self_eq_zero.mp e).1) (· (mul_self_add_mul_self_eq_zero.mp e).2)
  refine Cx.ext (mul_left_cancel₀ hn ?_) (mul_left_cancel₀ hn ?_)
  · rw [Cx.zero_re]; linear_combination c * h1 + d * h2
  · rw [Cx.zero_im]; linear_combination c * h2 - d * h1

end C09Eig
