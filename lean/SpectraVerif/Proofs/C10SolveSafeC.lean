/-
  C10 — COMPLEX Hermitian model (Model/BKLDLTC.lean): index safety of `permutate_mat`, the pivot loop and `compute`, block structure
  of m_perm after compute, index safety of solve_inplace.  The walk through `permutate_mat` is done here; the tiling predicates
  `Tl`, `Pre`, `PInv`, the step from the effect of `permutate_mat` on `m_perm` to the tiling (`PInv.pstep`) and the index safety
  of the solve phase (`Skel.solve_inplace_ok`, of which the complex `solve_inplace` is an instance) are those of
  Proofs/C10SolveSafe.lean.
-/
import SpectraVerif.Proofs.C10IndexC
import SpectraVerif.Proofs.C10SolveSafe
open Gen.BK


namespace BKLDLTC
open BKLDLT (St Sv NotComputed initSt Good Inv interchange_rows_inv initSt_inv PInv PStep initSt_pinv)
section
variable {β : Type} [Add β] [Sub β] [Mul β] [Div β] [Neg β] [Sc β]

/-- one walk through the five branches of `permutate_mat`: every access is legal, and `m_perm` changes as `PStep` says -/
theorem permutate_mat_inv {n : Int} {a : Array Int} {z : Nat} {s : St (Cx β)} {k : Int} {alpha : β} (h : Inv n a z s) (hk : 0 ≤ k)
    (hk1 : k + 1 < n) : ∃ a', Inv n a' z (permutate_mat s k alpha).2.2 ∧ PStep n k a (permutate_mat s k alpha).1 a' := by
  unfold permutate_mat
  obtain ⟨hl, hr1, hr2⟩ := find_lambda_inv h hk hk1
  generalize find_lambda s k = fl at hl hr1 hr2
  obtain ⟨lam, r, s1⟩ := fl
  dsimp only at hl hr1 hr2 ⊢
  have hg := hl.get (i := k) (j := k) ⟨hk, le_refl _, by omega⟩
  -- the four tests of `permutate_mat`, in its order
  by_cases c1 : Sc.gt lam (rzero : β) = true
  · rw [if_pos c1]
    by_cases c2 : Sc.lt (cabs (s1.get k k).1) (alpha * lam) = true
    · rw [if_pos c2]
      obtain ⟨hs, hp1, hp2⟩ := find_sigma_inv (p := k) hg hk (by omega) hr2 (le_refl _) (by omega)
      generalize find_sigma (s1.get k k).2 k r k = fs at hs hp1 hp2
      obtain ⟨sg, p, s2⟩ := fs
      dsimp only at hs hp1 hp2 ⊢
      have hg2 := hs.get (i := r) (j := r) ⟨by omega, le_refl _, hr2⟩
      by_cases c3 : Sc.lt (sg * cabs (s1.get k k).1) (alpha * lam * lam) = true
      · rw [if_pos c3]
        by_cases c4 : Sc.ge (cabs (s2.get r r).1) (alpha * sg) = true
        · rw [if_pos c4]
          exact ⟨_, interchange_rows_inv (pivoting_1x1_inv hg2 hk (by omega) hr2) (le_refl _) (by omega) (by omega) hr2, .one (by omega) hr2⟩
        · rw [if_neg c4]
          exact ⟨_, interchange_rows_inv (interchange_rows_inv (pivoting_2x2_inv hg2 hk (le_refl _) (by omega) hr1 hr2)
            (le_refl _) (by omega) (le_refl _) (by omega)) (le_refl _) (by omega) hr1 hr2, .two (by omega) hr2⟩
      · rw [if_neg c3]
        exact ⟨a, hs, .keep⟩
    · rw [if_neg c2]
      exact ⟨a, hg, .keep⟩
  · rw [if_neg c1]
    exact ⟨a, hl, .keep⟩

theorem compute_good_ok (src : Array (Cx β)) (rm : Bool) (n uplo : Int) (shift alpha : β) :
    Good n (compute src rm n uplo shift alpha).s ∧ (0 ≤ n → (compute src rm n uplo shift alpha).Ok n) := by
  rw [compute_eq, computeLoop_eq]
  have h0 := copy_data_inv (src := src) (rm := rm) (uplo := uplo) (shift := shift) (initSt_inv n)
  exact BKLDLT.Skel.finish_pivotLoop _ (fun _ _ _ h hk hk1 => permutate_mat_inv h hk hk1) (fun _ _ _ h hk hk1 => ge1_inv h hk hk1)
    (fun _ _ _ h hk hk1 => ge2_inv h hk hk1) _ _ h0 ((initSt_pinv n).of_perm h0.perm)

theorem compute_good (src : Array (Cx β)) (rm : Bool) (n uplo : Int) (shift alpha : β) :
    Good n (compute src rm n uplo shift alpha).s := (compute_good_ok src rm n uplo shift alpha).1

theorem compute_ok (src : Array (Cx β)) (rm : Bool) (n uplo : Int) (shift alpha : β) (hn : 0 ≤ n) :
    (compute src rm n uplo shift alpha).Ok n := (compute_good_ok src rm n uplo shift alpha).2 hn

theorem diagLoop_eq (fuel : Nat) (i : Int) (v : Sv (Cx β)) :
    diagLoop fuel i v = BKLDLT.Skel.diagLoop (solve_inplace_2x2_h conjC realC) fuel i v := by
  induction fuel generalizing i v with
  | zero => rfl
  | succ fuel ih => unfold diagLoop BKLDLT.Skel.diagLoop; simp only [ih]

theorem bwdLoop_eq (fuel : Nat) (i : Int) (v : Sv (Cx β)) : bwdLoop fuel i v = BKLDLT.Skel.bwdLoop conjC fuel i v := by
  induction fuel generalizing i v with
  | zero => rfl
  | succ fuel ih => unfold bwdLoop BKLDLT.Skel.bwdLoop; simp only [ih]; rfl

theorem solve_inplace_eq (f : BKLDLT.Fact (Cx β)) (b : Array (Cx β)) :
    solve_inplace f b = BKLDLT.Skel.solve_inplace conjC (solve_inplace_2x2_h conjC realC) f b := by
  unfold solve_inplace BKLDLT.Skel.solve_inplace; simp only [diagLoop_eq, bwdLoop_eq]

end
end BKLDLTC
