/-
  C07 at the level of the executable model: ONE PASS of `Lanczos.factorStep` (Model/Lanczos.lean) at an exact field is a C07
  `extend` step (helper file of Properties/C07.lean and of the C01 discharge files).

  Setting: any `Sc` instance on an ordered field whose comparisons / abs / sqrt are the exact ones (`ExactSc`; satisfied by
  `scOfField F` with an exact `F.sqrt`), operator `op` with the identity `B` whose `perform_op` is a linear map `A`, self-adjoint
  for the Euclidean form (symmetric matrix).

  On a state with the loop invariant `PassInv … i`, `1 ≤ i < m`, `beta ≥ near_0`, `beta ≠ 0`, one pass does not restart (the second,
  "local" criterion `|<v_{i-1}, f/beta>| > sqrt(eps)` cannot fire: the inner product is exactly 0) and does not enter the
  re-orthogonalisation loop (`V'ᵀ f' = 0` exactly: the three-term recurrence IS full Gram–Schmidt for a self-adjoint operator and an
  orthonormal basis, `C07.lanczos_coeffs`), in particular never takes the `f := 0` shortcut.
-/
import SpectraVerif.Proofs.C07Run
import SpectraVerif.Proofs.C07Bridge
import SpectraVerif.Proofs.C06StaleV

set_option linter.unusedSectionVars false

open Finset Lin


namespace C07L

/-- exact-arithmetic reading of the scalar class (satisfied by `scOfField F` when `F.sqrt` is an exact square root) -/
structure ExactSc (K : Type) [Field K] [LinearOrder K] [IsStrictOrderedRing K] [Sc K] : Prop where
  ofInt0 : (Sc.ofInt 0 : K) = 0
  lt : ∀ a b : K, Sc.lt a b = decide (a < b)
  abs : ∀ a : K, Sc.abs a = |a|
  sqrt : ∀ x : K, 0 ≤ x → Sc.sqrt x * Sc.sqrt x = x ∧ 0 ≤ Sc.sqrt x

section
variable {K : Type} [Field K] [LinearOrder K] [IsStrictOrderedRing K] [Sc K] (E : ExactSc K)
include E

theorem gt_iff (a b : K) : Sc.gt a b = decide (b < a) := by unfold Sc.gt; rw [E.lt]

theorem maxAbs_zero (x : Vec K) (h : ∀ i, i < x.size → vget x i = 0) : Lin.maxAbs x = 0 := by
  unfold Lin.maxAbs
  rw [← Array.foldl_toList, LinField.zero_eq E.ofInt0]
  refine ListFold.foldl_inv (· = 0) _ _ _ rfl fun m a ha hm => ?_
  obtain ⟨i, hi, rfl⟩ := List.getElem_of_mem ha
  have hi' : i < x.size := by simpa using hi
  have ha0 : x.toList[i] = 0 := by
    rw [← h i hi', vget, Array.getD_eq_getD_getElem?, Array.getElem?_eq_getElem hi']; rfl
  rw [hm, ha0, E.abs, E.lt, abs_zero, decide_eq_false (lt_irrefl 0)]
  rfl

end
end C07L

namespace C07L
section
variable {K : Type} [Add K] [Sub K] [Mul K] [Div K] [Neg K] [Sc K]

/-- the straight-line code of a regular pass of `Lanczos::factorize_from` (no restart, re-orthogonalisation loop not entered) -/
def regPass (op : Arnoldi.Op K) (s : Arnoldi.State K) (i : Nat) : Arnoldi.State K :=
  let V := s.V.setCol i (vdivs s.f s.beta)
  let vi := V.col i
  let H1 := (s.H.set i (i - 1) s.beta).set (i - 1) i s.beta
  let w0 := op.A vi
  let c := V.col (i - 1)
  let w := vofFn s.n (fun j => vget w0 j - s.beta * vget c j)
  let hii := op.inner vi w
  let f := vofFn s.n (fun j => vget w j - hii * vget vi j)
  { s with V := V, H := H1.set i i hii, f := f, beta := op.norm f, ops := s.ops + 1 }

theorem factorStep_regular (op : Arnoldi.Op K) (bt es : K) (s : Arnoldi.State K) (i : Nat)
    (h1 : Sc.lt s.beta s.near0 = false)
    (h2 : Sc.lt s.beta es = true →
      Sc.gt (Sc.abs (op.inner ((s.V.setCol i (vdivs s.f s.beta)).col (i - 1)) (vdivs s.f s.beta))) es = false)
    (h3 : Sc.gt (maxAbs (op.adjoint (regPass op s i).V (i + 1) (regPass op s i).f)) (s.eps * (regPass op s i).beta) = false) :
    Lanczos.factorStep op bt es s i = regPass op s i := by
  have e := C06StaleV.factorStep_stages op bt es s i s.V
  have hs : ({ s with V := s.V } : Arnoldi.State K) = s := by cases s; rfl
  rw [hs] at e
  rw [e]
  have s1 : C06StaleV.stage1 op es s i s.V = (s.V.setCol i (vdivs s.f s.beta), false) := by
    unfold C06StaleV.stage1
    simp only [h1, Bool.not_false, if_true]
    split
    · rename_i hlt
      rw [h2 hlt]
    · rfl
  rw [s1, C06StaleV.stage2_keep]
  unfold C06StaleV.stage3
  simp only [Bool.false_eq_true, if_false, Bool.not_false, if_true]
  unfold regPass at h3 ⊢
  simp only at h3 ⊢
  unfold Lanczos.reorth
  simp only [h3, Bool.and_false, Bool.false_eq_true, if_false]
end
end C07L

/-! ### bridge: arrays ↔ vectors of `Fin n → K` -/
namespace C07L
open C07 C01E
section
variable {K : Type} [Field K] [LinearOrder K] [IsStrictOrderedRing K] [Sc K] (E : ExactSc K)
include E

theorem norm_vec (n : ℕ) (x : Vec K) (hx : x.size = n) :
    0 ≤ Lin.norm x ∧ Lin.norm x * Lin.norm x = dotProduct (vecOf n x) (vecOf n x) := by
  have hs : Lin.sqNorm x = dotProduct (vecOf n x) (vecOf n x) := dot_vec E.ofInt0 n x x hx
  have h := E.sqrt (Lin.sqNorm x) (by rw [hs]; exact Finset.sum_nonneg fun i _ => mul_self_nonneg _)
  exact ⟨h.2, h.1.trans hs⟩

/-- the leading `i × i` block of `H` plus the sub-diagonal entry `(i, i-1)` that `compress_V` reads -/
def maskH (i : ℕ) (H : Mat K) : ℕ → ℕ → K := fun a b => if (a < i ∧ b < i) ∨ (a = i ∧ b + 1 = i) then H.get a b else 0

omit E in
theorem maskH_apply (i : ℕ) (H : Mat K) (a b : ℕ) :
    maskH i H a b = if (a < i ∧ b < i) ∨ (a = i ∧ b + 1 = i) then H.get a b else 0 := rfl
omit E in
theorem maskH_lead (i : ℕ) (H : Mat K) (a b : ℕ) (ha : a < i) (hb : b < i) : maskH i H a b = H.get a b :=
  if_pos (Or.inl ⟨ha, hb⟩)
/-- a model state read as a C07 state of dimension `i` (no error columns) -/
def absAt (n i : ℕ) (s : Arnoldi.State K) : C07.St K (Fin n → K) := ⟨colOf n s.V, maskH i s.H, vecOf n s.f, i, fun _ => 0⟩

/-- outside the leading `i × i` block `H` is zero off the three diagonals (true after `factorize_from`'s `setZero` calls, and for
    the tridiagonal `QᵀHQ` that `compress_H` installs) -/
def Clean (m i : ℕ) (H : Mat K) : Prop :=
  ∀ a b, a < m → b < m → (i ≤ a ∨ i ≤ b) → (a + 1 < b ∨ b + 1 < a) → H.get a b = 0

/-- the invariant of `Lanczos::factorize_from`'s loop at index `i` in exact arithmetic -/
structure PassInv (n m : ℕ) (A : (Fin n → K) →ₗ[K] (Fin n → K)) (s : Arnoldi.State K) (i : ℕ) : Prop where
  hn : s.n = n
  hm : s.m = m
  Vw : C08Mat.WF s.V
  Vr : s.V.rows = n
  Vc : s.V.cols = m
  Hw : C08Mat.WF s.H
  Hr : s.H.rows = m
  Hc : s.H.cols = m
  im : i ≤ m
  kry : Kry A (colOf n s.V) (maskH i s.H) (vecOf n s.f) i
  on : ON (dotIP n) (colOf n s.V) i
  fo : FO (dotIP n) (colOf n s.V) (vecOf n s.f) i
  beta0 : 0 ≤ s.beta
  betasq : s.beta * s.beta = dotProduct (vecOf n s.f) (vecOf n s.f)
  tri : TriSym (maskH i s.H) i
  clean : Clean m i s.H
  eps0 : 0 ≤ s.eps


/-- array shapes of a state of an `n × m` factorization -/
structure Shape (n m : ℕ) (s : Arnoldi.State K) : Prop where
  hn : s.n = n
  hm : s.m = m
  Vw : C08Mat.WF s.V
  Vr : s.V.rows = n
  Vc : s.V.cols = m
  Hw : C08Mat.WF s.H
  Hr : s.H.rows = m
  Hc : s.H.cols = m

omit E in
theorem PassInv.shape {n m : ℕ} {A : (Fin n → K) →ₗ[K] (Fin n → K)} {s : Arnoldi.State K} {i : ℕ} (h : PassInv n m A s i) : Shape n m s :=
  ⟨h.hn, h.hm, h.Vw, h.Vr, h.Vc, h.Hw, h.Hr, h.Hc⟩

omit E in
theorem PassInv.linv {n m : ℕ} {A : (Fin n → K) →ₗ[K] (Fin n → K)} {s : Arnoldi.State K} {i : ℕ} (h : PassInv n m A s i) :
    LInv (dotIP n) A (colOf n s.V) (maskH i s.H) (vecOf n s.f) i :=
  ⟨h.kry, h.on, h.fo, h.tri⟩

omit E in
/-- the leading block of the array `H` itself is symmetric tridiagonal -/
theorem PassInv.triH {n m : ℕ} {A : (Fin n → K) →ₗ[K] (Fin n → K)} {s : Arnoldi.State K} {i : ℕ} (h : PassInv n m A s i) :
    TriSym (fun a b => s.H.get a b) i :=
  trisym_congr _ _ i (fun a b ha hb => (maskH_lead i s.H a b ha hb).symm) h.tri

omit E in
/-- the loop invariant is: shapes, the Lanczos invariant of the state read as vectors, `beta = ‖f‖`, `H` clean, `0 ≤ eps` -/
theorem PassInv.of {n m : ℕ} {A : (Fin n → K) →ₗ[K] (Fin n → K)} {s : Arnoldi.State K} {i : ℕ} (hS : Shape n m s) (im : i ≤ m)
    (hL : LInv (dotIP n) A (colOf n s.V) (maskH i s.H) (vecOf n s.f) i)
    (hb : 0 ≤ s.beta ∧ s.beta * s.beta = dotProduct (vecOf n s.f) (vecOf n s.f)) (hc : Clean m i s.H) (he : 0 ≤ s.eps) :
    PassInv n m A s i :=
  ⟨hS.hn, hS.hm, hS.Vw, hS.Vr, hS.Vc, hS.Hw, hS.Hr, hS.Hc, im, hL.kry, hL.on, hL.fo, hb.1, hb.2, hL.tri, hc, he⟩

/-- what the three writes of a pass do to `H`: the band entries at index `i` are set; an entry with neither index `i`, or off the
    band, keeps its value -/
structure BandWrite (m i : ℕ) (H H' : Mat K) (x β : K) : Prop where
  diag : H'.get i i = x
  up : H'.get (i - 1) i = β
  low : H'.get i (i - 1) = β
  same : ∀ a b, a < m → b < m → (a ≠ i ∧ b ≠ i) ∨ a + 1 < b ∨ b + 1 < a → H'.get a b = H.get a b

omit E in
theorem set3_band (H : Mat K) (hw : C08Mat.WF H) (m i : ℕ) (hr : H.rows = m) (hc : H.cols = m) (hi1 : 1 ≤ i) (him : i < m) (x β : K) :
    BandWrite m i H (((H.set i (i - 1) β).set (i - 1) i β).set i i x) x β := by
  subst hr
  have hi' : i - 1 < H.rows := lt_of_le_of_lt (Nat.sub_le i 1) him
  have hne : i - 1 ≠ i := (Nat.sub_lt hi1 Nat.one_pos).ne
  have get3 := fun a b (ha : a < H.rows) =>
    C08Mat.get_set3 (a := a) (b := b) hw β β x him (hc ▸ hi') hi' (hc ▸ him) him (hc ▸ him) ha
  refine ⟨?_, ?_, ?_, fun a b ha hb h => ?_⟩
  · rw [get3 i i him, if_pos ⟨rfl, rfl⟩]
  · rw [get3 (i - 1) i hi', if_neg (fun h => hne h.1), if_pos ⟨rfl, rfl⟩]
  · rw [get3 i (i - 1) him, if_neg (fun h => hne h.2), if_neg (fun h => hne h.1.symm), if_pos ⟨rfl, rfl⟩]
  · have : ¬ (a = i ∧ b = i) ∧ ¬ (a = i - 1 ∧ b = i) ∧ ¬ (a = i ∧ b = i - 1) := by omega
    rw [get3 a b ha, if_neg this.1, if_neg this.2.1, if_neg this.2.2]

omit E in
theorem set3_dims (H : Mat K) (hw : C08Mat.WF H) (i : ℕ) (x y z : K) :
    C08Mat.WF (((H.set i (i - 1) x).set (i - 1) i y).set i i z) ∧
    (((H.set i (i - 1) x).set (i - 1) i y).set i i z).rows = H.rows ∧
    (((H.set i (i - 1) x).set (i - 1) i y).set i i z).cols = H.cols :=
  ⟨C08Mat.set_WF (C08Mat.set_WF (C08Mat.set_WF hw _ _ _) _ _ _) _ _ _, by simp, by simp⟩

/-- the operator record is the identity-`B` wrapper of the linear map `A` on `Kⁿ` -/
structure OpOK (n : ℕ) (op : Arnoldi.Op K) (A : (Fin n → K) →ₗ[K] (Fin n → K)) : Prop where
  B : op.B = none
  is : OpIs n op A
  size : ∀ x, (op.A x).size = n

omit E in
theorem OpOK.norm_eq {n : ℕ} {op : Arnoldi.Op K} {A : (Fin n → K) →ₗ[K] (Fin n → K)} (hop : OpOK n op A) (x : Vec K) :
    op.norm x = Lin.norm x := by
  unfold Arnoldi.Op.norm; rw [hop.B]

theorem OpOK.norm_spec {n : ℕ} {op : Arnoldi.Op K} {A : (Fin n → K) →ₗ[K] (Fin n → K)} (hop : OpOK n op A) (x : Vec K) (hx : x.size = n) :
    0 ≤ op.norm x ∧ op.norm x * op.norm x = dotProduct (vecOf n x) (vecOf n x) := by
  rw [hop.norm_eq]; exact norm_vec E n x hx

theorem OpOK.inner_eq {n : ℕ} {op : Arnoldi.Op K} {A : (Fin n → K) →ₗ[K] (Fin n → K)} (hop : OpOK n op A) (x y : Vec K)
    (hx : x.size = n) : op.inner x y = dotProduct (vecOf n x) (vecOf n y) := by
  unfold Arnoldi.Op.inner; rw [hop.B]; exact dot_vec E.ofInt0 n x y hx

/-- the regular pass as a whole: `Lanczos.factorStep` reduces to the straight-line code `regPass` (neither the second restart
    criterion nor the re-orthogonalisation loop fires: the quantities they test are exactly `0`), and its result read as vectors:
    new basis, new residual, new `H` entries, shapes, `beta = ‖f‖` -/
theorem regPass_spec (n m : ℕ) (A : (Fin n → K) →ₗ[K] (Fin n → K)) (op : Arnoldi.Op K) (hop : OpOK n op A)
    (hsa : ∀ x y, dotProduct x (A y) = dotProduct (A x) y)
    (bt es : K) (hes : 0 ≤ es)
    (s : Arnoldi.State K) (i : ℕ) (hI : PassInv n m A s i) (hi1 : 1 ≤ i) (him : i < m)
    (hreg : Sc.lt s.beta s.near0 = false) (hβ : s.beta ≠ 0) :
    let V' := extV (colOf n s.V) i (s.beta⁻¹ • vecOf n s.f)
    let α := dotProduct (V' i) (A (V' i))
    Lanczos.factorStep op bt es s i = regPass op s i ∧
    colOf n (regPass op s i).V = V' ∧
    vecOf n (regPass op s i).f = A (V' i) - s.beta • V' (i - 1) - α • V' i ∧
    BandWrite m i s.H (regPass op s i).H α s.beta ∧ Shape n m (regPass op s i) ∧
    (0 ≤ (regPass op s i).beta ∧
      (regPass op s i).beta * (regPass op s i).beta = dotProduct (vecOf n (regPass op s i).f) (vecOf n (regPass op s i).f)) := by
  intro V' α
  have hlt : i - 1 < i := Nat.sub_lt hi1 Nat.one_pos
  obtain ⟨hL, -⟩ := hI.linv.extend hi1 hsa hβ rfl hI.betasq (V' := V') rfl
  have hFO' := hL.fo
  have hv01 : dotProduct (V' i) (V' (i - 1)) = 0 := (hL.on i (Nat.lt_succ_self i) (i - 1) (Nat.lt_succ_of_lt hlt)).trans (if_neg hlt.ne')
  have hcrit : dotProduct (colOf n s.V (i - 1)) (s.beta⁻¹ • vecOf n s.f) = 0 := by
    rw [dotProduct_smul, show dotProduct (colOf n s.V (i - 1)) (vecOf n s.f) = 0 from hI.fo (i - 1) hlt, smul_zero]
  have hic : i < s.V.cols := hI.Vc ▸ him
  obtain ⟨Vw', Vr', Vc', _⟩ := C08Mat.setCol_spec hI.Vw hic (vdivs s.f s.beta)
  have hV : colOf n (s.V.setCol i (vdivs s.f s.beta)) = V' := by
    rw [colOf_setCol n hI.Vw hI.Vr hic, vecOf_vdivs E.ofInt0]
  have hrows : (s.V.setCol i (vdivs s.f s.beta)).rows = n := by rw [Vr', hI.Vr]
  -- the two columns read by the pass
  have hci : vecOf n ((s.V.setCol i (vdivs s.f s.beta)).col i) = V' i := by rw [vecOf_col n _ i hrows, hV]
  have hci1 : vecOf n ((s.V.setCol i (vdivs s.f s.beta)).col (i - 1)) = V' (i - 1) := by rw [vecOf_col n _ (i - 1) hrows, hV]
  have hsz : ((s.V.setCol i (vdivs s.f s.beta)).col i).size = n := by rw [C08Mat.size_col, hrows]
  have hAw : vecOf n (op.A ((s.V.setCol i (vdivs s.f s.beta)).col i)) = A (V' i) := by rw [hop.is _ hsz, hci]
  have hw : vecOf n (vofFn s.n (fun j => vget (op.A ((s.V.setCol i (vdivs s.f s.beta)).col i)) j
      - s.beta * vget ((s.V.setCol i (vdivs s.f s.beta)).col (i - 1)) j)) = A (V' i) - s.beta • V' (i - 1) := by
    rw [hI.hn, vecOf_vofFn, ← hAw, ← hci1]
    rfl
  have hhii : op.inner ((s.V.setCol i (vdivs s.f s.beta)).col i)
      (vofFn s.n (fun j => vget (op.A ((s.V.setCol i (vdivs s.f s.beta)).col i)) j
        - s.beta * vget ((s.V.setCol i (vdivs s.f s.beta)).col (i - 1)) j)) = α := by
    rw [hop.inner_eq E _ _ hsz, hci, hw, dotProduct_sub, dotProduct_smul, hv01, smul_zero, sub_zero]
  have tf : vecOf n (regPass op s i).f = A (V' i) - s.beta • V' (i - 1) - α • V' i := by
    show vecOf n (vofFn s.n _) = _
    rw [hI.hn, vecOf_vofFn, ← hw, ← hci, ← hhii, hI.hn]
    rfl
  have tfs : (regPass op s i).f.size = n := (C08Mat.size_vofFn _ _).trans hI.hn
  obtain ⟨d1, d2, d3⟩ : C08Mat.WF (regPass op s i).H ∧ (regPass op s i).H.rows = s.H.rows ∧ (regPass op s i).H.cols = s.H.cols :=
    set3_dims s.H hI.Hw i _ _ _
  have nb : 0 ≤ (regPass op s i).beta ∧ _ := hop.norm_spec E (regPass op s i).f tfs
  -- the re-orthogonalisation test reads `Vᵀ f' = 0`
  have h3 : Sc.gt (maxAbs (op.adjoint (regPass op s i).V (i + 1) (regPass op s i).f)) (s.eps * (regPass op s i).beta) = false := by
    have hz : maxAbs (op.adjoint (regPass op s i).V (i + 1) (regPass op s i).f) = 0 := by
      apply maxAbs_zero E
      intro j hj
      rw [C07R.size_adjoint] at hj
      unfold Arnoldi.Op.adjoint
      rw [hop.B]
      show vget (Arnoldi.tmulVecK0 (s.V.setCol i (vdivs s.f s.beta)) (i + 1) (regPass op s i).f) j = 0
      rw [tmul_vec E.ofInt0 n _ _ _ j hj hrows, hV, tf]
      exact hFO' j hj
    rw [hz, gt_iff E]
    exact decide_eq_false (not_lt.mpr (mul_nonneg hI.eps0 nb.1))
  -- the second restart criterion reads `<v_{i-1}, f/β> = 0`
  have h2 : Sc.lt s.beta es = true →
      Sc.gt (Sc.abs (op.inner ((s.V.setCol i (vdivs s.f s.beta)).col (i - 1)) (vdivs s.f s.beta))) es = false := by
    intro _
    have hne : i - 1 ≠ i := (Nat.sub_lt hi1 Nat.one_pos).ne
    have hz : op.inner ((s.V.setCol i (vdivs s.f s.beta)).col (i - 1)) (vdivs s.f s.beta) = 0 := by
      rw [hop.inner_eq E _ _ (by rw [C08Mat.size_col, hrows]), vecOf_col n _ (i - 1) hrows, vecOf_vdivs E.ofInt0,
        (congrFun hV (i - 1)).trans (Function.update_of_ne hne ..)]
      exact hcrit
    rw [hz, E.abs, gt_iff E, abs_zero]
    exact decide_eq_false (not_lt.mpr hes)
  refine ⟨factorStep_regular op bt es s i hreg h2 h3, hV, tf, ?_,
    ⟨hI.hn, hI.hm, Vw', hrows, Vc'.trans hI.Vc, d1, d2.trans hI.Hr, d3.trans hI.Hc⟩, nb⟩
  show BandWrite m i s.H (((s.H.set i (i - 1) s.beta).set (i - 1) i s.beta).set i i _) α s.beta
  rw [hhii]
  exact set3_band s.H hI.Hw m i hI.Hr hI.Hc hi1 him _ _


omit E in
/-- The three writes of a pass, seen through `maskH`: column `i` of the new leading block is the three-term column
    (above the band by `Clean`), every other column is that of `extH`, and `H` stays clean outside the larger block.
    The entry `(i+1, i)` that `maskH (i+1)` also shows is whatever the array holds there, so the coefficient column of the
    step is read off the array and not taken to be `lanH`. -/
theorem maskH_pass (m i : ℕ) (H H' : Mat K) (x β : K) (him : i < m) (hw : BandWrite m i H H' x β) (hc : Clean m i H) :
    (∀ a, a < i + 1 → maskH (i + 1) H' a i = lanH i x β a) ∧
    maskH (i + 1) H' = extH (maskH i H) i β (fun a => maskH (i + 1) H' a i) ∧
    (∀ a b, a < i + 1 → b < i + 1 → maskH (i + 1) H' a b = extH (maskH i H) i β (lanH i x β) a b) ∧
    Clean m (i + 1) H' := by
  have hcol : ∀ a, a < i + 1 → maskH (i + 1) H' a i = lanH i x β a := by
    intro a ha
    rw [maskH_apply, if_pos (Or.inl ⟨ha, Nat.lt_succ_self i⟩), lanH_apply]
    by_cases e1 : a = i
    · rw [if_pos e1, e1, hw.diag]
    · rw [if_neg e1]
      by_cases e2 : a + 1 = i
      · rw [if_pos e2, ← hw.up, ← e2, Nat.add_sub_cancel]
      · have h : a + 1 < i ∧ a < m := by omega
        rw [if_neg e2, hw.same a i h.2 him (Or.inr (Or.inl h.1))]
        exact hc a i h.2 him (Or.inr (le_refl i)) (Or.inl h.1)
  have hext : maskH (i + 1) H' = extH (maskH i H) i β (fun a => maskH (i + 1) H' a i) := by
    funext a b
    rw [extH_apply]
    by_cases hb : b = i
    · rw [if_pos hb, hb]
    rw [if_neg hb]
    by_cases ha : a = i
    · rw [if_pos ha, maskH_apply, ha]
      by_cases hb1 : b + 1 = i
      · rw [if_pos (Or.inl ⟨Nat.lt_succ_self i, by omega⟩), if_pos hb1, ← hw.low, ← hb1, Nat.add_sub_cancel]
      · rw [if_neg hb1]
        by_cases hbi : b < i
        · have h : b < i + 1 ∧ b < m ∧ b + 1 < i := by omega
          rw [if_pos (Or.inl ⟨Nat.lt_succ_self i, h.1⟩), hw.same i b him h.2.1 (Or.inr (Or.inr h.2.2))]
          exact hc i b him h.2.1 (Or.inl (le_refl i)) (Or.inr h.2.2)
        · rw [if_neg (by omega)]
    · rw [if_neg ha, maskH_apply, maskH_apply]
      by_cases hin : a < i ∧ b < i
      · have h : a < i + 1 ∧ b < i + 1 ∧ a < m ∧ b < m := by omega
        rw [if_pos (Or.inl ⟨h.1, h.2.1⟩), if_pos (Or.inl hin), hw.same a b h.2.2.1 h.2.2.2 (Or.inl ⟨ha, hb⟩)]
      · have h : ¬ ((a < i + 1 ∧ b < i + 1) ∨ (a = i + 1 ∧ b + 1 = i + 1)) ∧ ¬ ((a < i ∧ b < i) ∨ (a = i ∧ b + 1 = i)) := by omega
        rw [if_neg h.1, if_neg h.2]
  refine ⟨hcol, hext, fun a b ha _ => ?_, fun a b ha hb hab hoff => ?_⟩
  · rw [hext, extH_apply, extH_apply]
    by_cases hbi : b = i
    · rw [if_pos hbi, if_pos hbi]; exact hcol a ha
    · rw [if_neg hbi, if_neg hbi]
  · rw [hw.same a b ha hb (Or.inr hoff)]
    exact hc a b ha hb (by omega) hoff

/-- **One regular pass of `Lanczos.factorStep` IS a C07 `extend` step** (exact field, self-adjoint operator, orthonormal basis):
    the result state read as a C07 state equals `(absAt i s).step (.extend beta h)` — `V`, `H`, `f`, `k`, `R` as functions —,
    the step is `ok` and `orthOk`, and the loop invariant holds at `i + 1`. -/
theorem lanczos_pass_regular (n m : ℕ) (A : (Fin n → K) →ₗ[K] (Fin n → K)) (op : Arnoldi.Op K) (hop : OpOK n op A)
    (hsa : ∀ x y, dotProduct x (A y) = dotProduct (A x) y)
    (bt es : K) (hes : 0 ≤ es)
    (s : Arnoldi.State K) (i : ℕ) (hI : PassInv n m A s i) (hi1 : 1 ≤ i) (him : i < m)
    (hreg : Sc.lt s.beta s.near0 = false) (hβ : s.beta ≠ 0) :
    ∃ h : ℕ → K,
      absAt n (i + 1) (Lanczos.factorStep op bt es s i) = (absAt n i s).step A (.extend s.beta h) ∧
      (Step.extend s.beta h : Step K (Fin n → K)).ok (absAt n i s) ∧
      (Step.extend s.beta h : Step K (Fin n → K)).exact (absAt n i s) ∧
      (Step.extend s.beta h : Step K (Fin n → K)).orthOk (dotIP n) A (absAt n i s) ∧
      PassInv n m A (Lanczos.factorStep op bt es s i) (i + 1) ∧
      (Lanczos.factorStep op bt es s i).k = s.k ∧ (Lanczos.factorStep op bt es s i).near0 = s.near0 ∧
      (Lanczos.factorStep op bt es s i).eps = s.eps := by
  obtain ⟨hstep, tV, tf, tH, tS, tb⟩ := regPass_spec E n m A op hop hsa bt es hes s i hI hi1 him hreg hβ
  obtain ⟨hL, hco⟩ := hI.linv.extend hi1 hsa hβ rfl hI.betasq tV
  obtain ⟨hcol, hHeq, hHlead, hclean⟩ := maskH_pass m i s.H (regPass op s i).H _ s.beta him tH hI.clean
  rw [tV] at hL hco
  rw [hstep]
  refine ⟨fun a => maskH (i + 1) (regPass op s i).H a i, ?_, hβ, trivial,
    ⟨hβ, rfl, hI.betasq, fun a ha => (hcol a ha).trans (hco a ha)⟩, ?_, rfl, rfl, rfl⟩
  · refine St.ext tV hHeq ?_ rfl (extR_zero i).symm
    show vecOf n (regPass op s i).f = resid A _ i _
    rw [resid_congr A _ i _ _ hcol, resid_lanH A _ i hi1]
    exact tf
  · exact .of tS him (hL.congr (fun j _ => by rw [tV]) hHlead tf) tb hclean hI.eps0

end
end C07L
