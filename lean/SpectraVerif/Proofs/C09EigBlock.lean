/-
  C09, UpperHessenbergEigen on top of the Schur similarity: the eigenvalues reported for a 2x2 diagonal block of `T` ARE the
  eigenvalues of that block (exact `sqrt`): every block the Schur loop leaves unsplit has a negative discriminant (loop invariant), and
  for such a block `block2` returns `((a+d)/2, ±√(−disc))`.
-/
import SpectraVerif.Proofs.C09Lemmas
import SpectraVerif.Proofs.C09Schur
import Mathlib.Algebra.Order.BigOperators.Group.Finset
import SpectraVerif.Proofs.SumFold


namespace C09Eig
open Lin EigenPrims HessSchur C09Mat C09Lemmas

section gen
variable {α : Type} [Add α] [Sub α] [Mul α] [Div α] [Neg α] [Sc α]

/-- a well-formed `n × n` matrix -/
structure Sq (n : ℕ) (t : Mat α) : Prop where
  wf : WF t
  rows : t.rows = n
  cols : t.cols = n

theorem Sq.set {n : ℕ} {t : Mat α} (h : Sq n t) (i j : ℕ) (x : α) : Sq n (t.set i j x) :=
  ⟨C08Mat.set_WF h.wf _ _ _, by rw [C08Mat.set_rows, h.rows], by rw [C08Mat.set_cols, h.cols]⟩

theorem Sq.get_set {n : ℕ} {t : Mat α} (h : Sq n t) (i0 j0 i j : ℕ) (x : α) (hi0 : i0 < n) (hj0 : j0 < n) (hi : i < n) :
    (t.set i0 j0 x).get i j = if i = i0 ∧ j = j0 then x else t.get i j :=
  C08Mat.get_set h.wf _ (by rw [h.rows]; exact hi0) (by rw [h.cols]; exact hj0) (by rw [h.rows]; exact hi)

end gen

section field
variable {K : Type} [Field K] [LinearOrder K] [IsStrictOrderedRing K] (F : FieldFns K)

/-- discriminant (divided by 4) of the 2x2 block in rows/columns `r, r+1`: `((a − d)/2)² + c·b` -/
def disc (t : Mat K) (r : ℕ) : K :=
  letI : Sc K := scOfField F
  TridiagEigen.half * (t.get r r - t.get (r + 1) (r + 1)) * (TridiagEigen.half * (t.get r r - t.get (r + 1) (r + 1))) +
    t.get (r + 1) r * t.get r (r + 1)

/-- **`block2` on a block with negative discriminant** (exact non-negative `sqrt`): returns `(x, z), (x, −z)` with `x = (a + d)/2`,
    `z > 0`, `z² = −disc`: `x ± i z` are the two roots of the characteristic polynomial `λ² − (a+d) λ + (ad − bc)` of the block -/
theorem block2_char (hs : ∀ x : K, 0 ≤ x → F.sqrt x * F.sqrt x = x) (hs0 : ∀ x : K, 0 ≤ F.sqrt x) (a d c b : K)
    (hd : (@TridiagEigen.half K (scOfField F)) * (a - d) * ((@TridiagEigen.half K (scOfField F)) * (a - d)) + c * b < 0) :
    ∃ x z : K, @HessEigen.block2 K _ _ _ _ _ (scOfField F) a d c b = ((x, z), (x, -z)) ∧ 0 < z ∧ 2 * x = a + d ∧
      z * z = -((@TridiagEigen.half K (scOfField F)) * (a - d) * ((@TridiagEigen.half K (scOfField F)) * (a - d)) + c * b) ∧
      (x * x - z * z) - (a + d) * x + (a * d - b * c) = 0 ∧ 2 * x * z - (a + d) * z = 0 := by
  let _ : Sc K := scOfField F
  have hhalf := C09SimU.half_eq F
  generalize hp : (TridiagEigen.half : K) * (a - d) = p at hd
  have hp2 : 2 * p = a - d := by rw [← hp, hhalf]; ring
  -- the scale is positive: otherwise p = c = 0 and the discriminant is 0
  have hm1 : |p| ≤ HessEigen.smax (|p|) (HessEigen.smax (|c|) (|b|)) := smax_ge_left F _ _
  have hm2 : |c| ≤ HessEigen.smax (|p|) (HessEigen.smax (|c|) (|b|)) := le_trans (smax_ge_left F _ _) (smax_ge_right F _ _)
  generalize hm : HessEigen.smax (|p|) (HessEigen.smax (|c|) (|b|)) = m at hm1 hm2
  have hm0 : 0 < m := by
    refine lt_of_le_of_ne (le_trans (abs_nonneg p) hm1) fun h => ?_
    have h1 : p = 0 := abs_eq_zero.mp (le_antisymm (h ▸ hm1) (abs_nonneg _))
    have h2 : c = 0 := abs_eq_zero.mp (le_antisymm (h ▸ hm2) (abs_nonneg _))
    rw [h1, h2, mul_zero, zero_mul, add_zero] at hd
    exact lt_irrefl _ hd
  have hmm : m * m ≠ 0 := ne_of_gt (mul_pos hm0 hm0)
  have harg : p / m * (p / m) + c / m * (b / m) = (p * p + c * b) / (m * m) := by
    rw [div_mul_div_comm, div_mul_div_comm, ← add_div]
  have hneg : (p * p + c * b) / (m * m) < 0 := div_neg_of_neg_of_pos hd (mul_pos hm0 hm0)
  have hz2 : m * F.sqrt |p / m * (p / m) + c / m * (b / m)| * (m * F.sqrt |p / m * (p / m) + c / m * (b / m)|) = -(p * p + c * b) := by
    rw [harg, abs_of_neg hneg, mul_mul_mul_comm, hs _ (neg_nonneg.mpr hneg.le), mul_neg, mul_div_cancel₀ _ hmm]
  have hz0 : 0 ≤ m * F.sqrt |p / m * (p / m) + c / m * (b / m)| := mul_nonneg (le_of_lt hm0) (hs0 _)
  generalize hz : m * F.sqrt |p / m * (p / m) + c / m * (b / m)| = z at hz2 hz0
  have hzpos : 0 < z := lt_of_le_of_ne hz0 fun h => by
    rw [← h, mul_zero] at hz2; exact (neg_pos.mpr hd).ne hz2
  refine ⟨d + p, z, ?_, hzpos, by linear_combination hp2, hz2, by linear_combination (-1 : K) * hz2 + p * hp2,
    by linear_combination z * hp2⟩
  simp only [HessEigen.block2, hp, hm, ScF.abs, ScF.sqrt, hz, Sc.gt, ScF.lt, zero, ScF.ofInt, Int.cast_zero]
  rw [if_pos (by simpa using hzpos)]

/-- every unsplit 2x2 block in the finished rows `≥ m` has a negative discriminant -/
def NegDisc (n m : ℕ) (t : Mat K) : Prop :=
  ∀ r, m ≤ r → r + 1 < n → @Mat.get K (scOfField F) t (r + 1) r ≠ 0 → disc F t r < 0

theorem negDisc_pres {n m : ℕ} {t t' : Mat K} (hr : t.rows = n) (h : NegDisc F n m t) (hp : @C09Schur.Pres K (scOfField F) m t t') :
    NegDisc F n m t' := by
  obtain ⟨_, _, _, hg⟩ := hp
  intro r h1 h2 h3
  have e : ∀ i j, m ≤ i → i < n → @Mat.get K (scOfField F) t' i j = @Mat.get K (scOfField F) t i j :=
    fun i j hi hlt => hg i j hi (by rw [hr]; exact hlt)
  rw [e (r + 1) r (by omega) h2] at h3
  have := h r h1 h2 h3
  simp only [disc] at this ⊢
  rw [e r r h1 (by omega), e (r + 1) (r + 1) (by omega) h2, e (r + 1) r (by omega) h2, e r (r + 1) h1 (by omega)]
  exact this

/-- the trailing block after `split_off_two_rows`: either split (`T(iu, iu−1) = 0`) or, when `q < 0`, the old block with the
    accumulated shift added to both diagonal entries -/
theorem split_block (n p : ℕ) (ex : K) (s : TU K) (hw : @WF K s.t) (hr : s.t.rows = n) (hc : s.t.cols = n) (hiu : p + 1 < n) :
    let _ : Sc K := scOfField F
    (splitOffTwoRows n (p + 1) ex s).t.get (p + 1) p = (zero : K) ∨
    (disc F s.t p < 0 ∧
      (splitOffTwoRows n (p + 1) ex s).t.get p p = s.t.get p p + ex ∧
      (splitOffTwoRows n (p + 1) ex s).t.get (p + 1) (p + 1) = s.t.get (p + 1) (p + 1) + ex ∧
      (splitOffTwoRows n (p + 1) ex s).t.get (p + 1) p = s.t.get (p + 1) p ∧
      (splitOffTwoRows n (p + 1) ex s).t.get p (p + 1) = s.t.get p (p + 1)) := by
  intro _
  have sq : Sq n s.t := ⟨hw, hr, hc⟩
  have sq1 := sq.set (p + 1) (p + 1) (s.t.get (p + 1) (p + 1) + ex)
  simp only [splitOffTwoRows, Nat.add_sub_cancel, show p + 1 - 2 = p - 1 from rfl]
  have e0 : (s.t.set (p + 1) (p + 1) (s.t.get (p + 1) (p + 1) + ex)).get p p = s.t.get p p := by
    rw [sq.get_set (p + 1) (p + 1) p p _ hiu hiu (by omega), if_neg (by omega)]
  rw [e0]
  generalize ht2 : (s.t.set (p + 1) (p + 1) (s.t.get (p + 1) (p + 1) + ex)).set p p (s.t.get p p + ex) = t2
  have sq2 : Sq n t2 := ht2 ▸ sq1.set _ _ _
  have g2 : ∀ i j, i < n → t2.get i j = if i = p ∧ j = p then s.t.get p p + ex else
      if i = p + 1 ∧ j = p + 1 then s.t.get (p + 1) (p + 1) + ex else s.t.get i j := fun i j hi => by
    rw [← ht2, sq1.get_set p p i j _ (by omega) (by omega) hi, sq.get_set (p + 1) (p + 1) i j _ hiu hiu hi]
  by_cases hq : Sc.ge (TridiagEigen.half * (s.t.get p p - s.t.get (p + 1) (p + 1)) * (TridiagEigen.half * (s.t.get p p - s.t.get (p + 1) (p + 1))) +
      s.t.get (p + 1) p * s.t.get p (p + 1)) (zero : K) = true
  · left
    simp only [if_pos hq]
    generalize makeGivens _ (t2.get (p + 1) p) = rot
    have p1 := C09Schur.pres_rotLeft n t2 sq2.wf p (n - (p + 1) + 1) p (p + 1) rot.c rot.s (by omega) hiu
    have p2 := C09Schur.pres_rotRight n _ p1.1 (p + 1 + 1) p (p + 1) rot.c rot.s (by omega)
    have sq3 : Sq n (applyOnTheRight (applyOnTheLeftAdj t2 p (n - (p + 1) + 1) p (p + 1) rot.c rot.s) (p + 1 + 1) p (p + 1) rot.c rot.s) :=
      ⟨p2.1, by rw [p2.2.1, p1.2.1, sq2.rows], by rw [p2.2.2.1, p1.2.2.1, sq2.cols]⟩
    generalize applyOnTheRight (applyOnTheLeftAdj t2 p (n - (p + 1) + 1) p (p + 1) rot.c rot.s) (p + 1 + 1) p (p + 1) rot.c rot.s = t3 at sq3
    have e4 : (t3.set (p + 1) p zero).get (p + 1) p = (zero : K) := by
      rw [sq3.get_set (p + 1) p (p + 1) p _ hiu (by omega) hiu, if_pos ⟨rfl, rfl⟩]
    split
    · rw [(sq3.set _ _ _).get_set p (p - 1) (p + 1) p _ (by omega) (by omega) hiu, if_neg (by omega)]
      exact e4
    · exact e4
  · right
    simp only [if_neg hq]
    refine ⟨by simpa [disc, zero] using hq, ?_⟩
    have e : ∀ i j, i < n → (1 < p + 1 → ¬ (i = p ∧ j = p - 1)) →
        (if 1 < p + 1 then (⟨t2.set p (p - 1) zero, s.u⟩ : TU K) else ⟨t2, s.u⟩).t.get i j = t2.get i j := fun i j hi hne => by
      split
      · rename_i h1; exact (sq2.get_set p (p - 1) i j _ (by omega) (by omega) hi).trans (if_neg (hne h1))
      · rfl
    rw [e p p (by omega) (by omega), e (p + 1) (p + 1) hiu (by omega), e (p + 1) p hiu (by omega), e p (p + 1) (by omega) (by omega),
      g2 p p (by omega), g2 (p + 1) (p + 1) hiu, g2 (p + 1) p hiu, g2 p (p + 1) (by omega)]
    simp

/-- the finished part grows by a row whose sub-diagonal entry is zero -/
theorem negDisc_down {n m : ℕ} {t : Mat K} (h : NegDisc F n (m + 1) t)
    (hI : @C09Schur.Inv K (scOfField F) n (m + 1) t) : NegDisc F n m t := by
  let _ : Sc K := scOfField F
  intro r hr1 hr2 hr3
  rcases Nat.eq_or_lt_of_le hr1 with rfl | hlt
  · have := hI.bnd (Nat.succ_pos _) hr2
    unfold C09Schur.sdz at this
    exact absurd (by simpa [zero] using this) hr3
  · exact h r hlt hr2 hr3

/-- **every 2x2 block the Schur main loop leaves unsplit has a negative discriminant**: the three steps of the loop carry it (the test
    `q >= 0` of `split_off_two_rows` decided, and the finished rows are never written again) -/
theorem mainLoop_negDisc (n : ℕ) (near0 : K) (f m iter total : ℕ) (ex : K) (s : TU K)
    (hI : @C09Schur.Inv K (scOfField F) n m s.t) (hN : NegDisc F n m s.t)
    (hd : (@mainLoop K _ _ _ _ _ (scOfField F) n near0 f m iter total ex s).exit = Exit.done) :
    @Sq K n (@mainLoop K _ _ _ _ _ (scOfField F) n near0 f m iter total ex s).t ∧
    NegDisc F n 0 (@mainLoop K _ _ _ _ _ (scOfField F) n near0 f m iter total ex s).t := by
  let _ : Sc K := scOfField F
  obtain ⟨_, hI', hN'⟩ := C09Schur.mainLoop_rule n near0 (fun m _ s => C09Schur.Inv n m s.t ∧ NegDisc F n m s.t)
    (fun iu ex s ⟨hI, hN⟩ =>
      have hp := C09Schur.pres_of_keepM (C09Schur.presK_deflate s.t hI.wf iu ex)
      ⟨C09Schur.inv_deflate hI ex, negDisc_down F (negDisc_pres F hI.rows hN hp) (C09Schur.inv_pres hI hp)⟩)
    (fun iu ex s ⟨hI, hN⟩ => by
      have hp := (C09Schur.pres_split n (iu + 1) ex s hI.wf).1
      have hN1 := negDisc_down F (negDisc_pres F hI.rows hN hp) (C09Schur.inv_pres hI hp)
      refine ⟨C09Schur.inv_split hI ex, fun r hr1 hr2 hr3 => ?_⟩
      rcases Nat.eq_or_lt_of_le hr1 with rfl | hlt
      · rcases split_block F n iu ex s hI.wf hI.rows hI.cols hr2 with hz | ⟨hd, e1, e2, e3, e4⟩
        · exact absurd (by rw [hz]; simp [zero]) hr3
        · simp only [disc] at hd ⊢
          rw [e1, e2, e3, e4, add_sub_add_right_eq_sub]
          exact hd
      · exact hN1 r hlt hr2 hr3)
    (fun il im iu iter ex s fv ⟨hI, hN⟩ _ => by
      have hp1 := C09Schur.pres_computeShift (iu + 1) s.t hI.wf iu iter ex (Nat.lt_succ_self _)
      have hI1 := C09Schur.inv_pres hI hp1
      exact ⟨C09Schur.inv_sweep hI il im iter near0 ex fv, negDisc_pres F hI1.rows (negDisc_pres F hI.rows hN hp1)
        (C09Schur.pres_performFrancis n il im iu near0 fv ⟨_, s.u⟩ hI1.wf)⟩)
    f m iter total ex s ⟨hI, hN⟩ hd
  exact ⟨⟨hI'.wf, hI'.rows, hI'.cols⟩, hN'⟩

open Finset in
/-- `upper_hessenberg_l1_norm` is the sum of the magnitudes of the entries on and above the sub-diagonal -/
theorem l1norm_eq (n : ℕ) (m : Mat K) :
    @l1norm K _ (scOfField F) n m = ∑ j ∈ range n, ∑ i ∈ range (min n (j + 2)), |@Mat.get K (scOfField F) m i j| := by
  let _ : Sc K := scOfField F
  rw [l1norm]
  exact ListFold.foldl_range_inv (fun k acc => acc = ∑ j ∈ range k, ∑ i ∈ range (min n (j + 2)), |m.get i j|) _ n _ (by simp [zero])
    fun k acc _ h => by rw [h, Finset.sum_range_succ, SumFold.sumFrom0_scOfField F]; rfl

open Finset in
theorem l1norm_zero_sub (n : ℕ) (m : Mat K) (h0 : @l1norm K _ (scOfField F) n m = 0) (r : ℕ) (hr : r + 1 < n) :
    @Mat.get K (scOfField F) m (r + 1) r = 0 := by
  rw [l1norm_eq] at h0
  have h1 := (Finset.sum_eq_zero_iff_of_nonneg (fun j _ => Finset.sum_nonneg (fun i _ => abs_nonneg _))).mp h0 r
    (Finset.mem_range.mpr (by omega))
  have h2 := (Finset.sum_eq_zero_iff_of_nonneg (fun i _ => abs_nonneg _)).mp h1 (r + 1)
    (Finset.mem_range.mpr (by rw [Nat.lt_min]; omega))
  exact abs_eq_zero.mp h2

/-- **every unsplit 2x2 block of the `T` returned by `UpperHessenbergSchur::compute` has a negative discriminant**; `T` is `n × n` -/
theorem compute_negDisc (n : ℕ) (h : Mat K) (hw : @WF K h) (hr : h.rows = n) (hc : h.cols = n) (r : Decomp K)
    (hok : @compute K _ _ _ _ _ (scOfField F) n h = Res.ok r) : @Sq K n r.t ∧ NegDisc F n 0 r.t := by
  let _ : Sc K := scOfField F
  simp only [compute] at hok
  split at hok
  · rename_i hdone
    cases hok
    simp only [core] at hdone ⊢
    split at hdone
    · rename_i hn
      rw [if_pos hn]
      -- `41 * n + 1` is the fuel `HessSchur.core` runs the loop with (at most `n` window shrinks and `40 n + 1` sweeps before the cap)
      exact mainLoop_negDisc F n _ (41 * n + 1) n 0 0 zero ⟨h, Mat.identity n⟩ (C09Schur.inv_init n h hw hr hc)
        (fun r h1 h2 _ => by omega) hdone
    · rename_i hn
      rw [if_neg hn]
      have h0 : l1norm n h = 0 := by simpa [zero] using hn
      exact ⟨⟨hw, hr, hc⟩, fun r _ h2 h3 => absurd (l1norm_zero_sub F n h h0 r h2) h3⟩
  · cases hok

/-- the emitted eigenvalue list tied to the diagonal blocks of `T` WITH their spectra: a 1x1 block emits `(T(i,i), 0)`; an unsplit
    2x2 block `[[a, b], [c, d]]` emits `(x, z), (x, −z)` with `2x = a + d`, `z > 0`, `z² = −disc`: the two roots of its characteristic
    polynomial -/
inductive EigBlocksAt (n : Nat) (t : Mat K) : Nat → List (K × K) → Prop
  | nil (i : Nat) : n ≤ i → EigBlocksAt n t i []
  | real (i : Nat) (l : List (K × K)) : i < n → (i + 1 = n ∨ @Mat.get K (scOfField F) t (i + 1) i = 0) →
      EigBlocksAt n t (i + 1) l → EigBlocksAt n t i ((@Mat.get K (scOfField F) t i i, 0) :: l)
  | pair (i : Nat) (x z : K) (l : List (K × K)) : i + 1 < n → @Mat.get K (scOfField F) t (i + 1) i ≠ 0 → 0 < z →
      2 * x = @Mat.get K (scOfField F) t i i + @Mat.get K (scOfField F) t (i + 1) (i + 1) → z * z = -disc F t i →
      EigBlocksAt n t (i + 2) l → EigBlocksAt n t i ((x, z) :: (x, -z) :: l)

theorem extract_eigAt (hs : ∀ x : K, 0 ≤ x → F.sqrt x * F.sqrt x = x) (hs0 : ∀ x : K, 0 ≤ F.sqrt x) (n : Nat) (t : Mat K)
    (hN : NegDisc F n 0 t) (f i : Nat) (hf : n ≤ i + f) :
    EigBlocksAt F n t i (@HessEigen.extract K _ _ _ _ _ (scOfField F) n t f i) := by
  induction f generalizing i with
  | zero => exact EigBlocksAt.nil i (by omega)
  | succ f ih =>
    simp only [HessEigen.extract]
    split
    · rename_i h; exact EigBlocksAt.nil i h
    · rename_i hlt
      split
      · rename_i hcond
        have h0 : (@zero K (scOfField F)) = 0 := by simp [zero]
        rw [h0]
        refine EigBlocksAt.real i _ (by omega) ?_ (ih _ (by omega))
        simp only [ScF.eq, zero, ScF.ofInt, Int.cast_zero, Bool.or_eq_true, decide_eq_true_eq] at hcond
        exact hcond
      · rename_i hcond
        let _ : Sc K := scOfField F
        have hc := extract_cond F hcond
        have hd := hN i (Nat.zero_le _) (by omega) hc.2
        obtain ⟨x, z, he, hz, hx, hzz, _, _⟩ := block2_char F hs hs0 (t.get i i) (t.get (i + 1) (i + 1)) (t.get (i + 1) i) (t.get i (i + 1)) hd
        rw [he]
        exact EigBlocksAt.pair i x z _ (by omega) hc.2 hz hx hzz (ih _ (by omega))

end field
end C09Eig
