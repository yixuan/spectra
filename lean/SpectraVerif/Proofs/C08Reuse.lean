/-
  C08 helper: `compute()` called on an object that already holds a factorization (`recompute` of Model/HessQR.lean and
  Model/TridiagQR.lean: resized arrays keep their old contents when the size is unchanged and hold unspecified `junk` otherwise,
  then the statements of `compute` run) builds EXACTLY the object a fresh `compute` builds — for every scalar type and every
  `Sc` instance (hence for `Float` as well as for exact arithmetic), every old object, every junk value, every input.

  The fresh loop is the reusing loop seen through an erasure (`ListFold.foldl_range_erase`): before step `k` the fresh run holds
  the first `k` slots of the rotation buffers (`Array.take`: it pushes where the reusing run writes slot `k`) and `R_supd2` with
  everything from slot `k` on forgotten (`mask`: both runs write slot `k`, the fresh one into zeros).  After the last step nothing
  is left to forget.
  Core Lean only (no Mathlib).
-/
import SpectraVerif.Model.HessQR
import SpectraVerif.Model.TridiagQR
import SpectraVerif.Proofs.ListFold
import SpectraVerif.Proofs.LinLemmas

namespace C08Reuse
open Lin QRModel C08Mat

set_option linter.unusedSectionVars false
variable {α : Type} [Add α] [Sub α] [Mul α] [Div α] [Neg α] [Sc α]

theorem vresize_size (v : Vec α) (k : Nat) (junk : α) : (vresize v k junk).size = k := by
  unfold vresize; split <;> simp_all

/-- writing slot `k` of a buffer and keeping `k + 1` slots is pushing onto the first `k` -/
theorem take_vset (a : Vec α) {k : Nat} (x : α) (h : k < a.size) : (vset a k x).take (k + 1) = (a.take k).push x := by
  unfold vset
  apply Array.ext_getElem?
  intro j
  simp only [Array.take_eq_extract, Array.getElem?_extract, Array.getElem?_push, Array.size_extract,
    Array.getElem?_setIfInBounds, Array.size_setIfInBounds, Nat.min_eq_left (Nat.succ_le_of_lt h),
    Nat.min_eq_left (Nat.le_of_lt h), Nat.sub_zero, Nat.zero_add]
  by_cases h1 : j < k
  · rw [if_pos (Nat.lt_succ_of_lt h1), if_neg (Nat.ne_of_gt h1), if_neg (Nat.ne_of_lt h1), if_pos h1]
  · by_cases h2 : j = k
    · subst h2; rw [if_pos (Nat.lt_succ_self j), if_pos rfl, if_pos h, if_pos rfl]
    · rw [if_neg (by omega), if_neg h2, if_neg h1]

theorem take_full (a : Vec α) {k : Nat} (h : a.size = k) : a.take k = a := by subst h; simp

/-- the buffer with everything from slot `k` on forgotten -/
def mask (k : Nat) (r : Vec α) : Vec α := vofFn r.size (fun j => if j < k then vget r j else zero)

theorem mask_size (k : Nat) (r : Vec α) : (mask k r).size = r.size := size_vofFn _ _

theorem vget_mask (k : Nat) (r : Vec α) {i : Nat} (hi : i < r.size) :
    vget (mask k r) i = if i < k then vget r i else zero := vget_vofFn _ _ hi

theorem mask_zero (r : Vec α) : mask 0 r = vzero r.size :=
  vext ((mask_size 0 r).trans (size_vzero _).symm) fun i hi => by
    rw [vget_mask 0 r (mask_size 0 r ▸ hi), if_neg (Nat.not_lt_zero i), vget_vzero]

theorem mask_full (r : Vec α) {k : Nat} (h : r.size ≤ k) : mask k r = r :=
  vext (mask_size k r) fun i hi => by
    rw [mask_size] at hi
    rw [vget_mask k r hi, if_pos (Nat.lt_of_lt_of_le hi h)]

theorem mask_vset (r : Vec α) (k : Nat) (x : α) : mask (k + 1) (vset r k x) = vset (mask k r) k x :=
  vext (by rw [mask_size, vset_size, vset_size, mask_size]) fun i hi => by
    rw [mask_size, vset_size] at hi
    rw [vget_mask _ _ (by rw [vset_size]; exact hi), vget_vset', vget_vset', mask_size, vget_mask k r hi]
    by_cases e : i = k
    · subst e; rw [if_pos (Nat.lt_succ_self i), if_pos ⟨rfl, hi⟩, if_pos ⟨rfl, hi⟩]
    · by_cases l : i < k
      · rw [if_pos (Nat.lt_succ_of_lt l), if_neg (fun h => e h.1), if_neg (fun h => e h.1), if_pos l]
      · rw [if_neg (by omega), if_neg (fun h => e h.1), if_neg l]

open UpperHessenbergQR in
theorem hqr_fold (n : Nat) (R0 : Mat α) (c0 s0 : Vec α) (hc : c0.size = n - 1) (hs : s0.size = n - 1) :
    (List.range (n - 1)).foldl (computeStep n) (R0, #[], #[]) = (List.range (n - 1)).foldl (recomputeStep n) (R0, c0, s0) := by
  obtain ⟨e, hc', hs'⟩ := ListFold.foldl_range_erase
    (fun k (st : Mat α × Vec α × Vec α) => (st.1, st.2.1.take k, st.2.2.take k))
    (fun _ st => st.2.1.size = n - 1 ∧ st.2.2.size = n - 1)
    (recomputeStep n) (computeStep n) (n - 1) (R0, c0, s0) ⟨hc, hs⟩
    (fun i st _ h => ⟨(vset_size _ _ _).trans h.1, (vset_size _ _ _).trans h.2⟩)
    (fun i st hi h => by
      simp only [recomputeStep, computeStep]
      rw [take_vset _ _ (by omega), take_vset _ _ (by omega)])
  simp only [Array.extract_zero] at e
  rw [e, take_full _ hc', take_full _ hs']

/-- `compute` on an object that already holds a factorization forgets everything the object held -/
theorem hqr_recompute (old : UpperHessenbergQR α) (junk : α) (mat : Mat α) (shift : α) :
    old.recompute junk mat shift = UpperHessenbergQR.compute mat shift := by
  unfold UpperHessenbergQR.recompute UpperHessenbergQR.compute
  simp only []
  rw [hqr_fold mat.rows _ _ _ (vresize_size _ _ _) (vresize_size _ _ _)]

open TridiagQR in
theorem tqr_fold (n : Nat) (Ts Rd : Vec α) (c0 s0 r0 : Vec α) (hc : c0.size = n - 1) (hs : s0.size = n - 1) (hr : r0.size = n - 2) :
    (List.range (n - 1)).foldl (facStep n Ts) ⟨#[], #[], Rd, Ts, vzero (n - 2)⟩ =
      (List.range (n - 1)).foldl (refacStep n Ts) ⟨c0, s0, Rd, Ts, r0⟩ := by
  obtain ⟨e, hc', hs', hr'⟩ := ListFold.foldl_range_erase
    (fun k (st : FacSt α) => (⟨st.cos.take k, st.sin.take k, st.Rd, st.Rs, mask k st.Rs2⟩ : FacSt α))
    (fun _ st => st.cos.size = n - 1 ∧ st.sin.size = n - 1 ∧ st.Rs2.size = n - 2)
    (refacStep n Ts) (facStep n Ts) (n - 1) ⟨c0, s0, Rd, Ts, r0⟩ ⟨hc, hs, hr⟩
    (fun i st _ h => by
      unfold refacStep
      split <;> simp only [vset_size] <;> exact h)
    (fun i st hi h => by
      have h1 : i < st.cos.size := by omega
      have h2 : i < st.sin.size := by omega
      unfold refacStep facStep
      by_cases hlt : i < n - 2
      · simp only [hlt, if_true]
        rw [take_vset _ _ h1, take_vset _ _ h2, mask_vset]
      · simp only [hlt, if_false]
        rw [take_vset _ _ h1, take_vset _ _ h2, mask_full _ (by omega : st.Rs2.size ≤ i + 1), mask_full _ (by omega : st.Rs2.size ≤ i)])
  simp only [Array.extract_zero, mask_zero, hr] at e
  rw [e, take_full _ hc', take_full _ hs', mask_full _ (by omega)]

/-- `TridiagQR::compute` on an object that already holds a factorization forgets everything the object held -/
theorem tqr_recompute (old : TridiagQR α) (junk : α) (mat : Mat α) (shift : α) :
    old.recompute junk mat shift = TridiagQR.compute mat shift := by
  unfold TridiagQR.recompute TridiagQR.compute
  simp only []
  rw [tqr_fold mat.rows _ _ _ _ _ (vresize_size _ _ _) (vresize_size _ _ _) (vresize_size _ _ _)]

end C08Reuse
