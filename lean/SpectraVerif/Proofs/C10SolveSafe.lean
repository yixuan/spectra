/-
  C10 — block structure of m_perm after compute and index safety of solve_inplace: helper lemmas.
-/
import Mathlib.Tactic.Ring
import SpectraVerif.Proofs.C10Solve
open Gen.BK

set_option linter.unusedSectionVars false

namespace BKLDLT
section
variable {α : Type} [Add α] [Sub α] [Mul α] [Div α] [Neg α] [Sc α]

/-! ### m_perm through the factorization -/
/-- `m_perm[i]` -/
def pfn (s : St α) (i : Int) : Int := s.perm.getD i.toNat 0

@[simp] theorem chk_perm (s : St α) (i j : Int) : (s.chk i j).perm = s.perm := rfl
@[simp] theorem get_perm (s : St α) (i j : Int) : (s.get i j).2.perm = s.perm := rfl
@[simp] theorem wr_perm (s : St α) (i j : Int) (v : α) : (s.wr i j v).perm = s.perm := rfl
@[simp] theorem wrAt_perm (s : St α) (d i j : Int) (v : α) : (s.wrAt d i j v).perm = s.perm := rfl
@[simp] theorem swap_perm (s : St α) (i1 j1 i2 j2 : Int) : (s.swap i1 j1 i2 j2).perm = s.perm := rfl
@[simp] theorem getPerm_perm (s : St α) (i : Int) : (s.getPerm i).2.perm = s.perm := rfl

/-! ### block structure of m_perm -/
/-- `Tl pf i k`: positions `i .. k-1` are tiled by 1x1 blocks (`pf ≥ 0`) and 2x2 blocks (two consecutive negative entries) -/
inductive Tl (pf : Int → Int) : Int → Int → Prop
  | nil (i : Int) : Tl pf i i
  | one {i k : Int} : 0 ≤ pf i → Tl pf (i + 1) k → Tl pf i k
  | two {i k : Int} : pf i < 0 → pf (i + 1) < 0 → Tl pf (i + 2) k → Tl pf i k

theorem Tl.le {pf : Int → Int} {i k : Int} (h : Tl pf i k) : i ≤ k := by
  induction h with
  | nil i => exact le_refl _
  | one _ _ ih => omega
  | two _ _ _ ih => omega

theorem Tl.snoc1 {pf : Int → Int} {i k : Int} (h : Tl pf i k) (hk : 0 ≤ pf k) : Tl pf i (k + 1) := by
  induction h with
  | nil i => exact Tl.one hk (Tl.nil _)
  | one h1 _ ih => exact Tl.one h1 (ih hk)
  | two h1 h2 _ ih => exact Tl.two h1 h2 (ih hk)

theorem Tl.snoc2 {pf : Int → Int} {i k : Int} (h : Tl pf i k) (hk : pf k < 0) (hk1 : pf (k + 1) < 0) : Tl pf i (k + 2) := by
  induction h with
  | nil i => exact Tl.two hk hk1 (Tl.nil _)
  | one h1 _ ih => exact Tl.one h1 (ih hk hk1)
  | two h1 h2 _ ih => exact Tl.two h1 h2 (ih hk hk1)

/-- the same tiling read from the right end (what the backward substitution walks) -/
inductive Pre (pf : Int → Int) : Int → Prop
  | zero : Pre pf 0
  | one {k : Int} : Pre pf k → 0 ≤ pf k → Pre pf (k + 1)
  | two {k : Int} : Pre pf k → pf k < 0 → pf (k + 1) < 0 → Pre pf (k + 2)

theorem Pre.nonneg {pf : Int → Int} {k : Int} (h : Pre pf k) : 0 ≤ k := by
  induction h with
  | zero => exact le_refl _
  | one _ _ ih => omega
  | two _ _ _ ih => omega

theorem Pre.congr {pf pf' : Int → Int} {k : Int} (h : Pre pf k) (he : ∀ j, 0 ≤ j → j < k → pf' j = pf j) : Pre pf' k := by
  induction h with
  | zero => exact Pre.zero
  | @one k hp h1 ih =>
    have := hp.nonneg
    exact Pre.one (ih (fun j a b => he j a (by omega))) (by rw [he k this (by omega)]; exact h1)
  | @two k hp h1 h2 ih =>
    have := hp.nonneg
    exact Pre.two (ih (fun j a b => he j a (by omega))) (by rw [he k this (by omega)]; exact h1) (by rw [he (k + 1) (by omega) (by omega)]; exact h2)

theorem Pre.tl {pf : Int → Int} {k : Int} (h : Pre pf k) : Tl pf 0 k := by
  induction h with
  | zero => exact Tl.nil 0
  | one _ h1 ih => exact ih.snoc1 h1
  | two _ h1 h2 ih => exact ih.snoc2 h1 h2

/-- inversion at the right end -/
theorem Pre.inv_succ {pf : Int → Int} {i : Int} (h : Pre pf (i + 1)) (hi : 0 ≤ i) :
    (0 ≤ pf i ∧ Pre pf i) ∨ (pf i < 0 ∧ pf (i - 1) < 0 ∧ Pre pf (i - 1)) := by
  generalize e : i + 1 = j at h
  cases h with
  | zero => omega
  | @one k hp h1 =>
    obtain rfl : i = k := by omega
    exact Or.inl ⟨h1, hp⟩
  | @two k hp h1 h2 =>
    obtain rfl : i = k + 1 := by omega
    exact Or.inr ⟨h2, by rwa [Int.add_sub_cancel], by rwa [Int.add_sub_cancel]⟩

theorem getD_set (p : Array Int) (k v j : Int) (hk : 0 ≤ k) (hs : k.toNat < p.size) (hj : 0 ≤ j) :
    (p.setIfInBounds k.toNat v).getD j.toNat 0 = if j = k then v else p.getD j.toNat 0 := by
  rw [ListFold.getD_setIfInBounds, if_pos hs]
  exact if_congr (by omega) rfl rfl

theorem perm2x2_spec (a : Array Int) (k r p : Int) (hk : 0 ≤ k) (hs : (k + 1).toNat < a.size) :
    (perm2x2 a k r p).size = a.size ∧
    (perm2x2 a k r p).getD k.toNat 0 = -p - 1 ∧ (perm2x2 a k r p).getD (k + 1).toNat 0 = -r - 1 ∧
    ∀ j, 0 ≤ j → j ≠ k → j ≠ k + 1 → (perm2x2 a k r p).getD j.toNat 0 = a.getD j.toNat 0 := by
  have hk1 : (0 : Int) ≤ k + 1 := by omega
  unfold perm2x2
  dsimp only
  have z1 : (a.setIfInBounds k.toNat p).size = a.size := Array.size_setIfInBounds ..
  have g1 := fun j => getD_set a k p j hk (by omega)
  generalize a.setIfInBounds k.toNat p = a1 at z1 g1 ⊢
  have z2 : (a1.setIfInBounds (k + 1).toNat r).size = a1.size := Array.size_setIfInBounds ..
  have g2 := fun j => getD_set a1 (k + 1) r j hk1 (by omega)
  generalize a1.setIfInBounds (k + 1).toNat r = a2 at z2 g2 ⊢
  have z3 : (a2.setIfInBounds k.toNat (-(a2.getD k.toNat 0) - 1)).size = a2.size := Array.size_setIfInBounds ..
  have g3 := fun j => getD_set a2 k (-(a2.getD k.toNat 0) - 1) j hk (by omega)
  generalize a2.setIfInBounds k.toNat (-(a2.getD k.toNat 0) - 1) = a3 at z3 g3 ⊢
  have g4 := fun j => getD_set a3 (k + 1) (-(a3.getD (k + 1).toNat 0) - 1) j hk1 (by omega)
  refine ⟨by rw [Array.size_setIfInBounds]; omega, ?_, ?_, fun j hj h1 h2 => ?_⟩
  · rw [g4 k hk, if_neg (by omega), g3 k hk, if_pos rfl, g2 k hk, if_neg (by omega), g1 k hk, if_pos rfl]
  · rw [g4 _ hk1, if_pos rfl, g3 _ hk1, if_neg (by omega), g2 _ hk1, if_pos rfl]
  · rw [g4 j hj, if_neg h2, g3 j hj, if_neg h1, g2 j hj, if_neg h2, g1 j hj, if_neg h1]

/-- invariant of the pivot loop on `m_perm`: tiled up to the current position `k`, untouched (identity, in particular ≥ 0) from `k` on -/
def PInv (n k : Int) (s : St α) : Prop :=
  s.perm.size = n.toNat ∧ Tl (pfn s) 0 k ∧ Pre (pfn s) k ∧ (∀ i, k ≤ i → i < n → 0 ≤ pfn s i) ∧
  (∀ i, 0 ≤ i → i < n → -n ≤ pfn s i ∧ pfn s i < n)

/-- the pairs of the compressed permutation of a tiled `m_perm` are positions of `[0, n)` -/
theorem PInv.permc_range {n : Int} {s : St α} (hp : PInv n n s) :
    ∀ ab ∈ compress_permutation (pfn s) n, 0 ≤ ab.1 ∧ ab.1 < n ∧ 0 ≤ ab.2 ∧ ab.2 < n :=
  permc_in_range _ n (fun i hi hin => by have := hp.2.2.2.2 i hi hin; omega)

theorem PInv.of_perm {n k : Int} {s s' : St α} (h : PInv n k s) (e : s'.perm = s.perm) : PInv n k s' := by
  unfold PInv pfn at *; rw [e]; exact h

theorem pfn_set {s s' : St α} {k v : Int} (e : s'.perm = s.perm.setIfInBounds k.toNat v) (hk : 0 ≤ k) (hs : k.toNat < s.perm.size)
    (j : Int) (hj : 0 ≤ j) : pfn s' j = if j = k then v else pfn s j := by
  unfold pfn; rw [e]; exact getD_set _ _ _ _ hk hs hj

theorem PInv.step1 {n k : Int} {s s' : St α} (h : PInv n k s) (hk : 0 ≤ k) (hkn : k < n) (hsz : s'.perm.size = s.perm.size)
    (hpre : ∀ j, 0 ≤ j → j ≠ k → pfn s' j = pfn s j) (hk0 : 0 ≤ pfn s' k) (hv : pfn s' k < n) : PInv n (k + 1) s' := by
  obtain ⟨h1, -, h3, h4, h5⟩ := h
  have p := Pre.one (h3.congr fun j a b => hpre j a (by omega)) hk0
  refine ⟨hsz.trans h1, p.tl, p, fun i hi hin => ?_, fun i hi hin => ?_⟩
  · rw [hpre i (by omega) (by omega)]; exact h4 i (by omega) hin
  · by_cases e : i = k
    · subst e; omega
    · rw [hpre i hi e]; exact h5 i hi hin

theorem PInv.step2 {n k : Int} {s s' : St α} (h : PInv n k s) (hk : 0 ≤ k) (hkn : k + 1 < n) (hsz : s'.perm.size = s.perm.size)
    (hpre : ∀ j, 0 ≤ j → j ≠ k → j ≠ k + 1 → pfn s' j = pfn s j) (hk0 : pfn s' k < 0) (hk1 : pfn s' (k + 1) < 0)
    (hv0 : -n ≤ pfn s' k) (hv1 : -n ≤ pfn s' (k + 1)) : PInv n (k + 2) s' := by
  obtain ⟨h1, -, h3, h4, h5⟩ := h
  have p := Pre.two (h3.congr fun j a b => hpre j a (by omega) (by omega)) hk0 hk1
  refine ⟨hsz.trans h1, p.tl, p, fun i hi hin => ?_, fun i hi hin => ?_⟩
  · rw [hpre i (by omega) (by omega) (by omega)]; exact h4 i (by omega) hin
  · by_cases e : i = k
    · subst e; omega
    · by_cases e' : i = k + 1
      · subst e'; omega
      · rw [hpre i hi e e']; exact h5 i hi hin

/-- an entry the pivoting left alone is the identity entry: a 1x1 block -/
theorem PInv.advance {n k : Int} {s : St α} (h : PInv n k s) (hk : 0 ≤ k) (hkn : k < n) : PInv n (k + 1) s :=
  h.step1 hk hkn rfl (fun _ _ _ => rfl) (h.2.2.2.1 k (le_refl _) hkn) (h.2.2.2.2 k hk hkn).2

/-- what one call of `permutate_mat` at position `k` does to `m_perm`; the flag says whether the pivot is 1x1 -/
inductive PStep (n k : Int) (a : Array Int) : Bool → Array Int → Prop
  | keep : PStep n k a true a
  | one {r : Int} : k < r → r < n → PStep n k a true (a.setIfInBounds k.toNat r)
  | two {r : Int} : k < r → r < n → PStep n k a false (perm2x2 a k r k)

theorem PInv.pstep {n k : Int} {s s' : St α} {b : Bool} {a q : Array Int} (hp : PInv n k s) (hk : 0 ≤ k) (hk1 : k + 1 < n)
    (ha : s.perm = a) (hq : s'.perm = q) (h : PStep n k a b q) : (b = true → PInv n (k + 1) s') ∧ (b = false → PInv n (k + 2) s') := by
  subst ha
  have hsz := hp.1
  cases h with
  | keep => exact ⟨fun _ => (hp.advance hk (by omega)).of_perm hq, nofun⟩
  | @one r hr1 hr2 =>
    have e := pfn_set hq hk (by omega)
    refine ⟨fun _ => hp.step1 hk (by omega) (by rw [hq]; simp) (fun j hj hne => ?_) ?_ ?_, nofun⟩
    · rw [e j hj, if_neg hne]
    · rw [e k hk, if_pos rfl]; omega
    · rw [e k hk, if_pos rfl]; omega
  | @two r hr1 hr2 =>
    obtain ⟨q0, q1, q2, q3⟩ := perm2x2_spec s.perm k r k hk (by omega)
    rw [← hq] at q0 q1 q2 q3
    exact ⟨nofun, fun _ => hp.step2 hk hk1 q0 q3 (by unfold pfn; omega) (by unfold pfn; omega) (by unfold pfn; omega) (by unfold pfn; omega)⟩

/-- `permutate_mat` keeps `Inv` but for `m_perm`, to which it does one `PStep` -/
theorem permutate_mat_inv {n : Int} {a : Array Int} {z : Nat} {s : St α} {k : Int} {alpha : α} (h : Inv n a z s) (hk : 0 ≤ k) (hk1 : k + 1 < n) :
    ∃ a', Inv n a' z (permutate_mat s k alpha).2.2 ∧ PStep n k a (permutate_mat s k alpha).1 a' := by
  rcases permutate_mat_cases (alpha := alpha) h.good hk hk1 with ⟨tag, s', e, hg, hs⟩ | ⟨r, s2, hr1, hr2, hg, hs, e | e⟩ <;> rw [e] <;> dsimp only
  · exact ⟨a, hs.inv hg h, .keep⟩
  · exact ⟨_, interchange_rows_inv (pivoting_1x1_inv (hs.inv hg h) hk (by omega) hr2) (le_refl _) (by omega) (by omega) hr2, .one (by omega) hr2⟩
  · exact ⟨_, interchange_rows_inv (interchange_rows_inv (pivoting_2x2_inv (hs.inv hg h) hk (le_refl _) (by omega) hr1 hr2) (le_refl _)
      (by omega) (le_refl _) (by omega)) (le_refl _) (by omega) hr1 hr2, .two (by omega) hr2⟩

theorem PInv.extend {n : Int} {s : St α} (m : Nat) (k : Int) (h : PInv n k s) (hk : 0 ≤ k) (hkn : k + m = n) : PInv n n s := by
  induction m generalizing k with
  | zero =>
    obtain rfl : k = n := by simpa using hkn
    exact h
  | succ m ih =>
    push_cast at hkn
    exact ih (k + 1) (h.advance hk (by omega)) (by omega) (by omega)

theorem initSt_pfn (n i : Int) (hi : 0 ≤ i) (hin : i < n) : pfn (initSt (α := α) n) i = i := by
  unfold pfn initSt
  simp only [Array.getD_eq_getD_getElem?, Array.getElem?_map, Array.getElem?_range]
  have : i.toNat < n.toNat := by omega
  simp [this]; omega

theorem initSt_pinv (n : Int) : PInv n 0 (initSt (α := α) n) := by
  refine ⟨by simp [initSt], Tl.nil 0, Pre.zero, ?_, ?_⟩
  · intro i hi hin; rw [initSt_pfn n i hi hin]; exact hi
  · intro i hi hin; rw [initSt_pfn n i hi hin]; omega

/-- what `compute` leaves for a matrix of size `n`, whatever the pivot decisions and the status: no illegal access, `m_perm` tiled by
    1x1 and 2x2 blocks, `m_permc` its compression.  All that `solve_inplace` needs to stay inside its arrays. -/
structure Fact.Ok (n : Int) (f : Fact α) : Prop where
  good : Good n f.s
  pinv : PInv n n f.s
  permc : f.permc = compress_permutation (pfn f.s) n

theorem Fact.Ok.permc_range {n : Int} {f : Fact α} (h : f.Ok n) : ∀ ab ∈ f.permc, 0 ≤ ab.1 ∧ ab.1 < n ∧ 0 ≤ ab.2 ∧ ab.2 < n := by
  rw [h.permc]; exact h.pinv.permc_range

/-- the pivot loop and the tail of `compute` keep `Inv` (but for `m_perm`) and tile `m_perm`, whatever routines they run, if the pivot
    search does to `m_perm` what `PStep` says and the eliminations leave it alone -/
theorem Skel.finish_pivotLoop {n : Int} {z : Nat} {pm : St α → Int → Bool × Nat × St α} {e1 e2 : St α → Int → Int × St α} (rl : α → α)
    (hpm : ∀ s k a, Inv n a z s → 0 ≤ k → k + 1 < n → ∃ a', Inv n a' z (pm s k).2.2 ∧ PStep n k a (pm s k).1 a')
    (he1 : ∀ s k a, Inv n a z s → 0 ≤ k → k < n → Inv n a z (e1 s k).2)
    (he2 : ∀ s k a, Inv n a z s → 0 ≤ k → k + 1 < n → Inv n a z (e2 s k).2)
    (info : Int) (s : St α) {a : Array Int} (h : Inv n a z s) (hp : PInv n 0 s) :
    Good n (Skel.finish rl n (Skel.pivotLoop pm e1 e2 n.toNat 0 info s [])).s ∧
    (0 ≤ n → (Skel.finish rl n (Skel.pivotLoop pm e1 e2 n.toNat 0 info s [])).Ok n) := by
  obtain ⟨hle, kb, hg, hb, hk0, hkn⟩ := Skel.pivotLoop_inv (fun k _ s => Inv n s.perm z s ∧ PInv n k s ∧ 0 ≤ k ∧ (0 ≤ n → k ≤ n))
    (fun k _ s ⟨hg, hp, hk, _⟩ hlt h1 => by
      rw [hg.n] at hlt
      obtain ⟨a1, g1, p1⟩ := hpm s k _ hg hk (by omega)
      have g2 := he1 _ k _ g1 hk (by omega)
      exact ⟨g2.self, ((hp.pstep hk (by omega) rfl g1.perm p1).1 h1).of_perm (g2.perm.trans g1.perm.symm), by omega, by omega⟩)
    (fun k _ s ⟨hg, hp, hk, _⟩ hlt h2 => by
      rw [hg.n] at hlt
      obtain ⟨a1, g1, p1⟩ := hpm s k _ hg hk (by omega)
      have g2 := he2 _ k _ g1 hk (by omega)
      exact ⟨g2.self, ((hp.pstep hk (by omega) rfl g1.perm p1).2 h2).of_perm (g2.perm.trans g1.perm.symm), by omega, by omega⟩)
    n.toNat 0 info s [] ⟨h.self, hp, le_refl _, id⟩
  have hf := Skel.finish_inv (rl := rl) hg hle
  exact ⟨hf.good, fun hn => ⟨hf.good, (hb.extend (n - kb).toNat kb hk0 (by have := hkn hn; omega)).of_perm hf.perm, rfl⟩⟩

theorem compute_good_ok (src : Array α) (rm : Bool) (n uplo : Int) (shift alpha : α) :
    Good n (compute src rm n uplo shift alpha).s ∧ (0 ≤ n → (compute src rm n uplo shift alpha).Ok n) := by
  rw [compute_eq, computeLoop_eq]
  have h0 := copy_data_inv (src := src) (rm := rm) (uplo := uplo) (shift := shift) (initSt_inv n)
  exact Skel.finish_pivotLoop _ (fun _ _ _ h hk hk1 => permutate_mat_inv h hk hk1) (fun _ _ _ h hk hk1 => ge1_inv h hk hk1)
    (fun _ _ _ h hk hk1 => ge2_inv h hk hk1) _ _ h0 ((initSt_pinv n).of_perm h0.perm)

theorem compute_good (src : Array α) (rm : Bool) (n uplo : Int) (shift alpha : α) : Good n (compute src rm n uplo shift alpha).s :=
  (compute_good_ok src rm n uplo shift alpha).1

theorem compute_ok (src : Array α) (rm : Bool) (n uplo : Int) (shift alpha : α) (hn : 0 ≤ n) : (compute src rm n uplo shift alpha).Ok n :=
  (compute_good_ok src rm n uplo shift alpha).2 hn

/-! ### solve_inplace

  The real and the complex `solve_inplace` differ in two scalar operations only: the conjugation inside `dot` (`cj`) and the 2x2
  block solve (`sol`).  `Skel.*` is `solve_inplace` with these two left as parameters; both models are instances
  (`solve_inplace_eq`), and which entries are accessed does not depend on either, so index safety is proved once, for `Skel`. -/
namespace Skel

def diagLoop (sol : α → α → α → α → α → α × α) : Nat → Int → Sv α → Sv α
  | 0, _, v => v
  | fuel + 1, i, v =>
    if i < v.s.n then
      let (e11, v) := v.cget i i
      let (pi, v) := v.pget i
      if pi ≥ 0 then
        let (xi, v) := v.xget i
        diagLoop sol fuel (i + 1) (v.xset i (xi / e11))
      else
        let (e21, v) := v.cget (i + 1) i
        let (e22, v) := v.cget (i + 1) (i + 1)
        let (xi, v) := v.xget i
        let (xi1, v) := v.xget (i + 1)
        let (y1, y2) := sol e11 e21 e22 xi xi1
        diagLoop sol fuel (i + 2) ((v.xset i y1).xset (i + 1) y2)
    else v

def colDot (cj : α → α) (v : Sv α) (i j ldim : Int) : α × Sv α :=
  if ldim ≤ 0 then (zero, v) else
  let (l0, v) := v.cget (i + 1) j
  let (r0, v) := v.xget (i + 1)
  (intRange 1 ldim).foldl (fun (acc : α × Sv α) t =>
    let (sum, v) := acc
    let (l, v) := v.cget (i + 1 + t) j
    let (r, v) := v.xget (i + 1 + t)
    (sum + cj l * r, v)) (cj l0 * r0, v)

def bwdLoop (cj : α → α) : Nat → Int → Sv α → Sv α
  | 0, _, v => v
  | fuel + 1, i, v =>
    if i ≥ 0 then
      let ldim := v.s.n - i - 1
      let (d, v) := colDot cj v i i ldim
      let (xi, v) := v.xget i
      let v := v.xset i (xi - d)
      let (pi, v) := v.pget i
      if pi < 0 then
        let (d2, v) := colDot cj v i (i - 1) ldim
        let (xm, v) := v.xget (i - 1)
        let v := v.xset (i - 1) (xm - d2)
        bwdLoop cj fuel (i - 2) v
      else bwdLoop cj fuel (i - 1) v
    else v

def solve_inplace (cj : α → α) (sol : α → α → α → α → α → α × α) (f : Fact α) (b : Array α) : Sv α :=
  let n := f.s.n
  let v : Sv α := { x := b, s := f.s }
  let v := applyPermc v f.permc
  let (pl, v) := v.pget (n - 1)
  let e := if pl < 0 then n - 3 else n - 2
  let v := fwdLoop n.toNat 0 e v
  let v := diagLoop sol n.toNat 0 v
  let (pl, v) := v.pget (n - 1)
  let i0 := if pl < 0 then n - 3 else n - 2
  let v := bwdLoop cj n.toNat i0 v
  applyPermc v f.permc.reverse

end Skel

theorem diagLoop_eq (fuel : Nat) (i : Int) (v : Sv α) : diagLoop fuel i v = Skel.diagLoop solve_inplace_2x2 fuel i v := by
  induction fuel generalizing i v with
  | zero => rfl
  | succ fuel ih => unfold diagLoop Skel.diagLoop; simp only [ih]

theorem bwdLoop_eq (fuel : Nat) (i : Int) (v : Sv α) : bwdLoop fuel i v = Skel.bwdLoop scalarop_conj fuel i v := by
  induction fuel generalizing i v with
  | zero => rfl
  | succ fuel ih => unfold bwdLoop Skel.bwdLoop; simp only [ih]; rfl

theorem solve_inplace_eq (f : Fact α) (b : Array α) : solve_inplace f b = Skel.solve_inplace scalarop_conj solve_inplace_2x2 f b := by
  unfold solve_inplace Skel.solve_inplace; simp only [diagLoop_eq, bwdLoop_eq]

/-- solve state: `Inv` of the factorization it reads, with `m_perm` the fixed array `p` (solve writes neither `m_perm` nor `m_data`) -/
def GV (n : Int) (p : Array Int) (v : Sv α) : Prop := Inv n p v.s.data.size v.s

theorem gv_x {n : Int} {p : Array Int} {v v' : Sv α} {i : Int} (h : GV n p v) (hi : 0 ≤ i ∧ i < n)
    (e : v'.s = { v.s with ok := v.s.ok && inr v.s.n i }) : GV n p v' := by
  rw [GV, e]
  exact ⟨h.n, by simp only [h.ok, h.n, Bool.true_and]; exact inr_iff.2 hi, h.perm, rfl⟩
theorem gv_xget {n : Int} {p : Array Int} {v : Sv α} {i : Int} (h : GV n p v) (hi : 0 ≤ i ∧ i < n) : GV n p (v.xget i).2 :=
  gv_x h hi rfl
theorem gv_xset {n : Int} {p : Array Int} {v : Sv α} {i : Int} {a : α} (h : GV n p v) (hi : 0 ≤ i ∧ i < n) : GV n p (v.xset i a) :=
  gv_x h hi rfl
theorem gv_cget {n : Int} {p : Array Int} {v : Sv α} {i j : Int} (h : GV n p v) (hi : 0 ≤ j ∧ j ≤ i ∧ i < n) : GV n p (v.cget i j).2 :=
  Inv.chk h hi
theorem gv_pget {n : Int} {p : Array Int} {v : Sv α} {i : Int} (h : GV n p v) (hi : 0 ≤ i ∧ i < n) :
    GV n p (v.pget i).2 ∧ (v.pget i).1 = p.getD i.toNat 0 := by
  refine ⟨Inv.getPerm h hi, ?_⟩
  simp only [Sv.pget, St.getPerm, h.perm]
theorem gv_xswap {n : Int} {p : Array Int} {v : Sv α} {a b : Int} (h : GV n p v) (ha : 0 ≤ a ∧ a < n) (hb : 0 ≤ b ∧ b < n) : GV n p (v.xswap a b) := by
  simp only [Sv.xswap]
  exact gv_xset (gv_xset (gv_xget (gv_xget h ha) hb) ha) hb

theorem applyPermc_gv {n : Int} {p : Array Int} {v : Sv α} (pc : List (Int × Int)) (h : GV n p v)
    (hpc : ∀ ab ∈ pc, 0 ≤ ab.1 ∧ ab.1 < n ∧ 0 ≤ ab.2 ∧ ab.2 < n) : GV n p (applyPermc v pc) := by
  unfold applyPermc
  apply ListFold.foldl_inv (GV n p) _ _ _ h
  intro v ab hab hv
  have := hpc ab hab
  exact gv_xswap hv ⟨this.1, this.2.1⟩ ⟨this.2.2.1, this.2.2.2⟩

theorem fwdLoop_gv {n : Int} {p : Array Int} (fuel : Nat) (i e : Int) (v : Sv α) (h : GV n p v) (hi : 0 ≤ i) (he : e ≤ n - 2) :
    GV n p (fwdLoop fuel i e v) := by
  induction fuel generalizing i v with
  | zero => exact h
  | succ fuel ih =>
    unfold fwdLoop
    split
    · rename_i hie
      have hii : 0 ≤ i ∧ i < n := ⟨hi, by omega⟩
      have hv1 := (gv_pget h hii).1
      rw [h.n]
      dsimp only
      split
      · apply ih _ _ _ (by omega)
        apply ListFold.foldl_inv (GV n p) _ _ _ (gv_xget hv1 hii)
        intro w t ht hw
        have ht' := mem_intRange.1 ht
        have hr : 0 ≤ i + 1 + t ∧ i + 1 + t < n := by omega
        exact gv_xset (gv_xget (gv_cget hw ⟨hi, by omega, hr.2⟩) hr) hr
      · have hi1 : 0 ≤ i + 1 ∧ i + 1 < n := by omega
        apply ih _ _ _ (by omega)
        apply ListFold.foldl_inv (GV n p) _ _ _ (gv_xget (gv_xget hv1 hii) hi1)
        intro w t ht hw
        have ht' := mem_intRange.1 ht
        have hr : 0 ≤ i + 2 + t ∧ i + 2 + t < n := by omega
        exact gv_xset (gv_xget (gv_cget (gv_cget hw ⟨hi, by omega, hr.2⟩) ⟨hi1.1, by omega, hr.2⟩) hr) hr
    · exact h

namespace Skel

/-- a 2x2 block never starts at the last row: the tiling `ht` ends exactly at `n` -/
theorem diagLoop_gv {n : Int} {p : Array Int} (sol : α → α → α → α → α → α × α) (fuel : Nat) (i : Int) (v : Sv α) (h : GV n p v) (hi : 0 ≤ i)
    (ht : Tl (fun j => p.getD j.toNat 0) i n) : GV n p (diagLoop sol fuel i v) := by
  induction fuel generalizing i v with
  | zero => exact h
  | succ fuel ih =>
    unfold diagLoop
    split
    · rename_i hin
      rw [h.n] at hin
      obtain ⟨hv1, hpi⟩ := gv_pget (gv_cget (i := i) (j := i) h ⟨hi, le_refl _, hin⟩) ⟨hi, hin⟩
      dsimp only
      rw [hpi]
      cases ht with
      | nil => omega
      | one h1 h2 =>
        rw [if_pos h1]
        exact ih _ _ (gv_xset (gv_xget hv1 ⟨hi, hin⟩) ⟨hi, hin⟩) (by omega) h2
      | two h1 _ h3 =>
        rw [if_neg (not_le.2 h1)]
        have hle := h3.le
        have a1 := gv_cget (i := i + 1) (j := i) hv1 ⟨hi, by omega, by omega⟩
        have a2 := gv_cget (i := i + 1) (j := i + 1) a1 ⟨by omega, le_refl _, by omega⟩
        have a3 := gv_xget (i := i + 1) (gv_xget (i := i) a2 ⟨hi, hin⟩) ⟨by omega, by omega⟩
        exact ih _ _ (gv_xset (gv_xset a3 ⟨hi, hin⟩) ⟨by omega, by omega⟩) (by omega) h3
    · exact h

theorem colDot_gv {n : Int} {p : Array Int} {v : Sv α} {i j ldim : Int} (cj : α → α) (h : GV n p v) (hj : 0 ≤ j) (hji : j ≤ i + 1) (hl : i + 1 + ldim ≤ n) :
    GV n p (colDot cj v i j ldim).2 := by
  unfold colDot
  split
  · exact h
  · dsimp only
    refine ListFold.foldl_inv (fun (acc : α × Sv α) => GV n p acc.2) _ _ _ ?_ ?_
    · exact gv_xget (gv_cget h ⟨hj, hji, by omega⟩) ⟨by omega, by omega⟩
    rintro ⟨sm, w⟩ t ht hw
    have ht' := mem_intRange.1 ht
    exact gv_xget (gv_cget hw ⟨hj, by omega, by omega⟩) ⟨by omega, by omega⟩

/-- a negative `m_perm[i]` is only met at the second row of a pair (`hpre` is the tiling read from the right), so column `i-1` exists -/
theorem bwdLoop_gv {n : Int} {p : Array Int} (cj : α → α) (fuel : Nat) (i : Int) (v : Sv α) (h : GV n p v) (hin : i ≤ n - 2)
    (hpre : Pre (fun j => p.getD j.toNat 0) (i + 1)) : GV n p (bwdLoop cj fuel i v) := by
  induction fuel generalizing i v with
  | zero => exact h
  | succ fuel ih =>
    unfold bwdLoop
    split
    · rename_i hi0
      rw [h.n]
      dsimp only
      have c1 := colDot_gv (i := i) (j := i) (ldim := n - i - 1) cj h hi0 (by omega) (by omega)
      generalize colDot cj v i i (n - i - 1) = cd at c1 ⊢
      obtain ⟨hv2, hpi⟩ := gv_pget (i := i) (gv_xset (a := (cd.2.xget i).1 - cd.1) (gv_xget c1 ⟨hi0, by omega⟩) ⟨hi0, by omega⟩) ⟨hi0, by omega⟩
      rw [hpi]
      rcases hpre.inv_succ hi0 with ⟨h1, h2⟩ | ⟨h1, _, h3⟩
      · rw [if_neg (not_lt.2 h1)]
        exact ih _ _ hv2 (by omega) (by rw [Int.sub_add_cancel]; exact h2)
      · rw [if_pos h1]
        have := h3.nonneg
        have c2 := colDot_gv (i := i) (j := i - 1) (ldim := n - i - 1) cj hv2 (by omega) (by omega) (by omega)
        exact ih _ _ (gv_xset (gv_xget c2 ⟨by omega, by omega⟩) ⟨by omega, by omega⟩) (by omega)
          (by rw [show i - 2 + 1 = i - 1 by ring]; exact h3)
    · exact h

/-- Index safety of `solve_inplace` on ANY factorization state that is legal so far, whose `m_perm` is tiled by 1x1 and 2x2 blocks
    and whose compressed permutation was made from that `m_perm` — whatever produced it. -/
theorem solve_inplace_ok {n : Int} {f : Fact α} (h : f.Ok n) (hn : 1 ≤ n) (cj : α → α) (sol : α → α → α → α → α → α × α) (b : Array α) :
    (solve_inplace cj sol f b).s.ok = true := by
  have hpc := h.permc_range
  have hg := h.good
  obtain ⟨_, htl, hpre, _, _⟩ := h.pinv
  have hpcr : ∀ ab ∈ f.permc.reverse, 0 ≤ ab.1 ∧ ab.1 < n ∧ 0 ≤ ab.2 ∧ ab.2 < n := fun ab h => hpc ab (List.mem_reverse.1 h)
  have hlast := Pre.inv_succ (pf := fun j => f.s.perm.getD j.toNat 0) (i := n - 1) (by rw [Int.sub_add_cancel]; exact hpre) (by omega)
  unfold solve_inplace
  rw [hg.1]
  dsimp only
  obtain ⟨hv2, -⟩ := gv_pget (i := n - 1) (applyPermc_gv f.permc (p := f.s.perm) (v := ⟨b, f.s⟩) (Inv.of_good hg) hpc) ⟨by omega, by omega⟩
  generalize ((applyPermc ({ x := b, s := f.s } : Sv α) f.permc).pget (n - 1)).1 = pl
  have v3 := fwdLoop_gv n.toNat 0 (if pl < 0 then n - 3 else n - 2) _ hv2 (le_refl _) (by split <;> omega)
  obtain ⟨hw2, hpl2⟩ := gv_pget (i := n - 1) (diagLoop_gv sol n.toNat 0 _ v3 (le_refl _) htl) ⟨by omega, by omega⟩
  rw [hpl2]
  refine (applyPermc_gv (p := f.s.perm) f.permc.reverse ?_ hpcr).ok
  rcases hlast with ⟨h1, h2⟩ | ⟨h1, _, h3⟩
  · rw [if_neg (not_lt.2 h1)]
    exact bwdLoop_gv cj _ _ _ hw2 (le_refl _) (by rw [show n - 2 + 1 = n - 1 by ring]; exact h2)
  · rw [if_pos h1]
    exact bwdLoop_gv cj _ _ _ hw2 (by omega) (by rw [show n - 3 + 1 = n - 1 - 1 by ring]; exact h3)

end Skel

end
end BKLDLT
