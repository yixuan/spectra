/-
  C08 — DoubleShiftQR similarity, part C: the invariant of `update_block` and of the block loop of `compute`.

  `Inv n H0 m shape st`: after the reflectors `0 … m−1` have been stored, `m_mat_H = (P₀ ⋯ P_{m−1})ᵀ H0 (P₀ ⋯ P_{m−1})`
  (with the CURRENT tables, whose columns `< m` are final), `m_mat_H` has the given shape, and every stored reflector `< m` is
  the identity or a unit vector on its live rows.

  * `step_inv`      one reflector step advances the invariant and moves the bulge window
  * `Inv.step`      every step of `update_block` (`C08Steps.IsStep`) advances the invariant with the shape `shapeAt`
  * `ub_inv`        `update_block(il, iu)`, every block size: from `Inv il Hes` to `Inv (iu+1) Hes` (`C08Steps.update_block_rule`)
  * `BlockExact`    the hypothesis under which this holds: no argument of a `compute_reflector` call of the block lies in the
                    underflow window (nonzero but below `m_near_0`)
-/
import SpectraVerif.Proofs.C08DsqrSimB

namespace C08DsqrSim
open Lin C08DsqrQ C08DsqrMatrix
open QRModel.DoubleShiftQR
open Matrix
open C08HessMatrix (toM)

variable {K : Type} [Field K] [LinearOrder K] [IsStrictOrderedRing K] (F : FieldFns K)

theorem ReflOK.mono {n iu iu' : Nat} {u : Mat K} {nr : Array Nat} {j : Nat} (h : ReflOK F n iu u nr j) (hle : iu ≤ iu') :
    ReflOK F n iu' u nr j :=
  ⟨h.1.mono (Nat.succ_le_succ hle), h.2⟩

def Inv (n : Nat) (H0 : Matrix (Fin n) (Fin n) K) (m : Nat) (shape : Matrix (Fin n) (Fin n) K → Prop) (st : St K) : Prop :=
  Good n st ∧ toM F n n st.1 = (Qd F n st.2.1 st.2.2 m)ᵀ * H0 * Qd F n st.2.1 st.2.2 m ∧ shape (toM F n n st.1) ∧
  ∀ j, j < m → ReflOK F n (n - 1) st.2.1 st.2.2 j

theorem Inv.shape {n : Nat} {H0 : Matrix (Fin n) (Fin n) K} {m : Nat} {sh1 sh2 : Matrix (Fin n) (Fin n) K → Prop} {st : St K}
    (h : Inv F n H0 m sh1 st) (hs : sh1 (toM F n n st.1) → sh2 (toM F n n st.1)) : Inv F n H0 m sh2 st :=
  ⟨h.1, h.2.1, hs h.2.2.1, h.2.2.2⟩

/-- one reflector step advances the invariant -/
theorem step_inv (hsq : ∀ x : K, 0 ≤ x → F.sqrt x * F.sqrt x = x ∧ 0 ≤ F.sqrt x) (hcut : C08Refl.cutoff F ≤ 0)
    (hmin : 0 < F.minPos) (Zb : Nat → Prop) (il iu n : Nat) (H0 : Matrix (Fin n) (Fin n) K) (st : St K) (x1 x2 x3 : K)
    (k c nrowP ncolP nrowX ncolX : Nat) (hinv : Inv F n H0 k (Sh Zb iu c k) st)
    (hk : k + 1 ≤ iu) (hiu : iu < n) (hilc : il ≤ c) (hck : c ≤ k)
    (hZiu : Zb (iu + 1)) (hZin : ∀ z, Zb z → z ≤ il ∨ iu < z)
    (hex : ExactIn F x2 x3)
    (hm : x3 ≠ 0 → nrowP = 3 ∧ ncolX = 3 ∧ k + 2 ≤ iu)
    (hcol : c + ncolP = n) (hrowX : nrowX = min iu (k + 3) + 1)
    (hlow : ∀ b l, b < c → k ≤ l → Low Zb l b)
    (hx : c < k → c + 1 = k ∧ mget F st.1 k c = x1 ∧ mget F st.1 (k + 1) c = x2 ∧
      (k + 2 < n → mget F st.1 (k + 2) c = x3))
    (st' : St K) (hst' : st' = rstep F st x1 x2 x3 k c nrowP ncolP nrowX ncolX) :
    Inv F n H0 (k + 1) (Sh Zb iu k (k + 1)) st' := by
  obtain ⟨hg, hsim, hsh, hrefl⟩ := hinv
  obtain ⟨g', hcol', hr', hsim', hsh'⟩ := rstep_spec F hsq hcut hmin Zb il iu n st hg x1 x2 x3 k c nrowP ncolP nrowX ncolX
    hk hiu hilc hck hZiu hZin hex hm hcol hrowX hlow hsh hx st' hst'
  have hQ : Qd F n st'.2.1 st'.2.2 k = Qd F n st.2.1 st.2.2 k :=
    Qd_congr F n k (fun j hj => ⟨hcol' j (by omega) (by omega), (hrefl j hj).1.2.1⟩)
  refine ⟨g', ?_, hsh', ?_⟩
  · rw [hsim', hsim, Qd_succ, hQ, Matrix.transpose_mul, Pm_symm]
    simp only [Matrix.mul_assoc]
  · intro j hj
    rcases Nat.lt_or_ge j k with h | h
    · exact (hrefl j h).congr F (hcol' j (by omega) (by omega))
    · have : j = k := by omega
      subst this
      exact hr'.mono F (by omega)

/-! ### the bulge-chase loop -/

/-- the state after `m` iterations of the chase loop -/
def chaseSt (n il bsize : Nat) (st : St K) (m : Nat) : St K :=
  (List.range m).foldl (fun st k => C08Nr.cs F n il bsize st (k + 1)) st

theorem chaseSt_zero (n il bsize : Nat) (st : St K) : chaseSt F n il bsize st 0 = st := rfl

/-- the `compute_reflector` arguments of the first `m` chase iterations are not in the underflow window -/
def ChaseExact (n il bsize : Nat) (st : St K) (m : Nat) : Prop :=
  ∀ j, j < m → ExactIn F (mget F (chaseSt F n il bsize st j).1 (il + (j + 1) + 1) (il + (j + 1) - 1))
    (mget F (chaseSt F n il bsize st j).1 (il + (j + 1) + 2) (il + (j + 1) - 1))

/-! ### `update_block` -/

/-- first reflector of a block of size ≥ 3 -/
def ubFirst (n : Nat) (s t : K) (st : St K) (il iu : Nat) : St K :=
  rstep F st
    (C08Local.fc0 F (mget F st.1 il il) (mget F st.1 il (il + 1)) (mget F st.1 (il + 1) il) s t)
    (C08Local.fc1 F (mget F st.1 il il) (mget F st.1 (il + 1) il) (mget F st.1 (il + 1) (il + 1)) s)
    (C08Local.fc2 F (mget F st.1 (il + 2) (il + 1)) (mget F st.1 (il + 1) il))
    il il 3 (n - il) (il + min (iu - il + 1) 4) 3

/-- the state after the chase loop of a block of size ≥ 3 -/
def ubChase (n : Nat) (s t : K) (st : St K) (il iu : Nat) : St K :=
  chaseSt F n il (iu - il + 1) (ubFirst F n s t st il iu) (iu - il + 1 - 3)

/-- no argument of a `compute_reflector` call made by `update_block(il, iu)` on the state `st` lies in the underflow window -/
def BlockExact (n : Nat) (s t : K) (st : St K) (il iu : Nat) : Prop :=
  (iu - il + 1 = 2 →
    ExactIn F (C08Local.fc1 F (mget F st.1 il il) (mget F st.1 (il + 1) il) (mget F st.1 (il + 1) (il + 1)) s) (C08Nr.z0 F)) ∧
  (3 ≤ iu - il + 1 →
    ExactIn F (C08Local.fc1 F (mget F st.1 il il) (mget F st.1 (il + 1) il) (mget F st.1 (il + 1) (il + 1)) s)
      (C08Local.fc2 F (mget F st.1 (il + 2) (il + 1)) (mget F st.1 (il + 1) il)) ∧
    ChaseExact F n il (iu - il + 1) (ubFirst F n s t st il iu) (iu - il + 1 - 3) ∧
    ExactIn F (mget F (ubChase F n s t st il iu).1 iu (iu - 2)) (C08Nr.z0 F))

/-- closing a block: `m_ref_nr[iu] = 1` stores the identity at `iu` -/
theorem inv_close (n : Nat) (H0 : Matrix (Fin n) (Fin n) K) (sh : Matrix (Fin n) (Fin n) K → Prop) (iu : Nat)
    (hiu : iu < n) (st : St K) (hinv : Inv F n H0 iu sh st) :
    Inv F n H0 (iu + 1) sh (C08Steps.endStep st iu) := by
  obtain ⟨H, u, nr⟩ := st
  show Inv F n H0 (iu + 1) sh (H, u, nr.setIfInBounds iu 1)
  obtain ⟨hg, hsim, hsh, hrefl⟩ := hinv
  obtain ⟨wH, rH, cH, wu, ru, cu, snr⟩ := hg
  simp only [] at wH rH cH wu ru cu snr hsim hsh hrefl
  have hce : ∀ j, j ≠ iu → ColEq F u nr u (nr.setIfInBounds iu 1) j := by
    intro j hj
    exact ⟨by rw [C08Mat.getD_set, if_neg (by omega)], rfl, rfl, rfl⟩
  have hv : (nr.setIfInBounds iu 1).getD iu 0 = 1 := by rw [C08Mat.getD_set, if_pos ⟨rfl, by omega⟩]
  have hQ : Qd F n u (nr.setIfInBounds iu 1) iu = Qd F n u nr iu :=
    Qd_congr F n iu (fun j hj => ⟨hce j (by omega), (hrefl j hj).1.2.1⟩)
  refine ⟨⟨wH, rH, cH, wu, ru, cu, by simp only []; rw [Array.size_setIfInBounds]; exact snr⟩, ?_, hsh, ?_⟩
  · simp only []
    rw [Qd_succ, hQ, Pm_one F n u _ iu hv, Matrix.mul_one]
    exact hsim
  · intro j hj
    simp only []
    rcases Nat.lt_or_ge j iu with h | h
    · exact (hrefl j h).congr F (hce j (by omega))
    · have : j = iu := by omega
      subst this
      exact ⟨by unfold Live; omega, by rw [Pm_one F n u _ j hv, Matrix.mul_one]⟩

theorem z0_exact (hmin : 0 < F.minPos) : C08Nr.z0 F = 0 := C08Nr.z0_eq F

open C08Steps (Op IsStep BlockGuard first3 chaseRun update_block_rule)

/-- `BlockExact` is the guard of `C08Steps.update_block_rule` for `ExactIn` (the two descriptions of the states agree definitionally) -/
theorem BlockExact.guard {n : Nat} {s t : K} {st : St K} {il iu : Nat} (h : BlockExact F n s t st il iu) :
    @BlockGuard K _ _ _ _ _ (scOfField F) (ExactIn F) n s t st il iu := by
  have e1 : ubFirst F n s t st il iu = @Op.run K _ _ _ _ _ (scOfField F) (@first3 K _ _ _ (scOfField F) n s t il iu) st := rfl
  have e2 : ∀ S m, chaseSt F n il (iu - il + 1) S m = @chaseRun K _ _ _ _ _ (scOfField F) n il iu S m := fun _ _ => rfl
  unfold BlockExact ubChase ChaseExact at h
  rw [e1] at h
  simp only [e2] at h
  exact h

/-- the shape of `m_mat_H` when `update_block(il, iu)` is about to write index `k`: block Hessenberg at both ends, in between the
    bulge sits in column `k − 1` -/
def shapeAt (Zb : Nat → Prop) (il iu k : Nat) {n : Nat} (M : Matrix (Fin n) (Fin n) K) : Prop :=
  ((k = il ∨ k = iu + 1) → Hes Zb M) ∧ (il < k → k ≤ iu → Sh Zb iu (k - 1) k M)

/-- one step of `update_block` advances the invariant: a reflector step is `step_inv` (it moves the bulge one column down), the closing
    step `inv_close` (the window is empty by then) -/
theorem Inv.step (hsq : ∀ x : K, 0 ≤ x → F.sqrt x * F.sqrt x = x ∧ 0 ≤ F.sqrt x) (hcut : C08Refl.cutoff F ≤ 0)
    (hmin : 0 < F.minPos) (Zb : Nat → Prop) (n : Nat) (H0 : Matrix (Fin n) (Fin n) K) (s t : K) (il iu : Nat)
    (hiu : iu < n) (hZil : Zb il) (hZiu : Zb (iu + 1)) (hZin : ∀ z, Zb z → z ≤ il ∨ iu < z)
    {k : Nat} {o : Op K} (ho : @IsStep K _ _ _ (scOfField F) n s t il iu k o) {st : St K}
    (hex : o.Guard (ExactIn F) st) (hinv : Inv F n H0 k (shapeAt Zb il iu k) st) :
    Inv F n H0 (k + 1) (shapeAt Zb il iu (k + 1)) (@Op.run K _ _ _ _ _ (scOfField F) o st) := by
  have hz0 := C08Nr.z0_eq F
  have hlowil : ∀ b l, b < il → il ≤ l → Low Zb l b := fun b l hb hl => Or.inr ⟨il, hZil, hb, hl⟩
  cases ho with
  | first2 e =>
    refine (step_inv F hsq hcut hmin Zb il iu n H0 st _ _ _ il il 2 (n - il) (il + 2) 2
      (hinv.shape F (fun h => Hes_Sh Zb iu il il (h.1 (Or.inl rfl)))) (by omega) hiu (Nat.le_refl _) (Nat.le_refl _) hZiu hZin hex
      (fun h => absurd hz0 h) (by omega) (by omega) hlowil (fun h => absurd h (Nat.lt_irrefl _)) _ rfl).shape F
      (fun h => ⟨fun hh => by omega, fun _ _ => h⟩)
  | first3 h3 =>
    refine (step_inv F hsq hcut hmin Zb il iu n H0 st _ _ _ il il 3 (n - il) (il + min (iu - il + 1) 4) 3
      (hinv.shape F (fun h => Hes_Sh Zb iu il il (h.1 (Or.inl rfl)))) (by omega) hiu (Nat.le_refl _) (Nat.le_refl _) hZiu hZin hex
      (fun _ => ⟨rfl, rfl, h3⟩) (by omega) (by omega) hlowil (fun h => absurd h (Nat.lt_irrefl _)) _ rfl).shape F
      (fun h => ⟨fun hh => by omega, fun _ _ => h⟩)
  | chase i h1 h2 =>
    refine (step_inv F hsq hcut hmin Zb il iu n H0 st _ _ _ (il + i) (il + i - 1) 3 (n - il - i + 1)
      (il + min (iu - il + 1) (i + 4)) 3
      (hinv.shape F (fun h => h.2 (by omega) (by omega))) (by omega) hiu (by omega) (by omega) hZiu hZin hex
      (fun _ => ⟨rfl, rfl, h2⟩) (by omega) (by omega) (fun b l hb hl => Or.inl (by omega))
      (fun _ => ⟨by omega, rfl, rfl, fun _ => rfl⟩) _ rfl).shape F
      (fun h => ⟨fun hh => by omega, fun _ _ => by rwa [Nat.add_sub_cancel]⟩)
  | last h3 =>
    have hsh : Sh Zb iu (iu - 1 - 1) (iu - 1) (toM F n n st.1) := hinv.2.2.1.2 (by omega) (by omega)
    have hx3 : iu - 1 + 2 < n → mget F st.1 (iu - 1 + 2) (iu - 2) = C08Nr.z0 F := by
      intro hh
      have := hsh ⟨iu - 1 + 2, hh⟩ ⟨iu - 2, by omega⟩ (Or.inl (by simp only []; omega)) (by simp only []; omega)
      rw [toM_get] at this
      rw [hz0]; exact this
    have h := step_inv F hsq hcut hmin Zb il iu n H0 st _ _ _ (iu - 1) (iu - 2) 2 (n - iu + 2) (il + (iu - il + 1)) 2
      (hinv.shape F (fun _ => by rw [show iu - 2 = iu - 1 - 1 by omega]; exact hsh)) (by omega) hiu (by omega) (by omega) hZiu hZin hex
      (fun h => absurd hz0 h) (by omega) (by omega) (fun b l hb hl => Or.inl (by omega))
      (fun _ => ⟨by omega, rfl, by rw [show iu - 1 + 1 = iu by omega], hx3⟩) _ rfl
    exact h.shape F (fun h => ⟨fun hh => by omega, fun _ _ => by rwa [Nat.add_sub_cancel]⟩)
  | close hle =>
    have hH : Inv F n H0 iu (Hes Zb) st := hinv.shape F (fun h => by
      rcases Nat.eq_or_lt_of_le hle with e | hlt
      · exact h.1 (Or.inl e.symm)
      · exact Sh_Hes Zb il iu (iu - 1) iu _ hZin (by omega) (by omega) (h.2 hlt (Nat.le_refl _)))
    exact (inv_close F n H0 _ iu hiu st hH).shape F (fun h => ⟨fun _ => h, fun _ hh => absurd hh (by omega)⟩)

/-- `update_block(il, iu)` advances the invariant over the whole block, for every block size -/
theorem ub_inv (hsq : ∀ x : K, 0 ≤ x → F.sqrt x * F.sqrt x = x ∧ 0 ≤ F.sqrt x) (hcut : C08Refl.cutoff F ≤ 0)
    (hmin : 0 < F.minPos) (Zb : Nat → Prop) (n : Nat) (H0 : Matrix (Fin n) (Fin n) K) (s t : K) (st : St K) (il iu : Nat)
    (hle : il ≤ iu) (hiu : iu < n) (hZil : Zb il) (hZiu : Zb (iu + 1)) (hZin : ∀ z, Zb z → z ≤ il ∨ iu < z)
    (hinv : Inv F n H0 il (Hes Zb) st) (hex : BlockExact F n s t st il iu) :
    Inv F n H0 (iu + 1) (Hes Zb) (C08Nr.ub F n s t st il iu) :=
  (@update_block_rule K _ _ _ _ _ (scOfField F) (ExactIn F) n s t il iu hle
    (fun k st' _ => Inv F n H0 k (shapeAt Zb il iu k) st')
    (fun _ _ _ _ ho hg hp => Inv.step F hsq hcut hmin Zb n H0 s t il iu hiu hZil hZiu hZin ho hg hp) st st (hex.guard F)
    (hinv.shape F (fun h => ⟨fun _ => h, fun hh => absurd hh (Nat.lt_irrefl _)⟩))).shape F (fun h => h.1 (Or.inr rfl))

end C08DsqrSim
