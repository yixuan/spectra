/-
  C09: entry-level statements of the whole-run decomposition of `TridiagEigen::compute`, what a deflation pass
  does to each sub-diagonal entry, the exact corollary (`T₀ Z = Z D` when nothing non-zero was dropped) and its shape for
  `HermSolver.eigH` (the `eig_spec` field of `C01E.ExactKernels`).
-/
import SpectraVerif.Proofs.C09SimT
import SpectraVerif.Model.HermSolver

set_option linter.unusedSectionVars false

namespace C09Sim
open Lin TridiagEigen C09Loop C09Orth Finset
open C08Mat (vset_size vget_vset_eq vget_vset_ne)

/-- the symmetric tridiagonal matrix with diagonal `d` and sub-diagonal `e` -/
def tridiag {R : Type} [Zero R] (d e : ℕ → R) : ℕ → ℕ → R := fun i j =>
  if i = j then d i else if i = j + 1 then e j else if j = i + 1 then e i else 0

theorem band_tridiag {R : Type} [CommRing R] (d e : ℕ → R) : band d e 0 0 = tridiag d e := by
  funext i j; simp only [band, tridiag, ite_self]

section field
variable {K : Type} [Field K] [LinearOrder K] [IsStrictOrderedRing K] (F : FieldFns K)

/-- the deflation test on one entry: the entry is kept, or it is replaced by `0` and then it passed one of the two tests -/
theorem deflateEntry_cases (caz pinv di di1 si : K) :
    let _ : Sc K := scOfField F
    deflateEntry caz pinv di di1 si = si ∨
      (deflateEntry caz pinv di di1 si = 0 ∧ (|si| ≤ caz ∨ (pinv * si) * (pinv * si) ≤ |di| + |di1|)) := by
  intro _
  simp only [deflateEntry, ScF.le, ScF.abs, decide_eq_true_eq, zero, ScF.ofInt, Int.cast_zero]
  split
  · rename_i h; right; exact ⟨rfl, Or.inl h⟩
  · split
    · rename_i h; right; exact ⟨rfl, Or.inr h⟩
    · left; rfl

/-- entries of the sub-diagonal after `for (i = start; i < end; i++)` of the deflation pass -/
theorem deflatePass_get (caz pinv : K) (start end_ : Nat) (d s : Vec K) (hsz : end_ ≤ s.size) (j : Nat) :
    let _ : Sc K := scOfField F
    vget (deflatePass caz pinv start end_ d s) j =
      if start ≤ j ∧ j < end_ then deflateEntry caz pinv (vget d j) (vget d (j + 1)) (vget s j) else vget s j := by
  intro _
  simp only [deflatePass]
  refine ((ListFold.foldl_range_inv (fun m acc => acc.size = s.size ∧ ∀ j, vget acc j =
      if start ≤ j ∧ j < start + m then deflateEntry caz pinv (vget d j) (vget d (j + 1)) (vget s j) else vget s j) _
    (end_ - start) s ⟨rfl, fun j => (if_neg (by omega)).symm⟩ (by
      rintro m acc hm ⟨hsz', hg⟩
      refine ⟨by rw [vset_size, hsz'], fun j => ?_⟩
      by_cases hj : j = start + m
      · subst hj
        rw [vget_vset_eq _ _ (by rw [hsz']; omega), hg (start + m), if_neg (by omega), if_pos (by omega)]
      · rw [vget_vset_ne _ _ hj, hg j]
        by_cases h1 : start ≤ j ∧ j < start + m
        · rw [if_pos h1, if_pos (by omega)]
        · rw [if_neg h1, if_neg (by omega)])).2 j).trans ?_
  simp only [show (start ≤ j ∧ j < start + (end_ - start)) ↔ (start ≤ j ∧ j < end_) by omega]

/-- a matrix as an entry function (`0` outside the `n × n` block) -/
def toFn (n : Nat) (M : Matrix (Fin n) (Fin n) K) : ℕ → ℕ → K := fun i j => if h : i < n ∧ j < n then M ⟨i, h.1⟩ ⟨j, h.2⟩ else 0

theorem toFn_pos (n : Nat) (M : Matrix (Fin n) (Fin n) K) (i j : Nat) (hi : i < n) (hj : j < n) : toFn n M i j = M ⟨i, hi⟩ ⟨j, hj⟩ := by
  simp only [toFn]; rw [dif_pos ⟨hi, hj⟩]

theorem toFn_neg (n : Nat) (M : Matrix (Fin n) (Fin n) K) (i j : Nat) (h : ¬ (i < n ∧ j < n)) : toFn n M i j = 0 := by
  simp only [toFn]; rw [dif_neg h]

/-- **`c09_trideig_decomp`, entry form.** -/
theorem compute_decomp (hu : UnitRot F) (hmin : 0 < F.minPos) (n : Nat) (hn : 0 < n) (d e : Vec K) (hd : d.size = n)
    (he : e.size = n - 1) (r : Decomp K) (hok : @compute K _ _ _ _ _ (scOfField F) n d e = Res.ok r) :
    let _ : Sc K := scOfField F
    ∃ P : ℕ → ℕ → K, (∀ i j, P i j = P j i) ∧ (∀ i j, i < n → j < n → |P i j| ≤ 2 * totalDrop F n d e) ∧
      (∀ i j, i < n → j < n →
        ∑ a ∈ range n, (tridiag (vget d) (vget e) i a - P i a) * r.evecs.get a j = r.evecs.get i j * vget r.evals j) ∧
      (∀ i j, i < n → j < n →
        ∑ a ∈ range n, (tridiag (vget d) (vget e) i a - P i a) * r.evecs.get a j = vget r.evals j * r.evecs.get i j) := by
  intro _
  obtain ⟨Pm, hPs, hPb, hdec, _, _⟩ := compute_sim F hu hmin n hn d e hd he r hok
  refine ⟨toFn n Pm, ?_, ?_, ?_⟩
  · intro i j
    by_cases h : i < n ∧ j < n
    · rw [toFn_pos n Pm i j h.1 h.2, toFn_pos n Pm j i h.2 h.1]
      have := congrFun (congrFun hPs ⟨j, h.2⟩) ⟨i, h.1⟩
      simpa [Matrix.transpose_apply] using this
    · rw [toFn_neg n Pm i j h, toFn_neg n Pm j i (by tauto)]
  · intro i j hi hj
    rw [toFn_pos n Pm i j hi hj]; exact hPb _ _
  · have main : ∀ i j, i < n → j < n →
        ∑ a ∈ range n, (tridiag (vget d) (vget e) i a - toFn n Pm i a) * r.evecs.get a j = r.evecs.get i j * vget r.evals j := by
      intro i j hi hj
      have := congrFun (congrFun hdec ⟨i, hi⟩) ⟨j, hj⟩
      rw [Matrix.mul_diagonal] at this
      simp only [Matrix.mul_apply, Matrix.sub_apply, mat, Matrix.of_apply, band_tridiag] at this
      rw [← this, ← Fin.sum_univ_eq_sum_range (fun a => (tridiag (vget d) (vget e) i a - toFn n Pm i a) * r.evecs.get a j) n]
      apply Finset.sum_congr rfl
      intro a _
      rw [toFn_pos n Pm i a.val hi a.isLt]
    exact ⟨main, fun i j hi hj => by rw [main i j hi hj, mul_comm]⟩

/-- **exact corollary**: if the perturbation budget is `0` (the tiny-matrix exit was not taken on a non-zero input and every
    deflation only overwrote entries that already were `0`), then `T₀ Z = Z D` exactly: every column of `Z` is an eigenvector -/
theorem compute_exact (hu : UnitRot F) (hmin : 0 < F.minPos) (n : Nat) (hn : 0 < n) (d e : Vec K) (hd : d.size = n)
    (he : e.size = n - 1) (r : Decomp K) (hok : @compute K _ _ _ _ _ (scOfField F) n d e = Res.ok r)
    (h0 : totalDrop F n d e = 0) :
    let _ : Sc K := scOfField F
    ∀ i j, i < n → j < n →
      ∑ a ∈ range n, tridiag (vget d) (vget e) i a * r.evecs.get a j = vget r.evals j * r.evecs.get i j := by
  intro _
  obtain ⟨P, _, hb, _, hdec⟩ := compute_decomp F hu hmin n hn d e hd he r hok
  intro i j hi hj
  rw [← hdec i j hi hj]
  apply Finset.sum_congr rfl
  intro a ha
  have := hb i a hi (Finset.mem_range.mp ha)
  rw [h0, mul_zero] at this
  rw [abs_nonpos_iff.mp this, sub_zero]

theorem vget_vofFn_oob (n : Nat) (f : Nat → K) (i : Nat) (hi : n ≤ i) : @vget K (scOfField F) (vofFn n f) i = 0 :=
  ScF.vget_oob F _ (by rw [C08Mat.size_vofFn]; exact hi)

/-- **the `eig_spec` obligation of `C01E.ExactKernels` for `HermSolver.eigH`** (exact arithmetic, ideal rotations, zero perturbation
    budget): every returned column `y = cols[j]` satisfies `H y = θ y` for the symmetric tridiagonal `H` read from the
    factorization (diagonal `H(i,i)`, sub-diagonal `H(i+1,i)`), `θ = evals[j]`, and `lastRow[j]` is its last coordinate. -/
theorem eigH_spec (hu : UnitRot F) (hmin : 0 < F.minPos) (ncv : Nat) (hn : 0 < ncv) (st : Arnoldi.State K)
    (evals lastRow : List K) (cols : List (Vec K))
    (h : @HermSolver.eigH K _ _ _ _ _ (scOfField F) ncv st = .ok (evals, lastRow, cols))
    (h0 : totalDrop F ncv (vofFn ncv (fun i => @Mat.get K (scOfField F) st.H i i))
      (vofFn (ncv - 1) (fun i => @Mat.get K (scOfField F) st.H (i + 1) i)) = 0) :
    let _ : Sc K := scOfField F
    ∀ j, j < ncv →
      (∀ i, i < ncv → ∑ a ∈ range ncv, tridiag (fun i => st.H.get i i) (fun i => st.H.get (i + 1) i) i a * vget (cols.getD j (vzero ncv)) a
          = evals.getD j zero * vget (cols.getD j (vzero ncv)) i) ∧
      lastRow.getD j zero = vget (cols.getD j (vzero ncv)) (ncv - 1) := by
  intro _
  simp only [HermSolver.eigH] at h
  split at h
  · cases h
  · rename_i r hr
    cases h
    have hex := compute_exact F hu hmin ncv hn _ _ (by simp [vofFn]) (by simp [vofFn]) r hr h0
    have hco := compute_orth F hu ncv hn _ _ r hr
    obtain ⟨hw, hrows, hcols, _⟩ := hco
    simp only at hex
    intro j hj
    have hcol : ∀ a, a < ncv → vget (((List.range ncv).map (fun j => r.evecs.col j)).getD j (vzero ncv)) a = r.evecs.get a j := by
      intro a ha
      rw [List.getD_eq_getElem?_getD, List.getElem?_map, List.getElem?_range hj]
      simp only [Option.map_some, Option.getD_some, Mat.col]
      rw [hrows]; exact ListFold.vget_vofFn ncv _ a ha
    have hev : r.evals.toList.getD j zero = vget r.evals j := by
      simp [vget, List.getD_eq_getElem?_getD, Array.getD_eq_getD_getElem?]
    refine ⟨fun i hi => ?_, ?_⟩
    · rw [hev, hcol i hi, ← hex i j hi hj]
      apply Finset.sum_congr rfl
      intro a ha
      have ha' := Finset.mem_range.mp ha
      rw [hcol a ha']
      congr 1
      simp only [tridiag]
      by_cases c1 : i = a
      · rw [if_pos c1, if_pos c1]; exact (ListFold.vget_vofFn ncv (fun i => st.H.get i i) i hi).symm
      · rw [if_neg c1, if_neg c1]
        by_cases c2 : i = a + 1
        · rw [if_pos c2, if_pos c2]; exact (ListFold.vget_vofFn (ncv - 1) (fun i => st.H.get (i + 1) i) a (by omega)).symm
        · rw [if_neg c2, if_neg c2]
          by_cases c3 : a = i + 1
          · rw [if_pos c3, if_pos c3]; exact (ListFold.vget_vofFn (ncv - 1) (fun i => st.H.get (i + 1) i) i (by omega)).symm
          · rw [if_neg c3, if_neg c3]
    · rw [hcol (ncv - 1) (by omega), List.getD_eq_getElem?_getD, List.getElem?_map, List.getElem?_range hj]
      rfl

end field
end C09Sim
