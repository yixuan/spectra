/-
  Lemmas for C15 (Davidson): Gram matrix of Ritz vectors.
-/
import SpectraVerif.Proofs.C15Lemmas
import Mathlib.Algebra.BigOperators.Group.List.Basic
import Mathlib.Tactic.Ring

namespace C15L
open Dav

variable {R M : Type} [CommRing R] [AddCommGroup M] [Module R M]
variable {K : Kern R M} {A : M →ₗ[R] M}

/-! ### symmetric bilinear form, orthonormal lists, Gram lemma -/

/-- a symmetric bilinear form on `M` (e.g. the Euclidean dot product of `Fin n → R`) -/
structure IsSymBilin (ip : M → M → R) : Prop where
  add_left : ∀ u v w, ip (u + v) w = ip u w + ip v w
  smul_left : ∀ (c : R) u w, ip (c • u) w = c * ip u w
  symm : ∀ u v, ip u v = ip v u

theorem IsSymBilin.zero_left {ip : M → M → R} (h : IsSymBilin ip) (w : M) : ip 0 w = 0 := by
  have := h.smul_left 0 0 w; simpa using this
theorem IsSymBilin.zero_right {ip : M → M → R} (h : IsSymBilin ip) (w : M) : ip w 0 = 0 := by
  rw [h.symm]; exact h.zero_left w
theorem IsSymBilin.add_right {ip : M → M → R} (h : IsSymBilin ip) (u v w : M) : ip w (u + v) = ip w u + ip w v := by
  rw [h.symm, h.add_left, h.symm u, h.symm v]
theorem IsSymBilin.smul_right {ip : M → M → R} (h : IsSymBilin ip) (c : R) (u w : M) : ip w (c • u) = c * ip w u := by
  rw [h.symm, h.smul_left, h.symm]

theorem isSymBilin_mul : IsSymBilin (fun x y : ℤ => x * y) :=
  ⟨fun u v w => add_mul u v w, fun c u w => mul_assoc c u w, fun u v => mul_comm u v⟩

/-- mutually orthogonal unit vectors -/
def ON (ip : M → M → R) (B : List M) : Prop := B.Pairwise (fun u v => ip u v = 0) ∧ ∀ u ∈ B, ip u u = 1

/-- Euclidean dot product of two coefficient lists -/
def sdot (ys zs : List R) : R := (List.zipWith (· * ·) ys zs).sum

open Lobpcg (sumZip sumZip_cons sumZip_nil_left sumZip_nil_right)

theorem ip_sumZip_zero {ip : M → M → R} (h : IsSymBilin ip) (u : M) (B : List M)
    (hu : ∀ v ∈ B, ip u v = 0) (zs : List R) : ip u (sumZip zs B) = 0 := by
  induction B generalizing zs with
  | nil => rw [sumZip_nil_right]; exact h.zero_right u
  | cons b B ih =>
    cases zs with
    | nil => rw [sumZip_nil_left]; exact h.zero_right u
    | cons z zs =>
      rw [sumZip_cons, h.add_right, h.smul_right, hu b (List.mem_cons_self ..), ih (fun v hv => hu v (List.mem_cons_of_mem _ hv)) zs]
      simp

/-- Gram lemma: for an orthonormal list `B`, `(B y) · (B z) = y · z` -/
theorem gram_sumZip (ip : M → M → R) (h : IsSymBilin ip) (B : List M) (hB : ON ip B) (ys zs : List R)
    (hy : ys.length = B.length) (hz : zs.length = B.length) :
    ip (sumZip ys B) (sumZip zs B) = sdot ys zs := by
  induction B generalizing ys zs with
  | nil => cases ys <;> simp_all [sdot, h.zero_left]
  | cons b B ih =>
    match ys, zs, hy, hz with
    | y :: ys, z :: zs, hy, hz =>
      obtain ⟨hb, hpw'⟩ := List.pairwise_cons.mp hB.1
      have ih' := ih ⟨hpw', fun u hu => hB.2 u (List.mem_cons_of_mem _ hu)⟩ ys zs (by simpa using hy) (by simpa using hz)
      -- the two cross terms vanish because `b` is orthogonal to every column of `B`
      simp only [sumZip_cons, h.add_left, h.add_right, h.smul_left, h.smul_right, hB.2 b (List.mem_cons_self ..),
        ip_sumZip_zero h b B hb, h.symm _ b, ih', sdot, List.zipWith_cons_cons, List.sum_cons]
      ring

theorem gram (ip : M → M → R) (h : IsSymBilin ip) (hL : Linear K A) (B : List M) (hB : ON ip B) (ys zs : List R)
    (hy : ys.length = B.length) (hz : zs.length = B.length) :
    ip (lincomb K ys B) (lincomb K zs B) = sdot ys zs := by
  rw [lincomb_eq hL, lincomb_eq hL, gram_sumZip ip h B hB ys zs hy hz]

end C15L
