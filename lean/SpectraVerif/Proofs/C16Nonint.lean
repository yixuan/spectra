/-
  C16: `PartialSVDSolver::compute` calls `m_eigs->init()` itself, so — by the non-interference theorem of the inner solver (C06) —
  its outcome and everything the inner solver hands out afterwards are independent of the object's history.  Together with
  `c16_latest` this says: the factors are exactly what a FRESH solver returns for the same arguments
  (the predicate the harness evaluates on the real class).
-/
import SpectraVerif.Proofs.OrchNonint
import SpectraVerif.Proofs.C16Model

namespace SVD
open Lin

section
variable {φ α ε κ β τ : Type} [Add α] [Sub α] [Mul α] [Div α] [Neg α] [Sc α]
variable (K : Orch.Kern φ α ε κ β τ (Vec α)) (c : Orch.Cfg) (v0 : β) {R : φ → φ → Prop}

omit [Add α] [Sub α] [Mul α] [Div α] [Neg α] [Sc α] in
theorem compute_history_independent (hK : Orch.Respects K R) (maxit : Nat) (tol : τ) (s1 s2 : St φ α ε κ) :
    (compute K c v0 maxit tol s1).2 = (compute K c v0 maxit tol s2).2 ∧
    (∀ r, (compute K c v0 maxit tol s1).2 = .ok r →
      Orch.eigenvalues K c (compute K c v0 maxit tol s1).1.eigs = Orch.eigenvalues K c (compute K c v0 maxit tol s2).1.eigs ∧
      ∀ nvec, Orch.eigenvectors K c nvec (compute K c v0 maxit tol s1).1.eigs =
              Orch.eigenvectors K c nvec (compute K c v0 maxit tol s2).1.eigs) := by
  obtain ⟨hs, he⟩ := Orch.init_sim K c hK v0 s1.eigs s2.eigs
  unfold compute
  rcases h1 : Orch.init K c v0 s1.eigs with ⟨e1, x1⟩
  rcases h2 : Orch.init K c v0 s2.eigs with ⟨e2, x2⟩
  rw [h1, h2] at hs he
  dsimp only at hs he
  subst he
  cases x1 with
  | some x => exact ⟨rfl, fun r h => by simp at h⟩
  | none =>
    dsimp only
    obtain ⟨hst, hout, _, _, _⟩ := Orch.compute_sim K c hK LARGEST_ALGE maxit tol LARGEST_ALGE e1 e2 hs
    cases ho1 : (Orch.compute K c LARGEST_ALGE maxit tol LARGEST_ALGE e1).out with
    | error x =>
      have ho2 : (Orch.compute K c LARGEST_ALGE maxit tol LARGEST_ALGE e2).out = .error x := by rw [← hout, ho1]
      rw [ho2]
      exact ⟨rfl, fun r h => by simp at h⟩
    | ok n =>
      have ho2 : (Orch.compute K c LARGEST_ALGE maxit tol LARGEST_ALGE e2).out = .ok n := by rw [← hout, ho1]
      rw [ho2]
      refine ⟨rfl, fun r _ => ?_⟩
      dsimp only
      exact ⟨(Orch.accessors_sim K c hK _ _ hst 0).1, fun nvec => (Orch.accessors_sim K c hK _ _ hst nvec).2.1⟩

end
end SVD
