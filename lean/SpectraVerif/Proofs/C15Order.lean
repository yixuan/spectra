/-
  Lemmas for C15 (Davidson): `RitzPairs::sort` orders the pairs by the selection rule.  Reuses the C18 theorems about the
  translated `Gen.Sort.argsort` (exact arithmetic = any linearly ordered field).
-/
import SpectraVerif.Properties.C18
import SpectraVerif.Model.Davidson
import SpectraVerif.Proofs.ScField
import SpectraVerif.Proofs.ListFold
import Mathlib.Data.List.Nodup

namespace C15L
open Dav Gen.Sort

section
variable {F : Type} [Field F] [LinearOrder F] [IsStrictOrderedRing F] (Fn : FieldFns F)

/-- the value function `Exec.argsortList` hands to the translated `argsort` -/
def valsFn (vals : List F) : Int → F :=
  fun i => if i < 0 then @Lin.zero F (scOfField Fn) else vals.toArray.getD i.toNat (@Lin.zero F (scOfField Fn))

theorem baseOrder_length (sel : Int) (values : Int → F) (n : Nat) : (C18.baseOrder Fn sel values n).length = n := by
  have := (C18.c18_perm_base Fn sel values n).length_eq
  rw [this, intRange_length]; omega

theorem baseOrder_mem (sel : Int) (values : Int → F) (n : Nat) (b : Int) (hb : b ∈ C18.baseOrder Fn sel values n) :
    0 ≤ b ∧ b < n := by
  have := (C18.c18_perm_base Fn sel values n).mem_iff.mp hb
  exact mem_intRange.mp this

/-- the index list `[ind 0, …, ind (n-1)]` the models of C15 and C16 build from the translated `argsort` is the C18 base order
    (every rule the dispatcher knows other than BothEnds, which reorders the base order afterwards) -/
theorem argsort_indices (sel : Int) (values : Int → F) (n : Nat) (hr : argsort_rule sel ≠ -1) (h8 : sel ≠ 8) :
    ∃ ind, @argsort F _ _ _ _ _ (scOfField Fn) sel values n = Res.ok ind ∧
      (List.range n).map (fun (i : Nat) => (ind (i : Int)).toNat) = (C18.baseOrder Fn sel values n).map Int.toNat := by
  obtain ⟨ind, hind, hval⟩ := C18.c18_argsort_value Fn sel values n hr
  refine ⟨ind, hind, ?_⟩
  rw [← ListFold.map_range_getD_map _ Int.toNat 0 n (baseOrder_length Fn sel _ _)]
  apply List.map_congr_left
  intro i hi
  have hi' : i < n := List.mem_range.mp hi
  have := hval (i : Int) (by omega) (by omega)
  simp only [h8, if_false] at this
  rw [this]; simp

/-- for the four rules of the symmetric solvers `argsortList` is the C18 base order -/
theorem argsortList_eq (sel : Int) (vals : List F) (h : sel = 0 ∨ sel = 3 ∨ sel = 4 ∨ sel = 7) :
    @Exec.argsortList F _ _ _ _ _ (scOfField Fn) sel vals
      = (C18.baseOrder Fn sel (valsFn Fn vals) vals.length).map Int.toNat := by
  obtain ⟨ind, hind, hmap⟩ := argsort_indices Fn sel (valsFn Fn vals) vals.length
    ((C18.c18_dispatch_real sel).mpr (by rcases h with h | h | h | h <;> simp [h])) (by rcases h with h | h | h | h <;> omega)
  unfold Exec.argsortList
  simp only
  -- the lambda is `valsFn Fn vals` unfolded
  rw [show @argsort F _ _ _ _ _ (scOfField Fn) sel
      (fun i => if i < 0 then @Lin.zero F (scOfField Fn) else vals.toArray.getD i.toNat (@Lin.zero F (scOfField Fn))) vals.length
      = Res.ok ind from hind]
  exact hmap

/-- the values of the pairs selected along an index list all of whose entries are valid -/
theorem values_along {ν : Type} (pairs : List (Pair F ν)) (l : List Int) (hl : ∀ b ∈ l, 0 ≤ b ∧ b < (pairs.length : Int)) :
    ((l.map Int.toNat).filterMap (fun i => pairs[i]?)).map (fun p => p.value)
      = l.map (valsFn Fn (pairs.map (fun p => p.value))) := by
  induction l with
  | nil => rfl
  | cons b l ih =>
    have hb := hl b (List.mem_cons_self ..)
    have hlt : b.toNat < pairs.length := by omega
    have ih' := ih (fun x hx => hl x (List.mem_cons_of_mem _ hx))
    simp only [List.map_cons, List.filterMap_cons, List.getElem?_eq_getElem hlt]
    rw [ih']
    congr 1
    have hneg : ¬ (b < 0) := by omega
    simp only [valsFn, hneg, if_false]
    simp [hlt]

/-- `RitzPairs::sort(selection)` with the library's `argsort`: the values come out ordered by the rule -/
theorem sortPairs_ordered {ν : Type} (K : Kern F ν) (hK : K.argsort = @Exec.argsortList F _ _ _ _ _ (scOfField Fn))
    (sel : Int) (h : sel = 0 ∨ sel = 3 ∨ sel = 4 ∨ sel = 7) (s : St F ν) :
    ((sortPairs K sel s).pairs.map (fun p => p.value)).Pairwise (fun x y =>
      (sel = 0 → |y| ≤ |x|) ∧ (sel = 3 → y ≤ x) ∧ (sel = 4 → |x| ≤ |y|) ∧ (sel = 7 → x ≤ y)) := by
  unfold sortPairs
  simp only
  rw [hK, argsortList_eq Fn sel _ h]
  have hlen : (s.pairs.map (fun p => p.value)).length = s.pairs.length := List.length_map _
  rw [hlen]
  rw [values_along Fn s.pairs _ (fun b hb => baseOrder_mem Fn sel _ _ b hb)]
  have hs := C18.c18_sorted Fn sel (valsFn Fn (s.pairs.map (fun p => p.value))) s.pairs.length
  rw [List.pairwise_map]
  refine List.Pairwise.imp ?_ hs
  intro a b hab
  exact ⟨hab.1, fun h3 => hab.2.1 (Or.inl h3), hab.2.2.1, hab.2.2.2⟩

/-- the translated `argsort` repeats no index (hypothesis `ArgsortSpec` of the orthonormality theorem) -/
theorem argsortList_nodup (sel : Int) (vals : List F) (h : sel = 0 ∨ sel = 3 ∨ sel = 4 ∨ sel = 7) :
    (@Exec.argsortList F _ _ _ _ _ (scOfField Fn) sel vals).Nodup := by
  rw [argsortList_eq Fn sel vals h]
  have hp := C18.c18_perm_base Fn sel (valsFn Fn vals) vals.length
  have hnd : (C18.baseOrder Fn sel (valsFn Fn vals) vals.length).Nodup := by
    rw [hp.nodup_iff]
    unfold intRange
    refine List.Nodup.map ?_ List.nodup_range
    intro a b hab; simpa using hab
  refine List.Nodup.map_on ?_ hnd
  intro a ha b hb hab
  have h1 := baseOrder_mem Fn sel _ _ a ha
  have h2 := baseOrder_mem Fn sel _ _ b hb
  omega

/-- ... and `RitzPairs::sort` keeps the number of pairs (hypothesis `LenSpec.sort` of the bookkeeping theorem) -/
theorem sortPairs_length {ν : Type} (K : Kern F ν) (hK : K.argsort = @Exec.argsortList F _ _ _ _ _ (scOfField Fn))
    (sel : Int) (h : sel = 0 ∨ sel = 3 ∨ sel = 4 ∨ sel = 7) (ps : List (Pair F ν)) :
    ((K.argsort sel (ps.map (fun p => p.value))).filterMap (fun i => ps[i]?)).length = ps.length := by
  rw [hK, argsortList_eq Fn sel _ h]
  have hlen : (ps.map (fun p => p.value)).length = ps.length := List.length_map _
  rw [hlen]
  have hv := values_along Fn ps (C18.baseOrder Fn sel (valsFn Fn (ps.map (fun p => p.value))) ps.length)
    (fun b hb => baseOrder_mem Fn sel _ _ b hb)
  have := congrArg List.length hv
  simp only [List.length_map] at this
  rw [this, baseOrder_length]

end
/-! ### the repaired DPR correction `(tmp == 0).select(0, residue / tmp)` over a linearly ordered
  field.  "Finite for every theta" is expressed without any model of IEEE infinities/NaN: the result does not depend on
  what a division by zero evaluates to. -/
section dpr
open Dav.Exec Lin
variable {F : Type} [Field F] [LinearOrder F] [IsStrictOrderedRing F] (Fn : FieldFns F)

/-- the correction computed with an ARBITRARY division function that agrees with the field's on non-zero denominators
    (whatever it returns for `x / 0`: NaN, ±inf, …) equals the correction computed with the field's division -/
theorem dprColumn_indep (dv : F → F → F) (hdv : ∀ a b : F, b ≠ 0 → dv a b = a / b) (diag : Vec F) (θ : F) (r : Vec F) :
    @dprColumn F _ ⟨dv⟩ (scOfField Fn) diag θ r = @dprColumn F _ _ (scOfField Fn) diag θ r := by
  unfold dprColumn vofFn
  apply congrArg
  funext i
  by_cases h : θ - @vget F (scOfField Fn) diag i.val = 0
  · simp [Lin.zero, h]
  · simp only [ScF.eq, Lin.zero, ScF.ofInt, Int.cast_zero, h, decide_false, Bool.false_eq_true, if_false]
    exact hdv _ _ h

/-- entries of the repaired correction: the DPR quotient where `theta ≠ a_ii`, zero elsewhere -/
theorem dprColumn_entry (diag : Vec F) (θ : F) (r : Vec F) (i : Nat) (hi : i < diag.size) :
    @vget F (scOfField Fn) (@dprColumn F _ _ (scOfField Fn) diag θ r) i
      = if θ - @vget F (scOfField Fn) diag i = 0 then 0
        else @vget F (scOfField Fn) r i / (θ - @vget F (scOfField Fn) diag i) := by
  unfold dprColumn vofFn vget
  simp [hi, Lin.zero]

end dpr

end C15L
