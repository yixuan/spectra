/-
  C09 helper lemmas about the loop structure of the TridiagEigen / UpperHessenbergSchur models.
  Everything here holds for an ARBITRARY scalar type and an arbitrary `Sc` instance: floating comparisons are arbitrary
  boolean functions (DESIGN §3.2), no arithmetic law is used.
-/
import SpectraVerif.Model.HessEigen
import SpectraVerif.Proofs.ListFold
import SpectraVerif.Proofs.LinLemmas

set_option linter.unusedSectionVars false

namespace C09Loop
open Lin TridiagEigen C08Mat
variable {α : Type} [Add α] [Sub α] [Mul α] [Div α] [Neg α] [Sc α]

/-- a loop `for (i = k-1; i >= 0; i--)` given by its trips: what every trip carries from `i + 1` to `i` holds at `0` in the end -/
theorem countdown {σ : Type} (inner step : Nat → σ → σ) (h0 : ∀ st, inner 0 st = st)
    (hs : ∀ i st, inner (i + 1) st = inner i (step i st)) (P : Nat → σ → Prop) (hP : ∀ i st, P (i + 1) st → P i (step i st))
    (k : Nat) (st : σ) (h : P k st) : P 0 (inner k st) := by
  induction k generalizing st with
  | zero => rw [h0]; exact h
  | succ i ih => rw [hs]; exact ih _ (hP i st h)

/-- the sub-diagonal test the C++ uses: `subdiag[j] == 0` -/
def eqz (s : Vec α) (j : Nat) : Prop := Sc.eq (vget s j) (zero : α) = true

theorem ite_vset_size (p : Prop) [Decidable p] (v : Vec α) (i : Nat) (x : α) : (if p then vset v i x else v).size = v.size := by
  split <;> simp [vset]

/-- a guarded store `if (p) v[i] = x;` is invisible at every index it does not write -/
theorem vget_ite_vset_ne (p : Prop) [Decidable p] (v : Vec α) (i j : Nat) (x : α) (h : p → i ≠ j) :
    vget (if p then vset v i x else v) j = vget v j := by
  split
  · rename_i hp; exact vget_vset_ne v x (h hp).symm
  · rfl

/-- one trip of the Givens loop writes the sub-diagonal only at `k`, at `k-1` when `start < k` and at `k+1` when `k+1 < end` -/
theorem qrBody_sub_other (n start end_ k : Nat) (st : QRSt α) (j : Nat) (h1 : k ≠ j) (h2 : start < k → k - 1 ≠ j)
    (h3 : k + 1 < end_ → k + 1 ≠ j) : vget (qrBody n start end_ k st).sub j = vget st.sub j := by
  simp only [qrBody]
  rw [vget_ite_vset_ne _ _ _ _ _ h3, vget_ite_vset_ne _ _ _ _ _ h2, vget_vset_ne _ _ h1.symm]

theorem qrBody_sub_ge (n start end_ k : Nat) (st : QRSt α) (hk : k < end_) (j : Nat) (hj : end_ ≤ j) :
    vget (qrBody n start end_ k st).sub j = vget st.sub j :=
  qrBody_sub_other n start end_ k st j (by omega) (by omega) (by omega)

theorem qrLoop_sub_ge (n start end_ : Nat) (f k : Nat) (st : QRSt α) (j : Nat) (hj : end_ ≤ j) :
    vget (qrLoop n start end_ f k st).sub j = vget st.sub j := by
  fun_induction qrLoop n start end_ f k st with
  | case1 => rfl
  | case2 f k st h ih =>
    have hk : k < end_ := by simp only [Bool.and_eq_true, decide_eq_true_eq] at h; exact h.1
    rw [ih, qrBody_sub_ge n start end_ k st hk j hj]
  | case3 => rfl

theorem qrStep_sub_ge (n start end_ : Nat) (d s : Vec α) (q : Mat α) (j : Nat) (hj : end_ ≤ j) :
    vget (qrStep n start end_ d s q).sub j = vget s j := by
  simp only [qrStep]; rw [qrLoop_sub_ge _ _ _ _ _ _ j hj]

/-- the deflation pass writes only at indices in `[start, end)` -/
theorem deflatePass_ge (caz pinv : α) (start end_ : Nat) (d s : Vec α) (j : Nat) (hj : end_ ≤ j) :
    vget (deflatePass caz pinv start end_ d s) j = vget s j := by
  simp only [deflatePass]
  exact ListFold.foldl_range_inv (fun _ acc => vget acc j = vget s j) _ _ s rfl
    (fun i acc hi h => (vget_vset_ne _ _ (by omega)).trans h)

theorem deflatePass_size (caz pinv : α) (start end_ : Nat) (d s : Vec α) : (deflatePass caz pinv start end_ d s).size = s.size := by
  simp only [deflatePass]
  exact ListFold.foldl_range_inv (fun _ acc => acc.size = s.size) _ _ s rfl (fun i acc _ h => (vset_size _ _ _).trans h)

theorem shrinkEnd_le (s : Vec α) (e : Nat) : shrinkEnd s e ≤ e := by
  fun_induction shrinkEnd s e with
  | case1 => exact Nat.le_refl 0
  | case2 e _ ih => exact Nat.le_succ_of_le ih
  | case3 => exact Nat.le_refl _

/-- every entry skipped by `while (end > 0 && subdiag[end-1] == 0) end--` tested equal to zero -/
theorem shrinkEnd_zero (s : Vec α) (e j : Nat) (h1 : shrinkEnd s e ≤ j) (h2 : j < e) : eqz s j := by
  fun_induction shrinkEnd s e with
  | case1 => omega
  | case2 e hz ih =>
    by_cases hje : j = e
    · subst hje; exact hz
    · exact ih h1 (by omega)
  | case3 => omega

/-- invariant of the outer loop: everything at or beyond `end` (below `B`) tests equal to zero -/
def Inv (B end_ : Nat) (s : Vec α) : Prop := ∀ j, end_ ≤ j → j < B → eqz s j

/-- the trailing zeros survive the deflation pass and reach down to the new `end` -/
theorem inv_shrink (B : Nat) (caz pinv : α) (start end_ : Nat) (d s : Vec α) (h : Inv B end_ s) :
    Inv B (shrinkEnd (deflatePass caz pinv start end_ d s) end_) (deflatePass caz pinv start end_ d s) := by
  intro j hj hb
  by_cases hje : j < end_
  · exact shrinkEnd_zero _ end_ j hj hje
  · rw [eqz, deflatePass_ge caz pinv start end_ d s j (Nat.le_of_not_lt hje)]; exact h j (Nat.le_of_not_lt hje) hb

theorem inv_qrStep (B n start end_ : Nat) (d s : Vec α) (q : Mat α) (h : Inv B end_ s) : Inv B end_ (qrStep n start end_ d s q).sub :=
  fun j hj hb => by rw [eqz, qrStep_sub_ge n _ _ _ _ _ j hj]; exact h j hj hb

/-- **exit condition of the tridiagonal main loop.**  If the loop is left through `end <= 0` then every sub-diagonal entry
    (below the bound `B`) tests equal to zero in the final state. -/
theorem mainLoop_done (n B : Nat) (caz pinv : α) (f end_ start iter : Nat) (d s : Vec α) (q : Mat α)
    (hinv : Inv B end_ s) (hd : (mainLoop n caz pinv f end_ start iter d s q).exit = Exit.done) :
    ∀ j, j < B → eqz (mainLoop n caz pinv f end_ start iter d s q).sub j := by
  fun_induction mainLoop n caz pinv f end_ start iter d s q with
  | case1 => cases hd
  | case2 => exact fun j => hinv j (Nat.zero_le j)
  | case3 f end_ start iter d s q he s' end' he2 =>
    have := inv_shrink B caz pinv start end_ d s hinv
    rw [show shrinkEnd (deflatePass caz pinv start end_ d s) end_ = 0 from he2] at this
    exact fun j => this j (Nat.zero_le j)
  | case4 => cases hd
  | case5 f end_ start iter d s q he s' end' he2 iter' hcap start' st ih =>
    exact ih (inv_qrStep B n _ _ d _ q (inv_shrink B caz pinv start end_ d s hinv)) hd

/-- the loop is left through the cap only with `iter > 30 n` -/
theorem mainLoop_capped (n : Nat) (caz pinv : α) (f end_ start iter : Nat) (d s : Vec α) (q : Mat α)
    (hc : (mainLoop n caz pinv f end_ start iter d s q).exit = Exit.capped) :
    30 * n < (mainLoop n caz pinv f end_ start iter d s q).iter := by
  fun_induction mainLoop n caz pinv f end_ start iter d s q with
  | case1 => cases hc
  | case2 => cases hc
  | case3 => cases hc
  | case4 => rename_i hcap; exact hcap
  | case5 => rename_i ih; exact ih hc

/-- the recursion budget of the model is never the reason for leaving the loop: the cap `iter > 30 n` stops it after at most `30 n + 1`
    trips, the fuel `TridiagEigen.core` starts with -/
theorem mainLoop_fuel (n : Nat) (caz pinv : α) (f end_ start iter : Nat) (d s : Vec α) (q : Mat α)
    (h1 : iter ≤ 30 * n) (h2 : 30 * n + 1 ≤ iter + f) :
    (mainLoop n caz pinv f end_ start iter d s q).exit ≠ Exit.fuel := by
  fun_induction mainLoop n caz pinv f end_ start iter d s q with
  | case1 => omega
  | case2 => exact fun h => nomatch h
  | case3 => exact fun h => nomatch h
  | case4 => exact fun h => nomatch h
  | case5 f end_ start iter d s q he s' end' he2 iter' hcap start' st ih =>
    have : iter' = iter + 1 := rfl
    exact ih (by omega) (by omega)

end C09Loop

namespace C09LoopSchur
open HessSchur
variable {α : Type} [Add α] [Sub α] [Mul α] [Div α] [Neg α] [Sc α]

/-- Schur main loop: left through the cap only with `total_iter > 40 n` -/
theorem mainLoop_capped (n : Nat) (near0 : α) (f m iter total : Nat) (ex : α) (s : TU α)
    (hc : (mainLoop n near0 f m iter total ex s).exit = Exit.capped) :
    40 * n < (mainLoop n near0 f m iter total ex s).total := by
  fun_induction mainLoop n near0 f m iter total ex s with
  | case1 => cases hc
  | case2 => cases hc
  | case3 => rename_i ih; exact ih hc
  | case4 => rename_i ih; exact ih hc
  | case5 => rename_i hcap; exact hcap
  | case6 => rename_i ih; exact ih hc

/-- Schur main loop: the budget never runs out: `m` drops at a deflation, `total` rises at a sweep and is capped by `40 n`, so
    `m + (40 n − total) + 1` trips suffice (`HessSchur.core` starts with `41 n + 1`) -/
theorem mainLoop_fuel (n : Nat) (near0 : α) (f m iter total : Nat) (ex : α) (s : TU α)
    (h1 : total ≤ 40 * n) (h2 : m + (40 * n - total) + 1 ≤ f) :
    (mainLoop n near0 f m iter total ex s).exit ≠ Exit.fuel := by
  fun_induction mainLoop n near0 f m iter total ex s with
  | case1 => omega
  | case2 => exact fun h => nomatch h
  | case3 => rename_i ih; exact ih h1 (by omega)
  | case4 => rename_i ih; exact ih h1 (by omega)
  | case5 => exact fun h => nomatch h
  | case6 f m iter total ex s hm iu il _ _ t ex' sh hcs iter' total' hcap im v0 v1 v2 hfr ih =>
    have : total' = total + 1 := rfl
    exact ih (by omega) (by omega)

end C09LoopSchur
