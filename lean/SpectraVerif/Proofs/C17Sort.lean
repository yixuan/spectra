/-
  `sort_epairs` of `LOBPCGSolver` over a linear order (`std::less` = `ltDec`): with pairwise distinct keys the `std::map` it builds is
  sorted and a permutation of the input.
-/
import SpectraVerif.Model.LOBPCG
import Mathlib.Order.Basic
import Mathlib.Data.List.Perm.Basic
import Mathlib.Data.List.Nodup

namespace Lobpcg
variable {α β : Type} [LinearOrder α]

/-- `std::less` on a linear order -/
def ltDec (a b : α) : Bool := decide (a < b)

theorem insertKey_lt (k k' : α) (v v' : β) (t : List (α × β)) (h : k < k') :
    insertKey ltDec k v ((k', v') :: t) = (k, v) :: (k', v') :: t := by
  simp [insertKey, ltDec, h]
theorem insertKey_gt (k k' : α) (v v' : β) (t : List (α × β)) (h : k' < k) :
    insertKey ltDec k v ((k', v') :: t) = (k', v') :: insertKey ltDec k v t := by
  simp [insertKey, ltDec, h, not_lt.mpr (le_of_lt h)]
theorem insertKey_eq (k : α) (v v' : β) (t : List (α × β)) :
    insertKey ltDec k v ((k, v') :: t) = (k, v') :: t := by
  simp [insertKey, ltDec]

theorem insertKey_mem (k : α) (v : β) (m : List (α × β)) (p : α × β) (h : p ∈ insertKey ltDec k v m) :
    p = (k, v) ∨ p ∈ m := by
  induction m with
  | nil => simp [insertKey] at h; exact Or.inl h
  | cons q t ih =>
    obtain ⟨k', v'⟩ := q
    rcases lt_trichotomy k k' with hlt | rfl | hgt
    · rw [insertKey_lt _ _ _ _ _ hlt] at h
      simp only [List.mem_cons] at h ⊢; tauto
    · rw [insertKey_eq] at h; exact Or.inr h
    · rw [insertKey_gt _ _ _ _ _ hgt] at h
      simp only [List.mem_cons] at h ⊢
      rcases h with h | h
      · exact Or.inr (Or.inl h)
      · rcases ih h with h | h
        · exact Or.inl h
        · exact Or.inr (Or.inr h)

theorem insertKey_sorted (k : α) (v : β) (m : List (α × β)) (h : m.Pairwise (fun p q => p.1 < q.1)) :
    (insertKey ltDec k v m).Pairwise (fun p q => p.1 < q.1) := by
  induction m with
  | nil => simp [insertKey]
  | cons q t ih =>
    obtain ⟨k', v'⟩ := q
    rw [List.pairwise_cons] at h
    rcases lt_trichotomy k k' with hlt | rfl | hgt
    · rw [insertKey_lt _ _ _ _ _ hlt, List.pairwise_cons]
      refine ⟨?_, List.pairwise_cons.mpr h⟩
      intro p hp
      rcases List.mem_cons.mp hp with rfl | hp
      · exact hlt
      · exact lt_trans hlt (h.1 p hp)
    · rw [insertKey_eq]; exact List.pairwise_cons.mpr h
    · rw [insertKey_gt _ _ _ _ _ hgt, List.pairwise_cons]
      refine ⟨?_, ih h.2⟩
      intro p hp
      rcases insertKey_mem k v t p hp with rfl | hp
      · exact hgt
      · exact h.1 p hp

theorem insertKey_perm (k : α) (v : β) (m : List (α × β)) (hk : ∀ p ∈ m, p.1 ≠ k) :
    (insertKey ltDec k v m).Perm ((k, v) :: m) := by
  induction m with
  | nil => simp [insertKey]
  | cons q t ih =>
    obtain ⟨k', v'⟩ := q
    have hne : k' ≠ k := hk (k', v') (by simp)
    rcases lt_trichotomy k k' with hlt | rfl | hgt
    · rw [insertKey_lt _ _ _ _ _ hlt]
    · exact absurd rfl hne
    · rw [insertKey_gt _ _ _ _ _ hgt]
      have := ih (fun p hp => hk p (List.mem_cons_of_mem _ hp))
      exact (List.Perm.cons _ this).trans (List.Perm.swap _ _ _)

/-- the `std::map` built from pairs with pairwise distinct keys: strictly sorted by key and a permutation of the input -/
theorem foldl_insertKey (l : List (α × β)) (m0 : List (α × β))
    (h0 : m0.Pairwise (fun p q => p.1 < q.1)) (hn : (l.map Prod.fst).Nodup) (hd : ∀ p ∈ l, ∀ q ∈ m0, q.1 ≠ p.1) :
    let m := l.foldl (fun m p => insertKey ltDec p.1 p.2 m) m0
    m.Pairwise (fun p q => p.1 < q.1) ∧ m.Perm (l ++ m0) := by
  induction l generalizing m0 with
  | nil => simp [h0]
  | cons x xs ih =>
    simp only [List.foldl_cons]
    rw [List.map_cons, List.nodup_cons] at hn
    have hperm := insertKey_perm x.1 x.2 m0 (fun q hq => hd x (by simp) q hq)
    have := ih (insertKey ltDec x.1 x.2 m0) (insertKey_sorted _ _ _ h0) hn.2 (by
      intro p hp q hq
      rcases insertKey_mem _ _ _ _ hq with rfl | hq
      · intro he; exact hn.1 (by rw [show x.1 = p.1 from he]; exact List.mem_map_of_mem hp)
      · exact hd p (List.mem_cons_of_mem _ hp) q hq)
    refine ⟨this.1, this.2.trans ?_⟩
    have : (xs ++ insertKey ltDec x.1 x.2 m0).Perm (xs ++ (x.1, x.2) :: m0) := List.Perm.append_left _ hperm
    exact this.trans (List.perm_middle (a := x) (l₁ := xs) (l₂ := m0))

/-- `sort_epairs` with pairwise distinct eigenvalues: the values come out strictly ascending, and the (value, vector) pairs are a
    permutation of the input pairs (nothing is lost, pairing is kept) -/
theorem sortEpairs_sorted (θ : List α) (C : List β) (hl : θ.length = C.length) (hn : θ.Nodup) :
    let r := sortEpairs ltDec θ C
    r.1.Pairwise (· < ·) ∧ (r.1.zip r.2).Perm (θ.zip C) ∧ r.1.length = θ.length ∧ r.2.length = C.length := by
  have hz : ((θ.zip C).map Prod.fst) = θ := by
    rw [List.map_fst_zip]; omega
  have key := foldl_insertKey (θ.zip C) [] List.Pairwise.nil (by rw [hz]; exact hn) (by simp)
  simp only [List.append_nil] at key
  obtain ⟨hs, hp⟩ := key
  have hlen : ((θ.zip C).foldl (fun m p => insertKey ltDec p.1 p.2 m) []).length = θ.length := by
    rw [hp.length_eq, List.length_zip]; omega
  simp only [sortEpairs]
  rw [hlen]
  have d1 : θ.drop θ.length = [] := List.drop_length
  have d2 : C.drop θ.length = [] := by rw [hl]; exact List.drop_length
  rw [d1, d2, List.append_nil, List.append_nil]
  refine ⟨?_, ?_, by simp [hlen], by simp [hlen, hl]⟩
  · rw [List.pairwise_map]; exact hs
  · rw [← List.zip_of_prod (xs := List.foldl (fun m p => insertKey ltDec p.1 p.2 m) [] (θ.zip C)) rfl rfl]; exact hp

end Lobpcg
