/-
  C09: whole-run similarity of `TridiagEigen::compute` (model `TridiagEigen.compute`, field instance, ideal
  rotations, every outcome of every comparison): `(T₀ − P) Z = Z diag(evals)` with `P` symmetric and bounded entrywise by twice the
  magnitudes of the sub-diagonal entries the deflation passes overwrote.
-/
import SpectraVerif.Proofs.C09SimLoop

set_option linter.unusedSectionVars false

namespace C09Sim
open Lin TridiagEigen C09Loop C09Orth Finset
open scoped Matrix

section field
variable {K : Type} [Field K] [LinearOrder K] [IsStrictOrderedRing K] (F : FieldFns K)

theorem band_smul (c : K) (d e : ℕ → K) (i j : ℕ) :
    band (fun k => c * d k) (fun k => c * e k) 0 0 i j = c * band d e 0 0 i j := by
  rw [band_map₂ (fun x _ => c * x) (mul_zero c) d e d e 0 0 0 i j, mul_zero]

theorem mat_band_diag (n : Nat) (d e : ℕ → K) (he : ∀ k, e k = 0) :
    mat n (band d e 0 0) = Matrix.diagonal (fun i : Fin n => d i.val) := by
  obtain rfl : e = fun _ => 0 := funext he
  ext i j
  simp only [mat, Matrix.of_apply, band, ite_self, Matrix.diagonal_apply, Fin.ext_iff]

/-- the perturbation budget of a run of the scaled main loop as `compute` starts it (in units of `scale`) -/
def coreDrop (n : Nat) (d e : Vec K) : K :=
  letI : Sc K := scOfField F
  mainLoopDrop F n (Sc.minPos : K) (one / Sc.eps) (30 * n + 1) (n - 1) 0 0 (vdivs d (scaleOf d e)) (vdivs e (scaleOf d e))
    (Mat.identity n)

/-- **the perturbation budget of `compute`**: in the tiny-matrix early exit (`scale < 10·min`: the input is treated as `0`) the
    whole input, otherwise `scale ·` the sum over all deflation passes of the magnitudes of the overwritten sub-diagonal entries -/
def totalDrop (n : Nat) (d e : Vec K) : K :=
  letI : Sc K := scOfField F
  if Sc.lt (scaleOf d e) (Sc.minPos * Sc.ofInt 10 : K) then
    ∑ k ∈ range n, |vget d k| + ∑ k ∈ range (n - 1), |vget e k|
  else scaleOf d e * coreDrop F n d e

theorem core_sim (hu : UnitRot F) (n : Nat) (hn : 0 < n) (d e : Vec K) (hd : d.size = n) (he : e.size = n - 1) :
    ∃ P : Matrix (Fin n) (Fin n) K, Pᵀ = P ∧
      TInv F n (mat n (band (fun k => @vget K (scOfField F) d k / @scaleOf K (scOfField F) d e)
          (fun k => @vget K (scOfField F) e k / @scaleOf K (scOfField F) d e) 0 0) - P)
        (@core K _ _ _ _ _ (scOfField F) n d e).diag (@core K _ _ _ _ _ (scOfField F) n d e).sub
        (@core K _ _ _ _ _ (scOfField F) n d e).q ∧
      ∀ i j, |P i j| ≤ 2 * coreDrop F n d e := by
  let _ : Sc K := scOfField F
  have h0 : TInv F n (mat n (band (fun k => vget d k / scaleOf d e) (fun k => vget e k / scaleOf d e) 0 0) - 0)
      (vdivs d (scaleOf d e)) (vdivs e (scaleOf d e)) (Mat.identity n) := by
    refine ⟨by simp [vdivs, hd], by simp [vdivs, he], colsOrth_identity F n, ?_⟩
    rw [mat_identity, Matrix.transpose_one, Matrix.one_mul, Matrix.mul_one, sub_zero]
    apply mat_congr; intro i j _ _
    simp only [band, ScF.vget_vdivs]
  obtain ⟨P, hP, hT, hb⟩ := mainLoop_sim F hu n _ (Sc.minPos : K) (one / Sc.eps) (30 * n + 1) (n - 1) 0 0 _ _ _ 0
    (Matrix.transpose_zero) h0 (by omega) (fun B j hj _ => by simpa [eqz, zero] using ScF.vget_oob F _ (by simp [vdivs, he]; omega))
  refine ⟨P, hP, hT, fun i j => ?_⟩
  have := hb i j
  simpa [coreDrop] using this

theorem band_abs_le (n : Nat) (d e : ℕ → K) (i j : ℕ) (hi : i < n) (hj : j < n) :
    |band d e 0 0 i j| ≤ ∑ k ∈ range n, |d k| + ∑ k ∈ range (n - 1), |e k| := by
  have p1 : 0 ≤ ∑ k ∈ range n, |d k| := Finset.sum_nonneg (fun _ _ => abs_nonneg _)
  have p2 : 0 ≤ ∑ k ∈ range (n - 1), |e k| := Finset.sum_nonneg (fun _ _ => abs_nonneg _)
  have h2 : ∀ k, k + 1 < n → |e k| ≤ ∑ k ∈ range (n - 1), |e k| := fun k hk =>
    Finset.single_le_sum (f := fun k => |e k|) (fun _ _ => abs_nonneg _) (Finset.mem_range.mpr (by omega))
  by_cases h : i = j
  · subst h; rw [band_diag]
    exact le_add_of_le_of_nonneg (Finset.single_le_sum (f := fun k => |d k|) (fun _ _ => abs_nonneg _) (Finset.mem_range.mpr hi)) p2
  · by_cases h' : i = j + 1
    · subst h'; rw [band_subdiag]; exact le_add_of_nonneg_of_le p1 (h2 j hi)
    · by_cases h'' : j = i + 1
      · subst h''; rw [band_symm, band_subdiag]; exact le_add_of_nonneg_of_le p1 (h2 i hj)
      · rw [band_off _ _ _ _ _ _ (by omega), abs_zero]; exact add_nonneg p1 p2

/-- **Whole-run decomposition, matrix form.**  `(T₀ − P) Z = Z D`, `ZᵀZ = ZZᵀ = 1`, `P` symmetric, `|Pᵢⱼ| ≤ 2·totalDrop`. -/
theorem compute_sim (hu : UnitRot F) (hmin : 0 < F.minPos) (n : Nat) (hn : 0 < n) (d e : Vec K) (hd : d.size = n)
    (he : e.size = n - 1) (r : Decomp K) (hok : @compute K _ _ _ _ _ (scOfField F) n d e = Res.ok r) :
    ∃ P : Matrix (Fin n) (Fin n) K, Pᵀ = P ∧ (∀ i j, |P i j| ≤ 2 * totalDrop F n d e) ∧
      (mat n (band (@vget K (scOfField F) d) (@vget K (scOfField F) e) 0 0) - P) * mat n (fun i j => @Mat.get K (scOfField F) r.evecs i j) =
        mat n (fun i j => @Mat.get K (scOfField F) r.evecs i j) * Matrix.diagonal (fun i : Fin n => @vget K (scOfField F) r.evals i.val) ∧
      (mat n (fun i j => @Mat.get K (scOfField F) r.evecs i j))ᵀ * mat n (fun i j => @Mat.get K (scOfField F) r.evecs i j) = 1 ∧
      mat n (fun i j => @Mat.get K (scOfField F) r.evecs i j) * (mat n (fun i j => @Mat.get K (scOfField F) r.evecs i j))ᵀ = 1 := by
  let _ : Sc K := scOfField F
  have horth := colsOrth_mat F n r.evecs (compute_orth F hu n hn d e r hok)
  have horth' := mul_eq_one_comm.mp horth
  simp only [compute] at hok
  split at hok
  · -- tiny-matrix early exit: everything is dropped
    rename_i hs
    cases hok
    refine ⟨mat n (band (vget d) (vget e) 0 0), ?_, ?_, ?_, horth, horth'⟩
    · ext i j; simp only [Matrix.transpose_apply, mat, Matrix.of_apply]; exact band_symm _ _ _ _ _ _
    · intro i j
      simp only [totalDrop, if_pos hs, mat, Matrix.of_apply]
      have h := band_abs_le n (vget d) (vget e) i.val j.val i.isLt j.isLt
      exact h.trans (le_mul_of_one_le_left ((abs_nonneg _).trans h) one_le_two)
    · rw [sub_self, Matrix.zero_mul]
      ext i j
      simp only [Matrix.mul_apply, Matrix.diagonal_apply, vzero, vget, zero, ScF.ofInt, Int.cast_zero, Matrix.zero_apply]
      symm; apply Finset.sum_eq_zero; intro a _
      split_ifs <;> simp
  · rename_i hs
    split at hok
    · rename_i hdone
      cases hok
      have hsc : 0 < scaleOf d e := by
        simp only [ScF.lt, ScF.minPos, ScF.ofInt, decide_eq_true_eq, not_lt] at hs
        exact lt_of_lt_of_le (mul_pos hmin (by norm_num)) hs
      have hsc0 : scaleOf d e ≠ 0 := ne_of_gt hsc
      obtain ⟨P, hP, ⟨hd', hs', orth, sim⟩, hb⟩ := core_sim F hu n hn d e hd he
      have hzero : ∀ k, vget (core n d e).sub k = 0 := by
        intro k
        by_cases hk : k < n - 1
        · have := mainLoop_done n (n - 1) (Sc.minPos : K) (one / Sc.eps) (30 * n + 1) (n - 1) 0 0 (vdivs d (scaleOf d e))
            (vdivs e (scaleOf d e)) (Mat.identity n) (fun j hj hb => by omega) (by simpa [core] using hdone) k hk
          simpa [eqz, zero, core] using this
        · exact ScF.vget_oob F _ (by rw [hs']; omega)
      rw [mat_band_diag n _ _ hzero] at sim
      generalize hQdef : mat n (fun i j => (core n d e).q.get i j) = Q at sim horth horth'
      generalize hAdef : mat n (band (fun k => vget d k / scaleOf d e) (fun k => vget e k / scaleOf d e) 0 0) = A at sim
      have hT0 : mat n (band (vget d) (vget e) 0 0) = scaleOf d e • A := by
        rw [← hAdef]; ext i j
        simp only [mat, Matrix.of_apply, Matrix.smul_apply, smul_eq_mul]
        rw [← band_smul]
        congr 1 <;> funext k <;> rw [mul_comm, div_mul_cancel₀ _ hsc0]
      have hAQ : (A - P) * Q = Q * Matrix.diagonal (fun i : Fin n => vget (core n d e).diag i.val) := by
        rw [← sim, ← Matrix.mul_assoc, ← Matrix.mul_assoc, horth', Matrix.one_mul]
      refine ⟨scaleOf d e • P, ?_, ?_, ?_, horth, horth'⟩
      · rw [Matrix.transpose_smul, hP]
      · intro i j
        rw [Matrix.smul_apply, smul_eq_mul, abs_mul, abs_of_pos hsc]
        simp only [totalDrop, if_neg hs]
        exact (mul_le_mul_of_nonneg_left (hb i j) hsc.le).trans_eq (mul_left_comm _ _ _)
      · rw [hT0, ← smul_sub, Matrix.smul_mul, hAQ, ← Matrix.mul_smul]
        rw [← Matrix.diagonal_smul]
        congr 2; funext i
        simp only [Pi.smul_apply, smul_eq_mul, LinField.vget_vscale (ScF.zero F), mul_comm]
    · cases hok

end field
end C09Sim
