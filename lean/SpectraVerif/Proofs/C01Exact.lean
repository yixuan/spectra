/-
  `ExactKernels`: the exact-arithmetic specifications of the numeric kernels that the orchestration model `Orch` calls, stated
  against an interpretation of the model's opaque types in an ordered field `F` — and the core of `c01_histories`
  (helper file of Properties/C01.lean).

  The factorization kernels are specified the way C07 proves them: each call of `facInit` keeps the invariant, each call of
  `factorize` / `restartFac` IS a finite sequence of C07 steps (extend | breakdown-continue with a zero residual | compress)
  with their side conditions, so that `C07.run_kryE` / `C07.run_R_zero` (the content of `c07_run`) give the Krylov relation after it.
  The small eigen-solver is specified by `H y = θ y` and "the estimate is the last coordinate" (C09: TridiagEigen), the
  convergence test by the code's formula, `assemble` by `x = V y`.
-/
import Mathlib.Data.Matrix.Mul
import Mathlib.Algebra.Order.Field.Basic
import SpectraVerif.Proofs.C07Run
import SpectraVerif.Proofs.C01Bridge
import SpectraVerif.Proofs.C01Matrix
import SpectraVerif.Proofs.C01Orch

set_option linter.unusedSectionVars false

open Finset Matrix

namespace C01E
open Orch C07 C01O C01B C01M

variable {φ ρ ε κ β τ ω : Type} {F : Type} [Field F] [LinearOrder F] [IsStrictOrderedRing F]

/-- the factorization satisfies the exact Krylov relation at its advertised dimension (no error columns) -/
def Good {n : ℕ} (A : (Fin n → F) →ₗ[F] (Fin n → F)) (s : C07.St F (Fin n → F)) : Prop :=
  KryE A s.V s.H s.f s.k s.R ∧ s.R = fun _ => 0

theorem good_run {n : ℕ} (A : (Fin n → F) →ₗ[F] (Fin n → F)) (s : C07.St F (Fin n → F)) (l : List (C07.Step F (Fin n → F)))
    (hok : allOk A s l) (hex : allExact A s l) (h : Good A s) : Good A (C07.run A s l) :=
  ⟨run_kryE A l s hok h.1, run_R_zero A l s hex h.2⟩

theorem good_kry {n : ℕ} (A : (Fin n → F) →ₗ[F] (Fin n → F)) (s : C07.St F (Fin n → F)) (h : Good A s) : Kry A s.V s.H s.f s.k := by
  have := h.1; rw [h.2] at this; exact (kry_iff_kryE A _ _ _ _).mpr this

/-- exact-arithmetic specifications of the kernels of `K` for the operator `M` (the matrix the solver iterates on: `A` itself
    for `SymEigsSolver`, `(A - σI)⁻¹` for `SymEigsShiftSolver`) -/
structure ExactKernels (K : Kern φ ρ ε κ β τ ω) (c : Cfg) (n : ℕ) (M : Matrix (Fin n) (Fin n) F) (eps23 : F) where
  /-- interpretation of the factorization object: `V`, `H`, `f`, `k` (and C07's error columns) -/
  abs : φ → C07.St F (Fin n → F)
  /-- `m_fac.f_norm()` -/
  fnorm : φ → F
  val : ρ → F
  est : ε → F
  /-- a Ritz vector in Krylov coordinates (only the first `ncv` coordinates matter) -/
  vec : κ → ℕ → F
  out : ω → Fin n → F
  tolv : τ → F
  /-- what the derived class does to a Ritz value in `sort_ritzpair` -/
  back : F → F
  ncv_pos : 0 < c.ncv
  nev_le : c.nev ≤ c.ncv
  /-- C07 (`c07_init`): `init` hands over a valid 1-step relation, or leaves the factorization alone when it throws -/
  init_good : ∀ v0 fac, Good (opOf M) (abs fac) → Good (opOf M) (abs (K.facInit v0 fac).fac)
  /-- C07 (`c07_extend`, `c07_breakdown` with a zero residual): `factorize_from` is a sequence of exact steps -/
  factorize_steps : ∀ a b fac, ∃ l, allOk (opOf M) (abs fac) l ∧ allExact (opOf M) (abs fac) l ∧
      abs (K.factorize a b fac).fac = C07.run (opOf M) (abs fac) l
  /-- C07 + C08 (`c07_compress`, QR helpers: `H Q = Q H⁺`, bandwidth) : the restart is a sequence of exact steps -/
  restart_steps : ∀ k vals fac, ∃ l, allOk (opOf M) (abs fac) l ∧ allExact (opOf M) (abs fac) l ∧
      abs (K.restartFac k vals fac).fac = C07.run (opOf M) (abs fac) l
  /-- `c07_dim_model`: a non-throwing `factorize_from(max(1,k), ncv)` ends at dimension `ncv` -/
  factorize_full : ∀ fac, (K.factorize (max 1 (K.facDim fac)) c.ncv fac).exn = none →
      (abs (K.factorize (max 1 (K.facDim fac)) c.ncv fac).fac).k = c.ncv
  /-- a non-throwing restart ends at dimension `ncv` again -/
  restart_full : ∀ k vals fac, k < c.ncv → (K.restartFac k vals fac).exn = none → (abs (K.restartFac k vals fac).fac).k = c.ncv
  /-- `f_norm()` is the Euclidean norm of the residual vector -/
  fnorm_spec : ∀ fac, 0 ≤ fnorm fac ∧ fnorm fac * fnorm fac = nsq (abs fac).f
  /-- C09 (TridiagEigen): every returned column is an eigenvector of the projected matrix for the returned value, and the
      "estimate" is its last coordinate -/
  eig_spec : ∀ fac evals lastRow cols, K.eig fac = .ok (evals, lastRow, cols) → ∀ j, j < c.ncv →
      (∀ i, i < c.ncv → ∑ a ∈ range c.ncv, (abs fac).H i a * vec (cols.getD j K.zeroκ) a
          = val (evals.getD j K.zeroρ) * vec (cols.getD j K.zeroκ) i) ∧
      est (lastRow.getD j K.zeroε) = vec (cols.getD j K.zeroκ) (c.ncv - 1)
  /-- C18: the selection index vector has entries `< ncv` -/
  select_lt : ∀ sel evals ind, K.select sel evals c.ncv = .ok ind → ∀ i, i < c.ncv → ind.getD i 0 < c.ncv
  /-- C18: the final sort's index vector has entries `< nev` -/
  sort_lt : ∀ rule vals ind, K.sortIdx rule vals c.nev = .ok ind → ∀ i, i < c.nev → ind.getD i 0 < c.nev
  /-- `num_converged`: a set flag means `|est| * ‖f‖ < tol * max(eps^(2/3), |θ|)` -/
  conv_spec : ∀ tol fac θ e, K.convTest tol fac θ e = true → |est e| * fnorm fac < tolv tol * max eps23 |val θ|
  /-- `eigenvectors()`: `x = V y` -/
  assemble_spec : ∀ fac y, out (K.assemble fac y) = ∑ j ∈ range c.ncv, vec y j • (abs fac).V j
  /-- the back-transformation acts entry by entry -/
  back_spec : ∀ l : List ρ, l.length = c.nev → (K.backTransform l).length = c.nev ∧
      ∀ i, i < c.nev → val ((K.backTransform l).getD i K.zeroρ) = back (val (l.getD i K.zeroρ))

variable {K : Kern φ ρ ε κ β τ ω} {c : Cfg} {n : ℕ} {M : Matrix (Fin n) (Fin n) F} {eps23 : F}

/-- `Good` is kept by each factorization kernel -/
theorem ExactKernels.factorize_good (X : ExactKernels K c n M eps23) (a b : Nat) (fac : φ) (h : Good (opOf M) (X.abs fac)) :
    Good (opOf M) (X.abs (K.factorize a b fac).fac) := by
  obtain ⟨l, hok, hex, he⟩ := X.factorize_steps a b fac
  rw [he]; exact good_run _ _ l hok hex h

theorem ExactKernels.restart_good (X : ExactKernels K c n M eps23) (k : Nat) (vals : List ρ) (fac : φ) (h : Good (opOf M) (X.abs fac)) :
    Good (opOf M) (X.abs (K.restartFac k vals fac).fac) := by
  obtain ⟨l, hok, hex, he⟩ := X.restart_steps k vals fac
  rw [he]; exact good_run _ _ l hok hex h

/-- the Krylov relation at full dimension -/
def Full (X : ExactKernels K c n M eps23) (fac : φ) : Prop := Good (opOf M) (X.abs fac) ∧ (X.abs fac).k = c.ncv

theorem mapHead_getD {α : Type} (k : Nat) (f : List α → List α) (l : List α) (d : α) (j : Nat) (hj : j < k)
    (hf : (f (l.take k)).length = k) : (mapHead k f l).getD j d = (f (l.take k)).getD j d := by
  unfold mapHead
  rw [List.take_of_length_le (by omega)]
  simp [List.getD_eq_getElem?_getD, List.getElem?_append_left (show j < (f (l.take k)).length by omega)]

/-- what C01 claims of a solver state `s`, read through `val` and `out`: every position flagged as converged holds a value `back ν`
    and a vector `x` with `‖M x − ν x‖² < (tol · max(eps23, |ν|))²` -/
def PairsOK (K : Kern φ ρ ε κ β τ ω) (c : Cfg) {n : ℕ} (M : Matrix (Fin n) (Fin n) F) (eps23 : F)
    (val : ρ → F) (back : F → F) (out : ω → Fin n → F) (tol : F) (s : St φ ρ ε κ) : Prop :=
  ∀ i ∈ convIdx c s, ∃ ν : F, val (s.ritzVal.getD i K.zeroρ) = back ν ∧
    nsq (M *ᵥ out (K.assemble s.fac (s.ritzVec.getD i K.zeroκ)) - ν • out (K.assemble s.fac (s.ritzVec.getD i K.zeroκ)))
      < (tol * max eps23 |ν|) ^ 2

/-- `fac`, read through `abs`, is an exact Krylov factorization at full dimension `ncv`, and the four kernels that READ it (`f_norm`,
    the small eigen-solver, the convergence test, `assemble`) are exact on it.  What both `ExactKernels` (on a `Full` factorization)
    and `ExactKernelsOn` (on a `FullOn` one) provide. -/
structure FullSpec (K : Kern φ ρ ε κ β τ ω) (c : Cfg) (M : Matrix (Fin n) (Fin n) F) (eps23 : F)
    (abs : φ → C07.St F (Fin n → F)) (fnorm : φ → F) (val : ρ → F) (est : ε → F) (vec : κ → ℕ → F) (out : ω → Fin n → F)
    (tolv : τ → F) (fac : φ) : Prop where
  kry : Kry (opOf M) (abs fac).V (abs fac).H (abs fac).f c.ncv
  norm : 0 ≤ fnorm fac ∧ fnorm fac * fnorm fac = nsq (abs fac).f
  eig : ∀ evals lastRow cols, K.eig fac = .ok (evals, lastRow, cols) → ∀ j, j < c.ncv →
      (∀ i, i < c.ncv → ∑ a ∈ range c.ncv, (abs fac).H i a * vec (cols.getD j K.zeroκ) a
          = val (evals.getD j K.zeroρ) * vec (cols.getD j K.zeroκ) i) ∧
      est (lastRow.getD j K.zeroε) = vec (cols.getD j K.zeroκ) (c.ncv - 1)
  conv : ∀ tol θ e, K.convTest tol fac θ e = true → |est e| * fnorm fac < tolv tol * max eps23 |val θ|
  assemble : ∀ y, out (K.assemble fac y) = ∑ j ∈ range c.ncv, vec y j • (abs fac).V j

section
variable {abs : φ → C07.St F (Fin n → F)} {fnorm : φ → F} {val : ρ → F} {est : ε → F} {vec : κ → ℕ → F} {out : ω → Fin n → F}
  {tolv : τ → F}

/-- **the residual theorem for the kernels** (the natural statement behind `c01_histories*`): on a full exact factorization every
    eigenpair `(evals p, cols p)` of the small solver that passes the convergence test is a Ritz pair with
    `‖M x − θ x‖² < (tol · max(eps23, |θ|))²`, `x = V y` -/
theorem FullSpec.pair {fac : φ} (S : FullSpec K c M eps23 abs fnorm val est vec out tolv fac) (hncv : 0 < c.ncv)
    {evals lastRow cols} (heig : K.eig fac = .ok (evals, lastRow, cols)) {p : ℕ} (hp : p < c.ncv) {tol : τ}
    (ht : K.convTest tol fac (evals.getD p K.zeroρ) (lastRow.getD p K.zeroε) = true) :
    nsq (M *ᵥ out (K.assemble fac (cols.getD p K.zeroκ)) - val (evals.getD p K.zeroρ) • out (K.assemble fac (cols.getD p K.zeroκ)))
      < (tolv tol * max eps23 |val (evals.getD p K.zeroρ)|) ^ 2 := by
  obtain ⟨hHy, hest⟩ := S.eig evals lastRow cols heig p hp
  have hct := S.conv tol _ _ ht
  rw [hest] at hct
  rw [S.assemble, ritz_residual_nat M _ _ _ c.ncv hncv S.kry _ _ hHy, nsq_smul]
  exact sq_bound _ _ _ _ S.norm.1 S.norm.2 hct

/-- **one `compute()`, any interface**: if the pre-sort factorization is a full exact one, every flagged position holds a Ritz pair
    with small residual (sort and back-transformation only permute / relabel) -/
theorem pairs_of_final {back : F → F} {Pfull : φ → Prop} {sel : Int} {tol : τ} {sorting : Int} {s' : St φ ρ ε κ}
    (hfin : FinalOf K c sel tol sorting Pfull s')
    (hS : ∀ fac, Pfull fac → FullSpec K c M eps23 abs fnorm val est vec out tolv fac)
    (hncv : 0 < c.ncv) (hnev : c.nev ≤ c.ncv)
    (hsel : ∀ sel evals ind, K.select sel evals c.ncv = .ok ind → ∀ i, i < c.ncv → ind.getD i 0 < c.ncv)
    (hsort : ∀ rule vals ind, K.sortIdx rule vals c.nev = .ok ind → ∀ i, i < c.nev → ind.getD i 0 < c.nev)
    (hback : ∀ l : List ρ, l.length = c.nev → (K.backTransform l).length = c.nev ∧
      ∀ i, i < c.nev → val ((K.backTransform l).getD i K.zeroρ) = back (val (l.getD i K.zeroρ))) :
    PairsOK K c M eps23 val back out (tolv tol) s' := by
  intro i hi
  simp only [convIdx, List.mem_filter, List.mem_range] at hi
  obtain ⟨hi, hflag⟩ := hi
  obtain ⟨s3, ind, hret, hfull, hfresh, hfac, hind, hval, hvec, hconv⟩ := hfin
  obtain ⟨evals, lastRow, cols, sidx, heig, -, hlen, hread⟩ := hret.read hnev (hsel sel)
  have hj : ind.getD i 0 < c.nev := hsort sorting _ ind hind i hi
  -- the flag is the convergence test on the pair it is handed back with
  rw [hconv, ListFold.getD_map_range _ _ _ _ hi, hfresh, convFlags, ListFold.getD_map_range _ _ _ _ hj] at hflag
  rw [hval, ListFold.getD_map_range _ _ _ _ (lt_of_lt_of_le hi hnev), if_pos hi, hvec, ListFold.getD_map_range _ _ _ _ hi, hfac]
  generalize ind.getD i 0 = j at hj hflag ⊢
  obtain ⟨hp, e_val, e_est, e_vec⟩ := hread j hj
  rw [e_val, e_est] at hflag
  refine ⟨val (evals.getD (sidx.getD j 0) K.zeroρ), ?_, by rw [e_vec]; exact (hS _ hfull).pair hncv heig hp hflag⟩
  -- the value handed back is the back-transformed Ritz value; `getD` of `take nev` is `getD` for `j < nev`
  obtain ⟨hbl, hbv⟩ := hback (s3.ritzVal.take c.nev) (by rw [List.length_take, hlen]; exact Nat.min_eq_left hnev)
  rw [mapHead_getD c.nev K.backTransform s3.ritzVal K.zeroρ j hj hbl, hbv j hj, ← e_val]
  congr 2
  simp [List.getD_eq_getElem?_getD, hj]

end

theorem ExactKernels.fullSpec (X : ExactKernels K c n M eps23) {fac : φ} (h : Full X fac) :
    FullSpec K c M eps23 X.abs X.fnorm X.val X.est X.vec X.out X.tolv fac :=
  ⟨h.2 ▸ good_kry (opOf M) _ h.1, X.fnorm_spec fac, X.eig_spec fac, fun tol => X.conv_spec tol fac, X.assemble_spec fac⟩

/-- **Core of `c01_histories`**: one `compute()` that returns normally from ANY state whose factorization satisfies the Krylov
    relation (in particular the state after any history) hands back, at every flagged position, a pair `(back ν, x)` with
    `‖M x - ν x‖² < (tol · max(eps23, |ν|))²`. -/
theorem compute_pairs (X : ExactKernels K c n M eps23) (sel : Int) (maxit : Nat) (tol : τ) (sorting : Int)
    (s : St φ ρ ε κ) (hs : Good (opOf M) (X.abs s.fac)) (r : Nat)
    (h : (compute K c sel maxit tol sorting s).out = .ok r) :
    PairsOK K c M eps23 X.val X.back X.out (X.tolv tol) (compute K c sel maxit tol sorting s).st :=
  pairs_of_final (compute_final K c (fun fac => Good (opOf M) (X.abs fac)) (Full X)
      (fun fac hg hex => ⟨X.factorize_good _ _ fac hg, X.factorize_full fac hex⟩)
      (fun _ _ _ vals fac hg hk hex => ⟨X.restart_good _ vals fac hg.1, X.restart_full _ vals fac hk hex⟩)
      sel maxit tol sorting s hs r h)
    (fun _ => X.fullSpec) X.ncv_pos X.nev_le X.select_lt X.sort_lt X.back_spec

end C01E
