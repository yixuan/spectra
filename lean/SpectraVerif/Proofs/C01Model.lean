/-
  Five of the `ExactKernels` fields discharged for the EXECUTABLE kernel record `HermSolver.hermKern` (the definitions the driver runs
  at `Float` against the real classes), for any scalar instance with exact `abs`, `<` and `ofInt 0 = 0` (in particular `scOfField`)
  (helper file of Properties/C01.lean):

    * `convTest`     is the documented flag test  `|est| * beta < tol * max(eps23, |theta|)`,
    * `backTransform` acts entry by entry and keeps the length,
    * `assemble`     is `x = V y` (`Σ_j y_j v_j`, via C07's kernel-sum lemma for `mulVecK0`),
    * `argsortIdx` (selection in `retrieve_ritzpair`) and `hermSortIdx` (final `sort_ritzpair`), wrappers around the
      source-translated `argsort`, return index vectors with all entries `< n`, for all five rules incl. the BothEnds
      interleaving (from C18; at `scOfField F`).
-/
import SpectraVerif.Properties.C18
import SpectraVerif.Model.HermSolver
import SpectraVerif.Proofs.ScField
import SpectraVerif.Proofs.C07Refine
import SpectraVerif.Proofs.C07Bridge

set_option linter.unusedSectionVars false

open Finset

namespace C01Model

variable {K : Type} [Field K] [LinearOrder K] [IsStrictOrderedRing K] [Sc K]

/-- the model's `num_converged` entry with exact `abs` and `<`: a set flag IS the documented inequality -/
theorem convTest_iff (habs : ∀ a : K, Sc.abs a = |a|) (hlt : ∀ a b : K, Sc.lt a b = decide (a < b))
    (eps23 tol : K) (s : Arnoldi.State K) (θ est : K) :
    HermSolver.convTest eps23 tol s θ est = true ↔ |est| * s.beta < tol * max eps23 |θ| := by
  unfold HermSolver.convTest
  simp only [habs, hlt, decide_eq_true_eq]
  by_cases h : |θ| < eps23
  · rw [if_pos h, max_eq_left (le_of_lt h)]
  · rw [if_neg h, max_eq_right (not_lt.mp h)]

/-- the derived class's back-transformation of the first `nev` Ritz values acts entry by entry -/
theorem back_spec (back : K → K) (d : K) (l : List K) :
    (l.map back).length = l.length ∧ ∀ i, i < l.length → (l.map back).getD i d = back (l.getD i d) := by
  refine ⟨List.length_map _, ?_⟩
  intro i hi
  simp [List.getD_eq_getElem?_getD, hi]

/-- the model's `eigenvectors()` product is `x = Σ_j y_j v_j` over the first `ncv` columns -/
theorem assemble_eq (h0 : (Sc.ofInt 0 : K) = 0) (ncv : ℕ) (s : Arnoldi.State K) (y : Lin.Vec K) (n : ℕ) (hV : s.V.rows = n) :
    C07.vecOf n (HermSolver.assemble ncv s y) = ∑ j ∈ range ncv, Lin.vget y j • C07.colOf n s.V j := by
  funext r
  have := C07R.mulVecK0_eq h0 s.V ncv y r.val (by rw [hV]; exact r.isLt)
  simp only [C07.vecOf, HermSolver.assemble, C07.colOf, Finset.sum_apply, Pi.smul_apply, smul_eq_mul]
  rw [this]
  apply Finset.sum_congr rfl; intro j _; ring

end C01Model

namespace C01Model
open Gen.Sort

section
variable {K : Type} [Field K] [LinearOrder K] [IsStrictOrderedRing K] (F : FieldFns K)

/-- every entry of the index vector the model's `argsort` wrapper returns is a valid index: `ind[i] < n` for `i < n`
    (source-translated `argsort`, all five rules incl. the BothEnds interleaving; from C18) -/
theorem argsortIdx_lt (rule : Int) (vals : List K) (n : Nat) (ind : List Nat)
    (h : @HermSolver.argsortIdx K _ _ _ _ _ (scOfField F) rule vals n = .ok ind) : ∀ i, i < n → ind.getD i 0 < n := by
  let values : Int → K := @HermSolver.listFn K (scOfField F) vals
  intro i hi
  unfold HermSolver.argsortIdx at h
  have h' : (match @argsort K _ _ _ _ _ (scOfField F) rule values (n : Int) with
        | .ok f => Except.ok ((List.range n).map (fun (i : Nat) => (f (i : Int)).toNat))
        | .throw _ => Except.error (Orch.Exn.invalidArgument "unsupported selection rule")) = Except.ok ind := h
  by_cases hr : argsort_rule rule = -1
  · -- rejected rule: the wrapper reports an error
    rw [C18.c18_argsort_throws F rule values n hr] at h'
    cases h'
  · obtain ⟨f, hf, hval⟩ := C18.c18_argsort_value F rule values n hr
    have hperm := C18.c18_perm_base F rule values n
    have hlen : (C18.baseOrder F rule values n).length = n := by
      have := hperm.length_eq
      rw [intRange_length] at this
      omega
    rw [hf] at h'
    simp only [Except.ok.injEq] at h'
    subst h'
    have gi : ((List.range n).map (fun (i : Nat) => (f (i : Int)).toNat)).getD i 0 = (f (i : Int)).toNat := by
      simp [List.getD_eq_getElem?_getD, hi]
    rw [gi]
    have fi := hval (i : Int) (by omega) (by omega)
    -- every position read is inside the base order, whose entries lie in [0, n)
    have key : ∀ p : Nat, p < n → ((C18.baseOrder F rule values n).getD p 0).toNat < n := by
      intro p hp
      have e : (C18.baseOrder F rule values n).getD p 0 = (C18.baseOrder F rule values n)[p]'(by omega) := by
        simp [List.getD_eq_getElem?_getD, hlen, hp]
      have mem : (C18.baseOrder F rule values n)[p]'(by omega) ∈ intRange 0 (n : Int) := hperm.subset (List.getElem_mem _)
      have := mem_intRange.mp mem
      rw [e]; omega
    rw [fi]
    by_cases h8 : rule = 8
    · have hk8 := key
      rw [h8] at hk8
      simp only [h8, if_true]
      by_cases hev : (i : Int) % 2 = 0
      · simp only [hev, if_true]
        have : ((i : Int) / 2).toNat < n := by omega
        exact hk8 _ this
      · simp only [hev, if_false]
        have : ((n : Int) - 1 - (i : Int) / 2).toNat < n := by omega
        exact hk8 _ this
    · simp only [h8, if_false, Int.toNat_natCast]
      exact key i hi

/-- the same for `HermEigsBase::sort_ritzpair`'s index vector (rule guard, then `argsort`) -/
theorem hermSortIdx_lt (rule : Int) (vals : List K) (n : Nat) (ind : List Nat)
    (h : @HermSolver.hermSortIdx K _ _ _ _ _ (scOfField F) rule vals n = .ok ind) : ∀ i, i < n → ind.getD i 0 < n := by
  unfold HermSolver.hermSortIdx at h
  split at h
  · cases h
  · exact argsortIdx_lt F rule vals n ind h

end
end C01Model
