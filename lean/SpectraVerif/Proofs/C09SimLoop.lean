/-
  C09: the similarity invariant `Qᵀ (A − P) Q = tridiag(diag, sub)` along the Givens loop, the QR step and the
  main loop of the TridiagEigen model (field instance, every outcome of every comparison), with the perturbation `P` accumulated
  from the sub-diagonal entries the deflation passes overwrite.
-/
import Mathlib.LinearAlgebra.Matrix.NonsingularInverse
import SpectraVerif.Proofs.C09SimBand
import SpectraVerif.Proofs.C09Orth

set_option linter.unusedSectionVars false

namespace C09Sim
open Lin EigenPrims TridiagEigen C09Loop C09Step C09Orth Finset
open C08Mat (vset_size)
open scoped Matrix

section gen
variable {α : Type} [Add α] [Sub α] [Mul α] [Div α] [Neg α] [Sc α]

theorem qrBody_diag_size (n start end_ k : Nat) (st : QRSt α) : (qrBody n start end_ k st).diag.size = st.diag.size := by
  simp only [qrBody, vset_size]

theorem qrBody_sub_size (n start end_ k : Nat) (st : QRSt α) : (qrBody n start end_ k st).sub.size = st.sub.size := by
  simp only [qrBody, ite_vset_size, vset_size]

end gen

section field
variable {K : Type} [Field K] [LinearOrder K] [IsStrictOrderedRing K] (F : FieldFns K)

/-- bulge value in front of the rotation with index `k` -/
def zbOf (start end_ k : Nat) (z : K) : K := if start < k ∧ k < end_ then z else 0

/-- invariant of the Givens loop of `tridiagonal_qr_step` in front of the rotation with index `k`: the accumulated `Q` is
    orthonormal and `Qᵀ X Q` is the stored tridiagonal matrix plus the bulge -/
def QInv (n start end_ k : Nat) (X : Matrix (Fin n) (Fin n) K) (st : QRSt K) : Prop :=
  let _ : Sc K := scOfField F
  start ≤ k ∧ k ≤ end_ ∧ end_ < n ∧ st.diag.size = n ∧ st.sub.size = n - 1 ∧
  (start < k → st.x = vget st.sub (k - 1)) ∧
  (∀ m, m + 1 = start → vget st.sub m = 0) ∧
  vget st.sub end_ = 0 ∧
  ColsOrth F n st.q ∧
  (mat n (fun i j => st.q.get i j))ᵀ * X * mat n (fun i j => st.q.get i j) =
    mat n (band (vget st.diag) (vget st.sub) k (zbOf start end_ k st.z))

theorem qrBody_inv (hu : UnitRot F) (n start end_ k : Nat) (X : Matrix (Fin n) (Fin n) K) (st : QRSt K)
    (h : QInv F n start end_ k X st) (hk : k < end_) :
    QInv F n start end_ (k + 1) X (@qrBody K _ _ _ _ _ (scOfField F) n start end_ k st) := by
  let _ : Sc K := scOfField F
  obtain ⟨hk1, hk2, hend, hd, hs, hx, e1, e2, orth, sim⟩ := h
  obtain ⟨s1, s2, s3, s4, s5, s6, s7, s8, s9, s10⟩ :=
    qrBody_spec F n start end_ k st (by omega) (by omega) (by intro; omega)
  have hcs := hu st.x st.z
  have hann := makeGivens_annih F st.x st.z
  simp only at hann s1 s2 s3 s4 s5 s6 s7 s8 s9 s10
  refine ⟨by omega, by omega, hend, by rw [qrBody_diag_size, hd], by rw [qrBody_sub_size, hs], ?_, ?_, ?_, ?_, ?_⟩
  · intro _; rw [s7]; rfl
  · intro m hm
    rw [qrBody_sub_other n start end_ k st m (by omega) (by omega) (by omega)]; exact e1 m hm
  · rw [qrBody_sub_ge n start end_ k st hk end_ (Nat.le_refl _)]; exact e2
  · exact colsOrth_rot F n k st.q _ _ hcs (by omega) orth
  · rw [s10, mat_applyOnTheRight F n k st.q _ _ orth (by omega), conj_rot n k (by omega) _ X _ _ _ sim]
    apply mat_congr; intro i j _ _
    apply band_step _ _ _ _ k _ _ _ _ s1 s2 s3 ?_ ?_ ?_ ?_ s8 s9 i j
    · -- H1
      intro m hm
      by_cases hsk : start < k
      · have := s4 hsk
        rw [show k - 1 = m by omega] at this
        rw [this]; simp only [zbOf, hsk, hk, and_self, if_true]
      · rw [qrBody_sub_other n start end_ k st m (by omega) (fun h => absurd h hsk) (by omega), e1 m (by omega)]
        simp only [zbOf, hsk, false_and, if_false]; ring
    · -- H2
      intro m hm
      by_cases hsk : start < k
      · have hxm := hx hsk
        rw [show k - 1 = m by omega] at hxm
        rw [← hxm]; simp only [zbOf, hsk, hk, and_self, if_true]; exact hann
      · rw [e1 m (by omega)]; simp only [zbOf, hsk, false_and, if_false]; ring
    · -- H3
      by_cases hke : k + 1 < end_
      · rw [← (s5 hke).1]; simp only [zbOf, hke, and_true]; rw [if_pos (by omega)]
      · rw [show k + 1 = end_ by omega, e2]; simp only [zbOf, lt_irrefl, and_false, if_false]; ring
    · -- H4
      by_cases hke : k + 1 < end_
      · exact (s5 hke).2
      · rw [qrBody_sub_other n start end_ k st (k + 1) (by omega) (by omega) (fun h => absurd h hke), show k + 1 = end_ by omega, e2]; ring

theorem qrLoop_inv (hu : UnitRot F) (n start end_ : Nat) (X : Matrix (Fin n) (Fin n) K) (f k : Nat) (st : QRSt K)
    (h : QInv F n start end_ k X st) (hf : end_ ≤ k + f) :
    ∃ k', QInv F n start end_ k' X (@qrLoop K _ _ _ _ _ (scOfField F) n start end_ f k st) ∧
      zbOf start end_ k' (@qrLoop K _ _ _ _ _ (scOfField F) n start end_ f k st).z = 0 := by
  let _ : Sc K := scOfField F
  fun_induction qrLoop n start end_ f k st with
  | case1 k st => exact ⟨k, h, by simp only [zbOf]; rw [if_neg (by omega)]⟩
  | case2 f k st hc ih =>
    have hk : k < end_ := by simp only [Bool.and_eq_true, decide_eq_true_eq] at hc; exact hc.1
    exact ih (qrBody_inv F hu n start end_ k X st h hk) (by omega)
  | case3 f k st hc =>
    refine ⟨k, h, ?_⟩
    simp only [Bool.and_eq_true, decide_eq_true_eq, ScF.ne, zero, ScF.ofInt, Int.cast_zero, Bool.not_eq_true',
      decide_eq_false_iff_not, not_and, not_not] at hc
    simp only [zbOf]
    by_cases h2 : start < k ∧ k < end_
    · rw [if_pos h2]; exact hc h2.2
    · rw [if_neg h2]

/-- the matrix statement carried by the main loop: `Qᵀ X Q = tridiag(d, s)` with `Q` orthonormal -/
def TInv (n : Nat) (X : Matrix (Fin n) (Fin n) K) (d s : Vec K) (q : Mat K) : Prop :=
  let _ : Sc K := scOfField F
  d.size = n ∧ s.size = n - 1 ∧ ColsOrth F n q ∧
  (mat n (fun i j => q.get i j))ᵀ * X * mat n (fun i j => q.get i j) = mat n (band (vget d) (vget s) 0 0)

/-- **one `tridiagonal_qr_step` is an orthogonal similarity** (ideal rotations): if the window `[start, end]` is decoupled
    (`sub[start−1] = 0`, `sub[end] = 0`) then `Qᵀ X Q = tridiag(diag, sub)` before implies the same after, with NO entry lost:
    every bulge is annihilated exactly by the next rotation and the last one leaves none. -/
theorem qrStep_sim (hu : UnitRot F) (n start end_ : Nat) (X : Matrix (Fin n) (Fin n) K) (d s : Vec K) (q : Mat K)
    (h : TInv F n X d s q) (hse : start ≤ end_) (hend : end_ < n)
    (e1 : ∀ m, m + 1 = start → @vget K (scOfField F) s m = 0) (e2 : @vget K (scOfField F) s end_ = 0) :
    TInv F n X (@qrStep K _ _ _ _ _ (scOfField F) n start end_ d s q).diag
      (@qrStep K _ _ _ _ _ (scOfField F) n start end_ d s q).sub (@qrStep K _ _ _ _ _ (scOfField F) n start end_ d s q).q := by
  let _ : Sc K := scOfField F
  obtain ⟨hd, hs, orth, sim⟩ := h
  simp only [qrStep]
  obtain ⟨k', hinv, hz⟩ := qrLoop_inv F hu n start end_ X (end_ - start) start
    ⟨vget d start - wilkinsonMu (vget d (end_ - 1)) (vget d end_) (vget s (end_ - 1)), vget s start, d, s, q⟩
    ⟨Nat.le_refl _, hse, hend, hd, hs, fun h => absurd h (lt_irrefl _), e1, e2, orth, by
      show _ = mat n (band (vget d) (vget s) start (zbOf start end_ start _))
      rw [sim]; simp only [zbOf, lt_irrefl, false_and, if_false]; rw [band_zero _ _ 0 start]⟩ (by omega)
  obtain ⟨_, _, _, hd', hs', _, _, _, orth', sim'⟩ := hinv
  refine ⟨hd', hs', orth', ?_⟩
  rw [sim', hz, band_zero _ _ k' 0]

/-- column-orthonormality as a matrix identity -/
theorem colsOrth_mat (n : Nat) (q : Mat K) (h : ColsOrth F n q) :
    (mat n (fun i j => @Mat.get K (scOfField F) q i j))ᵀ * mat n (fun i j => @Mat.get K (scOfField F) q i j) = 1 :=
  (gram_mat n _).mpr h.2.2.2

/-- the entries of a matrix with orthonormal columns are at most 1 in magnitude -/
theorem orth_entry_le (n : Nat) (Q : Matrix (Fin n) (Fin n) K) (h : Qᵀ * Q = 1) (i j : Fin n) : |Q i j| ≤ 1 := by
  have e : (Qᵀ * Q) j j = 1 := by rw [h]; simp
  simp only [Matrix.mul_apply, Matrix.transpose_apply] at e
  rw [abs_le_one_iff_mul_self_le_one, ← e]
  exact Finset.single_le_sum (f := fun a => Q a j * Q a j) (fun a _ => mul_self_nonneg _) (Finset.mem_univ i)

theorem sum_shift (n : Nat) (g : ℕ → K) : ∑ b ∈ range n, (if b + 1 < n then g b else 0) = ∑ b ∈ range (n - 1), g b := by
  cases n with
  | zero => simp
  | succ m =>
    rw [Finset.sum_range_succ, if_neg (by omega), add_zero, Nat.add_sub_cancel]
    apply Finset.sum_congr rfl
    intro b hb; rw [if_pos (by have := Finset.mem_range.mp hb; omega)]

theorem band0_abs (ε : ℕ → K) (a b : ℕ) :
    |band (fun _ => (0 : K)) ε 0 0 a b| = (if a = b + 1 then |ε b| else 0) + (if b = a + 1 then |ε a| else 0) := by
  simp only [band]
  by_cases h1 : a = b
  · rw [if_pos h1, if_neg (by omega), if_neg (by omega)]; simp
  · rw [if_neg h1]
    by_cases h2 : a = b + 1
    · rw [if_pos h2, if_pos h2, if_neg (by omega)]; simp
    · rw [if_neg h2, if_neg h2]
      by_cases h3 : b = a + 1
      · rw [if_pos h3, if_pos h3]; simp
      · rw [if_neg h3, if_neg h3]; simp

theorem band0_abs_sum (n : Nat) (ε : ℕ → K) :
    ∑ b ∈ range n, ∑ a ∈ range n, |band (fun _ => (0 : K)) ε 0 0 a b| = 2 * ∑ k ∈ range (n - 1), |ε k| := by
  simp only [band0_abs, Finset.sum_add_distrib]
  have e1 : ∑ b ∈ range n, ∑ a ∈ range n, (if a = b + 1 then |ε b| else 0) = ∑ k ∈ range (n - 1), |ε k| := by
    rw [← sum_shift n (fun b => |ε b|)]
    apply Finset.sum_congr rfl; intro b _
    rw [Finset.sum_ite_eq' (range n) (b + 1)]; simp only [Finset.mem_range]
  have e2 : ∑ b ∈ range n, ∑ a ∈ range n, (if b = a + 1 then |ε a| else 0) = ∑ k ∈ range (n - 1), |ε k| := by
    rw [Finset.sum_comm, ← sum_shift n (fun b => |ε b|)]
    apply Finset.sum_congr rfl; intro a _
    rw [Finset.sum_ite_eq' (range n) (a + 1)]; simp only [Finset.mem_range]
  rw [e1, e2]; ring

/-- `|(Q E Qᵀ)ᵢⱼ| ≤ Σ|Eₐᵦ|` for `|Q| ≤ 1` entrywise -/
theorem conj_abs_le (n : Nat) (Q : Matrix (Fin n) (Fin n) K) (hQ : ∀ i j, |Q i j| ≤ 1) (E : ℕ → ℕ → K) (i j : Fin n) :
    |(Q * mat n E * Qᵀ) i j| ≤ ∑ b ∈ range n, ∑ a ∈ range n, |E a b| := by
  simp only [Matrix.mul_apply, Matrix.transpose_apply, mat, Matrix.of_apply]
  rw [← Fin.sum_univ_eq_sum_range (fun b => ∑ a ∈ range n, |E a b|) n]
  refine le_trans (Finset.abs_sum_le_sum_abs _ _) (Finset.sum_le_sum ?_)
  intro b _
  rw [abs_mul, ← Fin.sum_univ_eq_sum_range (fun a => |E a b.val|) n]
  have h1 : |∑ a : Fin n, Q i a * E a.val b.val| ≤ ∑ a : Fin n, |E a.val b.val| := by
    refine le_trans (Finset.abs_sum_le_sum_abs _ _) (Finset.sum_le_sum ?_)
    intro a _
    rw [abs_mul]
    exact mul_le_of_le_one_left (abs_nonneg _) (hQ i a)
  calc |∑ a : Fin n, Q i a * E a.val b.val| * |Q j b| ≤ (∑ a : Fin n, |E a.val b.val|) * 1 :=
        mul_le_mul h1 (hQ j b) (abs_nonneg _) (Finset.sum_nonneg (fun _ _ => abs_nonneg _))
    _ = _ := mul_one _

/-- **a deflation pass is a symmetric perturbation of the original matrix**: overwriting the sub-diagonal `s` by `s'` keeps
    `Qᵀ (A − P') Q = tridiag(d, s')` for `P' = P + Q·tridiag(0, s − s')·Qᵀ`, and `|P' − P| ≤ 2 Σ|sₖ − s'ₖ|` entrywise. -/
theorem deflate_sim (n : Nat) (A P : Matrix (Fin n) (Fin n) K) (d s s' : Vec K) (q : Mat K) (hs' : s'.size = n - 1)
    (hP : Pᵀ = P) (h : TInv F n (A - P) d s q) :
    ∃ P' : Matrix (Fin n) (Fin n) K, P'ᵀ = P' ∧ TInv F n (A - P') d s' q ∧
      ∀ i j, |P' i j - P i j| ≤ 2 * ∑ k ∈ range (n - 1), |@vget K (scOfField F) s k - @vget K (scOfField F) s' k| := by
  let _ : Sc K := scOfField F
  obtain ⟨hd, hs, orth, sim⟩ := h
  have hQ := colsOrth_mat F n q orth
  generalize hQdef : mat n (fun i j => q.get i j) = Q at hQ sim
  obtain ⟨E, hEd⟩ : ∃ E, E = mat n (band (fun _ => (0 : K)) (fun k => vget s k - vget s' k) 0 0) := ⟨_, rfl⟩
  have hE : Eᵀ = E := by
    rw [hEd]; ext i j; simp only [Matrix.transpose_apply, mat, Matrix.of_apply]; exact band_symm _ _ _ _ _ _
  refine ⟨P + Q * E * Qᵀ, ?_, ⟨hd, hs', orth, ?_⟩, ?_⟩
  · rw [Matrix.transpose_add, hP, Matrix.transpose_mul, Matrix.transpose_mul, Matrix.transpose_transpose, hE, Matrix.mul_assoc]
  · rw [hQdef]
    have e : Qᵀ * (A - (P + Q * E * Qᵀ)) * Q = Qᵀ * (A - P) * Q - (Qᵀ * Q) * E * (Qᵀ * Q) := by
      rw [← sub_sub, Matrix.mul_sub, Matrix.sub_mul]; simp only [Matrix.mul_assoc]
    rw [e, sim, hQ, Matrix.one_mul, Matrix.mul_one, hEd]
    ext i j
    simp only [Matrix.sub_apply, mat, Matrix.of_apply]
    rw [band_sub]; congr 1; funext k; ring
  · intro i j
    rw [Matrix.add_apply, add_sub_cancel_left, hEd]
    exact (conj_abs_le n Q (orth_entry_le n Q hQ) _ i j).trans_eq (band0_abs_sum n _)

/-- ghost quantity: the sum, over all deflation passes of a run of the main loop, of the magnitudes of the sub-diagonal entries the
    pass overwrote (`Σ |old − new|`; an entry that was already `0`, or is kept, contributes `0`) -/
def mainLoopDrop (n : Nat) (caz pinv : K) : Nat → Nat → Nat → Nat → Vec K → Vec K → Mat K → K
  | 0, _, _, _, _, _, _ => 0
  | f + 1, end_, start, iter, d, s, q =>
    letI : Sc K := scOfField F
    if end_ = 0 then 0 else
    let s' := deflatePass caz pinv start end_ d s
    let drop := ∑ k ∈ range (n - 1), |vget s k - vget s' k|
    let end' := shrinkEnd s' end_
    if end' = 0 then drop else
    if 30 * n < iter + 1 then drop else
    let start' := findStart s' (end' - 1)
    let st := qrStep n start' end' d s' q
    drop + mainLoopDrop n caz pinv f end' start' (iter + 1) st.diag st.sub st.q

theorem mainLoopDrop_nonneg (n : Nat) (caz pinv : K) (f end_ start iter : Nat) (d s : Vec K) (q : Mat K) :
    0 ≤ mainLoopDrop F n caz pinv f end_ start iter d s q := by
  have h0 : ∀ s s' : Vec K, 0 ≤ ∑ k ∈ range (n - 1), |@vget K (scOfField F) s k - @vget K (scOfField F) s' k| :=
    fun s s' => Finset.sum_nonneg (fun _ _ => abs_nonneg _)
  fun_induction mainLoopDrop F n caz pinv f end_ start iter d s q with
  | case1 => exact le_refl _
  | case2 => exact le_refl _
  | case3 => exact h0 _ _
  | case4 => exact h0 _ _
  | case5 => rename_i ih; exact add_nonneg (h0 _ _) ih

theorem findStart_le (s : Vec K) (m : Nat) : @findStart K (scOfField F) s m ≤ m := by
  let _ : Sc K := scOfField F
  fun_induction findStart s m with
  | case1 => exact Nat.le_refl 0
  | case2 k _ ih => exact Nat.le_succ_of_le ih
  | case3 => exact Nat.le_refl _

theorem findStart_zero (s : Vec K) (m t : Nat) (h : t + 1 = @findStart K (scOfField F) s m) :
    @vget K (scOfField F) s t = 0 := by
  let _ : Sc K := scOfField F
  fun_induction findStart s m with
  | case1 => cases h
  | case2 k _ ih => exact ih h
  | case3 k hne =>
    cases Nat.succ.inj h
    simpa [ScF.ne, zero] using hne

/-- **whole-run similarity of the main loop** (ideal rotations, every outcome of every comparison): `Qᵀ (A − P) Q = tridiag(d, s)`
    is kept with `P` moving by at most `2 · mainLoopDrop` entrywise -/
theorem mainLoop_sim (hu : UnitRot F) (n : Nat) (A : Matrix (Fin n) (Fin n) K) (caz pinv : K) (f end_ start iter : Nat)
    (d s : Vec K) (q : Mat K) (P : Matrix (Fin n) (Fin n) K) (hP : Pᵀ = P) (h : TInv F n (A - P) d s q) (hend : end_ < n)
    (hz : ∀ B, @Inv K (scOfField F) B end_ s) :
    ∃ P' : Matrix (Fin n) (Fin n) K, P'ᵀ = P' ∧
      TInv F n (A - P') (@mainLoop K _ _ _ _ _ (scOfField F) n caz pinv f end_ start iter d s q).diag
        (@mainLoop K _ _ _ _ _ (scOfField F) n caz pinv f end_ start iter d s q).sub
        (@mainLoop K _ _ _ _ _ (scOfField F) n caz pinv f end_ start iter d s q).q ∧
      ∀ i j, |P' i j - P i j| ≤ 2 * mainLoopDrop F n caz pinv f end_ start iter d s q := by
  let _ : Sc K := scOfField F
  fun_induction mainLoop n caz pinv f end_ start iter d s q generalizing P with
  | case1 => exact ⟨P, hP, h, fun i j => by simp [mainLoopDrop]⟩
  | case2 => exact ⟨P, hP, h, fun i j => by simp [mainLoopDrop]⟩
  | case3 f end_ start iter d s q he s' end' he2 =>
    obtain ⟨P1, hP1, h1, hb1⟩ := deflate_sim F n A P d s s' q (by rw [deflatePass_size]; exact h.2.1) hP h
    refine ⟨P1, hP1, h1, ?_⟩
    rw [mainLoopDrop, if_neg he, if_pos he2]; exact hb1
  | case4 f end_ start iter d s q he s' end' he2 iter' hcap =>
    obtain ⟨P1, hP1, h1, hb1⟩ := deflate_sim F n A P d s s' q (by rw [deflatePass_size]; exact h.2.1) hP h
    refine ⟨P1, hP1, h1, ?_⟩
    rw [mainLoopDrop, if_neg he, if_neg he2, if_pos hcap]; exact hb1
  | case5 f end_ start iter d s q he s' end' he2 iter' hcap start' st ih =>
    obtain ⟨P1, hP1, h1, hb1⟩ := deflate_sim F n A P d s s' q (by rw [deflatePass_size]; exact h.2.1) hP h
    have hle := shrinkEnd_le s' end_
    have hz1 := fun B => inv_shrink B caz pinv start end_ d s (hz B)
    have hfs := findStart_le F s' (end' - 1)
    have h2 := qrStep_sim F hu n start' end' (A - P1) d s' q h1 (by omega) (by omega)
      (fun m hm => findStart_zero F _ _ m hm) (by simpa [eqz, zero] using hz1 (end' + 1) end' (Nat.le_refl _) (Nat.lt_succ_self _))
    obtain ⟨P2, hP2, h3, hb2⟩ := ih P1 hP1 h2 (by omega) (fun B => inv_qrStep B n _ _ d _ q (hz1 B))
    refine ⟨P2, hP2, h3, fun i j => ?_⟩
    rw [mainLoopDrop, if_neg he, if_neg he2, if_neg hcap]
    calc |P2 i j - P i j| = |(P2 i j - P1 i j) + (P1 i j - P i j)| := by rw [sub_add_sub_cancel]
      _ ≤ |P2 i j - P1 i j| + |P1 i j - P i j| := abs_add_le _ _
      _ ≤ _ := by rw [mul_add, add_comm |P2 i j - P1 i j|]; exact add_le_add (hb1 i j) (hb2 i j)

end field
end C09Sim
