/-
  Bridge between the executable model (arrays) and the abstract Krylov relation of Proofs/C07Krylov.lean:
  a model state read as `(V : ℕ → Fin n → K, H, f)`.
-/
import Mathlib.Data.Matrix.Mul
import SpectraVerif.Proofs.C07Krylov
import SpectraVerif.Proofs.C07Step

set_option linter.unusedSectionVars false

open Finset

namespace C07
variable {K : Type} [Field K] [Sc K]

/-- column `j` of a model matrix as a vector of `Fin n → K` -/
def colOf (n : ℕ) (V : Lin.Mat K) (j : ℕ) : Fin n → K := fun r => V.get r.val j
/-- a model vector as an element of `Fin n → K` -/
def vecOf (n : ℕ) (v : Lin.Vec K) : Fin n → K := fun r => Lin.vget v r.val
/-- the model operator `op.A` (a function on arrays) is the linear map `A` -/
def OpIs (n : ℕ) (op : Arnoldi.Op K) (A : (Fin n → K) →ₗ[K] (Fin n → K)) : Prop :=
  ∀ x : Lin.Vec K, x.size = n → vecOf n (op.A x) = A (vecOf n x)
/-- the Krylov relation read off a model state -/
def ModelKry (n : ℕ) (A : (Fin n → K) →ₗ[K] (Fin n → K)) (s : Arnoldi.State K) (k : ℕ) : Prop :=
  Kry A (colOf n s.V) (fun i j => s.H.get i j) (vecOf n s.f) k

omit [Sc K] in
theorem kry_congr {E : Type*} [AddCommGroup E] [Module K E] (A : E →ₗ[K] E) (V V' : ℕ → E) (H H' : ℕ → ℕ → K) (f f' : E) (k : ℕ)
    (hV : ∀ j, j < k → V' j = V j) (hH : ∀ i j, i < k → j < k → H' i j = H i j) (hf : f' = f)
    (hK : Kry A V H f k) : Kry A V' H' f' k := by
  intro j hj
  rw [hV j hj, hK j hj, hf]
  congr 1
  apply sum_congr rfl
  intro i hi
  rw [hV i (mem_range.mp hi), hH i j (mem_range.mp hi) hj]



/-- well-formedness of a model state + "rows `≥ i` of `H` are zero left of the sub-diagonal" (what `factorize_from`'s
    `setZero` calls arrange before the loop and every pass maintains) -/
def WF (s : Arnoldi.State K) (i : ℕ) : Prop :=
  s.V.rows = s.n ∧ s.V.cols = s.m ∧ s.H.rows = s.m ∧ s.H.cols = s.m ∧ s.f.size = s.n ∧
  ∀ a b, i ≤ a → a < s.m → b + 1 < a → s.H.get a b = 0

theorem factorStep_regular (op : Arnoldi.Op K) (bt : K) (s : Arnoldi.State K) (i : ℕ) (hreg : Sc.lt s.beta s.near0 = false) :
    Arnoldi.factorStep op bt s i = Arnoldi.stepCore op bt s i s.f s.beta false s.ops s.nexpand := by
  unfold Arnoldi.factorStep; simp [hreg]

/-! ### the array operations of the model read through `colOf` / `vecOf` -/

theorem vecOf_col (n : ℕ) (V : Lin.Mat K) (j : ℕ) (hr : V.rows = n) : vecOf n (V.col j) = colOf n V j :=
  funext fun r => C08Mat.vget_col V j (hr ▸ r.isLt)

theorem vecOf_vofFn (n : ℕ) (g : ℕ → K) : vecOf n (Lin.vofFn n g) = fun r => g r.val :=
  funext fun r => C08Mat.vget_vofFn n g r.isLt

/-- `V.col(i) = v` replaces column `i` and keeps every other column, also those past the end of the array -/
theorem colOf_setCol (n : ℕ) {V : Lin.Mat K} (hw : C08Mat.WF V) (hr : V.rows = n) {i : ℕ} (hi : i < V.cols) (v : Lin.Vec K) :
    colOf n (V.setCol i v) = extV (colOf n V) i (vecOf n v) := by
  funext j r
  rw [extV, Function.update_apply]
  refine ((C08Mat.setCol_spec hw hi v).2.2.2 r.val j (hr ▸ r.isLt)).trans ?_
  by_cases hji : j = i
  · rw [if_pos hji, if_pos hji]; rfl
  · rw [if_neg hji, if_neg hji]; rfl

section field
variable (h0 : (Sc.ofInt 0 : K) = 0)
include h0

theorem vecOf_vdivs (n : ℕ) (x : Lin.Vec K) (c : K) : vecOf n (Lin.vdivs x c) = c⁻¹ • vecOf n x :=
  funext fun r => (LinField.vget_vdivs h0 x c r.val).trans (div_eq_inv_mul _ _)

theorem dot_vec (n : ℕ) (x y : Lin.Vec K) (hx : x.size = n) : Lin.dot x y = dotProduct (vecOf n x) (vecOf n y) := by
  rw [LinField.dot_eq h0, hx]
  exact (Fin.sum_univ_eq_sum_range (fun i => Lin.vget x i * Lin.vget y i) n).symm

theorem tmul_vec (n : ℕ) (V : Lin.Mat K) (k : ℕ) (y : Lin.Vec K) (j : ℕ) (hj : j < k) (hr : V.rows = n) :
    Lin.vget (Arnoldi.tmulVecK0 V k y) j = dotProduct (colOf n V j) (vecOf n y) := by
  rw [C07R.tmulVecK0_eq h0 V k y j hj, hr]
  exact (Fin.sum_univ_eq_sum_range (fun i => V.get i j * Lin.vget y i) n).symm

end field

end C07

namespace C01E
open Matrix C07
variable {F : Type} [Field F] [LinearOrder F] [IsStrictOrderedRing F]

/-- the Euclidean inner product of real vectors as a C07 form (`conj = id`) -/
def dotIP (n : ℕ) : IP F (Fin n → F) where
  ip x y := x ⬝ᵥ y
  conj := RingHom.id F
  add_right x y z := dotProduct_add x y z
  smul_right x c y := by rw [dotProduct_smul, smul_eq_mul]
  symm x y := by simp only [RingHom.id_apply]; exact dotProduct_comm y x

end C01E
