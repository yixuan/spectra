/-
  C08 — the relation `Rep X n m f` ("`X` is the well-formed `n × m` array with entries `f`") and what the loop combinators of
  `Model/HessQR.lean` (`rowsPair`, `colsPair`, `vecPair`, `addDiag`, `subDiag`, `zeroBelow`) do to it: each maps `Rep` to `Rep`
  with a new entry function.  The shape is a parameter of the relation, so a caller never rewrites with the shape of a loop.
  Generic in the scalar: only `[Sc α]`.  Core Lean only.
  The sweeps are instances of the generic loop of `LinLoop` (`StepOK`, `fold_spec`).
-/
import SpectraVerif.Model.HessQR
import SpectraVerif.Proofs.LinLoop

set_option linter.unusedVariables false

namespace C08Mat
open Lin QRModel

variable {α : Type}

variable [Sc α]

theorem vecPair_spec (f : α → α → α × α) (y : Vec α) {i : Nat} (hi : i + 1 < y.size) :
    (vecPair f y i).size = y.size ∧
    ∀ a, vget (vecPair f y i) a =
      if a = i then (f (vget y i) (vget y (i + 1))).1
      else if a = i + 1 then (f (vget y i) (vget y (i + 1))).2 else vget y a := by
  unfold vecPair
  simp only []
  refine ⟨by rw [vset_size, vset_size], ?_⟩
  intro a
  have h1 : i < y.size := by omega
  have h2 : i + 1 < (vset y i (f (vget y i) (vget y (i + 1))).1).size := by rw [vset_size]; exact hi
  rw [vget_vset _ _ h2, vget_vset _ _ h1]
  by_cases ha : a = i
  · subst ha
    simp
  · simp [ha]

/-! ### the representation relation -/

/-- `X` is the well-formed `n × m` array whose entry `(a, b)` is `f a b` -/
structure Rep (X : Mat α) (n m : Nat) (f : Nat → Nat → α) : Prop where
  wf : WF X
  rows : X.rows = n
  cols : X.cols = m
  get : ∀ a b, a < n → b < m → X.get a b = f a b

namespace Rep
variable {X Y : Mat α} {n m : Nat} {f g : Nat → Nat → α}

theorem of (hw : WF X) (hr : X.rows = n) (hc : X.cols = m) : Rep X n m X.get := ⟨hw, hr, hc, fun _ _ _ _ => rfl⟩

theorem congr (h : Rep X n m f) (e : ∀ a b, a < n → b < m → f a b = g a b) : Rep X n m g :=
  ⟨h.wf, h.rows, h.cols, fun a b ha hb => (h.get a b ha hb).trans (e a b ha hb)⟩

/-- an array is determined by its shape and entries -/
theorem ext (h : Rep X n m f) (h' : Rep Y n m f) : X = Y :=
  ext_get h.wf h'.wf (h.rows.trans h'.rows.symm) (h.cols.trans h'.cols.symm) fun a b ha hb => by
    rw [h.rows] at ha; rw [h.cols] at hb
    rw [h.get a b ha hb, h'.get a b ha hb]

theorem ofFn (n m : Nat) (f : Nat → Nat → α) : Rep (Mat.ofFn n m f) n m f :=
  ⟨ofFn_WF n m f, rfl, rfl, fun _ _ ha hb => get_ofFn n m f ha hb⟩

theorem set (h : Rep X n m f) {i j : Nat} (hi : i < n) (hj : j < m) (x : α) :
    Rep (X.set i j x) n m fun a b => if a = i ∧ b = j then x else f a b := by
  obtain ⟨w, rfl, rfl, g⟩ := h
  exact ⟨set_WF w _ _ _, set_rows .., set_cols .., fun a b ha hb => by rw [get_set w x hi hj ha, g a b ha hb]⟩

/-- one `rowsPair` sweep over the columns `j0 … j0+cnt-1` -/
theorem rowsPair (h : Rep Y n m g) (f : α → α → α × α) {i j0 : Nat} (cnt : Nat) (hi : i + 1 < n) (hc : j0 + cnt ≤ m) :
    Rep (rowsPair f Y i j0 cnt) n m fun a b =>
      if j0 ≤ b ∧ b < j0 + cnt then
        (if a = i then (f (g i b) (g (i + 1) b)).1 else if a = i + 1 then (f (g i b) (g (i + 1) b)).2 else g a b)
      else g a b := by
  obtain ⟨w, r, c, ht, hu⟩ := fold_spec (upd2_ok f (fun _ k => i + k) (fun t _ => j0 + t) n m cnt
      (fun t k ht hk => ⟨by omega, by omega⟩) (fun t _ h => by omega))
    (fun t k ht hk => ⟨by omega, by omega⟩) (fun t t' k k' _ _ _ _ _ h => by omega) (pairNv_cong f) h.wf h.rows h.cols cnt
    (Nat.le_refl cnt)
  refine ⟨w, r, c, fun a b ha hb => ?_⟩
  show ((List.range cnt).foldl (upd2 f (fun _ k => i + k) (fun t _ => j0 + t)) Y).get a b = _
  rw [← h.get i b (by omega) hb, ← h.get (i + 1) b hi hb, ← h.get a b ha hb]
  by_cases hwin : j0 ≤ b ∧ b < j0 + cnt
  · have e : j0 + (b - j0) = b := by omega
    have h0 := ht (b - j0) 0 (by omega) (by omega)
    have h1 := ht (b - j0) 1 (by omega) (by omega)
    simp only [e, pairNv, Nat.add_zero, if_true, Nat.one_ne_zero, if_false] at h0 h1
    rw [if_pos hwin]
    by_cases h : a = i
    · rw [if_pos h, h, h0]
    · rw [if_neg h]
      by_cases h' : a = i + 1
      · rw [if_pos h', h', h1]
      · rw [if_neg h']
        exact hu a b ha (fun t k _ hk hh => by omega)
  · rw [if_neg hwin]
    exact hu a b ha (fun t k _ _ hh => by omega)

/-- the full-row sweep of the `apply_*_mat` loops (`j0 = 0`, `cnt = Y.cols`) -/
theorem rowsPair_full (h : Rep Y n m g) (f : α → α → α × α) {i : Nat} (hi : i + 1 < n) :
    Rep (QRModel.rowsPair f Y i 0 Y.cols) n m fun a b =>
      if a = i then (f (g i b) (g (i + 1) b)).1 else if a = i + 1 then (f (g i b) (g (i + 1) b)).2 else g a b := by
  rw [h.cols]
  exact (h.rowsPair f m hi (by omega)).congr fun a b _ hb => if_pos ⟨Nat.zero_le b, by omega⟩

/-- one `colsPair` sweep over the rows `0 … cnt-1` -/
theorem colsPair (h : Rep Y n m g) (f : α → α → α × α) {i : Nat} (cnt : Nat) (hi : i + 1 < m) (hc : cnt ≤ n) :
    Rep (colsPair f Y i cnt) n m fun a b =>
      if a < cnt then
        (if b = i then (f (g a i) (g a (i + 1))).1 else if b = i + 1 then (f (g a i) (g a (i + 1))).2 else g a b)
      else g a b := by
  obtain ⟨w, r, c, ht, hu⟩ := fold_spec (upd2_ok f (fun t _ => t) (fun _ k => i + k) n m cnt
      (fun t k ht hk => ⟨by omega, by omega⟩) (fun t _ h => by omega))
    (fun t k ht hk => ⟨by omega, by omega⟩) (fun t t' k k' _ _ _ _ h _ => h) (pairNv_cong f) h.wf h.rows h.cols cnt
    (Nat.le_refl cnt)
  refine ⟨w, r, c, fun a b ha hb => ?_⟩
  show ((List.range cnt).foldl (upd2 f (fun t _ => t) (fun _ k => i + k)) Y).get a b = _
  rw [← h.get a i ha (by omega), ← h.get a (i + 1) ha hi, ← h.get a b ha hb]
  by_cases hwin : a < cnt
  · have h0 := ht a 0 hwin (by omega)
    have h1 := ht a 1 hwin (by omega)
    simp only [pairNv, Nat.add_zero, if_true, Nat.one_ne_zero, if_false] at h0 h1
    rw [if_pos hwin]
    by_cases h : b = i
    · rw [if_pos h, h, h0]
    · rw [if_neg h]
      by_cases h' : b = i + 1
      · rw [if_pos h', h', h1]
      · rw [if_neg h']
        exact hu a b ha (fun t k _ hk hh => by omega)
  · rw [if_neg hwin]
    exact hu a b ha (fun t k ht _ hh => by omega)

/-- the full-column sweep of `apply_YQ` / `apply_YQt` (`cnt = Y.rows`) -/
theorem colsPair_full (h : Rep Y n m g) (f : α → α → α × α) {i : Nat} (hi : i + 1 < m) :
    Rep (QRModel.colsPair f Y i Y.rows) n m fun a b =>
      if b = i then (f (g a i) (g a (i + 1))).1 else if b = i + 1 then (f (g a i) (g a (i + 1))).2 else g a b := by
  rw [h.rows]
  exact (h.colsPair f n hi (Nat.le_refl n)).congr fun a b ha _ => if_pos ha

/-- `addDiag M k d`, `subDiag M k d` are `mapDiag (· + d) M k`, `mapDiag (· - d) M k` by definition -/
theorem mapDiag (h : Rep X n m f) (φ : α → α) (k : Nat) (hr : k ≤ n) (hc : k ≤ m) :
    Rep (mapDiag φ X k) n m fun a b => if a = b ∧ a < k then φ (f a b) else f a b := by
  obtain ⟨w, rfl, rfl, e⟩ := h
  obtain ⟨w', r', c', g'⟩ := mapDiag_spec φ w k hr hc
  exact ⟨w', r', c', fun a b ha hb => by rw [g' a b ha, e a b ha hb]⟩

/-- column `i` is zeroed from row `i + 2` down, nothing else changes -/
theorem zeroBelow (h : Rep X n n f) {i : Nat} (hi : i + 1 < n) :
    Rep (UpperHessenbergQR.zeroBelow X n i) n n fun a b => if b = i ∧ i + 2 ≤ a then zero else f a b := by
  obtain ⟨w, r, c, e⟩ := h
  obtain ⟨w', r', c', g'⟩ := zeroCol_spec w i (n - i - 2) (by omega) (by omega)
  exact ⟨w', r'.trans r, c'.trans c, fun a b ha hb => by
    rw [show UpperHessenbergQR.zeroBelow X n i = zeroCol X i (n - i - 2) from rfl, g' a b (by omega) (by omega), e a b ha hb,
      ite_iff (by omega : (b = i ∧ i + 2 ≤ a ∧ a < i + 2 + (n - i - 2)) ↔ (b = i ∧ i + 2 ≤ a))]⟩

end Rep

/-! ### `rowsPair`, `colsPair` -/

theorem rowsPair_zero (f : α → α → α × α) (Y : Mat α) (i j0 : Nat) : rowsPair f Y i j0 0 = Y := rfl

theorem colsPair_zero (f : α → α → α × α) (Y : Mat α) (i : Nat) : colsPair f Y i 0 = Y := rfl

/-- a sweep that stops at row `cnt` is the full sweep when the two columns are zero from row `cnt` on -/
theorem colsPair_trunc [Zero α] (f : α → α → α × α) (hf : f 0 0 = (0, 0)) {Y : Mat α} {n m : Nat} {g : Nat → Nat → α}
    (h : Rep Y n m g) {i cnt : Nat} (hi : i + 1 < m) (hc : cnt ≤ n)
    (hz : ∀ a, cnt ≤ a → a < n → g a i = 0 ∧ g a (i + 1) = 0) :
    colsPair f Y i cnt = colsPair f Y i Y.rows := by
  refine Rep.ext (h.colsPair f cnt hi hc) ((h.colsPair_full f hi).congr fun a b ha _ => ?_)
  by_cases h1 : a < cnt
  · rw [if_pos h1]
  · obtain ⟨z1, z2⟩ := hz a (Nat.le_of_not_lt h1) ha
    rw [if_neg h1, z1, z2, hf]
    by_cases h2 : b = i
    · rw [if_pos h2, h2, z1]
    · rw [if_neg h2]
      by_cases h3 : b = i + 1
      · rw [if_pos h3, h3, z2]
      · rw [if_neg h3]

end C08Mat
