/-
  C06, general family — the stale columns of a reused basis matrix are harmless for `Arnoldi::factorize_from` too.

  Counterpart of `Proofs/C06StaleV.lean` (which treats `Lanczos.factorize_from`) for the factorization the general family uses:
  `Arnoldi.factorize_from op s from_k m` on a basis matrix with `m` columns writes column `i` (`V.col(i) = f / beta`, `withCol`)
  before anything reads it — `expand_basis` reads `leftCols(i)`, the Gram–Schmidt step and the re-orthogonalisation read
  `leftCols(i + 1)` — so the whole resulting object, all `m` columns included, does not depend on the columns `>= from_k` it starts
  from (`arnoldi_factorize_overwrites`); hence the C++-faithful `initKeepV` (which keeps the stale columns `>= 1` of an already
  allocated `m_fac_V`) followed by the first factorization of `GenEigsBase::compute()` equals the model's zero-filling
  `Arnoldi.init` followed by it (`arnoldi_init_stale_columns_harmless`).
-/
import SpectraVerif.Proofs.C06StaleV
open Lin Arnoldi C08Mat

namespace C06StaleV
section
variable {α : Type} [Add α] [Sub α] [Mul α] [Div α] [Neg α] [Sc α]

omit [Add α] [Sub α] [Mul α] [Div α] [Neg α] in
theorem withCol_spec (A : Mat α) (i : Nat) (v : Vec α) : ColSet i v A (withCol A i v) := by
  refine ⟨ofFn_WF _ _ _, rfl, rfl, ?_⟩
  intro r c hr hc
  unfold withCol
  rw [get_ofFn _ _ _ hr hc]

theorem AgreeCols.withCol {i : Nat} {A B : Mat α} (h : AgreeCols i A B) (v : Vec α) :
    AgreeCols (i + 1) (withCol A i v) (withCol B i v) :=
  h.write (withCol_spec A i v) (withCol_spec B i v) (fun _ hc => Nat.lt_succ_iff_lt_or_eq.mp hc)

theorem areorth_agree (op : Op α) (eps bt : α) {j i1 : Nat} {A B : Mat α} (h : AgreeCols j A B) (hi : i1 ≤ j) (hic : i1 ≤ A.cols) (n : Nat) :
    ∀ (fuel count : Nat) (f hh : Vec α) (beta : α) (Vf : Vec α) (oerr : α) (np : Nat), f.size ≤ A.rows →
      Arnoldi.reorth op eps bt A i1 n fuel count f hh beta Vf oerr np = Arnoldi.reorth op eps bt B i1 n fuel count f hh beta Vf oerr np := by
  intro fuel
  induction fuel with
  | zero => intros; rfl
  | succ fuel ih =>
    intro count f hh beta Vf oerr np hf
    unfold Arnoldi.reorth
    split
    · split
      · rfl
      · dsimp only
        rw [subMulVecK0_agree h hi hic f Vf hf, adjoint_agree op h hi hic]
        exact ih _ _ _ _ _ _ _ (by rw [size_subMulVecK0]; exact hf)
    · rfl

/-- the loop body after the breakdown decision, on an object whose basis matrix is `B` instead of `s.V` (columns `< i` agree):
    same object except that the new basis matrix is `B` with column `i` written -/
theorem stepCore_rel (op : Op α) (bt : α) (s : State α) (B : Mat α) (i : Nat) (f : Vec α) (beta : α) (restart : Bool)
    (ops nexp : Nat) (h : AgreeCols i s.V B) (hi : i < s.V.cols) (hop : OpWF op s.V.rows) :
    Rel (i + 1) (stepCore op bt s i f beta restart ops nexp) (stepCore op bt { s with V := B } i f beta restart ops nexp) ∧
    OpWF op (stepCore op bt s i f beta restart ops nexp).V.rows ∧
    (stepCore op bt s i f beta restart ops nexp).V.cols = s.V.cols := by
  have hag := h.withCol (vdivs f beta)
  have hc : i + 1 ≤ (withCol s.V i (vdivs f beta)).cols := hi
  have hw : (op.A (vdivs f beta)).size ≤ (withCol s.V i (vdivs f beta)).rows := by
    rw [hop.size]; exact Nat.le_refl _
  have hV : (stepCore op bt s i f beta restart ops nexp).V = withCol s.V i (vdivs f beta) := by
    unfold stepCore
    dsimp only
    split <;> rfl
  have hE : stepCore op bt { s with V := B } i f beta restart ops nexp =
      { stepCore op bt s i f beta restart ops nexp with V := withCol B i (vdivs f beta) } := by
    unfold stepCore
    dsimp only
    rw [← adjoint_agree op hag (Nat.le_refl _) hc (op.A (vdivs f beta)),
      ← subMulVecK0_agree hag (Nat.le_refl _) hc (op.A (vdivs f beta)) _ hw,
      ← adjoint_agree op hag (Nat.le_refl _) hc,
      ← areorth_agree op s.eps bt hag (Nat.le_refl _) hc s.n 5 0 _ _ _ _ _ _ (by rw [size_subMulVecK0]; exact hw)]
    split <;> rfl
  refine ⟨⟨?_, ?_⟩, ?_, ?_⟩
  · rw [hE, hV]; exact hag
  · rw [hE]
  · rw [hV]; exact hop
  · rw [hV]; rfl

theorem arnoldi_factorStep_rel (op : Op α) (bt : α) : WritesFirst (Arnoldi.factorStep op bt) (fun s => OpWF op s.V.rows) := by
  intro i s t h hop hi
  obtain ⟨hag, hrest⟩ := h
  rw [hrest]
  unfold Arnoldi.factorStep
  dsimp only
  split
  · rw [← expand_basis_agree op s.eps hag (Nat.le_refl i) (Nat.le_of_lt hi) hop]
    exact stepCore_rel op bt s t.V i _ _ _ _ _ hag hi hop
  · exact stepCore_rel op bt s t.V i _ _ _ _ _ hag hi hop

/-- **written before read, general family**: `Arnoldi::factorize_from(from_k, ncv)` on a basis matrix with `ncv` columns does not
    depend on the columns `>= from_k` it finds — every one of them is overwritten before anything reads it — and what it leaves
    behind is identical -/
theorem arnoldi_factorize_overwrites (op : Op α) (s : State α) (B : Mat α) (from_k : Nat) (h : AgreeCols from_k s.V B)
    (hop : OpWF op s.V.rows) :
    Arnoldi.factorize_from op { s with V := B } from_k s.V.cols = Arnoldi.factorize_from op s from_k s.V.cols :=
  factorize_shape_overwrites (Arnoldi.factorStep op (s.eps * Sc.sqrt (Sc.ofInt (s.n : Int))))
    (fun s => OpWF op s.V.rows) (arnoldi_factorStep_rel op _) s B from_k h hop

/-- **the stale columns of a reused `m_fac_V` are harmless, general family**: whatever the old basis matrix of the object holds
    (right shape, as `resize` guarantees), the C++-faithful `init` followed by the first factorization of `GenEigsBase::compute()`
    gives EXACTLY the object state that the model's zero-filling `Arnoldi.init` gives -/
theorem arnoldi_init_stale_columns_harmless (op : Op α) (s : State α) (v0 : Vec α) (hw : WF s.V) (hr : s.V.rows = s.n)
    (hc : s.V.cols = s.m) (hm : 1 ≤ s.m) (hop : OpWF op s.n) :
    (initKeepV op s v0).bind (fun s' => Arnoldi.factorize_from op s' 1 s.m) =
    (Arnoldi.init op s v0).bind (fun s' => Arnoldi.factorize_from op s' 1 s.m) :=
  init_stale_of_overwrites op (Arnoldi.factorize_from op) (fun s B h _ hop => arnoldi_factorize_overwrites op s B 1 h hop)
    s v0 hw hr hc hm hop

end
end C06StaleV
