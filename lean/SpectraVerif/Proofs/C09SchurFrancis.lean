/-
  C09, whole-run similarity of UpperHessenbergSchur: the closing rotation and the clean-up loop of
  `perform_francis_qr_step`; the whole step carries `Uᵀ H U = T + S + E` with the budget of `E` growing by `performFrancisDrop`.
-/
import SpectraVerif.Proofs.C09SchurSweep
import SpectraVerif.Proofs.C09Hess

set_option linter.unusedSectionVars false

namespace C09SS
open Lin EigenPrims HessSchur C09Mat C09Step C09Sim C09OrthU C09Orth
open scoped Matrix

section field
variable {K : Type} [Field K] [LinearOrder K] [IsStrictOrderedRing K] (F : FieldFns K)

/-- **the closing rotation of the sweep** (rows/columns `p, p+1`, `iu = p + 1`): with an exact `sqrt` the rotated bulge column is
    `(r, 0)ᵀ` exactly, so an applied rotation drops nothing; a skipped one (`|r| ≤ near_0`) drops the bulge entry `T(iu, iu−2)`. -/
theorem givens_sim (hs : ∀ x : K, 0 ≤ x → F.sqrt x * F.sqrt x = x) (n im p : ℕ) (near0 : K) (H : Matrix (Fin n) (Fin n) K) (ex : K)
    (s1 : TU K) (b1 : K) (him : im + 1 ≤ p) (hiu : p + 1 < n) (h : SInv F n im (p + 1) p H ex s1 b1) :
    let _ : Sc K := scOfField F
    WF (C09Schur.closing n (p + 1) near0 s1).t ∧ (C09Schur.closing n (p + 1) near0 s1).t.rows = n ∧
    (C09Schur.closing n (p + 1) near0 s1).t.cols = n ∧ ColsOrth F n (C09Schur.closing n (p + 1) near0 s1).u ∧
    ∃ E' : Matrix (Fin n) (Fin n) K, Bnd E' (b1 + (if Sc.gt (Sc.abs (makeGivens (s1.t.get p (p - 1)) (s1.t.get (p + 1) (p - 1))).r) near0 = true
        then 0 else |s1.t.get (p + 1) (p - 1)|)) ∧
      (mat n (gf F (C09Schur.closing n (p + 1) near0 s1).u))ᵀ * H * mat n (gf F (C09Schur.closing n (p + 1) near0 s1).u) =
        mat n (live im (p + 1) (gf F (C09Schur.closing n (p + 1) near0 s1).t)) + Sm n (p + 1 + 1) ex + E' := by
  intro _
  simp only [C09Schur.closing, Nat.add_sub_cancel, show p + 1 - 2 = p - 1 from rfl]
  generalize hrot : makeGivens (s1.t.get p (p - 1)) (s1.t.get (p + 1) (p - 1)) = rot
  obtain ⟨E, hE, sim⟩ := h.sim
  have hP := h.pat
  have hcs := makeGivens_unit F hs (s1.t.get p (p - 1)) (s1.t.get (p + 1) (p - 1))
  have hrr := ((makeGivens_rot F (s1.t.get p (p - 1)) (s1.t.get (p + 1) (p - 1))).2 hs).2
  have hann := makeGivens_annih F (s1.t.get p (p - 1)) (s1.t.get (p + 1) (p - 1))
  simp only [hrot] at hcs hrr hann
  -- both branches: a window step with the rotation `(c, s)`, `bval` written at `(p, p − 1)`, then the matrix-level step
  have fin : ∀ (c s bval : K) (U' T' : ℕ → ℕ → K), c * c + s * s = 1 →
      (∀ i j, i < n → j < n → U' i j = rmul (opG p c s) (gf F s1.u) i j) →
      (∀ i j, i < n → j < n → T' i j = wr (opG p c s) (p + 1 + 1) (wl (opG p c s) p (fun i j => if i = p ∧ j + 1 = p then bval else gf F s1.t i j)) i j) →
      ∃ E' : Matrix (Fin n) (Fin n) K,
        Bnd E' (b1 + (|c * gf F s1.t p (p - 1) - s * gf F s1.t (p + 1) (p - 1) - bval| + |s * gf F s1.t p (p - 1) + c * gf F s1.t (p + 1) (p - 1)| + |0|)) ∧
        (mat n U')ᵀ * H * mat n U' = mat n (live im (p + 1) T') + Sm n (p + 1 + 1) ex + E' := by
    intro c s bval U' T' hcs' hU g1
    have hT := (winG p c s).pat_step n im (p + 1) (p + 1 + 1) (le_refl 2) (le_refl _) hiu (Or.inr (by omega)) (Or.inr ⟨by omega, le_refl _⟩)
      (gf F s1.t) _ T' bval hP (fun _ _ _ _ => rfl) g1
    exact (winQ_G n p hiu c s hcs').sim (p + 1 + 1) (Or.inl (le_refl _)) H ex _ U' _ _ _ E b1 _ hE
      (fun E' b' hE' => by
        have := bnd_add_spike hE' p (c * gf F s1.t p (p - 1) - s * gf F s1.t (p + 1) (p - 1) - bval)
          (s * gf F s1.t p (p - 1) + c * gf F s1.t (p + 1) (p - 1)) 0
        rw [if_neg (by omega)] at this
        rwa [show wspike (opG p c s) p 2 (gf F s1.t) bval = spike p _ _ 0 from funext fun i => funext fun j => wspike_G p c s bval _ i j])
      sim hU hT
  by_cases happ : Sc.gt (Sc.abs rot.r) near0 = true
  · simp only [if_pos happ]
    have a1 := (((Arr.self F h.wf h.rows h.cols).setSub F p (by omega) (by omega) rot.r).rotLeft F p p (n - (p + 1) + 1) hiu (by omega)
      rot.c rot.s).rotRight F p (p + 1 + 1) hiu (by omega) rot.c rot.s
    obtain ⟨E', hE', sim'⟩ := fin rot.c rot.s rot.r _ _ hcs
      ((Arr.self F h.orth.1 h.orth.2.1 h.orth.2.2.1).rotRight_full F p hiu rot.c rot.s).2.2.2 a1.2.2.2
    refine ⟨a1.1, a1.2.1, a1.2.2.1, colsOrth_rot F n p s1.u rot.c rot.s hcs hiu h.orth, E', bnd_mono hE' ?_, sim'⟩
    have d0 : rot.c * gf F s1.t p (p - 1) - rot.s * gf F s1.t (p + 1) (p - 1) - rot.r = 0 := sub_eq_zero.mpr hrr
    have d1 : rot.s * gf F s1.t p (p - 1) + rot.c * gf F s1.t (p + 1) (p - 1) = 0 := hann
    rw [d0, d1, abs_zero, add_zero, add_zero]
  · simp only [if_neg happ]
    obtain ⟨E', hE', sim'⟩ := fin 1 0 (gf F s1.t p (p - 1)) (gf F s1.u) (gf F s1.t) (by ring)
      (fun i j _ _ => by rw [opG_id]; rfl)
      (fun i j _ _ => by rw [opG_id, wlr_id]; exact self_write _ p i j)
    refine ⟨h.wf, h.rows, h.cols, h.orth, E', bnd_mono hE' ?_, sim'⟩
    simp [gf]

/-- after the clean-up loop the stored matrix IS the logical matrix (the loop zeroes exactly the stale entries; everything else the
    logical matrix regards as `0` is `0` because the result is upper Hessenberg) -/
theorem cleanup_live (n im iu : ℕ) (t : Mat K) (hw : @WF K t) (hr : t.rows = n) (l : List ℕ) (hl : ∀ ii ∈ l, im + 2 + ii ≤ iu)
    (hH : @C09Hess.Hess K (scOfField F) n (l.foldl (@C09Schur.cleanStep K (scOfField F) im) t))
    (i j : ℕ) (hi : i < n) (_ : j < n) :
    gf F (l.foldl (@C09Schur.cleanStep K (scOfField F) im) t) i j = live im iu (gf F t) i j := by
  let _ : Sc K := scOfField F
  simp only [live]
  by_cases hd : im ≤ j ∧ j + 2 ≤ iu ∧ j + 2 ≤ i
  · rw [if_pos hd]
    exact (hH i j hd.2.2 hi).trans (zero_eq F)
  · rw [if_neg hd]
    exact (C09Schur.presK_clean im iu l hl t hw).2.2.2 i j (by unfold C09Schur.Poll; omega) (by rw [hr]; exact hi)

/-- ghost: the budget of one `perform_francis_qr_step`: the reflector trips (`francisDrop`) plus the bulge entry `T(iu, iu−2)`
    when the closing rotation is skipped -/
def performFrancisDrop (n il im iu : ℕ) (near0 : K) (fv : K × K × K) (s : TU K) : K :=
  letI : Sc K := scOfField F
  let sp := sweepPair F n il im iu near0 fv s (iu - 1 - im)
  let rot := makeGivens (sp.1.t.get (iu - 1) (iu - 2)) (sp.1.t.get iu (iu - 2))
  sp.2 + (if Sc.gt (Sc.abs rot.r) near0 = true then 0 else |sp.1.t.get iu (iu - 2)|)

theorem performFrancisDrop_nonneg (n il im iu : ℕ) (near0 : K) (fv : K × K × K) (s : TU K) :
    0 ≤ performFrancisDrop F n il im iu near0 fv s := by
  simp only [performFrancisDrop]
  refine add_nonneg (sweepPair_nonneg F n il im iu near0 fv s _) ?_
  split
  · exact le_refl _
  · exact abs_nonneg _

/-- **one `perform_francis_qr_step` carries the invariant** `Uᵀ H U = T + S + E` (exact `sqrt`, ideal reflectors): the input `T` is
    upper Hessenberg with `T(iu+1, iu) = 0`, the budget of `E` grows by `performFrancisDrop` -/
theorem performFrancis_sim (hs : ∀ x : K, 0 ≤ x → F.sqrt x * F.sqrt x = x) (hh : IdealHH F) (n il im iu : ℕ) (near0 : K)
    (fv : K × K × K) (H : Matrix (Fin n) (Fin n) K) (ex : K) (s : TU K) (b : K) (him : im + 2 ≤ iu) (hiu : iu < n)
    (hw : @WF K s.t) (hr : s.t.rows = n) (hc : s.t.cols = n) (hH : @C09Hess.Hess K (scOfField F) n s.t)
    (hz : iu + 1 < n → @Mat.get K (scOfField F) s.t (iu + 1) iu = 0) (orth : ColsOrth F n s.u)
    (E : Matrix (Fin n) (Fin n) K) (hE : Bnd E b)
    (sim : (mat n (gf F s.u))ᵀ * H * mat n (gf F s.u) = mat n (gf F s.t) + Sm n (iu + 1) ex + E) :
    ∃ E' : Matrix (Fin n) (Fin n) K, Bnd E' (b + performFrancisDrop F n il im iu near0 fv s) ∧
      (mat n (gf F (@performFrancis K _ _ _ _ _ (scOfField F) n il im iu near0 fv s).u))ᵀ * H *
          mat n (gf F (@performFrancis K _ _ _ _ _ (scOfField F) n il im iu near0 fv s).u) =
        mat n (gf F (@performFrancis K _ _ _ _ _ (scOfField F) n il im iu near0 fv s).t) + Sm n (iu + 1) ex + E' := by
  let _ : Sc K := scOfField F
  have hHf := (C09Hess.hinv_performFrancis (s := s) ⟨hw, hr, hc, hiu, hH⟩ il im near0 fv).hess
  obtain ⟨p, rfl⟩ : ∃ p, iu = p + 1 := ⟨iu - 1, by omega⟩
  -- the invariant when the sweep starts
  have hlive0 : ∀ i j, live im im (gf F s.t) i j = gf F s.t i j := by
    intro i j; simp only [live]; rw [if_neg (by omega)]
  have h0 : SInv F n im (p + 1) im H ex s b := by
    refine ⟨hw, hr, hc, orth, ?_, E, hE, ?_⟩
    · intro i j hi hj hpos _
      rw [hlive0]
      rcases hpos with h1 | ⟨h1, h2⟩
      · have := hH i j h1 hi; simp only [gf]; rw [this]; simp [zero]
      · subst h1; subst h2; exact hz hi
    · rw [sim]; congr 2; exact mat_congr _ _ _ (fun i j _ _ => (hlive0 i j).symm)
  have h1 := sweep_sinv F hh n il im (p + 1) near0 fv H ex s b hiu h0 (p - im) (by omega)
  rw [show im + (p - im) = p by omega] at h1
  have hg := givens_sim F hs n im p near0 H ex _ _ (by omega) hiu h1
  rw [C09Schur.performFrancis_eq] at hHf ⊢
  simp only [C09Schur.chase, performFrancisDrop, Nat.add_sub_cancel, show p + 1 - 2 = p - 1 from rfl] at hHf ⊢
  simp only at hg
  rw [← sweepPair_fst F n il im (p + 1) near0 fv s (p - im)] at hHf ⊢
  generalize sweepPair F n il im (p + 1) near0 fv s (p - im) = sp at hg hHf ⊢
  generalize C09Schur.closing n (p + 1) near0 sp.1 = s2 at hg hHf ⊢
  obtain ⟨w2, r2, c2, o2, E', hE', sim'⟩ := hg
  refine ⟨E', ?_, ?_⟩
  · rw [← add_assoc]; exact hE'
  · rw [sim']
    congr 2
    apply mat_congr
    intro i j hi hj
    exact (cleanup_live F n im (p + 1) s2.t w2 r2 _ (fun ii hii => by have := List.mem_range.mp hii; omega) hHf i j hi hj).symm

end field
end C09SS
