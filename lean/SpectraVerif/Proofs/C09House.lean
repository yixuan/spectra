/-
  C09 helper lemmas: entries of the Householder reflector applications of UpperHessenbergSchur (array level, any commutative ring).
  Both loops are three-entry steps of the generic loop of `Proofs/LinLoop.lean`: trip `t` rewrites `(t, k), (t, k+1), (t, k+2)`
  resp. `(k, c0+t), (k+1, c0+t), (k+2, c0+t)` with `hhKernel`.
-/
import SpectraVerif.Proofs.C09Step

namespace C09HH
open Lin C09Mat HessSchur C09Loop
open C08Mat hiding WF

variable {R : Type} [CommRing R] [Sc R]

/-- entries of `apply_householder_right(_simd)(ess, tau, &M(0,k), nrow, stride)`: rows `i < nrow` of the three columns
    `k, k+1, k+2` become `x − τ (x·v) vᵀ`, i.e. `M P` with `P = I − τ v vᵀ`, `v = (1, v1, v2)`; nothing else changes -/
theorem applyHouseholderRight_get (m : Mat R) (h : WF m) (v1 v2 tau : R) (k nrow : Nat)
    (hk : k + 2 < m.cols) (hn : nrow ≤ m.rows) (i j : Nat) (hi : i < m.rows) :
    (applyHouseholderRight m v1 v2 tau k nrow).get i j =
      if i < nrow then
        (if j = k then m.get i k - tau * (m.get i k + v1 * m.get i (k + 1) + v2 * m.get i (k + 2))
         else if j = k + 1 then m.get i (k + 1) - tau * (m.get i k + v1 * m.get i (k + 1) + v2 * m.get i (k + 2)) * v1
         else if j = k + 2 then m.get i (k + 2) - tau * (m.get i k + v1 * m.get i (k + 1) + v2 * m.get i (k + 2)) * v2
         else m.get i j)
      else m.get i j := by
  have hin : ∀ t k', t < nrow → k' < 3 → t < m.rows ∧ k + k' < m.cols := fun t k' ht hk' =>
    ⟨Nat.lt_of_lt_of_le ht hn, by omega⟩
  obtain ⟨_, _, _, ht, hu⟩ := fold_spec
    (upd3_ok (hhKernel v1 v2 tau) (fun t _ => t) (fun _ k' => k + k') _ _ nrow hin
      (fun t a b _ hab _ hh => Nat.ne_of_lt hab (Nat.add_left_cancel hh.2)))
    hin (fun t t' _ _ _ _ _ _ hh _ => hh) (tripleNv_cong _) h rfl rfl nrow (Nat.le_refl nrow)
  show ((List.range nrow).foldl (upd3 (hhKernel v1 v2 tau) (fun t _ => t) (fun _ k' => k + k')) m).get i j = _
  by_cases hwin : i < nrow
  · rw [if_pos hwin]
    by_cases h0 : j = k
    · rw [if_pos h0, h0]; exact ht i 0 hwin (by decide)
    · rw [if_neg h0]
      by_cases h1 : j = k + 1
      · rw [if_pos h1, h1]; exact ht i 1 hwin (by decide)
      · rw [if_neg h1]
        by_cases h2 : j = k + 2
        · rw [if_pos h2, h2]; exact ht i 2 hwin (by decide)
        · rw [if_neg h2]
          refine hu i j hi (fun t k' _ hk' hh => ?_)
          obtain rfl | rfl | rfl : k' = 0 ∨ k' = 1 ∨ k' = 2 := by omega
          · exact h0 hh.2.symm
          · exact h1 hh.2.symm
          · exact h2 hh.2.symm
  · rw [if_neg hwin]
    exact hu i j hi (fun t _ ht _ hh => hwin (hh.1 ▸ ht))

/-- entries of `apply_householder_left(ess, tau, &M(k,c0), ncol, stride)`: columns `c0 ≤ j < c0+ncol` of the three rows
    `k, k+1, k+2` become `x − τ v (vᵀx)`, i.e. `P M` with `P = I − τ v vᵀ`, `v = (1, v1, v2)`; nothing else changes -/
theorem applyHouseholderLeft_get (m : Mat R) (h : WF m) (v1 v2 tau : R) (k c0 ncol : Nat)
    (hk : k + 2 < m.rows) (hn : c0 + ncol ≤ m.cols) (i j : Nat) (hi : i < m.rows) :
    (applyHouseholderLeft m v1 v2 tau k c0 ncol).get i j =
      if c0 ≤ j ∧ j < c0 + ncol then
        (if i = k then m.get k j - tau * (m.get k j + v1 * m.get (k + 1) j + v2 * m.get (k + 2) j)
         else if i = k + 1 then m.get (k + 1) j - tau * (m.get k j + v1 * m.get (k + 1) j + v2 * m.get (k + 2) j) * v1
         else if i = k + 2 then m.get (k + 2) j - tau * (m.get k j + v1 * m.get (k + 1) j + v2 * m.get (k + 2) j) * v2
         else m.get i j)
      else m.get i j := by
  have hin : ∀ t k', t < ncol → k' < 3 → k + k' < m.rows ∧ c0 + t < m.cols := fun t k' ht hk' =>
    ⟨by omega, Nat.lt_of_lt_of_le (Nat.add_lt_add_left ht c0) hn⟩
  obtain ⟨_, _, _, ht, hu⟩ := fold_spec
    (upd3_ok (hhKernel v1 v2 tau) (fun _ k' => k + k') (fun t _ => c0 + t) _ _ ncol hin
      (fun t a b _ hab _ hh => Nat.ne_of_lt hab (Nat.add_left_cancel hh.1)))
    hin (fun t t' _ _ _ _ _ _ _ hh => Nat.add_left_cancel hh) (tripleNv_cong _) h rfl rfl ncol (Nat.le_refl ncol)
  show ((List.range ncol).foldl (upd3 (hhKernel v1 v2 tau) (fun _ k' => k + k') (fun t _ => c0 + t)) m).get i j = _
  by_cases hwin : c0 ≤ j ∧ j < c0 + ncol
  · rw [if_pos hwin]
    obtain ⟨t, rfl⟩ : ∃ t, j = c0 + t := ⟨j - c0, (Nat.add_sub_of_le hwin.1).symm⟩
    have htn : t < ncol := Nat.lt_of_add_lt_add_left hwin.2
    by_cases h0 : i = k
    · rw [if_pos h0, h0]; exact ht t 0 htn (by decide)
    · rw [if_neg h0]
      by_cases h1 : i = k + 1
      · rw [if_pos h1, h1]; exact ht t 1 htn (by decide)
      · rw [if_neg h1]
        by_cases h2 : i = k + 2
        · rw [if_pos h2, h2]; exact ht t 2 htn (by decide)
        · rw [if_neg h2]
          refine hu i _ hi (fun t k' _ hk' hh => ?_)
          obtain rfl | rfl | rfl : k' = 0 ∨ k' = 1 ∨ k' = 2 := by omega
          · exact h0 hh.1.symm
          · exact h1 hh.1.symm
          · exact h2 hh.1.symm
  · rw [if_neg hwin]
    exact hu i j hi (fun t _ ht _ hh => hwin ⟨hh.2 ▸ Nat.le_add_right c0 t, hh.2 ▸ Nat.add_lt_add_left ht c0⟩)

end C09HH
