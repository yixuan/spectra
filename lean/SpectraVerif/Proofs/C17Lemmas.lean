/-
  Lemmas about the LOBPCG bookkeeping model `Model/LOBPCG.lean` (all kernels universally quantified; only `A*`, `B*` linear).
-/
import SpectraVerif.Model.LOBPCG
import SpectraVerif.Proofs.SumFold
import SpectraVerif.Proofs.SumZip
import Mathlib.Data.List.Range
import Mathlib.Algebra.Module.LinearMap.Defs

set_option linter.unusedSectionVars false

namespace Lobpcg

section upd
variable {α V : Type} [Add V] [SMul α V]

/-- `R*C_R + D*C_D` (`R*C_R` in iteration 0): the new `directions`, and with `AR, AD` / `BR, BD` for `R, D` the new `AD` / `BD` -/
def dirUpd (z : V) (iter nev bs : Nat) (C : List (List α)) (R D : List V) : List V :=
  if iter > 0 then addB (mulCoef z R (rowsOf C nev bs)) (mulCoef z D (rowsOf C (nev + bs) bs)) else mulCoef z R (rowsOf C nev bs)

/-- `M*C_X + (R*C_R + D*C_D)`: the new `X`, and likewise the new `AX`, `BX` -/
def blockUpd (z : V) (iter nev bs : Nat) (C : List (List α)) (M R D : List V) : List V :=
  addB (mulCoef z M (rowsOf C 0 nev)) (dirUpd z iter nev bs C R D)

end upd

/-! ### block algebra -/
section alg
variable {α V : Type} [CommRing α] [AddCommGroup V] [Module α V]

theorem lincombGo_eq (acc : V) (cs : List α) (vs : List V) : lincombGo acc cs vs = acc + sumZip cs vs := by
  induction cs generalizing acc vs with
  | nil => simp [lincombGo]
  | cons c cs ih =>
    cases vs with
    | nil => simp [lincombGo]
    | cons v vs => simp only [lincombGo, ih, sumZip_cons, add_assoc]

theorem lincomb_zero_eq (cs : List α) (vs : List V) : lincomb (0 : V) cs vs = sumZip cs vs := by
  cases cs with
  | nil => simp [lincomb]
  | cons c cs =>
    cases vs with
    | nil => simp [lincomb]
    | cons v vs => simp only [lincomb, lincombGo_eq, sumZip_cons]

theorem mulCoef_zero_eq (M : List V) (C : List (List α)) : mulCoef (0 : V) M C = C.map (fun c => sumZip c M) := by
  unfold mulCoef; simp only [lincomb_zero_eq]

variable {W : Type} [AddCommGroup W] [Module α W]

theorem map_mulCoef (f : V → W) (hf : IsLinearMap α f) (M : List V) (C : List (List α)) :
    (mulCoef (0 : V) M C).map f = mulCoef (0 : W) (M.map f) C := by
  simp only [mulCoef_zero_eq, List.map_map]
  apply List.map_congr_left
  intro c _
  exact map_sumZip f hf c M

theorem map_addB (f : V → W) (hf : ∀ x y, f (x + y) = f x + f y) (M N : List V) :
    (addB M N).map f = addB (M.map f) (N.map f) := by
  simp only [addB, List.map_zipWith, List.zipWith_map, hf]

theorem map_dirUpd (f : V → W) (hf : IsLinearMap α f) (iter nev bs : Nat) (C : List (List α)) (R D : List V) :
    (dirUpd (0 : V) iter nev bs C R D).map f = dirUpd (0 : W) iter nev bs C (R.map f) (D.map f) := by
  unfold dirUpd
  split
  · rw [map_addB f hf.map_add, map_mulCoef f hf, map_mulCoef f hf]
  · exact map_mulCoef f hf R _

theorem map_blockUpd (f : V → W) (hf : IsLinearMap α f) (iter nev bs : Nat) (C : List (List α)) (M R D : List V) :
    (blockUpd (0 : V) iter nev bs C M R D).map f = blockUpd (0 : W) iter nev bs C (M.map f) (R.map f) (D.map f) := by
  unfold blockUpd
  rw [map_addB f hf.map_add, map_mulCoef f hf, map_dirUpd f hf]

theorem map_removeColsFrom {V W : Type} (f : V → W) (i : Nat) (del : List Nat) (M : List V) :
    removeColsFrom i del (M.map f) = (removeColsFrom i del M).map f := by
  induction M generalizing i with
  | nil => rfl
  | cons m M ih =>
    simp only [List.map_cons, removeColsFrom]
    split
    · exact ih _
    · simp only [List.map_cons, ih]

theorem map_removeCols {V W : Type} (f : V → W) (del : List Nat) (M : List V) :
    removeCols (M.map f) del = (removeCols M del).map f := map_removeColsFrom f 0 del M

theorem residual_length (a b : List V) (t : List α) :
    (residual a b t).length = min a.length (min b.length t.length) := by
  fun_induction residual a b t with
  | case1 a as b bs t ts ih => simp only [List.length_cons, ih, Nat.add_min_add_right]
  | case2 a b t h =>
    rcases a with _ | ⟨a0, as⟩
    · rfl
    rcases b with _ | ⟨b0, bs⟩
    · simp only [List.length_nil, Nat.zero_min, Nat.min_zero]
    rcases t with _ | ⟨t0, ts⟩
    · simp only [List.length_nil, Nat.min_zero]
    · exact absurd rfl (h a0 as b0 bs t0 ts rfl rfl)

/-! ### the update `X*C_X + R*C_R + D*C_D` is `[X R D] * C` -/

theorem addB_map_map {γ : Type} (f g : γ → V) (C : List γ) :
    addB (C.map f) (C.map g) = C.map (fun c => f c + g c) := by
  simp only [addB, List.zipWith_map, List.zipWith_self]

theorem mulCoef_rowsOf (M : List V) (C : List (List α)) (start : Nat) :
    mulCoef (0 : V) M (rowsOf C start M.length) = C.map (fun col => sumZip (col.drop start) M) := by
  rw [mulCoef_zero_eq]
  unfold rowsOf
  rw [List.map_map]
  apply List.map_congr_left
  intro col _
  exact sumZip_take _ _

/-- three-block update (iterations ≥ 1) -/
theorem update_concat3 (X R D : List V) (C : List (List α)) :
    addB (mulCoef (0 : V) X (rowsOf C 0 X.length))
        (addB (mulCoef (0 : V) R (rowsOf C X.length R.length))
              (mulCoef (0 : V) D (rowsOf C (X.length + R.length) D.length))) =
      mulCoef (0 : V) (X ++ R ++ D) C := by
  rw [mulCoef_rowsOf, mulCoef_rowsOf, mulCoef_rowsOf, addB_map_map, addB_map_map, mulCoef_zero_eq]
  apply List.map_congr_left
  intro col _
  simp only [List.drop_zero, sumZip_append, List.length_append, add_assoc]

/-- two-block update (iteration 0: no directions yet) -/
theorem update_concat2 (X R : List V) (C : List (List α)) :
    addB (mulCoef (0 : V) X (rowsOf C 0 X.length)) (mulCoef (0 : V) R (rowsOf C X.length R.length)) =
      mulCoef (0 : V) (X ++ R) C := by
  rw [mulCoef_rowsOf, mulCoef_rowsOf, addB_map_map, mulCoef_zero_eq]
  apply List.map_congr_left
  intro col _
  simp only [List.drop_zero, sumZip_append]

end alg

/-! ### `sort_epairs` and shapes -/
section shapes
variable {α β V : Type}

theorem insertKey_length_le (lt : α → α → Bool) (k : α) (v : β) (m : List (α × β)) :
    (insertKey lt k v m).length ≤ m.length + 1 := by
  induction m with
  | nil => simp [insertKey]
  | cons p m ih =>
    obtain ⟨k', v'⟩ := p
    unfold insertKey
    split
    · simp
    · split
      · simp only [List.length_cons]; omega
      · simp

theorem foldl_insertKey_length_le (lt : α → α → Bool) (ps : List (α × β)) (m : List (α × β)) :
    (ps.foldl (fun m p => insertKey lt p.1 p.2 m) m).length ≤ m.length + ps.length := by
  induction ps generalizing m with
  | nil => simp
  | cons p ps ih =>
    simp only [List.foldl_cons, List.length_cons]
    have h1 := ih (insertKey lt p.1 p.2 m)
    have h2 := insertKey_length_le lt p.1 p.2 m
    omega

/-- `sort_epairs` keeps the number of eigenvalues and of coefficient columns (when they agree, as they do in the code) -/
theorem sortEpairs_length (lt : α → α → Bool) (θ : List α) (C : List β) (h : θ.length = C.length) :
    (sortEpairs lt θ C).1.length = θ.length ∧ (sortEpairs lt θ C).2.length = C.length := by
  unfold sortEpairs
  simp only []
  have := foldl_insertKey_length_le lt (θ.zip C) []
  simp only [List.length_nil, List.length_zip, Nat.zero_add] at this
  simp only [List.length_append, List.length_map, List.length_drop]
  omega

@[simp] theorem length_mulCoef [Add V] [SMul α V] (z : V) (M : List V) (C : List (List α)) :
    (mulCoef z M C).length = C.length := by simp [mulCoef]

@[simp] theorem length_addB [Add V] (M N : List V) : (addB M N).length = min M.length N.length := by simp [addB]

@[simp] theorem length_rowsOf (C : List (List α)) (a b : Nat) : (rowsOf C a b).length = C.length := by simp [rowsOf]

@[simp] theorem length_dirUpd [Add V] [SMul α V] (z : V) (iter nev bs : Nat) (C : List (List α)) (R D : List V) :
    (dirUpd z iter nev bs C R D).length = C.length := by
  unfold dirUpd; split <;> simp

@[simp] theorem length_blockUpd [Add V] [SMul α V] (z : V) (iter nev bs : Nat) (C : List (List α)) (M R D : List V) :
    (blockUpd z iter nev bs C M R D).length = C.length := by
  simp [blockUpd]

end shapes

/-! ### the model: facts that hold for every scalar and column type (also the executable `Float` instance) -/
section modelgen
variable {α V : Type} [Add V] [Sub V] [SMul α V] (K : Kern α V) (c : Cfg)

/-- every one of the first `nev` columns of `W` exists and passes the code's norm test -/
def Passes (K : Kern α V) (c : Cfg) (t : α) (W : List V) : Prop :=
  ∀ i, i < c.nev → ∃ w, W[i]? = some w ∧ K.below t w = true

def StepRes.Sat (P : St α V → Loc V → Prop) (Q : St α V → Loc V → Exit → Prop) : StepRes α V → Prop
  | .cont s l => P s l
  | .stop s l e => Q s l e

theorem StepRes.Sat.imp {P P' : St α V → Loc V → Prop} {Q Q' : St α V → Loc V → Exit → Prop} {r : StepRes α V}
    (h : r.Sat P Q) (hP : ∀ s l, P s l → P' s l) (hQ : ∀ s l e, Q s l e → Q' s l e) : r.Sat P' Q' := by
  cases r with
  | cont s l => exact hP s l h
  | stop s l e => exact hQ s l e h

theorem StepRes.Sat.cont {P : St α V → Loc V → Prop} {Q : St α V → Loc V → Exit → Prop} {r : StepRes α V}
    (h : r.Sat P Q) {s : St α V} {l : Loc V} (e : r = .cont s l) : P s l := by subst e; exact h

theorem StepRes.Sat.stop {P : St α V → Loc V → Prop} {Q : St α V → Loc V → Exit → Prop} {r : StepRes α V}
    (h : r.Sat P Q) {s : St α V} {l : Loc V} {x : Exit} (e : r = .stop s l x) : Q s l x := by subst e; exact h

/-- invariant rule for the iteration loop -/
theorem loop_sat (t : α) (I : St α V → Loc V → Prop) (J : St α V → Loc V → Exit → Prop)
    (hstep : ∀ iter s l, I s l → (step K c t iter s l).Sat I J)
    (hex : ∀ s l, I s l → J s l .exhausted) :
    ∀ fuel iter s l, I s l →
      J (loop K c t fuel iter s l).1 (loop K c t fuel iter s l).2.1 (loop K c t fuel iter s l).2.2 := by
  intro fuel
  induction fuel with
  | zero => intro iter s l h; exact hex s l h
  | succ fuel ih =>
    intro iter s l h
    have hs := hstep iter s l h
    unfold loop
    cases hr : step K c t iter s l with
    | cont s' l' => rw [hr] at hs; exact ih (iter + 1) s' l' hs
    | stop s' l' e => rw [hr] at hs; exact hs

/-- the one unfolding of `compute`: some number of loop passes from the state after the initial phase, leaving the state `s2`, then
    either the exception exit (state as the loop left it) or `finalize` -/
theorem compute_cases (maxit : Int) (tol : α) (s0 : St α V) :
    ∃ fuel s2, loop K c (K.tolL2 tol c.n) fuel 0 (initPhase K (reset s0)).1 (initPhase K (reset s0)).2.1 =
        (s2, (compute K c maxit tol s0).l, (compute K c maxit tol s0).exit) ∧
      (compute K c maxit tol s0).initOk = (initPhase K (reset s0)).2.2 ∧
      (((∃ i, (compute K c maxit tol s0).exit = .rrThrew i) ∧ (compute K c maxit tol s0).threw = true ∧
          (compute K c maxit tol s0).s = s2) ∨
       ((∀ i, (compute K c maxit tol s0).exit ≠ .rrThrew i) ∧ (compute K c maxit tol s0).threw = false ∧
          (compute K c maxit tol s0).s = finalize K c (K.tolL2 tol c.n) s2 (compute K c maxit tol s0).l)) := by
  unfold compute
  dsimp only
  generalize (if (initPhase K (reset s0)).2.2 = true then min c.n maxit.toNat else 0) = fuel
  refine ⟨fuel, ?_⟩
  split
  · rename_i i he
    exact ⟨_, rfl, rfl, .inl ⟨⟨i, he⟩, rfl, rfl⟩⟩
  · rename_i hne
    exact ⟨_, rfl, rfl, .inr ⟨hne, rfl, rfl⟩⟩

/-- the value of `m_info` when the loop is left through exit `e`, `i0` being its value before -/
def exitInfo (e : Exit) (i0 : EInfo) : EInfo :=
  match e with
  | .converged _ => .success
  | .orthRFailed _ => .numericalIssue
  | .orthDFailed _ => .numericalIssue
  | .gramFailed _ => .numericalIssue
  | .rrFailed _ => .noConvergence
  | .rrThrew _ => i0
  | .exhausted => i0

/-- where the locals can stand when a pass stops, and before a completed pass updates them: `AX`, `BX` untouched; `directions`,
    `AD`, `BD` untouched, or the same columns removed from all three, or `AD`, `BD` recomputed from the re-orthonormalised
    `directions` -/
def Mid (K : Kern α V) (l l' : Loc V) : Prop :=
  l'.AX = l.AX ∧ l'.BX = l.BX ∧
    ((l'.D = l.D ∧ l'.AD = l.AD ∧ l'.BD = l.BD) ∨
     (∃ del, l'.D = removeCols l.D del ∧ l'.AD = removeCols l.AD del ∧ l'.BD = removeCols l.BD del) ∨
     (l'.AD = l'.D.map K.applyA ∧ l'.BD = l'.D.map K.applyB))

theorem Mid.refl (l : Loc V) : Mid K l l := ⟨rfl, rfl, .inl ⟨rfl, rfl, rfl⟩⟩

/-- One pass through the loop body, outcome by outcome (`bs` is the code's `BlockSize`).  A stopped pass has only written
    `m_residuals` and the `m_info` of its exit; `converged` means block size 0, `rrThrew` a refused constructor guard or a throwing
    kernel.  Every fact about `step` below is read off from here.  (`bs` is a variable with its value as a hypothesis so that
    `hcont`/`hstop` can speak of it; callers pass `_ rfl`.) -/
theorem step_sat {P : St α V → Loc V → Prop} {Q : St α V → Loc V → Exit → Prop}
    (t : α) (iter : Nat) (s : St α V) (l : Loc V) (bs : Nat)
    (hbs : bs = c.nev - (delCols K c t (residual l.AX l.BX s.evals)).length)
    (hcont : ∀ R l1 θ0 C0, 0 < bs → Mid K l l1 →
      innerGuard c.nev (c.nev + bs + (if iter > 0 then bs else 0)) = true →
      K.rr { iter := iter, X := s.X, R := R, D := l1.D, AR := R.map K.applyA, AD := l1.AD, BR := R.map K.applyB,
             BD := l1.BD, evals := s.evals } = .ok θ0 C0 →
      P { s with X := blockUpd K.zeroV iter c.nev bs (sortEpairs K.lt θ0 C0).2 s.X R l1.D, resid := R,
                 evals := (sortEpairs K.lt θ0 C0).1, evecs := (sortEpairs K.lt θ0 C0).2 }
        { AX := blockUpd K.zeroV iter c.nev bs (sortEpairs K.lt θ0 C0).2 l1.AX (R.map K.applyA) l1.AD,
          BX := blockUpd K.zeroV iter c.nev bs (sortEpairs K.lt θ0 C0).2 l1.BX (R.map K.applyB) l1.BD,
          D := dirUpd K.zeroV iter c.nev bs (sortEpairs K.lt θ0 C0).2 R l1.D,
          AD := dirUpd K.zeroV iter c.nev bs (sortEpairs K.lt θ0 C0).2 (R.map K.applyA) l1.AD,
          BD := dirUpd K.zeroV iter c.nev bs (sortEpairs K.lt θ0 C0).2 (R.map K.applyB) l1.BD })
    (hstop : ∀ r l' e, Mid K l l' → (∀ i, e = .converged i → bs = 0) →
      (∀ i, e = .rrThrew i → 0 < bs ∧
        (innerGuard c.nev (c.nev + bs + (if iter > 0 then bs else 0)) = false ∨ ∃ inp, K.rr inp = .threw)) →
      Q { s with resid := r, info := exitInfo e s.info } l' e) :
    (step K c t iter s l).Sat P Q := by
  subst hbs
  unfold step
  extract_lets +onlyGivenNames W del bs R0 l0 R1
  have hl0 : Mid K l l0 := by
    show Mid K l (if iter > 0 then _ else l)
    split
    · exact ⟨rfl, rfl, .inr (.inl ⟨del, rfl, rfl, rfl⟩)⟩
    · exact Mid.refl K l
  clear_value l0
  by_cases h0 : bs = 0
  · rw [if_pos h0]
    exact hstop W l (.converged iter) (Mid.refl K l) (fun _ _ => h0) (fun _ h => nomatch h)
  rw [if_neg h0]
  have hpos : 0 < bs := Nat.pos_of_ne_zero h0
  split
  · exact hstop R1 l0 (.orthRFailed iter) hl0 (fun _ h => nomatch h) (fun _ h => nomatch h)
  rename_i R hR
  extract_lets +onlyGivenNames BR AR dres
  have hl1 : ∀ l1, dres = some l1 → Mid K l l1 := by
    intro l1
    show (if iter > 0 then _ else some l0) = some l1 → _
    split
    · split
      · intro h; cases h
      · intro h; cases h; exact ⟨hl0.1, hl0.2.1, .inr (.inr ⟨rfl, rfl⟩)⟩
    · intro h; cases h; exact hl0
  clear_value dres
  split
  · exact hstop R l0 (.orthDFailed iter) hl0 (fun _ h => nomatch h) (fun _ h => nomatch h)
  rename_i l1
  have hl1 := hl1 l1 rfl
  extract_lets +onlyGivenNames rows inp
  by_cases hs : K.gramSPD inp = false
  · rw [if_pos hs]
    exact hstop R l1 (.gramFailed iter) hl1 (fun _ h => nomatch h) (fun _ h => nomatch h)
  rw [if_neg hs]
  by_cases hg : innerGuard c.nev rows = false
  · rw [if_pos hg]
    exact hstop R l1 (.rrThrew iter) hl1 (fun _ h => nomatch h) (fun _ _ => ⟨hpos, .inl hg⟩)
  rw [if_neg hg]
  split
  · rename_i hr
    exact hstop R l1 (.rrThrew iter) hl1 (fun _ h => nomatch h) (fun _ _ => ⟨hpos, .inr ⟨_, hr⟩⟩)
  · exact hstop R l1 (.rrFailed iter) hl1 (fun _ h => nomatch h) (fun _ h => nomatch h)
  · rename_i θ0 C0 hr
    exact hcont R l1 θ0 C0 hpos hl1 ((Bool.not_eq_false _).mp hg) hr

theorem sub_filter_range_zero_iff (p : Nat → Bool) (n : Nat) :
    n - ((List.range n).filter p).length = 0 ↔ ∀ i, i < n → p i = true := by
  have h := List.length_filter_eq_length_iff (p := p) (l := List.range n)
  have hle := List.length_filter_le p (List.range n)
  simp only [List.length_range, List.mem_range] at h hle
  rw [← h]; omega

/-- the block size computed by `checkConvergence_getBlocksize` is 0 exactly when all `nev` columns pass the test -/
theorem blockSize_zero_iff (t : α) (W : List V) : c.nev - (delCols K c t W).length = 0 ↔ Passes K c t W := by
  unfold delCols Passes
  rw [sub_filter_range_zero_iff]
  constructor
  · intro h i hi
    have := h i hi
    split at this
    · rename_i w hw; exact ⟨w, hw, this⟩
    · cases this
  · intro h i hi
    obtain ⟨w, hw, hb⟩ := h i hi
    simp only [hw, hb]

theorem finalize_frame (t : α) (s : St α V) (l : Loc V) :
    (finalize K c t s l).X = s.X ∧ (finalize K c t s l).evals = s.evals ∧ (finalize K c t s l).evecs = s.evecs ∧
    (finalize K c t s l).resid = residual l.AX l.BX s.evals := by
  unfold finalize; simp only []; split <;> exact ⟨rfl, rfl, rfl, rfl⟩

theorem finalize_info (t : α) (s : St α V) (l : Loc V) :
    (Passes K c t (residual l.AX l.BX s.evals) →
      (finalize K c t s l).info = if K.borth s.X l.BX then .success else .numericalIssue) ∧
    (¬ Passes K c t (residual l.AX l.BX s.evals) → (finalize K c t s l).info = s.info) := by
  unfold finalize; simp only []
  have hb := blockSize_zero_iff K c t (residual l.AX l.BX s.evals)
  constructor
  · intro h; rw [if_pos (hb.mpr h)]
  · intro h; rw [if_neg (fun h' => h (hb.mp h'))]

/-- The initial phase, case by case.  `X1`, `BX`, `ok`, `i1` are what `orthogonalizeInPlace(X, …)` leaves: on failure `X` is kept, `BX` is
    empty and `m_info = NumericalIssue`.  Then the dense eigen-solver fails (`NoConvergence`, nothing else written) or its sorted
    pairs rotate the blocks. -/
theorem initPhase_cases (s : St α V) :
    ∃ X1 BX ok i1,
      ((K.orth .initX s.X (s.X.map K.applyB) = none ∧ X1 = s.X ∧ BX = [] ∧ ok = false ∧ i1 = .numericalIssue) ∨
       (K.orth .initX s.X (s.X.map K.applyB) = some X1 ∧ BX = X1.map K.applyB ∧ ok = true ∧ i1 = s.info)) ∧
      ((K.eig0 X1 (X1.map K.applyA) = none ∧ initPhase K s =
          ({ s with X := X1, info := .noConvergence }, { AX := X1.map K.applyA, BX := BX, D := [], AD := [], BD := [] }, false)) ∨
       (∃ θ0 C0, K.eig0 X1 (X1.map K.applyA) = some (θ0, C0) ∧ initPhase K s =
          ({ s with X := mulCoef K.zeroV X1 (sortEpairs K.lt θ0 C0).2, info := i1, evals := (sortEpairs K.lt θ0 C0).1,
                    evecs := (sortEpairs K.lt θ0 C0).2 },
           { AX := mulCoef K.zeroV (X1.map K.applyA) (sortEpairs K.lt θ0 C0).2,
             BX := mulCoef K.zeroV BX (sortEpairs K.lt θ0 C0).2, D := [], AD := [], BD := [] }, ok))) := by
  unfold initPhase
  cases ho : K.orth .initX s.X (s.X.map K.applyB) with
  | none =>
    refine ⟨s.X, [], false, .numericalIssue, .inl ⟨rfl, rfl, rfl, rfl, rfl⟩, ?_⟩
    cases he : K.eig0 s.X (s.X.map K.applyA) with
    | none => exact .inl ⟨rfl, by simp only [he]⟩
    | some p => exact .inr ⟨p.1, p.2, rfl, by simp only [he]⟩
  | some X1 =>
    refine ⟨X1, X1.map K.applyB, true, s.info, .inr ⟨rfl, rfl, rfl, rfl⟩, ?_⟩
    cases he : K.eig0 X1 (X1.map K.applyA) with
    | none => exact .inl ⟨rfl, by simp only [he]⟩
    | some p => exact .inr ⟨p.1, p.2, rfl, by simp only [he]⟩

theorem initPhase_info (s0 : St α V) :
    ((initPhase K s0).2.2 = true → (initPhase K s0).1.info = s0.info) ∧
    ((initPhase K s0).1.info = s0.info ∨ (initPhase K s0).1.info = .numericalIssue ∨
      (initPhase K s0).1.info = .noConvergence) := by
  obtain ⟨X1, BX, ok, i1, ho, ⟨_, e⟩ | ⟨θ0, C0, _, e⟩⟩ := initPhase_cases K s0 <;> rw [e]
  · exact ⟨nofun, .inr (.inr rfl)⟩
  · rcases ho with ⟨_, _, _, rfl, rfl⟩ | ⟨_, _, rfl, rfl⟩
    · exact ⟨nofun, .inr (.inl rfl)⟩
    · exact ⟨fun _ => rfl, .inl rfl⟩

theorem initPhase_ok_iff (s0 : St α V) :
    (initPhase K s0).2.2 = true ↔
      ∃ X', K.orth .initX s0.X (s0.X.map K.applyB) = some X' ∧ (K.eig0 X' (X'.map K.applyA)).isSome := by
  obtain ⟨X1, BX, ok, i1, ho, ⟨h0, e⟩ | ⟨θ0, C0, h0, e⟩⟩ := initPhase_cases K s0 <;> rw [e]
  · refine ⟨nofun, fun ⟨X', hX, hE⟩ => ?_⟩
    rcases ho with ⟨hn, _⟩ | ⟨hs, _⟩
    · rw [hn] at hX; cases hX
    · rw [hs] at hX; cases hX; rw [h0] at hE; cases hE
  · rcases ho with ⟨hn, _, _, rfl, _⟩ | ⟨hs, _, rfl, _⟩
    · exact ⟨nofun, fun ⟨X', hX, _⟩ => by rw [hn] at hX; cases hX⟩
    · exact ⟨fun _ => ⟨X1, hs, by rw [h0]; rfl⟩, fun _ => rfl⟩

/-- a completed iteration means the inner solver's constructor accepted `(nev, innerNcv nev rows)` on `rows = nev + bs (+ bs)` -/
theorem step_guard (t : α) (iter : Nat) (s : St α V) (l : Loc V) :
    (step K c t iter s l).Sat
      (fun _ _ => ∃ bs, 0 < bs ∧ bs ≤ c.nev ∧ innerGuard c.nev (c.nev + bs + (if iter > 0 then bs else 0)) = true)
      (fun _ _ _ => True) :=
  step_sat K c t iter s l _ rfl (fun _ _ _ _ hpos _ hg _ => ⟨_, hpos, Nat.sub_le _ _, hg⟩) (fun _ _ _ _ _ _ => trivial)

/-- after a completed iteration `m_evalues`/`m_evectors` are the sorted output of the Rayleigh-Ritz kernel of THIS iteration -/
theorem step_evecs (t : α) (iter : Nat) (s : St α V) (l : Loc V) :
    (step K c t iter s l).Sat
      (fun s' _ => ∃ inp θ0 C0, K.rr inp = .ok θ0 C0 ∧ inp.iter = iter ∧ inp.X = s.X ∧ inp.evals = s.evals ∧
        s'.evals = (sortEpairs K.lt θ0 C0).1 ∧ s'.evecs = (sortEpairs K.lt θ0 C0).2)
      (fun _ _ _ => True) :=
  step_sat K c t iter s l _ rfl (fun _ _ θ0 C0 _ _ _ hr => ⟨_, θ0, C0, hr, rfl, rfl, rfl, rfl, rfl⟩)
    (fun _ _ _ _ _ _ => trivial)

/-- the new iterate of a completed iteration, in terms of the published `m_residuals` (= the orthonormalised `R`), the
    directions `D` used and the published coefficient matrix -/
theorem step_update (t : α) (iter : Nat) (s : St α V) (l : Loc V) :
    (step K c t iter s l).Sat
      (fun s' _ => ∃ (D : List V) (bs : Nat), s'.X = blockUpd K.zeroV iter c.nev bs s'.evecs s.X s'.resid D)
      (fun _ _ _ => True) :=
  step_sat K c t iter s l _ rfl (fun _ l1 _ _ _ _ _ _ => ⟨l1.D, _, rfl⟩) (fun _ _ _ _ _ _ => trivial)

/-- shapes: a completed iteration leaves `nev` columns/values if the Rayleigh-Ritz kernel returns `nev` pairs; every other
    exit leaves `X`, `m_evalues`, `m_evectors` untouched -/
theorem step_shape (hrr : ∀ inp θ C, K.rr inp = .ok θ C → θ.length = c.nev ∧ C.length = c.nev)
    (t : α) (iter : Nat) (s : St α V) (l : Loc V) :
    (step K c t iter s l).Sat
      (fun s' l' => (s'.X.length = c.nev ∧ s'.evals.length = c.nev ∧ s'.evecs.length = c.nev) ∧
        l'.D.length = c.nev ∧ l'.AD.length = c.nev ∧ l'.BD.length = c.nev)
      (fun s' _ _ => s'.X = s.X ∧ s'.evals = s.evals ∧ s'.evecs = s.evecs) := by
  refine step_sat K c t iter s l _ rfl (fun _ _ θ0 C0 _ _ _ hr => ?_) (fun _ _ _ _ _ _ => ⟨rfl, rfl, rfl⟩)
  obtain ⟨h1, h2⟩ := hrr _ _ _ hr
  obtain ⟨h3, h4⟩ := sortEpairs_length K.lt θ0 C0 (h1.trans h2.symm)
  simp only [length_blockUpd, length_dirUpd, h3, h4, h1, h2, and_self]

theorem initPhase_shape (heig : ∀ X AX θ C, K.eig0 X AX = some (θ, C) → θ.length = c.nev ∧ C.length = c.nev)
    (s0 : St α V) (hok : (initPhase K s0).2.2 = true) :
    (initPhase K s0).1.X.length = c.nev ∧ (initPhase K s0).1.evals.length = c.nev ∧
      (initPhase K s0).1.evecs.length = c.nev := by
  obtain ⟨X1, BX, ok, i1, _, ⟨_, e⟩ | ⟨θ0, C0, hg, e⟩⟩ := initPhase_cases K s0 <;> rw [e] at hok ⊢
  · exact absurd hok Bool.false_ne_true
  · obtain ⟨h1, h2⟩ := heig _ _ _ _ hg
    obtain ⟨h3, h4⟩ := sortEpairs_length K.lt θ0 C0 (h1.trans h2.symm)
    simp only [length_mulCoef, h3, h4, h1, h2, and_self]

/-- `m_info` after the loop is determined by the exit, and the `converged` exit means all columns passed on the final blocks -/
theorem loop_info (t : α) (fuel iter : Nat) (s : St α V) (l : Loc V) :
    (loop K c t fuel iter s l).1.info = exitInfo (loop K c t fuel iter s l).2.2 s.info ∧
    (∀ i, (loop K c t fuel iter s l).2.2 = .converged i →
      Passes K c t (residual (loop K c t fuel iter s l).2.1.AX (loop K c t fuel iter s l).2.1.BX
        (loop K c t fuel iter s l).1.evals)) := by
  refine loop_sat K c t (fun s' _ => s'.info = s.info)
    (fun s' l' e => s'.info = exitInfo e s.info ∧
      (∀ i, e = .converged i → Passes K c t (residual l'.AX l'.BX s'.evals))) ?_ ?_ fuel iter s l rfl
  · intro it s1 l1 h1
    refine step_sat K c t it s1 l1 _ rfl (fun _ _ _ _ _ _ _ _ => h1) (fun _ l' e hm hc _ => ⟨congrArg (exitInfo e) h1, ?_⟩)
    intro i hi
    rw [hm.1, hm.2.1]
    exact (blockSize_zero_iff K c t _).mp (hc i hi)
  · intro s1 l1 h1
    exact ⟨h1, fun i hi => by cases hi⟩

theorem exitInfo_ne_success {e : Exit} {i0 : EInfo} (he : ∀ i, e ≠ .converged i) (h0 : i0 ≠ .success) :
    exitInfo e i0 ≠ .success := by
  cases e with
  | converged i => exact absurd rfl (he i)
  | rrThrew _ => exact h0
  | exhausted => exact h0
  | _ => intro h; cases h

theorem compute_info (maxit : Int) (tol : α) (s0 : St α V) (h : (compute K c maxit tol s0).threw = false) :
    (Passes K c (K.tolL2 tol c.n) (compute K c maxit tol s0).s.resid →
      (compute K c maxit tol s0).s.info =
        if K.borth (compute K c maxit tol s0).s.X (compute K c maxit tol s0).l.BX then .success else .numericalIssue) ∧
    (¬ Passes K c (K.tolL2 tol c.n) (compute K c maxit tol s0).s.resid →
      (compute K c maxit tol s0).s.info = exitInfo (compute K c maxit tol s0).exit (initPhase K (reset s0)).1.info ∧
      ∀ i, (compute K c maxit tol s0).exit ≠ .converged i) := by
  obtain ⟨fuel, s2, hl, _, hs⟩ := compute_cases K c maxit tol s0
  rcases hs with ⟨_, ht, _⟩ | ⟨_, _, hs⟩
  · rw [ht] at h; cases h
  obtain ⟨fx, _, _, fr⟩ := finalize_frame K c (K.tolL2 tol c.n) s2 (compute K c maxit tol s0).l
  obtain ⟨fi1, fi2⟩ := finalize_info K c (K.tolL2 tol c.n) s2 (compute K c maxit tol s0).l
  obtain ⟨li, lc⟩ := loop_info K c (K.tolL2 tol c.n) fuel 0 (initPhase K (reset s0)).1 (initPhase K (reset s0)).2.1
  rw [hl] at li lc
  rw [hs, fr, fx]
  exact ⟨fi1, fun hP => ⟨(fi2 hP).trans li, fun i hi => hP (lc i hi)⟩⟩

theorem compute_initOk (maxit : Int) (tol : α) (s0 : St α V) :
    (compute K c maxit tol s0).initOk = (initPhase K (reset s0)).2.2 := by
  obtain ⟨_, _, _, hi, _⟩ := compute_cases K c maxit tol s0
  exact hi

/-- Invariant rule for `compute()` as a whole: a fact about `X`, `m_evalues`, `m_evectors` and the locals that the initial phase
    establishes and every pass keeps, stopped or not, holds of what `compute()` leaves (`finalize` writes none of them). -/
theorem compute_inv (I : St α V → Loc V → Prop)
    (hframe : ∀ s s' l, s'.X = s.X → s'.evals = s.evals → s'.evecs = s.evecs → I s l → I s' l)
    (maxit : Int) (tol : α) (s0 : St α V)
    (hstep : ∀ iter s l, I s l → (step K c (K.tolL2 tol c.n) iter s l).Sat I (fun s' l' _ => I s' l'))
    (h0 : I (initPhase K (reset s0)).1 (initPhase K (reset s0)).2.1) :
    I (compute K c maxit tol s0).s (compute K c maxit tol s0).l := by
  obtain ⟨fuel, s2, hl, _, hs⟩ := compute_cases K c maxit tol s0
  have hloop := loop_sat K c (K.tolL2 tol c.n) I (fun s l _ => I s l) hstep (fun _ _ h => h) fuel 0 _ _ h0
  rw [hl] at hloop
  rcases hs with ⟨_, _, hs⟩ | ⟨_, _, hs⟩ <;> rw [hs]
  · exact hloop
  · obtain ⟨fx, fe, fc, _⟩ := finalize_frame K c (K.tolL2 tol c.n) s2 (compute K c maxit tol s0).l
    exact hframe _ _ _ fx fe fc hloop

end modelgen

/-! ### the model over a commutative ring with linear `A*`, `B*` -/
section model
variable {α V : Type} [CommRing α] [AddCommGroup V] [Module α V] (K : Kern α V) (c : Cfg)

/-- the only assumptions on the kernels: `zeroV` is the zero column and `A*`, `B*` are linear -/
structure Lawful (K : Kern α V) : Prop where
  zero : K.zeroV = 0
  A : IsLinearMap α K.applyA
  B : IsLinearMap α K.applyB

/-- the tracked products are what their names say -/
def Inv (K : Kern α V) (s : St α V) (l : Loc V) : Prop :=
  l.AX = s.X.map K.applyA ∧ l.BX = s.X.map K.applyB ∧ l.AD = l.D.map K.applyA ∧ l.BD = l.D.map K.applyB

theorem Mid.inv {s s' : St α V} {l l' : Loc V} (h : Inv K s l) (hm : Mid K l l') (hs : s'.X = s.X) : Inv K s' l' := by
  obtain ⟨h1, h2, h3, h4⟩ := h
  obtain ⟨m1, m2, ⟨m3, m4, m5⟩ | ⟨del, m3, m4, m5⟩ | ⟨m4, m5⟩⟩ := hm
  · exact ⟨m1.trans (hs ▸ h1), m2.trans (hs ▸ h2), m4.trans (m3 ▸ h3), m5.trans (m3 ▸ h4)⟩
  · refine ⟨m1.trans (hs ▸ h1), m2.trans (hs ▸ h2), ?_, ?_⟩
    · rw [m4, m3, h3]; exact map_removeCols K.applyA del l.D
    · rw [m5, m3, h4]; exact map_removeCols K.applyB del l.D
  · exact ⟨m1.trans (hs ▸ h1), m2.trans (hs ▸ h2), m4, m5⟩

/-- the coefficient blocks that update `X`, `directions` are the ones that update the tracked products, and `A*`, `B*` commute
    with a block product -/
theorem step_inv (hK : Lawful K) (t : α) (iter : Nat) (s : St α V) (l : Loc V) (h : Inv K s l) :
    (step K c t iter s l).Sat (Inv K) (fun s' l' _ => Inv K s' l') := by
  refine step_sat K c t iter s l _ rfl (fun R l1 θ0 C0 _ hm _ _ => ?_) (fun _ _ _ hm _ _ => Mid.inv K h hm rfl)
  obtain ⟨g1, g2, g3, g4⟩ : Inv K s l1 := Mid.inv K h hm rfl
  simp only [Inv, hK.zero, map_blockUpd _ hK.A, map_blockUpd _ hK.B, map_dirUpd _ hK.A, map_dirUpd _ hK.B, g1, g2, g3, g4,
    and_self]

end model

section width
variable {α V : Type}

/-- number of columns kept by `removeColumns`: those whose index is not listed -/
theorem removeColsFrom_length (i : Nat) (del : List Nat) (M : List V) :
    (removeColsFrom i del M).length = ((List.range' i M.length).filter (fun j => !del.contains j)).length := by
  induction M generalizing i with
  | nil => simp [removeColsFrom]
  | cons v vs ih =>
    simp only [removeColsFrom, List.length_cons, List.range'_succ, List.filter_cons]
    by_cases h : del.contains i
    · simp only [h, if_true, Bool.not_true, Bool.false_eq_true, if_false]; exact ih (i + 1)
    · simp only [h, Bool.false_eq_true, if_false, Bool.not_false, if_true, List.length_cons]; rw [ih (i + 1)]

/-- if the removed indices are the `i < m` selected by a predicate and the block has `m` columns, `m - #removed` columns are left:
    the width the code calls `BlockSize` -/
theorem removeCols_length_filter (p : Nat → Bool) (M : List V) :
    (removeCols M ((List.range M.length).filter p)).length = M.length - ((List.range M.length).filter p).length := by
  unfold removeCols
  rw [removeColsFrom_length, ← List.range_eq_range']
  have hcongr : (List.range M.length).filter (fun j => !((List.range M.length).filter p).contains j)
      = (List.range M.length).filter (fun j => !p j) := by
    apply List.filter_congr
    intro j hj
    simp [List.mem_range.mp hj]
  rw [hcongr]
  have := List.length_eq_length_filter_add (l := List.range M.length) p
  simp only [List.length_range] at this
  omega
end width

section guard
variable {K : Type} [Field K] [LinearOrder K] [IsStrictOrderedRing K] (F : FieldFns K)

/-- exact-arithmetic reading of one entry of `X' * BX`: the plain dot product `Σ_k x_k (bx)_k` -/
theorem gramEntry_eq (x bx : Col K) :
    @gramEntry K _ _ (scOfField F) x bx =
      ((List.range x.d.size).map (fun k => @Lin.vget K (scOfField F) x.d k * @Lin.vget K (scOfField F) bx.d k)).sum := by
  unfold gramEntry
  rw [SumFold.foldl_add_eq_sum]
  simp [Lin.zero]
end guard

end Lobpcg
