/-
  Lemmas about the orchestration model `Model/Orch.lean` (all kernels universally quantified).
-/
import SpectraVerif.Model.Orch
import SpectraVerif.Proofs.ListFold

namespace Orch

section lists
variable {α : Type}

/-- permuting a bool list by a permutation of its index range keeps the number of `true`s -/
theorem count_perm_index (conv : List Bool) (ind : List Nat) (n : Nat) (hl : conv.length = n)
    (hp : ind.Perm (List.range n)) :
    ((List.range n).map (fun i => conv.getD (ind.getD i 0) false)).count true = conv.count true := by
  have hlen : ind.length = n := by simpa using hp.length_eq
  rw [ListFold.map_range_getD_map ind (fun j => conv.getD j false) 0 n hlen]
  have e2 : (ind.map (fun j => conv.getD j false)).Perm ((List.range n).map (fun j => conv.getD j false)) := hp.map _
  rw [e2.count_eq, ListFold.map_range_getD conv false n hl]

theorem filter_range_getD_length (l : List Bool) (n : Nat) (h : l.length = n) :
    ((List.range n).filter (fun i => l.getD i false)).length = l.count true := by
  subst h
  induction l with
  | nil => simp
  | cons b l ih =>
    rw [List.length_cons, List.range_succ_eq_map, List.filter_cons]
    have e : (List.filter (fun i => (b :: l).getD i false) (List.map Nat.succ (List.range l.length))).length
        = ((List.range l.length).filter (fun i => l.getD i false)).length := by
      rw [List.filter_map, List.length_map]
      congr 1
    rw [List.count_cons]
    cases b
    · have h0 : (false :: l).getD 0 false = false := rfl
      rw [h0]; simp only [Bool.false_eq_true, if_false]; rw [e, ih]; simp
    · have h0 : (true :: l).getD 0 false = true := rfl
      rw [h0]; simp only [if_true, List.length_cons]; rw [e, ih]; simp

theorem count_true_replicate_false (n : Nat) : (List.replicate n false).count true = 0 := by
  induction n with
  | zero => rfl
  | succ n ih => simp [List.replicate_succ, ih]

/-- running an interleaving of calls (`true`: on the second component) on a pair is running each projection of the
    interleaving on its component -/
theorem foldl_interleave {σ ι : Type} (f : σ → ι → σ) (l : List (Bool × ι)) (p : σ × σ) :
    l.foldl (fun p tc => if tc.1 then (p.1, f p.2 tc.2) else (f p.1 tc.2, p.2)) p =
      (((l.filter (fun tc => !tc.1)).map (·.2)).foldl f p.1, ((l.filter (fun tc => tc.1)).map (·.2)).foldl f p.2) := by
  induction l generalizing p with
  | nil => rfl
  | cons tc l ih => obtain ⟨_ | _, x⟩ := tc <;> exact ih _

end lists

variable {φ ρ ε κ β τ ω : Type} (K : Kern φ ρ ε κ β τ ω) (c : Cfg)

theorem retrieve_frame (sel : Int) (s : St φ ρ ε κ) :
    (retrieve K c sel s).1.ritzConv = s.ritzConv ∧ (retrieve K c sel s).1.info = s.info ∧
    (retrieve K c sel s).1.niter = s.niter ∧ (retrieve K c sel s).1.nmatop = s.nmatop ∧ (retrieve K c sel s).1.fac = s.fac := by
  fun_cases retrieve K c sel s <;> exact ⟨rfl, rfl, rfl, rfl, rfl⟩

theorem restart_frame (k : Nat) (sel : Int) (s : St φ ρ ε κ) :
    (restart K c k sel s).1.ritzConv = s.ritzConv ∧ (restart K c k sel s).1.info = s.info ∧
    (restart K c k sel s).1.niter = s.niter ∧ s.nmatop ≤ (restart K c k sel s).1.nmatop := by
  fun_cases restart K c k sel s with
  | case1 => exact ⟨rfl, rfl, rfl, Nat.le_refl _⟩
  | case2 => exact ⟨rfl, rfl, rfl, Nat.le_add_right _ _⟩
  | case3 hk r s1 hx =>
    obtain ⟨h1, h2, h3, h4, _⟩ := retrieve_frame K c sel s1
    exact ⟨h1, h2, h3, h4 ▸ Nat.le_add_right _ _⟩

/-- a kernel result as a stage: the by-reference counter is added, the object replaced, the exception passed on -/
def applyFac {φ ρ ε κ : Type} (s : St φ ρ ε κ) (r : FacRes φ) : St φ ρ ε κ × Option Exn :=
  ({ s with fac := r.fac, nmatop := s.nmatop + r.ops }, r.exn)

/-- sequencing of stages: an exception ends the run in the state reached -/
def andThen {φ ρ ε κ : Type} (p : St φ ρ ε κ × Option Exn) (f : St φ ρ ε κ → St φ ρ ε κ × Option Exn) : St φ ρ ε κ × Option Exn :=
  match p with
  | (s, some e) => (s, some e)
  | (s, none) => f s

theorem restart_eq (k : Nat) (sel : Int) (s : St φ ρ ε κ) :
    restart K c k sel s =
      if k ≥ c.ncv then (s, none) else andThen (applyFac s (K.restartFac k s.ritzVal s.fac)) (retrieve K c sel) := by
  unfold restart andThen applyFac
  split
  · rfl
  · dsimp only
    cases (K.restartFac k s.ritzVal s.fac).exn <;> rfl

theorem convFlags_length (tol : τ) (s : St φ ρ ε κ) : (convFlags K c tol s).length = c.nev := by
  simp [convFlags]

/-- everything the restart loop guarantees, for every kernel behaviour -/
theorem loop_spec (sel : Int) (tol : τ) (rem i nconv nres : Nat) (s : St φ ρ ε κ) :
    (loop K c sel tol rem i nconv nres s).st.info = s.info ∧ (loop K c sel tol rem i nconv nres s).st.niter = s.niter ∧
    s.nmatop ≤ (loop K c sel tol rem i nconv nres s).st.nmatop ∧
    i ≤ (loop K c sel tol rem i nconv nres s).i ∧ (loop K c sel tol rem i nconv nres s).i ≤ i + rem ∧
    ((loop K c sel tol rem i nconv nres s).exn = none →
        (loop K c sel tol rem i nconv nres s).restarts = nres + ((loop K c sel tol rem i nconv nres s).i - i)) ∧
    ((loop K c sel tol rem i nconv nres s).restarts ≤ nres + rem) ∧
    (rem = 0 → (loop K c sel tol rem i nconv nres s).st = s ∧ (loop K c sel tol rem i nconv nres s).nconv = nconv) ∧
    (0 < rem → (loop K c sel tol rem i nconv nres s).nconv = countTrue (loop K c sel tol rem i nconv nres s).st.ritzConv ∧
        (loop K c sel tol rem i nconv nres s).st.ritzConv.length = c.nev) ∧
    ((loop K c sel tol rem i nconv nres s).exn = none →
        ((loop K c sel tol rem i nconv nres s).nconv ≥ c.nev ∨ (loop K c sel tol rem i nconv nres s).i = i + rem)) := by
  fun_induction loop K c sel tol rem i nconv nres s with
  | case1 i nconv nres s =>
    exact ⟨rfl, rfl, Nat.le_refl _, Nat.le_refl _, Nat.le_refl _, fun _ => (Nat.sub_self i).symm ▸ rfl, Nat.le_refl _,
      fun _ => ⟨rfl, rfl⟩, fun h => absurd h (Nat.lt_irrefl 0), fun _ => Or.inr rfl⟩
  | case2 rem i x nres s flags s1 nconv hge =>
    exact ⟨rfl, rfl, Nat.le_refl _, Nat.le_refl _, Nat.le_add_right _ _, fun _ => (Nat.sub_self i).symm ▸ rfl,
      Nat.le_add_right _ _, nofun, fun _ => ⟨rfl, convFlags_length K c tol s⟩, fun _ => Or.inl hge⟩
  | case3 rem i x nres s flags s1 nconv hlt k s2 e heq =>
    have hf := restart_frame K c k sel s1
    rw [heq] at hf
    obtain ⟨h1, h2, h3, h4⟩ := hf
    have hc : s2.ritzConv = flags := h1
    exact ⟨h2, h3, h4, Nat.le_refl _, Nat.le_add_right _ _, nofun,
      Nat.add_le_add_left (Nat.succ_le_succ (Nat.zero_le rem)) nres, nofun,
      fun _ => hc ▸ ⟨rfl, convFlags_length K c tol s⟩, nofun⟩
  | case4 rem i x nres s flags s1 nconv hlt k s2 heq ih =>
    have hf := restart_frame K c k sel s1
    rw [heq] at hf
    obtain ⟨h1, h2, h3, h4⟩ := hf
    obtain ⟨a1, a2, a3, a4, a5, a6, a7, a8, a9, a10⟩ := ih
    refine ⟨a1.trans h2, a2.trans h3, Nat.le_trans h4 a3, by omega, by omega, (fun h => by have := a6 h; omega), by omega,
      nofun, fun _ => ?_, fun h => (a10 h).imp id (fun h' => by omega)⟩
    rcases Nat.eq_zero_or_pos rem with hz | hp
    · obtain ⟨b1, b2⟩ := a8 hz
      rw [b1, b2, h1]
      exact ⟨rfl, convFlags_length K c tol s⟩
    · exact a9 hp

/-- if the loop leaves before `maxit` is exhausted it left through the `break`, right after the flags were evaluated on the
    very state it returns -/
theorem loop_break_fresh (sel : Int) (tol : τ) (rem i nconv nres : Nat) (s : St φ ρ ε κ)
    (hl : (loop K c sel tol rem i nconv nres s).exn = none) (hlt : (loop K c sel tol rem i nconv nres s).i < i + rem) :
    (loop K c sel tol rem i nconv nres s).st.ritzConv = convFlags K c tol (loop K c sel tol rem i nconv nres s).st := by
  fun_induction loop K c sel tol rem i nconv nres s with
  | case1 => exact absurd hlt (Nat.lt_irrefl _)
  | case2 => rfl
  | case3 => cases hl
  | case4 rem i x nres s flags s1 nconv hlt' k s2 heq ih => exact ih hl (by omega)

/-- invariant rule for the restart loop.  `I` holds at the loop head, `J` is what is claimed of the state the loop leaves behind on EVERY path.
    Storing the flags keeps `I`; a restart (only ever called with `k = nev_adjusted(nconv)` on the state's own Ritz data) from `I`
    ends in `J`, and in `I` again when it did not throw.  Then the final state satisfies `J`, and `I` if the loop did not throw. -/
theorem loop_rule (I J : St φ ρ ε κ → Prop) (sel : Int) (tol : τ) (hIJ : ∀ s, I s → J s)
    (hflags : ∀ s, I s → I { s with ritzConv := convFlags K c tol s })
    (hrestart : ∀ nconv s, I s →
      J (restart K c (K.nevAdj c nconv s.ritzVal s.ritzEst) sel s).1 ∧
      ((restart K c (K.nevAdj c nconv s.ritzVal s.ritzEst) sel s).2 = none →
        I (restart K c (K.nevAdj c nconv s.ritzVal s.ritzEst) sel s).1))
    (rem i nconv nres : Nat) (s : St φ ρ ε κ) (h : I s) :
    J (loop K c sel tol rem i nconv nres s).st ∧
    ((loop K c sel tol rem i nconv nres s).exn = none → I (loop K c sel tol rem i nconv nres s).st) := by
  fun_induction loop K c sel tol rem i nconv nres s with
  | case1 => exact ⟨hIJ _ h, fun _ => h⟩
  | case2 => exact ⟨hIJ _ (hflags _ h), fun _ => hflags _ h⟩
  | case3 rem i x nres s flags s1 nconv hlt k s2 e heq =>
    have hr := hrestart nconv s1 (hflags _ h)
    rw [heq] at hr
    exact ⟨hr.1, fun hx => nomatch hx⟩
  | case4 rem i x nres s flags s1 nconv hlt k s2 heq ih =>
    have hr := hrestart nconv s1 (hflags _ h)
    rw [heq] at hr
    exact ih (hr.2 rfl)

theorem sortRitz_frame (rule : Int) (s : St φ ρ ε κ) :
    (sortRitz K c rule s).1.info = s.info ∧ (sortRitz K c rule s).1.niter = s.niter ∧
    (sortRitz K c rule s).1.nmatop = s.nmatop ∧ (sortRitz K c rule s).1.fac = s.fac := by
  fun_cases sortRitz K c rule s <;> exact ⟨rfl, rfl, rfl, rfl⟩

/-- `sort_ritzpair` permutes values, vectors and flags by ONE index vector (the pairing statement) -/
theorem sortRitz_pairing (hcfg : c.nev ≤ c.ncv) (rule : Int) (s s' : St φ ρ ε κ) (h : sortRitz K c rule s = (s', none)) :
    ∃ ind, K.sortIdx rule (mapHead c.nev K.backTransform s.ritzVal) c.nev = .ok ind ∧
      ∀ i, i < c.nev →
        s'.ritzVal.getD i K.zeroρ = (mapHead c.nev K.backTransform s.ritzVal).getD (ind.getD i 0) K.zeroρ ∧
        s'.ritzVec.getD i K.zeroκ = s.ritzVec.getD (ind.getD i 0) K.zeroκ ∧
        s'.ritzConv.getD i false = s.ritzConv.getD (ind.getD i 0) false := by
  revert h
  fun_cases sortRitz K c rule s with
  | case1 => exact fun h => nomatch (Prod.mk.inj h).2
  | case2 s0 ind hind =>
    intro h
    obtain rfl := (Prod.mk.inj h).1
    refine ⟨ind, hind, fun i hi => ⟨?_, ListFold.getD_map_range _ _ _ _ hi, ListFold.getD_map_range _ _ _ _ hi⟩⟩
    exact (ListFold.getD_map_range _ _ _ _ (Nat.lt_of_lt_of_le hi hcfg)).trans (if_pos hi)

/-- the flags after `sort_ritzpair` are the old flags read through the sort's index vector -/
theorem sortRitz_flags (rule : Int) (s s' : St φ ρ ε κ) (h : sortRitz K c rule s = (s', none)) :
    ∃ ind, K.sortIdx rule (mapHead c.nev K.backTransform s.ritzVal) c.nev = .ok ind ∧
      s'.ritzConv = (List.range c.nev).map (fun i => s.ritzConv.getD (ind.getD i 0) false) := by
  revert h
  fun_cases sortRitz K c rule s with
  | case1 => exact fun h => nomatch (Prod.mk.inj h).2
  | case2 s0 ind hind =>
    intro h
    obtain rfl := (Prod.mk.inj h).1
    exact ⟨ind, hind, rfl⟩

/-- the state after the initial factorization inside `compute` -/
def afterFactorize (s : St φ ρ ε κ) : St φ ρ ε κ :=
  { s with fac := (K.factorize (max 1 (K.facDim s.fac)) c.ncv s.fac).fac,
           nmatop := s.nmatop + (K.factorize (max 1 (K.facDim s.fac)) c.ncv s.fac).ops }

/-- after the post-loop refresh the flags are ALWAYS the ones counted by `nconv`, and there are `nev` of them -/
theorem refresh_spec (sel : Int) (tol : τ) (maxit : Nat) (s2 : St φ ρ ε κ) :
    (refresh K c tol maxit (loop K c sel tol maxit 0 0 0 s2)).2 = countTrue (refresh K c tol maxit (loop K c sel tol maxit 0 0 0 s2)).1.ritzConv ∧
    (refresh K c tol maxit (loop K c sel tol maxit 0 0 0 s2)).1.ritzConv.length = c.nev ∧
    (refresh K c tol maxit (loop K c sel tol maxit 0 0 0 s2)).1.info = s2.info ∧
    (refresh K c tol maxit (loop K c sel tol maxit 0 0 0 s2)).1.niter = s2.niter ∧
    s2.nmatop ≤ (refresh K c tol maxit (loop K c sel tol maxit 0 0 0 s2)).1.nmatop := by
  have hL := loop_spec K c sel tol maxit 0 0 0 s2
  unfold refresh
  split
  · exact ⟨rfl, convFlags_length K c tol _, hL.1, hL.2.1, hL.2.2.1⟩
  · rename_i hlt
    have hm : 0 < maxit := by omega
    have := hL.2.2.2.2.2.2.2.2.1 hm
    exact ⟨this.1, this.2, hL.1, hL.2.1, hL.2.2.1⟩

/-- the flags after the refresh are exactly the convergence test evaluated on the state they are stored in (fresh), provided the
    loop itself did not end by an exception -/
theorem refresh_fresh (sel : Int) (tol : τ) (maxit : Nat) (s2 : St φ ρ ε κ)
    (hl : (loop K c sel tol maxit 0 0 0 s2).exn = none) :
    (refresh K c tol maxit (loop K c sel tol maxit 0 0 0 s2)).1.ritzConv =
      convFlags K c tol (refresh K c tol maxit (loop K c sel tol maxit 0 0 0 s2)).1 ∧ True := by
  refine ⟨?_, trivial⟩
  unfold refresh
  split
  · rfl
  · rename_i hlt
    exact loop_break_fresh K c sel tol maxit 0 0 0 s2 hl (by omega)

/-- a normal return of `compute` went through every stage without an exception -/
theorem compute_ok_unfold (sel : Int) (maxit : Nat) (tol : τ) (sorting : Int) (s : St φ ρ ε κ) (r : Nat)
    (h : (compute K c sel maxit tol sorting s).out = .ok r) :
    ∃ s2 s4, (K.factorize (max 1 (K.facDim s.fac)) c.ncv s.fac).exn = none ∧
      retrieve K c sel (afterFactorize K c s) = (s2, none) ∧
      (loop K c sel tol maxit 0 0 0 s2).exn = none ∧
      sortRitz K c sorting (refresh K c tol maxit (loop K c sel tol maxit 0 0 0 s2)).1 = (s4, none) ∧
      (compute K c sel maxit tol sorting s).st =
        { s4 with niter := s4.niter + ((loop K c sel tol maxit 0 0 0 s2).i + 1),
                  info := if (refresh K c tol maxit (loop K c sel tol maxit 0 0 0 s2)).2 ≥ c.nev then .successful else .notConverging } ∧
      r = min c.nev (refresh K c tol maxit (loop K c sel tol maxit 0 0 0 s2)).2 ∧
      (compute K c sel maxit tol sorting s).i = (loop K c sel tol maxit 0 0 0 s2).i ∧
      (compute K c sel maxit tol sorting s).restarts = (loop K c sel tol maxit 0 0 0 s2).restarts := by
  revert h
  fun_cases compute K c sel maxit tol sorting s with
  | case5 r0 s1 hf s2 hr L hl F s4 hs =>
    intro h
    exact ⟨s2, s4, hf, hr, hl, hs, rfl, (Except.ok.inj h).symm, rfl, rfl⟩
  | _ => nofun

/-- whatever happens, `compute` touches `m_info` only when it returns normally -/
theorem compute_error_info (sel : Int) (maxit : Nat) (tol : τ) (sorting : Int) (s : St φ ρ ε κ) (e : Exn)
    (h : (compute K c sel maxit tol sorting s).out = .error e) :
    (compute K c sel maxit tol sorting s).st.info = s.info ∧ (compute K c sel maxit tol sorting s).st.niter = s.niter := by
  revert h
  fun_cases compute K c sel maxit tol sorting s with
  | case1 => exact fun _ => ⟨rfl, rfl⟩
  | case2 r0 s1 hf s2 e2 hr =>
    have := retrieve_frame K c sel s1
    rw [hr] at this
    exact fun _ => ⟨this.2.1, this.2.2.1⟩
  | case3 r0 s1 hf s2 hr L e3 hl =>
    have hrf := retrieve_frame K c sel s1
    rw [hr] at hrf
    have hL := loop_spec K c sel tol maxit 0 0 0 s2
    exact fun _ => ⟨hL.1.trans hrf.2.1, hL.2.1.trans hrf.2.2.1⟩
  | case4 r0 s1 hf s2 hr L hl F s4 e4 hs =>
    have hrf := retrieve_frame K c sel s1
    rw [hr] at hrf
    have hR := refresh_spec K c sel tol maxit s2
    have hsf := sortRitz_frame K c sorting F.1
    rw [hs] at hsf
    exact fun _ => ⟨hsf.1.trans (hR.2.2.1.trans hrf.2.1), hsf.2.1.trans (hR.2.2.2.1.trans hrf.2.2.1)⟩
  | case5 => nofun

/-! ### what `compute` does to the counters -/

/-- every outcome of `compute`, normal or not: `m_nmatop` has not decreased and at most `maxit` restarts were made -/
theorem compute_frame (sel : Int) (maxit : Nat) (tol : τ) (sorting : Int) (s : St φ ρ ε κ) :
    s.nmatop ≤ (compute K c sel maxit tol sorting s).st.nmatop ∧ (compute K c sel maxit tol sorting s).restarts ≤ maxit := by
  have hres : ∀ s2, (loop K c sel tol maxit 0 0 0 s2).restarts ≤ maxit := fun s2 => by
    have := (loop_spec K c sel tol maxit 0 0 0 s2).2.2.2.2.2.2.1
    rwa [Nat.zero_add] at this
  -- the counter along the stages: factorize, retrieve, loop, refresh and sort
  have chain : ∀ s2 x, retrieve K c sel (afterFactorize K c s) = (s2, x) →
      s.nmatop ≤ s2.nmatop ∧ s.nmatop ≤ (loop K c sel tol maxit 0 0 0 s2).st.nmatop ∧
      s.nmatop ≤ (sortRitz K c sorting (refresh K c tol maxit (loop K c sel tol maxit 0 0 0 s2)).1).1.nmatop := by
    intro s2 x hr
    have h1 := (retrieve_frame K c sel (afterFactorize K c s)).2.2.2.1
    rw [hr] at h1
    have h0 : s.nmatop ≤ s2.nmatop := h1 ▸ Nat.le_add_right _ _
    exact ⟨h0, Nat.le_trans h0 (loop_spec K c sel tol maxit 0 0 0 s2).2.2.1,
      (sortRitz_frame K c sorting _).2.2.1.symm ▸ Nat.le_trans h0 (refresh_spec K c sel tol maxit s2).2.2.2.2⟩
  fun_cases compute K c sel maxit tol sorting s with
  | case1 => exact ⟨Nat.le_add_right _ _, Nat.zero_le _⟩
  | case2 _ _ _ s2 e hr => exact ⟨(chain s2 _ hr).1, Nat.zero_le _⟩
  | case3 _ _ _ s2 hr => exact ⟨(chain s2 _ hr).2.1, hres s2⟩
  | case4 _ _ _ s2 hr _ _ _ s4 e hs => exact ⟨congrArg (·.1.nmatop) hs ▸ (chain s2 _ hr).2.2, hres s2⟩
  | case5 _ _ _ s2 hr _ _ _ s4 hs => exact ⟨congrArg (·.1.nmatop) hs ▸ (chain s2 _ hr).2.2, hres s2⟩

/-- invariant rule for `compute`, every path.  `J` is claimed of the object state after `compute`, however it ends; `I` is what holds in
    addition between a non-throwing `factorize … ncv` and the end of the loop.  Both only read `fac` and `nmatop` (`hJ`, `hI`: the
    Ritz data, flags, `niter`, `info` are free), which is what `retrieve`, `refresh`, `sortRitz` and the epilogue leave alone. -/
theorem compute_rule (I J : St φ ρ ε κ → Prop)
    (hJ : ∀ s s' : St φ ρ ε κ, s'.fac = s.fac → s'.nmatop = s.nmatop → J s → J s')
    (hI : ∀ s s' : St φ ρ ε κ, s'.fac = s.fac → s'.nmatop = s.nmatop → I s → I s')
    (hIJ : ∀ s, I s → J s) (sel : Int) (maxit : Nat) (tol : τ) (sorting : Int) (s : St φ ρ ε κ)
    (hF : J (afterFactorize K c s) ∧ ((K.factorize (max 1 (K.facDim s.fac)) c.ncv s.fac).exn = none → I (afterFactorize K c s)))
    (hrestart : ∀ nconv s, I s →
      J (restart K c (K.nevAdj c nconv s.ritzVal s.ritzEst) sel s).1 ∧
      ((restart K c (K.nevAdj c nconv s.ritzVal s.ritzEst) sel s).2 = none →
        I (restart K c (K.nevAdj c nconv s.ritzVal s.ritzEst) sel s).1)) :
    J (compute K c sel maxit tol sorting s).st := by
  have hret : ∀ s2 x, retrieve K c sel (afterFactorize K c s) = (s2, x) →
      s2.fac = (afterFactorize K c s).fac ∧ s2.nmatop = (afterFactorize K c s).nmatop := by
    intro s2 x hr
    obtain ⟨_, _, _, h4, h5⟩ := retrieve_frame K c sel (afterFactorize K c s)
    rw [hr] at h4 h5; exact ⟨h5, h4⟩
  have hloop : ∀ s2 x, retrieve K c sel (afterFactorize K c s) = (s2, x) →
      (K.factorize (max 1 (K.facDim s.fac)) c.ncv s.fac).exn = none → J (loop K c sel tol maxit 0 0 0 s2).st := fun s2 x hr hx =>
    (loop_rule K c I J sel tol hIJ (fun s h => hI s _ rfl rfl h) hrestart maxit 0 0 0 s2
      (hI _ _ (hret s2 x hr).1 (hret s2 x hr).2 (hF.2 hx))).1
  have hsort : ∀ (L : LoopRes φ ρ ε κ) s4 x, sortRitz K c sorting (refresh K c tol maxit L).1 = (s4, x) →
      s4.fac = L.st.fac ∧ s4.nmatop = L.st.nmatop := by
    intro L s4 x hs
    obtain ⟨_, _, h3, h4⟩ := sortRitz_frame K c sorting (refresh K c tol maxit L).1
    rw [hs] at h3 h4
    have : (refresh K c tol maxit L).1.fac = L.st.fac ∧ (refresh K c tol maxit L).1.nmatop = L.st.nmatop := by
      unfold refresh; split <;> exact ⟨rfl, rfl⟩
    exact ⟨h4.trans this.1, h3.trans this.2⟩
  fun_cases compute K c sel maxit tol sorting s with
  | case1 => exact hF.1
  | case2 r s1 hx s2 x hr => exact hJ _ _ (hret s2 _ hr).1 (hret s2 _ hr).2 hF.1
  | case3 r s1 hx s2 hr L x hl => exact hloop s2 _ hr hx
  | case4 r s1 hx s2 hr L hl F s4 x hs => exact hJ _ _ (hsort L s4 _ hs).1 (hsort L s4 _ hs).2 (hloop s2 _ hr hx)
  | case5 r s1 hx s2 hr L hl F s4 hs => exact hJ _ _ (hsort L s4 _ hs).1 (hsort L s4 _ hs).2 (hloop s2 _ hr hx)

/-- a normal return of `compute`, in terms of the restart loop `L` it ran: the counters are the loop's, `num_iterations()` has
    grown by `L.i + 1`, and status and return value are functions of the `nconv` left by the post-loop refresh -/
theorem compute_ok_frame (sel : Int) (maxit : Nat) (tol : τ) (sorting : Int) (s : St φ ρ ε κ) (r : Nat)
    (h : (compute K c sel maxit tol sorting s).out = .ok r) :
    ∃ L : LoopRes φ ρ ε κ, L.i ≤ maxit ∧
      (compute K c sel maxit tol sorting s).i = L.i ∧ (compute K c sel maxit tol sorting s).restarts = L.i ∧
      (compute K c sel maxit tol sorting s).st.niter = s.niter + (L.i + 1) ∧
      (compute K c sel maxit tol sorting s).st.info =
        (if (refresh K c tol maxit L).2 ≥ c.nev then .successful else .notConverging) ∧
      r = min c.nev (refresh K c tol maxit L).2 := by
  revert h
  fun_cases compute K c sel maxit tol sorting s with
  | case5 _ s1 _ s2 hr L hl F s4 hs =>
    intro h
    obtain ⟨_, _, _, _, h5, h6, _⟩ := loop_spec K c sel tol maxit 0 0 0 s2
    have hrf := (retrieve_frame K c sel s1).2.2.1
    have hsf := (sortRitz_frame K c sorting F.1).2.1
    rw [hr] at hrf
    rw [hs] at hsf
    rw [Nat.zero_add] at h5
    refine ⟨L, h5, rfl, by show L.restarts = _; rw [h6 hl, Nat.zero_add, Nat.sub_zero], ?_, rfl, (Except.ok.inj h).symm⟩
    show s4.niter + _ = _
    rw [hsf, (refresh_spec K c sel tol maxit s2).2.2.2.1, hrf]
  | _ => intro h; cases h

/-! ### the accessors on a state that holds `nev` flags -/

theorem convIdx_length (s : St φ ρ ε κ) (hlen : s.ritzConv.length = c.nev) :
    (convIdx c s).length = Orch.countTrue s.ritzConv :=
  filter_range_getD_length _ _ hlen

/-- the `count() == 0` shortcut of `eigenvalues()` changes nothing: the list of flagged indices is empty then -/
theorem eigenvalues_eq (s : St φ ρ ε κ) (hlen : s.ritzConv.length = c.nev) :
    eigenvalues K c s = (convIdx c s).map (fun i => s.ritzVal.getD i K.zeroρ) := by
  unfold eigenvalues
  split
  · rename_i h0
    rw [List.eq_nil_of_length_eq_zero ((convIdx_length c s hlen).trans h0)]; rfl
  · rfl

theorem eigenvalues_length (s : St φ ρ ε κ) (hlen : s.ritzConv.length = c.nev) :
    (eigenvalues K c s).length = Orch.countTrue s.ritzConv := by
  rw [eigenvalues_eq K c s hlen, List.length_map, convIdx_length c s hlen]

theorem eigenvectors_length (nvec : Nat) (s : St φ ρ ε κ) (hlen : s.ritzConv.length = c.nev) :
    (eigenvectors K c nvec s).length = min nvec (Orch.countTrue s.ritzConv) := by
  unfold eigenvectors eigenvectorCoords
  rw [List.length_map, List.length_map, List.length_take, convIdx_length c s hlen, Nat.min_assoc, Nat.min_self]

end Orch
