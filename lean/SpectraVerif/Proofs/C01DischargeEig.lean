/-
  `eig_spec` (and `eig_orth`) of the relativised kernel specifications discharged for `HermSolver.eigH` from C09's whole-run similarity
  of `TridiagEigen` (`C09Sim.eigH_spec`, `C09Orth.compute_orth`), on the invariant states of Proofs/C01DischargeHerm.lean
  (helper file of Properties/C01.lean).

  Run-level hypothesis `ZeroDrop`: on the full regular states `TridiagEigen`'s perturbation budget `C09Sim.totalDrop` is `0` (every
  deflation only overwrote exact zeros, and the tiny-matrix exit `scale < 10·min` was not taken on a non-zero input).  It cannot be a
  constant-level hypothesis: the deflation test also compares with the absolute `considerAsZero = min() > 0`.
-/
import SpectraVerif.Proofs.C01DischargeHerm
import SpectraVerif.Proofs.C09SimEig

open Finset Lin Matrix

namespace C01H
open C07L C01E C01B Orch
section
variable {K : Type} [Field K] [LinearOrder K] [IsStrictOrderedRing K] (F : FieldFns K)

/-- on every full regular state the small eigen-solver dropped nothing non-zero -/
def ZeroDrop (c : Cfg) (n : ℕ) (A : (Fin n → K) →ₗ[K] (Fin n → K)) (G : (letI := scOfField F; Arnoldi.State K) → Prop) : Prop :=
  letI := scOfField F
  ∀ s : Arnoldi.State K, G s → PassInv n c.ncv A s c.ncv → s.k = c.ncv →
    C09Sim.totalDrop F c.ncv (vofFn c.ncv (fun i => s.H.get i i)) (vofFn (c.ncv - 1) (fun i => s.H.get (i + 1) i)) = 0

/-- **`eig_spec` for `HermSolver.eigH`** on the invariant states, from C09 -/
theorem eigSpecOn_c09 (hsqrt : ∀ x : K, 0 ≤ x → F.sqrt x * F.sqrt x = x ∧ 0 ≤ F.sqrt x) (hmin : 0 < F.minPos)
    (c : Cfg) (n : ℕ) (A : (Fin n → K) →ₗ[K] (Fin n → K)) (G : (letI := scOfField F; Arnoldi.State K) → Prop)
    (hncv : 0 < c.ncv) (hD : ZeroDrop F c n A G) : (letI := scOfField F; EigSpecOn c n A G) := by
  let _ := scOfField F
  show EigSpecOn c n A G
  have E := exactSc F hsqrt
  intro s ev lr cl hI hG hk he j hj
  have key := C09Sim.eigH_spec F (fun p q => C09Orth.makeGivens_unit F (fun x hx => (hsqrt x hx).1) p q) hmin c.ncv hncv s ev lr cl he
    (hD s hG hI hk) j hj
  refine ⟨fun i hi => ?_, key.2⟩
  rw [← key.1 i hi]
  apply Finset.sum_congr rfl
  intro a ha
  have ha' := Finset.mem_range.mp ha
  congr 1
  -- `C09Sim.tridiag` of the bands of `H` is `H` entry by entry, `H` being symmetric tridiagonal (`hI.tri`)
  simp only [C09Sim.tridiag]
  by_cases h1 : i = a
  · rw [if_pos h1, h1]
  · rw [if_neg h1]
    by_cases h2 : i = a + 1
    · rw [if_pos h2, h2]
    · rw [if_neg h2]
      by_cases h3 : a = i + 1
      · rw [if_pos h3, h3]
        exact hI.triH.2 i (i + 1) hi (h3 ▸ ha')
      · rw [if_neg h3]
        exact hI.triH.1 i a hi ha' (by omega)

/-- `ExactKernelsOn` for `hermKern` with `eig_spec` PROVED (C09): no kernel-specification hypothesis is left -/
noncomputable def hermXFull (hsqrt : ∀ x : K, 0 ≤ x → F.sqrt x * F.sqrt x = x ∧ 0 ≤ F.sqrt x) (hcut : C08Givens.cutoff F ≤ 0)
    (heps : F.eps = 0) (hmin : 0 < F.minPos) (op : Arnoldi.Op K) (c : Cfg) (eps23 : K) (back : K → K) (n : ℕ)
    (M : Matrix (Fin n) (Fin n) K) (hM : Mᵀ = M)
    (G : (letI := scOfField F; Arnoldi.State K) → Prop) (S : Vec K → Prop)
    (hop : (letI := scOfField F; OpOK n op (opOf M)))
    (hR : (letI := scOfField F; Reg op n c.ncv (opOf M) G S)) (h1 : 1 ≤ c.nev) (h2 : c.nev < c.ncv)
    (hD : ZeroDrop F c n (opOf M) G) :
    (letI := scOfField F;
      ExactKernelsOn (HermSolver.hermKern op c eps23 back) c n M eps23 (HInv n c.ncv (opOf M) G) S) :=
  letI := scOfField F
  hermX (exactSc F hsqrt) op c eps23 back n M hop (selfadjoint_of_symm M hM) G S hR h1 h2 (qrOK F hsqrt hcut heps c.ncv) (sortOK F)
    (eigSpecOn_c09 F hsqrt hmin c n (opOf M) G (by omega) hD)

/-- the eigenvector columns `eigH` returns -/
theorem eigH_cols (ncv : ℕ) (s : (letI := scOfField F; Arnoldi.State K)) (ev lr : List K) (cl : List (Vec K))
    (h : (letI := scOfField F; HermSolver.eigH ncv s) = .ok (ev, lr, cl)) :
    letI := scOfField F
    ∃ r : TridiagEigen.Decomp K,
      TridiagEigen.compute ncv (vofFn ncv (fun i => s.H.get i i)) (vofFn (ncv - 1) (fun i => s.H.get (i + 1) i)) = .ok r ∧
      cl = (List.range ncv).map (fun j => r.evecs.col j) := by
  let _ := scOfField F
  have h' : HermSolver.eigH ncv s = .ok (ev, lr, cl) := h
  unfold HermSolver.eigH at h'
  simp only [] at h'
  split at h'
  · cases h'
  · rename_i r hr
    refine ⟨r, hr, ?_⟩
    cases h'
    rfl

/-- the index vectors are injective (C18: they are permutations) — a hypothesis: not proved for the translated `argsort` wrappers -/
def SortInj (c : Cfg) : Prop :=
  letI := scOfField F
  (∀ (sel : Int) (evals : List K) (ind : List ℕ), HermSolver.argsortIdx sel evals c.ncv = .ok ind →
      ∀ i, i < c.ncv → ∀ i', i' < c.ncv → ind.getD i 0 = ind.getD i' 0 → i = i') ∧
  (∀ (rule : Int) (vals : List K) (ind : List ℕ), HermSolver.hermSortIdx rule vals c.nev = .ok ind →
      ∀ i, i < c.nev → ∀ i', i' < c.nev → ind.getD i 0 = ind.getD i' 0 → i = i')

/-- `ExactOrthOn` for `hermKern`: `inv_orth` from the invariant, `eig_orth` from C09 (`ZᵀZ = I` for every run of TridiagEigen);
    `select_inj` / `sort_inj` remain the hypothesis `SortInj` -/
theorem hermOrthFull (hsqrt : ∀ x : K, 0 ≤ x → F.sqrt x * F.sqrt x = x ∧ 0 ≤ F.sqrt x) (hcut : C08Givens.cutoff F ≤ 0)
    (heps : F.eps = 0) (hmin : 0 < F.minPos) (op : Arnoldi.Op K) (c : Cfg) (eps23 : K) (back : K → K) (n : ℕ)
    (M : Matrix (Fin n) (Fin n) K) (hM : Mᵀ = M)
    (G : (letI := scOfField F; Arnoldi.State K) → Prop) (S : Vec K → Prop)
    (hop : (letI := scOfField F; OpOK n op (opOf M)))
    (hR : (letI := scOfField F; Reg op n c.ncv (opOf M) G S)) (h1 : 1 ≤ c.nev) (h2 : c.nev < c.ncv)
    (hD : ZeroDrop F c n (opOf M) G) (hInj : SortInj F c) :
    (letI := scOfField F; ExactOrthOn (hermXFull F hsqrt hcut heps hmin op c eps23 back n M hM G S hop hR h1 h2 hD)) := by
  let _ := scOfField F
  show ExactOrthOn (hermXFull F hsqrt hcut heps hmin op c eps23 back n M hM G S hop hR h1 h2 hD)
  refine ⟨fun s h => ⟨h.1.on, h.1.fo⟩, ?_, hInj.1, hInj.2⟩
  intro s ev lr cl _ _ heig j hj j' hj'
  obtain ⟨r, hr, hcl⟩ := eigH_cols F c.ncv s ev lr cl heig
  obtain ⟨_, hrows, _, horth⟩ := C09Orth.compute_orth F (fun p q => C09Orth.makeGivens_unit F (fun x hx => (hsqrt x hx).1) p q)
    c.ncv (by omega) _ _ r hr
  show ∑ a ∈ range c.ncv, vget (cl.getD j (vzero c.ncv)) a * vget (cl.getD j' (vzero c.ncv)) a = _
  rw [hcl, ListFold.getD_map_range _ _ _ _ hj, ListFold.getD_map_range _ _ _ _ hj', ← horth j j' hj hj']
  apply Finset.sum_congr rfl
  intro a ha
  rw [C08Mat.vget_col _ _ (by rw [hrows]; exact Finset.mem_range.mp ha), C08Mat.vget_col _ _ (by rw [hrows]; exact Finset.mem_range.mp ha)]

end
end C01H
