/-
  C10 — tier 3: the global identity of the Bunch-Kaufman factorization of the executable model,
      P (A − σI) Pᵀ = L D Lᵀ   entrywise,
  for every pivot-decision sequence (all five branches of `permutate_mat`, 1x1 and 2x2 pivots, arbitrary interchanges), in exact
  arithmetic (any `ExactSc` instance, e.g. `scOfField F` on a linearly ordered field), stated as `compute_isLDLT`: a successful
  `compute` leaves a `Fact.IsLDLT` (the identity, every block of `D` nonsingular, `m_perm` tiled), which is all the correctness of
  solve starts from.
  Layers: pure algebra (`FId`: append a block / symmetric interchange), the compressed permutation as a composition of
  transpositions (`piN`), what `permutate_mat` does to the packed array and to `m_perm`, the three concrete steps on
  `Lent/Dent/symrd`, induction over the pivot loop and `compute`.  The lemmas on the tiling function `kind` are in C10Tiling.
-/
import Mathlib.Tactic.Ring
import Mathlib.Algebra.BigOperators.Ring.Finset
import SpectraVerif.Proofs.C10Tiling
import SpectraVerif.Proofs.C10Scalar
open Gen.BK

set_option linter.unusedSectionVars false
namespace BKLDLT

/-! ### pure algebra -/
section algebra
variable {K : Type} [Field K]
open Finset

/-- `B = L[:, :m] D[:m, :m] L[:, :m]ᵀ + (S on the trailing block)` on `[0,n)²` -/
def FId (n : Int) (m : Nat) (L D S B : Int → Int → K) : Prop :=
  ∀ i j, 0 ≤ i → i < n → 0 ≤ j → j < n →
    B i j = (∑ c ∈ range m, ∑ c' ∈ range m, L i (c : Int) * D (c : Int) (c' : Int) * L j (c' : Int)) +
      (if (m : Int) ≤ i ∧ (m : Int) ≤ j then S i j else 0)

/-- appending a `b × b` block to the factorization: the old part of `L`, `D` is kept, `D'` has no entries between the old columns and the
    new ones, the new columns of `L'` vanish above the block, and on the trailing square `S` is the product over the new block plus `S'` -/
theorem FId.block {n : Int} {m : Nat} (b : Nat) {L D S B L' D' S' : Int → Int → K} (h : FId n m L D S B)
    (hL : ∀ i (c : Nat), 0 ≤ i → i < n → c < m → L' i c = L i c)
    (hD : ∀ c c' : Nat, c < m → c' < m → D' c c' = D c c')
    (hD0 : ∀ c a : Nat, c < m → a < b → D' c ((m + a : Nat) : Int) = 0 ∧ D' ((m + a : Nat) : Int) c = 0)
    (hL0 : ∀ (i : Int) (a : Nat), 0 ≤ i → i < m → a < b → L' i ((m + a : Nat) : Int) = 0)
    (hS : ∀ i j : Int, (m : Int) ≤ i → i < n → (m : Int) ≤ j → j < n →
      S i j = (∑ a ∈ range b, ∑ a' ∈ range b,
          L' i ((m + a : Nat) : Int) * D' ((m + a : Nat) : Int) ((m + a' : Nat) : Int) * L' j ((m + a' : Nat) : Int))
        + (if ((m + b : Nat) : Int) ≤ i ∧ ((m + b : Nat) : Int) ≤ j then S' i j else 0)) :
    FId n (m + b) L' D' S' B := by
  intro i j hi hin hj hjn
  -- both sums split at `m`: old × old is the hypothesis, old × new and new × old vanish with `D'`, new × new is `hS`
  rw [h i j hi hin hj hjn, Finset.sum_range_add]
  simp only [Finset.sum_range_add (n := m) (m := b), Finset.sum_add_distrib]
  have e1 : ∑ c ∈ range m, ∑ a' ∈ range b, L' i (c : Int) * D' (c : Int) ((m + a' : Nat) : Int) * L' j ((m + a' : Nat) : Int) = 0 :=
    Finset.sum_eq_zero (fun c hc => Finset.sum_eq_zero (fun a ha => by
      rw [(hD0 c a (Finset.mem_range.1 hc) (Finset.mem_range.1 ha)).1]; ring))
  have e2 : ∑ a ∈ range b, ∑ c' ∈ range m, L' i ((m + a : Nat) : Int) * D' ((m + a : Nat) : Int) (c' : Int) * L' j (c' : Int) = 0 :=
    Finset.sum_eq_zero (fun a ha => Finset.sum_eq_zero (fun c hc => by
      rw [(hD0 c a (Finset.mem_range.1 hc) (Finset.mem_range.1 ha)).2]; ring))
  have e3 : ∑ c ∈ range m, ∑ c' ∈ range m, L' i (c : Int) * D' (c : Int) (c' : Int) * L' j (c' : Int) =
      ∑ c ∈ range m, ∑ c' ∈ range m, L i (c : Int) * D (c : Int) (c' : Int) * L j (c' : Int) :=
    Finset.sum_congr rfl (fun c hc => Finset.sum_congr rfl (fun c' hc' => by
      rw [hL i c hi hin (Finset.mem_range.1 hc), hL j c' hj hjn (Finset.mem_range.1 hc'), hD c c' (Finset.mem_range.1 hc) (Finset.mem_range.1 hc')]))
  rw [e1, e2, e3]
  by_cases c : (m : Int) ≤ i ∧ (m : Int) ≤ j
  · rw [if_pos c, hS i j c.1 hin c.2 hjn]; ring
  · rw [if_neg c, if_neg (by push_cast; omega)]
    have e4 : ∑ a ∈ range b, ∑ a' ∈ range b,
        L' i ((m + a : Nat) : Int) * D' ((m + a : Nat) : Int) ((m + a' : Nat) : Int) * L' j ((m + a' : Nat) : Int) = 0 :=
      Finset.sum_eq_zero (fun a ha => Finset.sum_eq_zero (fun a' ha' => by
        by_cases ci : (m : Int) ≤ i
        · rw [hL0 j a' hj (by omega) (Finset.mem_range.1 ha')]; ring
        · rw [hL0 i a hi (by omega) (Finset.mem_range.1 ha)]; ring))
    rw [e4]; ring

theorem FId.perm {n : Int} {m : Nat} {L D S B L' D' S' : Int → Int → K} (h : FId n m L D S B) (τ : Int → Int)
    (hτ : ∀ i, 0 ≤ i → i < n → 0 ≤ τ i ∧ τ i < n ∧ ((m : Int) ≤ τ i ↔ (m : Int) ≤ i))
    (hL : ∀ i (c : Nat), 0 ≤ i → i < n → c < m → L' i c = L (τ i) c)
    (hD : ∀ c c' : Nat, c < m → c' < m → D' c c' = D c c')
    (hS : ∀ i j : Int, (m : Int) ≤ i → i < n → (m : Int) ≤ j → j < n → S' i j = S (τ i) (τ j)) :
    FId n m L' D' S' (fun i j => B (τ i) (τ j)) := by
  intro i j hi hin hj hjn
  obtain ⟨a1, a2, a3⟩ := hτ i hi hin
  obtain ⟨b1, b2, b3⟩ := hτ j hj hjn
  show B (τ i) (τ j) = _
  rw [h (τ i) (τ j) a1 a2 b1 b2]
  have e3 : ∑ c ∈ range m, ∑ c' ∈ range m, L' i (c : Int) * D' (c : Int) (c' : Int) * L' j (c' : Int) =
      ∑ c ∈ range m, ∑ c' ∈ range m, L (τ i) (c : Int) * D (c : Int) (c' : Int) * L (τ j) (c' : Int) :=
    Finset.sum_congr rfl (fun c hc => Finset.sum_congr rfl (fun c' hc' => by
      rw [hL i c hi hin (Finset.mem_range.1 hc), hL j c' hj hjn (Finset.mem_range.1 hc'), hD c c' (Finset.mem_range.1 hc) (Finset.mem_range.1 hc')]))
  rw [e3]
  by_cases c : (m : Int) ≤ i ∧ (m : Int) ≤ j
  · rw [if_pos c, if_pos ⟨a3.2 c.1, b3.2 c.2⟩, hS i j c.1 hin c.2 hjn]
  · rw [if_neg c, if_neg (fun hc => c ⟨a3.1 hc.1, b3.1 hc.2⟩)]

end algebra

/-! ### the compressed permutation as a composition of transpositions -/
section perms

/-- the position encoded in an `m_perm` entry -/
def dec (p : Int) : Int := if p ≥ 0 then p else -p - 1

theorem dec_nonneg {p : Int} (h : 0 ≤ p) : dec p = p := by unfold dec; rw [if_pos h]
theorem dec_neg (p : Int) (h : 0 ≤ p) : dec (-p - 1) = p := by unfold dec; rw [if_neg (by omega)]; ring

/-- `tr 0 (dec (pf 0)) ∘ tr 1 (dec (pf 1)) ∘ … ∘ tr (m-1) (dec (pf (m-1)))` -/
def piN (pf : Int → Int) : Nat → Int → Int
  | 0, x => x
  | m + 1, x => piN pf m (tr (m : Int) (dec (pf (m : Int))) x)

theorem permFn_compress (pf : Int → Int) (n : Int) (hn : 0 ≤ n) (x : Int) : permFn (compress_permutation pf n) x = piN pf n.toNat x := by
  unfold compress_permutation
  have := ListFold.foldl_intRange_inv (fun (t : Int) (l : List (Int × Int)) => ∀ x, permFn l x = piN pf t.toNat x)
    (fun (m_permc : List (Int × Int)) (i : Int) =>
      if (decide ((if (decide ((pf i) ≥ 0)) then (pf i) else ((-(pf i)) - 1)) ≠ i)) then m_permc ++ [(i, (if (decide ((pf i) ≥ 0)) then (pf i) else ((-(pf i)) - 1)))] else m_permc)
    0 n [] hn (fun x => rfl)
    (fun t l ht0 ht1 hP x => by
      have e : (t + 1).toNat = t.toNat + 1 := by omega
      have e2 : ((t.toNat : Nat) : Int) = t := by omega
      have hd : (if (decide ((pf t) ≥ 0)) then (pf t) else ((-(pf t)) - 1)) = dec (pf t) := by simp [dec]
      rw [e]
      simp only [piN, e2, hd]
      by_cases hne : dec (pf t) = t
      · rw [if_neg (by simp [hne]), hP, hne, tr_self]
      · rw [if_pos (by simp [hne]), permFn_append, permFn_cons, permFn_nil, hP])
  exact this x

theorem piN_congr {pf pf' : Int → Int} (m : Nat) (h : ∀ j : Int, 0 ≤ j → j < m → pf' j = pf j) (x : Int) : piN pf' m x = piN pf m x := by
  induction m generalizing x with
  | zero => rfl
  | succ m ih =>
    simp only [piN]
    rw [h m (by omega) (by push_cast; omega), ih (fun j a b => h j a (by push_cast; omega))]

end perms

/-! ### what `permutate_mat` does -/
section pivot
variable {K : Type} [Field K] [Sc K]

theorem Same.rd {s' s : St K} (h : Same s' s) (i j : Int) : s'.rd i j = s.rd i j := rd_congr h.1 h.2.1 i j
theorem Same.symrd {s' s : St K} (h : Same s' s) (i j : Int) : symrd s' i j = symrd s i j := by
  unfold BKLDLT.symrd; rw [h.rd, h.rd]
theorem Same.pfn {s' s : St K} (h : Same s' s) (j : Int) : pfn s' j = pfn s j := by unfold BKLDLT.pfn; rw [h.2.2]

theorem symrd_comm (s : St K) (a b : Int) : symrd s a b = symrd s b a := by
  unfold symrd
  rcases lt_trichotomy a b with h | h | h
  · rw [if_neg (by omega), if_pos (by omega)]
  · subst h; rfl
  · rw [if_pos (by omega), if_neg (by omega)]

/-- symmetric interchange of the trailing block followed by the interchange of the two rows in the finished columns -/
theorem pivot_interchange {n : Int} {s P : St K} {k a r : Int} (hP : Sized n P) (hka : k ≤ a) (har : a ≤ r) (hr : r < n)
    (hrd : ∀ i j, 0 ≤ j → j ≤ i → i < n → P.rd i j = if k ≤ j then symrd s (tr a r i) (tr a r j) else s.rd i j) :
    Sized n (interchange_rows P a r 0 (k - 1)) ∧ ∀ i j, 0 ≤ j → j ≤ i → i < n →
      (interchange_rows P a r 0 (k - 1)).rd i j = if k ≤ j then symrd s (tr a r i) (tr a r j) else s.rd (tr a r i) j := by
  have ir := interchange_rows_spec (c1 := 0) (c2 := k - 1) hP (le_refl 0) (by omega) har hr
  refine ⟨ir.1, fun i j h1 h2 h3 => ?_⟩
  rw [ir.2 i j h1 h2 h3]
  by_cases cj : k ≤ j
  · rw [if_neg (by omega), if_neg (by omega), hrd i j h1 h2 h3, if_pos cj, if_pos cj]
  · by_cases ci : i = a
    · rw [if_pos ⟨h1, by omega, ci⟩, hrd r j h1 (by omega) hr, if_neg cj, if_neg cj, ci, tr_left]
    · rw [if_neg (by omega)]
      by_cases ci2 : i = r
      · rw [if_pos ⟨h1, by omega, ci2⟩, hrd a j h1 (by omega) (by omega), if_neg cj, if_neg cj, ci2, tr_right]
      · rw [if_neg (by omega), hrd i j h1 h2 h3, if_neg cj, if_neg cj, tr_other ci ci2]

/-- result of `permutate_mat`: the symmetric interchange `a ↔ r` (`a = k` for a 1x1 pivot, `a = k+1` for a 2x2 pivot; `r = a` when
    nothing moves) of the trailing block and of the rows of the finished columns, and the new `m_perm` entries -/
def PivSpec (n k : Int) (s s' : St K) (is1 : Bool) : Prop :=
  ∃ a r, (is1 = true → a = k) ∧ (is1 = false → a = k + 1) ∧ a ≤ r ∧ r < n ∧
    (∀ i j, 0 ≤ j → j ≤ i → i < n → s'.rd i j = if k ≤ j then symrd s (tr a r i) (tr a r j) else s.rd (tr a r i) j) ∧
    (is1 = true → (∀ j, 0 ≤ j → j ≠ k → pfn s' j = pfn s j) ∧ (pfn s k = k → pfn s' k = r)) ∧
    (is1 = false → (∀ j, 0 ≤ j → j ≠ k → j ≠ k + 1 → pfn s' j = pfn s j) ∧ pfn s' k = -k - 1 ∧ pfn s' (k + 1) = -r - 1)

theorem pivspec_same {n k : Int} {s s' : St K} (h : Same s' s) (hkn : k < n) : PivSpec n k s s' true := by
  refine ⟨k, k, fun _ => rfl, fun hc => by simp at hc, le_refl _, hkn, ?_, fun _ => ⟨fun j _ _ => h.pfn j, fun e => by rw [h.pfn, e]⟩,
    fun hc => by simp at hc⟩
  intro i j h1 h2 h3
  rw [h.rd, tr_self, tr_self, symrd_lower s h2]; simp

theorem interchange_rows_self (s : St K) (r c1 c2 : Int) : interchange_rows s r r c1 c2 = s := by
  unfold interchange_rows; simp

theorem permutate_mat_spec {n : Int} {s : St K} {k : Int} {alpha : K} (h : Inv n s.perm (packedSize n).toNat s) (hsz : s.perm.size = n.toNat)
    (hk : 0 ≤ k) (hk1 : k + 1 < n) :
    PivSpec n k s (permutate_mat s k alpha).2.2 (permutate_mat s k alpha).1 := by
  rcases permutate_mat_cases (alpha := alpha) h.good hk hk1 with ⟨tag, s', e, _, hsame⟩ | ⟨r, s2, hr1, hr2, hg2, e3, e | e⟩ <;> rw [e]
  · exact pivspec_same hsame (by omega)
  · -- 1x1 pivot with interchange k ↔ r
    have h2 := pivoting_1x1_inv (e3.inv hg2 h) hk (by omega) hr2
    have p1 := pivoting_1x1_spec (s := s2) (k := k) (r := r) (e3.inv hg2 h).sized hk (by omega) hr2
    have pi := pivot_interchange (s := s) (k := k) (a := k) (r := r) p1.1 (le_refl _) (by omega) hr2
      (fun i j a b c => by rw [p1.2 i j a b c]; simp only [e3.symrd, e3.rd])
    have eperm := (interchange_rows_inv (r1 := k) (c2 := k - 1) h2 (le_refl 0) (by omega) (by omega) hr2).perm
    refine ⟨k, r, fun _ => rfl, fun hc => by simp at hc, by omega, hr2, pi.2, fun _ => ⟨fun j hj hne => ?_, fun _ => ?_⟩, fun hc => by simp at hc⟩
    · unfold pfn; rw [eperm, getD_set _ _ _ _ hk (by omega) hj, if_neg hne]
    · unfold pfn; rw [eperm, getD_set _ _ _ _ hk (by omega) hk, if_pos rfl]
  · -- 2x2 pivot with interchange k+1 ↔ r
    have h2 := pivoting_2x2_inv (e3.inv hg2 h) hk (le_refl _) (by omega) hr1 hr2
    have p2 := pivoting_2x2_spec (s := s2) (k := k) (r := r) (e3.inv hg2 h).sized hk hr1 hr2
    have pi := pivot_interchange (s := s) (k := k) (a := k + 1) (r := r) p2.1 (by omega) hr1 hr2
      (fun i j a b c => by rw [p2.2 i j a b c]; simp only [e3.symrd, e3.rd])
    obtain ⟨-, q1, q2, q3⟩ := perm2x2_spec s.perm k r k hk (by omega)
    rw [interchange_rows_self]
    have e4 : ∀ j, pfn (interchange_rows (pivoting_2x2 s2 k r k) (k + 1) r 0 (k - 1)) j = (perm2x2 s.perm k r k).getD j.toNat 0 := fun j =>
      congrArg (·.getD j.toNat 0) (interchange_rows_inv (c2 := k - 1) h2 (le_refl 0) (by omega) hr1 hr2).perm
    refine ⟨k + 1, r, fun hc => by simp at hc, fun _ => rfl, hr1, hr2, pi.2, fun hc => by simp at hc, fun _ => ⟨fun j hj h1 h2 => ?_, ?_, ?_⟩⟩
    · rw [e4]; exact q3 j hj h1 h2
    · rw [e4]; exact q1
    · rw [e4]; exact q2

end pivot

/-! ### the three concrete steps on `Lent / Dent / symrd` -/
section steps
variable {K : Type} [Field K] [Sc K]

/-- the identity after `k` finished columns, for the row/column permutation `π` of the input -/
def Core (s0 : St K) (n k : Int) (π : Int → Int) (s : St K) : Prop :=
  FId n k.toNat (Lent s) (Dent s) (symrd s) (fun i j => symrd s0 (π i) (π j))

theorem Lent_frame {n k : Int} {s s' : St K} {τ : Int → Int}
    (hkind : ∀ c, 0 ≤ c → c < k → kind (pfn s') c = kind (pfn s) c)
    (hrd : ∀ i c, 0 ≤ c → c < k → c < i → i < n → s'.rd i c = s.rd (τ i) c)
    (hτ : ∀ i, i < k → τ i = i) (hτ2 : ∀ i, k ≤ i → k ≤ τ i) (hlast : 1 ≤ k → kind (pfn s) (k - 1) ≠ 1) :
    ∀ i c, 0 ≤ i → i < n → 0 ≤ c → c < k → Lent s' i c = Lent s (τ i) c := by
  intro i c hi hin hc hck
  unfold Lent
  rw [hkind c hc hck]
  have hno : ∀ x, k ≤ x → ¬ (kind (pfn s) c = 1 ∧ x = c + 1) := by
    intro x hx hh
    have e : k - 1 = c := by omega
    exact hlast (by omega) (by rw [e]; exact hh.1)
  by_cases cik : i < k
  · rw [hτ i cik]
    by_cases c1 : i = c
    · rw [if_pos c1, if_pos c1]
    · rw [if_neg c1, if_neg c1]
      by_cases c2 : i < c
      · rw [if_pos c2, if_pos c2]
      · rw [if_neg c2, if_neg c2, hrd i c hc hck (by omega) hin, hτ i cik]
  · have := hτ2 i (by omega)
    rw [if_neg (by omega), if_neg (by omega), if_neg (hno i (by omega)), if_neg (by omega), if_neg (by omega), if_neg (hno (τ i) this),
      hrd i c hc hck (by omega) hin]

theorem Dent_frame {k : Int} {s s' : St K}
    (hkind : ∀ c, 0 ≤ c → c < k → kind (pfn s') c = kind (pfn s) c)
    (hrd : ∀ i c, 0 ≤ c → c ≤ i → i < k → s'.rd i c = s.rd i c) :
    ∀ c c', 0 ≤ c → c < k → 0 ≤ c' → c' < k → Dent s' c c' = Dent s c c' := by
  intro c c' h1 h2 h3 h4
  unfold Dent
  rw [hkind c h1 h2, hkind c' h3 h4]
  split_ifs with a1 a2 a3
  · exact hrd c c h1 (le_refl _) h2
  · exact hrd c c' h3 (by omega) h2
  · exact hrd c' c h1 (by omega) h4
  · rfl

theorem Dent_off {k c x : Int} {s : St K} (hlast : 1 ≤ k → kind (pfn s) (k - 1) ≠ 1) (hc0 : 0 ≤ c) (hc : c < k) (hx : k ≤ x) :
    Dent s c x = 0 ∧ Dent s x c = 0 := by
  have hno : ¬ (x = c + 1 ∧ kind (pfn s) c = 1) := fun hh => hlast (by omega) (by rw [show k - 1 = c by omega]; exact hh.2)
  unfold Dent
  exact ⟨by rw [if_neg (by omega), if_neg (by omega), if_neg hno], by rw [if_neg (by omega), if_neg hno, if_neg (by omega)]⟩

theorem DNs_frame {k : Int} {s s' : St K} (h : DNs k s)
    (hkind : ∀ c, 0 ≤ c → c < k → kind (pfn s') c = kind (pfn s) c)
    (hrd : ∀ i c, 0 ≤ c → c ≤ i → i < k → s'.rd i c = s.rd i c) (hlast : 1 ≤ k → kind (pfn s) (k - 1) ≠ 1) : DNs k s' := by
  intro c hc0 hck
  rw [hkind c hc0 hck, hrd c c hc0 (le_refl _) hck]
  refine ⟨(h c hc0 hck).1, fun h1 => ?_⟩
  have hc1 : c + 1 < k := by
    by_contra hh
    have e : k - 1 = c := by omega
    exact hlast (by omega) (by rw [e]; exact h1)
  rw [hrd (c + 1) (c + 1) (by omega) (le_refl _) hc1, hrd (c + 1) c hc0 (by omega) hc1]
  exact (h c hc0 hck).2 h1

/-- the interchange step: `π` becomes `π ∘ (a r)` -/
theorem core_interchange {s0 : St K} {n k : Int} {π : Int → Int} {s s' : St K} {a r : Int} (hk : 0 ≤ k)
    (hc : Core s0 n k π s) (hpre : Pre (pfn s) k) (hka : k ≤ a) (har : a ≤ r) (hr : r < n)
    (hrd : ∀ i j, 0 ≤ j → j ≤ i → i < n → s'.rd i j = if k ≤ j then symrd s (tr a r i) (tr a r j) else s.rd (tr a r i) j)
    (hpf : ∀ j, 0 ≤ j → j < k → pfn s' j = pfn s j) :
    Core s0 n k (fun x => π (tr a r x)) s' ∧ (DNs k s → DNs k s') := by
  have hkind : ∀ c, 0 ≤ c → c < k → kind (pfn s') c = kind (pfn s) c :=
    fun c hc0 hck => kind_congr hc0 (fun j a b => hpf j a (by omega))
  have ek : ((k.toNat : Nat) : Int) = k := by omega
  have hlast := hpre.kind_last
  have hrdlt : ∀ i c, 0 ≤ c → c ≤ i → i < k → s'.rd i c = s.rd i c := by
    intro i c h1 h2 h3
    rw [hrd i c h1 h2 (by omega), if_neg (by omega), tr_lt hka (by omega) h3]
  constructor
  · refine FId.perm hc (tr a r) (fun i hi hin => ?_) (fun i c hi hin hcm => ?_) (fun c c' hc hc' => ?_) (fun i j hi hin hj hjn => ?_)
    · have := tr_range (n := n) (a := a) (b := r) (x := i) ⟨by omega, by omega⟩ ⟨by omega, hr⟩ ⟨hi, hin⟩
      rw [ek]
      exact ⟨this.1, this.2, tr_ge hka (by omega)⟩
    · exact Lent_frame (n := n) (k := k) (τ := tr a r) hkind
        (fun i c h1 h2 h3 h4 => by rw [hrd i c h1 (by omega) h4, if_neg (by omega)])
        (fun i hi => tr_lt hka (by omega) hi) (fun i hi => (tr_ge hka (by omega)).2 hi) hlast i c hi hin (by omega) (by omega)
    · exact Dent_frame hkind hrdlt c c' (by omega) (by omega) (by omega) (by omega)
    · rw [ek] at hi hj
      unfold symrd
      by_cases cji : j ≤ i
      · rw [if_pos cji, hrd i j (by omega) cji hin, if_pos hj]; rfl
      · rw [if_neg cji, hrd j i (by omega) (by omega) hjn, if_pos hi]
        exact symrd_comm s _ _
  · exact fun hd => DNs_frame hd hkind hrdlt hlast

theorem sym_wlog (P : Int → Int → Prop) (hsym : ∀ i j, P i j → P j i) (h : ∀ i j, j ≤ i → P i j) : ∀ i j, P i j := by
  intro i j
  by_cases c : j ≤ i
  · exact h i j c
  · exact hsym j i (h j i (by omega))

theorem kind_of_perm {s s' : St K} (hperm : s'.perm = s.perm) (c : Int) : kind (pfn s') c = kind (pfn s) c := by
  have : pfn s' = pfn s := funext (fun j => by unfold pfn; rw [hperm])
  rw [this]

/-- an elimination step that leaves `m_perm` and the finished columns alone appends a block of `b` columns once the trailing square
    splits as `hS` says: what is specific to the 1x1 and the 2x2 step is only that splitting -/
theorem core_block {s0 : St K} {n k : Int} {π : Int → Int} {s s' : St K} (b : Nat) (hk : 0 ≤ k) (hkn : k ≤ n)
    (hc : Core s0 n k π s) (hpre : Pre (pfn s) k) (hperm : s'.perm = s.perm)
    (hold : ∀ i c, 0 ≤ c → c < k → c ≤ i → i < n → s'.rd i c = s.rd i c)
    (hS : ∀ i j : Int, k ≤ i → i < n → k ≤ j → j < n →
      symrd s i j = (∑ a ∈ Finset.range b, ∑ a' ∈ Finset.range b, Lent s' i (k + a) * Dent s' (k + a) (k + a') * Lent s' j (k + a'))
        + (if k + b ≤ i ∧ k + b ≤ j then symrd s' i j else 0)) :
    Core s0 n (k + b) π s' ∧ (DNs k s → DNs k s') := by
  have hkind := kind_of_perm hperm
  have ek : ((k.toNat : Nat) : Int) = k := by omega
  have ea : ∀ a : Nat, ((k.toNat + a : Nat) : Int) = k + a := fun a => by push_cast; omega
  have hlast := hpre.kind_last
  have hrdlt : ∀ i c, 0 ≤ c → c ≤ i → i < k → s'.rd i c = s.rd i c := fun i c h1 h2 h3 => hold i c h1 (by omega) h2 (by omega)
  refine ⟨?_, fun hd => DNs_frame hd (fun c _ _ => hkind c) hrdlt hlast⟩
  unfold Core
  rw [show (k + b).toNat = k.toNat + b by omega]
  refine FId.block b hc (fun i c hi hin hcm => ?_) (fun c c' hc hc' => ?_) (fun c a hc ha => ?_) (fun i a hi hik ha => ?_) ?_
  · exact Lent_frame (n := n) (k := k) (τ := fun i => i) (fun c _ _ => hkind c)
      (fun i c h1 h2 h3 h4 => hold i c h1 h2 (by omega) h4) (fun i _ => rfl) (fun i hi => hi) hlast i c hi hin (by omega) (by omega)
  · exact Dent_frame (fun c _ _ => hkind c) hrdlt c c' (by omega) (by omega) (by omega) (by omega)
  · rw [ea]
    exact Dent_off (fun h => by rw [hkind]; exact hlast h) (by omega) (by omega) (by omega)
  · rw [ea]
    exact Lent_upper s' (by omega)
  · simp only [ea, ek]
    exact hS

/-- the 1x1 elimination step (`x i = A(i,k)/a_kk`) -/
theorem core_elim1 {s0 : St K} {n k : Int} {π : Int → Int} {s s' : St K} (hk : 0 ≤ k) (hkn : k < n)
    (hc : Core s0 n k π s) (hpre : Pre (pfn s) k) (hpk : 0 ≤ pfn s k) (ha : s.rd k k ≠ 0) (hperm : s'.perm = s.perm)
    (x : Int → K) (hx : ∀ i, k < i → i < n → x i * s.rd k k = s.rd i k)
    (hrd : ∀ i j, 0 ≤ j → j ≤ i → i < n → s'.rd i j =
      if j = k ∧ k < i then x i else if k < j then s.rd i j - x j * s.rd i k else s.rd i j) :
    Core s0 n (k + 1) π s' ∧ (DNs k s → DNs (k + 1) s') := by
  have hk0 : kind (pfn s') k = 0 := by rw [kind_of_perm hperm]; exact kind_of_nonneg hk hpk
  have hold : ∀ i c, 0 ≤ c → c < k → c ≤ i → i < n → s'.rd i c = s.rd i c := fun i c h1 h2 h3 h4 => by
    rw [hrd i c h1 h3 h4, if_neg (by omega), if_neg (by omega)]
  have hkk : s'.rd k k = s.rd k k := by rw [hrd k k hk (le_refl _) hkn, if_neg (by omega), if_neg (by omega)]
  have hLk : ∀ i, k ≤ i → i < n → Lent s' i k = if i = k then 1 else x i := by
    intro i h1 h2
    rw [Lent_col s' h1]
    by_cases c : i = k
    · rw [if_pos c, if_pos c]
    · rw [if_neg c, if_neg c, if_neg (by rw [hk0]; simp), hrd i k hk h1 h2, if_pos ⟨rfl, by omega⟩]
  have hDk : Dent s' k k = s.rd k k := by unfold Dent; rw [if_pos rfl, hkk]
  obtain ⟨hcore, hdns⟩ := core_block (s' := s') 1 hk (by omega) hc hpre hperm hold (by
    simp only [Finset.sum_range_one, Nat.cast_zero, Nat.cast_one, add_zero, hDk]
    apply sym_wlog (fun i j => k ≤ i → i < n → k ≤ j → j < n →
        symrd s i j = Lent s' i k * s.rd k k * Lent s' j k + (if k + 1 ≤ i ∧ k + 1 ≤ j then symrd s' i j else 0))
    · intro i j h a1 a2 a3 a4
      rw [symrd_comm s j i, h a3 a4 a1 a2, symrd_comm s' j i]
      have : (k + 1 ≤ j ∧ k + 1 ≤ i) ↔ (k + 1 ≤ i ∧ k + 1 ≤ j) := and_comm
      simp only [this]; ring
    · intro i j hji a1 a2 a3 a4
      rw [hLk i a1 a2, hLk j a3 a4, symrd_lower s hji]
      by_cases ci : i = k
      · have cj : j = k := by omega
        rw [if_pos ci, if_pos cj, if_neg (by omega), ci, cj]; ring
      · rw [if_neg ci]
        by_cases cj : j = k
        · rw [if_pos cj, if_neg (by omega), cj, hx i (by omega) a2]; ring
        · rw [if_neg cj, if_pos ⟨by omega, by omega⟩, symrd_lower s' hji, hrd i j (by omega) hji a2, if_neg (by omega), if_pos (by omega),
            hx i (by omega) a2]; ring)
  refine ⟨hcore, fun hd c hc0 hck => ?_⟩
  by_cases c1 : c < k
  · exact hdns hd c hc0 c1
  · obtain rfl : c = k := by omega
    rw [hk0, hkk]
    exact ⟨fun _ => ha, fun h => by simp at h⟩

/-- the 2x2 elimination step (`(x1 i, x2 i) = (A(i,k), A(i,k+1)) E⁻¹`) -/
theorem core_elim2 {s0 : St K} {n k : Int} {π : Int → Int} {s s' : St K} (hk : 0 ≤ k) (hkn : k + 1 < n)
    (hc : Core s0 n k π s) (hpre : Pre (pfn s) k) (hpk : pfn s k < 0) (hpk1 : pfn s (k + 1) < 0) (hperm : s'.perm = s.perm)
    (hdet : s.rd k k * s.rd (k + 1) (k + 1) - s.rd (k + 1) k * s.rd (k + 1) k ≠ 0)
    (x1 x2 : Int → K)
    (hx : ∀ i, k + 2 ≤ i → i < n → x1 i * s.rd k k + x2 i * s.rd (k + 1) k = s.rd i k ∧
      x1 i * s.rd (k + 1) k + x2 i * s.rd (k + 1) (k + 1) = s.rd i (k + 1))
    (hrd : ∀ i j, 0 ≤ j → j ≤ i → i < n → s'.rd i j =
      if j = k ∧ k + 2 ≤ i then x1 i else if j = k + 1 ∧ k + 2 ≤ i then x2 i
      else if k + 1 < j then s.rd i j - (x1 i * s.rd j k + x2 i * s.rd j (k + 1)) else s.rd i j) :
    Core s0 n (k + 2) π s' ∧ (DNs k s → DNs (k + 2) s') := by
  have hk0 : kind (pfn s') k = 1 := by rw [kind_of_perm hperm]; exact hpre.kind_neg hpk
  have hk1 : kind (pfn s') (k + 1) = 2 := by rw [kind_of_perm hperm]; exact hpre.kind_neg2 hpk hpk1
  have hold : ∀ i c, 0 ≤ c → c < k → c ≤ i → i < n → s'.rd i c = s.rd i c := fun i c h1 h2 h3 h4 => by
    rw [hrd i c h1 h3 h4, if_neg (by omega), if_neg (by omega), if_neg (by omega)]
  have hkk : s'.rd k k = s.rd k k := by rw [hrd k k hk (le_refl _) (by omega), if_neg (by omega), if_neg (by omega), if_neg (by omega)]
  have hk1k : s'.rd (k + 1) k = s.rd (k + 1) k := by rw [hrd (k + 1) k hk (by omega) hkn, if_neg (by omega), if_neg (by omega), if_neg (by omega)]
  have hk1k1 : s'.rd (k + 1) (k + 1) = s.rd (k + 1) (k + 1) := by
    rw [hrd (k + 1) (k + 1) (by omega) (le_refl _) hkn, if_neg (by omega), if_neg (by omega), if_neg (by omega)]
  have hL1 : ∀ i, k ≤ i → i < n → Lent s' i k = if i = k then 1 else if i = k + 1 then 0 else x1 i := by
    intro i h1 h2
    rw [Lent_col s' h1]
    by_cases c : i = k
    · rw [if_pos c, if_pos c]
    · rw [if_neg c, if_neg c]
      by_cases c2 : i = k + 1
      · rw [if_pos ⟨hk0, c2⟩, if_pos c2]
      · rw [if_neg (fun h => c2 h.2), if_neg c2, hrd i k hk h1 h2, if_pos ⟨rfl, by omega⟩]
  have hL2 : ∀ i, k ≤ i → i < n → Lent s' i (k + 1) = if i = k then 0 else if i = k + 1 then 1 else x2 i := by
    intro i h1 h2
    by_cases c : i = k
    · rw [if_pos c, Lent_upper s' (by omega)]
    · rw [if_neg c, Lent_col s' (by omega)]
      by_cases c2 : i = k + 1
      · rw [if_pos c2, if_pos c2]
      · rw [if_neg c2, if_neg c2, if_neg (by rw [hk1]; simp), hrd i (k + 1) (by omega) (by omega) h2, if_neg (by omega),
          if_pos ⟨rfl, by omega⟩]
  have hD11 : Dent s' k k = s.rd k k := by unfold Dent; rw [if_pos rfl, hkk]
  have hD22 : Dent s' (k + 1) (k + 1) = s.rd (k + 1) (k + 1) := by unfold Dent; rw [if_pos rfl, hk1k1]
  have hD21 : Dent s' (k + 1) k = s.rd (k + 1) k := by unfold Dent; rw [if_neg (by omega), if_pos ⟨rfl, hk0⟩, hk1k]
  have hD12 : Dent s' k (k + 1) = s.rd (k + 1) k := by
    unfold Dent; rw [if_neg (by omega), if_neg (by omega), if_pos ⟨rfl, hk0⟩, hk1k]
  obtain ⟨hcore, hdns⟩ := core_block (s' := s') 2 hk (by omega) hc hpre hperm hold (by
    simp only [Finset.sum_range_succ, Finset.sum_range_zero, zero_add, Nat.cast_zero, Nat.cast_one, Nat.cast_ofNat, add_zero,
      hD11, hD12, hD21, hD22]
    apply sym_wlog (fun i j => k ≤ i → i < n → k ≤ j → j < n →
        symrd s i j = Lent s' i k * s.rd k k * Lent s' j k + Lent s' i k * s.rd (k + 1) k * Lent s' j (k + 1)
          + (Lent s' i (k + 1) * s.rd (k + 1) k * Lent s' j k + Lent s' i (k + 1) * s.rd (k + 1) (k + 1) * Lent s' j (k + 1))
          + (if k + 2 ≤ i ∧ k + 2 ≤ j then symrd s' i j else 0))
    · intro i j h a1 a2 a3 a4
      rw [symrd_comm s j i, h a3 a4 a1 a2, symrd_comm s' j i]
      have : (k + 2 ≤ j ∧ k + 2 ≤ i) ↔ (k + 2 ≤ i ∧ k + 2 ≤ j) := and_comm
      simp only [this]; ring
    · intro i j hji a1 a2 a3 a4
      rw [hL1 i a1 a2, hL1 j a3 a4, hL2 i a1 a2, hL2 j a3 a4, symrd_lower s hji]
      by_cases ci : i = k
      · have cj : j = k := by omega
        rw [if_pos ci, if_pos cj, if_pos ci, if_pos cj, if_neg (show ¬(k + 2 ≤ i ∧ k + 2 ≤ j) by omega), ci, cj]; ring
      · rw [if_neg ci, if_neg ci]
        by_cases ci1 : i = k + 1
        · rw [if_pos ci1, if_pos ci1, if_neg (show ¬(k + 2 ≤ i ∧ k + 2 ≤ j) by omega)]
          by_cases cj : j = k
          · rw [if_pos cj, if_pos cj, ci1, cj]; ring
          · have cj1 : j = k + 1 := by omega
            rw [if_neg cj, if_neg cj, if_pos cj1, if_pos cj1, ci1, cj1]; ring
        · rw [if_neg ci1, if_neg ci1]
          have hxi := hx i (by omega) a2
          by_cases cj : j = k
          · rw [if_pos cj, if_pos cj, if_neg (show ¬(k + 2 ≤ i ∧ k + 2 ≤ j) by omega), cj, ← hxi.1]; ring
          · rw [if_neg cj, if_neg cj]
            by_cases cj1 : j = k + 1
            · rw [if_pos cj1, if_pos cj1, if_neg (show ¬(k + 2 ≤ i ∧ k + 2 ≤ j) by omega), cj1, ← hxi.2]; ring
            · have hxj := hx j (by omega) a4
              rw [if_neg cj1, if_neg cj1, if_pos (show k + 2 ≤ i ∧ k + 2 ≤ j from ⟨by omega, by omega⟩), symrd_lower s' hji,
                hrd i j (by omega) hji a2, if_neg (show ¬(j = k ∧ k + 2 ≤ i) by omega),
                if_neg (show ¬(j = k + 1 ∧ k + 2 ≤ i) by omega), if_pos (show k + 1 < j by omega), ← hxj.1, ← hxj.2]; ring)
  refine ⟨hcore, fun hd c hc0 hck => ?_⟩
  by_cases c1 : c < k
  · exact hdns hd c hc0 c1
  · by_cases c2 : c = k
    · subst c2
      rw [hk0, hkk, hk1k, hk1k1]
      exact ⟨fun h => by simp at h, fun _ => hdet⟩
    · obtain rfl : c = k + 1 := by omega
      rw [hk1]
      exact ⟨fun h => by simp at h, fun h => by simp at h⟩

end steps

/-! ### `copy_data`: the packed copy is the chosen triangle minus the shift -/
section copy
variable {K : Type} [Field K] [Sc K]

/-- the entry of the triangle that `copy_data` reads for position `(i, j)`, `j ≤ i` -/
def srcTri (src : Array K) (rm : Bool) (n uplo i j : Int) : K :=
  if uplo = 1 then srcCoeff src rm n i j else srcCoeff src rm n j i

/-- the target of `copy_data` -/
def tgt (src : Array K) (rm : Bool) (n uplo : Int) (shift : K) (i c : Int) : K :=
  srcTri src rm n uplo i c - (if i = c then shift else 0)

/-- the element loop stores `g c i` at `(i, c)`, less the shift on the diagonal -/
theorem copyGen_spec {n : Int} {g : Int → Int → K} {shift : K} {s : St K} (hs : Sized n s) (hn : 0 ≤ n) :
    Sized n (copyGen n g shift s) ∧
    ∀ i c, 0 ≤ c → c ≤ i → i < n → (copyGen n g shift s).rd i c = g c i - (if i = c then shift else 0) := by
  unfold copyGen
  have key : ∀ X : Int × St K, (X.1 = colptr n n ∧ Sized n X.2 ∧
      ∀ i c, 0 ≤ c → c ≤ i → i < n → c < n → X.2.rd i c = g c i - (if i = c then shift else 0)) →
      Sized n X.2 ∧ ∀ i c, 0 ≤ c → c ≤ i → i < n → X.2.rd i c = g c i - (if i = c then shift else 0) :=
    fun X h => ⟨h.2.1, fun i c a b d => h.2.2 i c a b d (by omega)⟩
  refine key _ (ListFold.foldl_intRange_inv (fun j (acc : Int × St K) => acc.1 = colptr n j ∧ Sized n acc.2 ∧
      ∀ i c, 0 ≤ c → c ≤ i → i < n → c < j → acc.2.rd i c = g c i - (if i = c then shift else 0)) _ 0 n ((0 : Int), s) hn
    ⟨(colptr_zero n).symm, hs, fun i c a b d e => by omega⟩ (fun j acc hj0 hj1 ⟨hd, hsz, hrd⟩ => ?_))
  -- column `j`: the running `dest` is the packed position, so `wrAt` is `wr`; then the diagonal entry is shifted
  obtain ⟨cd, cO⟩ := ListFold.foldl_intRange_inv (fun t (x : Int × St K) => x.1 = colptr n j + (t - j) ∧
      Over n (fun i c => c = j ∧ i < t) (fun i _ => g j i) acc.2 x.2)
    (fun (x : Int × St K) i => (x.1 + 1, x.2.wrAt x.1 i j (g j i))) j n acc (by omega)
    ⟨by omega, (Over.refl hsz).congr (fun i c _ _ _ => ⟨fun h => by omega, False.elim⟩)⟩
    (fun t x ht0 ht1 ⟨hx, hO⟩ => ⟨by dsimp only; omega, by
      dsimp only
      rw [wrAt_eq_wr _ _ _ _ _ (by rw [hx, hO.1.1]; unfold off; omega)]
      exact (hO.wr ⟨hj0, ht0, ht1⟩ rfl).congr (fun i c _ _ _ => by omega)⟩)
  refine ⟨by dsimp only; rw [cd, colptr_succ], sized_wr (sized_get cO.1), fun i c a b d e => ?_⟩
  dsimp only
  unfold shift_diag
  rw [rd_wr (sized_get cO.1) ⟨hj0, le_refl _, hj1⟩ ⟨a, b, d⟩]
  simp only [get_fst, rd_get]
  by_cases cc : c = j
  · subst cc
    by_cases ci : i = c
    · subst ci; rw [if_pos ⟨rfl, rfl⟩, if_pos rfl, cO.new ⟨a, b, d⟩ ⟨rfl, d⟩]
    · rw [if_neg (fun h => ci h.1), if_neg ci, sub_zero, cO.new ⟨a, b, d⟩ ⟨rfl, d⟩]
  · rw [if_neg (fun h => cc h.2), cO.old ⟨a, b, d⟩ (fun h => cc h.1)]
    exact hrd i c a b d (by omega)

/-- `copy_data` stores the chosen triangle of `A` minus `shift` on the diagonal: ties `s0` of `compute_finv` to the input -/
theorem copy_data_spec (src : Array K) (rm : Bool) (n uplo : Int) (shift : K) (hn : 0 ≤ n) :
    Sized n (copy_data (initSt n) src rm uplo shift) ∧ ∀ i j, 0 ≤ j → j ≤ i → i < n →
      (copy_data (initSt n) src rm uplo shift).rd i j =
        (if uplo = 1 then srcCoeff src rm n i j else srcCoeff src rm n j i) - (if i = j then shift else 0) := by
  have hn0 : (initSt (α := K) n).n = n := rfl
  rw [copy_data_shape, hn0]
  split
  · rename_i hfast
    simp only [Bool.and_eq_true, Bool.not_eq_eq_eq_not, Bool.not_true, decide_eq_true_eq] at hfast
    obtain ⟨rfl, rfl⟩ := hfast
    rw [← copyGen_eq_copyFast _ _ _ hn0]
    obtain ⟨h1, h2⟩ := copyGen_spec (g := fun j i => src.getD (srcIdx false n j j + (i - j)).toNat zero) (shift := shift) (initSt_sized n) hn
    refine ⟨h1, fun i j a b c => ?_⟩
    rw [h2 i j a b c, if_pos rfl]
    unfold srcCoeff srcIdx
    rw [if_neg Bool.false_ne_true, if_neg Bool.false_ne_true]
    congr 3; ring
  · obtain ⟨h1, h2⟩ := copyGen_spec (g := fun j i => if decide (uplo = 1) then srcCoeff src rm n i j else scalarop_conj (srcCoeff src rm n j i))
      (shift := shift) (initSt_sized n) hn
    refine ⟨h1, fun i j a b c => ?_⟩
    rw [h2 i j a b c]
    by_cases hu : uplo = 1 <;> simp [hu, scalarop_conj]

/-- the symmetric matrix `A − σI` as `compute` reads it (chosen triangle mirrored) -/
def shiftedSym (src : Array K) (rm : Bool) (n uplo : Int) (shift : K) (a b : Int) : K :=
  if b ≤ a then tgt src rm n uplo shift a b else tgt src rm n uplo shift b a

theorem symrd_copy_data (src : Array K) (rm : Bool) (n uplo : Int) (shift : K) (hn : 0 ≤ n) (a b : Int)
    (ha : 0 ≤ a ∧ a < n) (hb : 0 ≤ b ∧ b < n) :
    symrd (copy_data (initSt n) src rm uplo shift) a b = shiftedSym src rm n uplo shift a b := by
  unfold symrd shiftedSym tgt srcTri
  split
  · exact (copy_data_spec src rm n uplo shift hn).2 a b hb.1 (by assumption) ha.2
  · exact (copy_data_spec src rm n uplo shift hn).2 b a ha.1 (by omega) hb.2

end copy

/-! ### induction over the pivot loop -/
section loop
variable {K : Type} [Field K] [Sc K]

theorem ge1_ne (hE : ExactSc K) {a : K} (h : ge1_status a = Successful) : a ≠ 0 := by
  intro h0
  unfold ge1_status Successful at h
  rw [(hE.eq0 a).2 h0] at h
  simp at h

theorem ge2_ne (hE : ExactSc K) {e11 e21 e22 : K} (h : ge2_status e11 e21 e22 = Successful) : e11 * e22 - e21 * e21 ≠ 0 := by
  intro h0
  have hb := (hE.eq0 _).2 h0
  simp only [ge2_status, scalarop_conj, Successful, hb] at h
  simp at h

theorem ge1_fst_eq (s : St K) (k : Int) : (gaussian_elimination_1x1 s k).1 = ge1_status (s.rd k k) := by
  show _ = ge1_status (scalarop_real (s.get k k).1)
  unfold gaussian_elimination_1x1
  dsimp only
  split <;> rfl

theorem ge2_fst_eq {n : Int} {s : St K} {k : Int} (hs : Sized n s) (hk : 0 ≤ k) (hkn : k + 1 < n) :
    (gaussian_elimination_2x2 s k).1 = ge2_status (s.rd k k) (s.rd (k + 1) k) (s.rd (k + 1) (k + 1)) := by
  have he21 := (ge2_head hs hk hkn).2 (k + 1) k hk (by omega) hkn
  unfold gaussian_elimination_2x2
  dsimp only
  split <;> simp only [get_fst, rd_get, scalarop_real, he21]

/-- the loop invariant: `k` columns are finished -/
def FInv (s0 : St K) (n k : Int) (s : St K) : Prop :=
  Inv n s.perm (packedSize n).toNat s ∧ PInv n k s ∧ (∀ i, k ≤ i → i < n → pfn s i = i) ∧ Core s0 n k (piN (pfn s) k.toNat) s ∧ DNs k s

/-- one pass of the pivot loop keeps `FInv`: the interchange is `core_interchange`, the elimination `core_elim1` / `core_elim2` with
    the multipliers of `elim1_model` / `elim2_model`, and `piN` grows by the transposition(s) the new `m_perm` entries encode -/
theorem finv_step (hE : ExactSc K) {s0 : St K} {n k : Int} {s : St K} (alpha : K) (hk : 0 ≤ k) (hk1 : k + 1 < n) (h : FInv s0 n k s) :
    ((permutate_mat s k alpha).1 = true → (gaussian_elimination_1x1 (permutate_mat s k alpha).2.2 k).1 = Successful →
      FInv s0 n (k + 1) (gaussian_elimination_1x1 (permutate_mat s k alpha).2.2 k).2) ∧
    ((permutate_mat s k alpha).1 = false → (gaussian_elimination_2x2 (permutate_mat s k alpha).2.2 k).1 = Successful →
      FInv s0 n (k + 2) (gaussian_elimination_2x2 (permutate_mat s k alpha).2.2 k).2) := by
  obtain ⟨hI, hp, hid, hc, hd⟩ := h
  have spec := permutate_mat_spec (alpha := alpha) hI hp.1 hk hk1
  obtain ⟨a1, hI1, ps⟩ := permutate_mat_inv (alpha := alpha) hI hk hk1
  have hpinv := hp.pstep hk hk1 rfl hI1.perm ps
  clear ps
  generalize permutate_mat s k alpha = pm at spec hI1 hpinv
  obtain ⟨is1, tag, s1⟩ := pm
  -- reduces the projections of the destructured triple
  simp only [] at spec hI1 hpinv ⊢
  have hs1 := hI1.sized
  obtain ⟨a, r, ha1, ha2, har, hr, hrd1, hp1, hp2⟩ := spec
  have ek : ((k.toNat : Nat) : Int) = k := by omega
  constructor
  · intro his1 hst
    subst his1
    have hak := ha1 rfl
    subst hak
    obtain ⟨hpo, hpk⟩ := hp1 rfl
    have hpk := hpk (hid a (le_refl _) (by omega))
    have hpre1 : Pre (pfn s1) a := hp.2.2.1.congr (fun j a b => hpo j a (by omega))
    obtain ⟨c1, d1⟩ := core_interchange (s' := s1) hk hc hp.2.2.1 (le_refl _) har hr hrd1 (fun j a b => hpo j a (by omega))
    rw [ge1_fst_eq] at hst
    have hne := ge1_ne hE hst
    have em := elim1_model hs1 hk (by omega) hst
    have hI2 := ge1_inv hI1 hk (by omega)
    have hperm := hI2.perm.trans hI1.perm.symm
    obtain ⟨c2, d2⟩ := core_elim1 (s' := (gaussian_elimination_1x1 s1 a).2) hk (by omega) c1 hpre1 (by rw [hpk]; omega) hne hperm
      (fun i => s1.rd i a / s1.rd a a) (fun i _ _ => div_mul_cancel₀ _ hne) em.2
    have hpfn2 : ∀ j, pfn (gaussian_elimination_1x1 s1 a).2 j = pfn s1 j := fun j => by unfold pfn; rw [hperm]
    refine ⟨hI2.self, (hpinv.1 rfl).of_perm hperm, fun i hi hin => ?_, ?_, d2 (d1 hd)⟩
    · rw [hpfn2, hpo i (by omega) (by omega)]; exact hid i (by omega) hin
    · have e1 : (a + 1).toNat = a.toNat + 1 := by omega
      have : piN (pfn (gaussian_elimination_1x1 s1 a).2) (a + 1).toNat = fun x => piN (pfn s) a.toNat (tr a r x) := by
        funext x
        rw [e1]
        simp only [piN, ek]
        rw [hpfn2, hpk, dec_nonneg (by omega)]
        exact piN_congr _ (fun j h1 h2 => by rw [hpfn2, hpo j h1 (by omega)]) _
      rw [this]; exact c2
  · intro his1 hst
    subst his1
    have hak := ha2 rfl
    subst hak
    obtain ⟨hpo, hpk, hpk1⟩ := hp2 rfl
    have hpre1 : Pre (pfn s1) k := hp.2.2.1.congr (fun j a b => hpo j a (by omega) (by omega))
    obtain ⟨c1, d1⟩ := core_interchange (s' := s1) hk hc hp.2.2.1 (by omega) har hr hrd1 (fun j a b => hpo j a (by omega) (by omega))
    rw [ge2_fst_eq hs1 hk hk1] at hst
    have hdet := ge2_ne hE hst
    have hpiv := hE.piv _ _ _ hdet
    have em := elim2_model hs1 hk hk1 hst
    have hI2 := ge2_inv hI1 hk hk1
    have hperm := hI2.perm.trans hI1.perm.symm
    obtain ⟨c2, d2⟩ := core_elim2 (s' := (gaussian_elimination_2x2 s1 k).2) hk hk1 c1 hpre1 (by rw [hpk]; omega) (by rw [hpk1]; omega) hperm hdet
      (fun i => (solve_left_2x2 (s1.rd k k) (s1.rd (k + 1) k) (s1.rd (k + 1) (k + 1)) (s1.rd i k) (s1.rd i (k + 1))).1)
      (fun i => (solve_left_2x2 (s1.rd k k) (s1.rd (k + 1) k) (s1.rd (k + 1) (k + 1)) (s1.rd i k) (s1.rd i (k + 1))).2)
      (fun i _ _ => C10S.solve_left2_any _ _ _ _ _ hpiv hdet) em.2
    have hpfn2 : ∀ j, pfn (gaussian_elimination_2x2 s1 k).2 j = pfn s1 j := fun j => by unfold pfn; rw [hperm]
    refine ⟨hI2.self, (hpinv.2 rfl).of_perm hperm, fun i hi hin => ?_, ?_, d2 (d1 hd)⟩
    · rw [hpfn2, hpo i (by omega) (by omega) (by omega)]; exact hid i (by omega) hin
    · have e1 : (k + 2).toNat = k.toNat + 1 + 1 := by omega
      have ek1 : ((k.toNat + 1 : Nat) : Int) = k + 1 := by push_cast; omega
      have : piN (pfn (gaussian_elimination_2x2 s1 k).2) (k + 2).toNat = fun x => piN (pfn s) k.toNat (tr (k + 1) r x) := by
        funext x
        rw [e1]
        simp only [piN, ek, ek1]
        rw [hpfn2, hpfn2, hpk, hpk1, dec_neg k hk, dec_neg r (by omega), tr_self]
        exact piN_congr _ (fun j h1 h2 => by rw [hpfn2, hpo j h1 (by omega) (by omega)]) _
      rw [this]; exact c2

theorem loop_finv (hE : ExactSc K) {s0 : St K} {n : Int} {alpha : K} (fuel : Nat) (k info : Int) (s : St K) (tags : List Nat)
    (h : FInv s0 n k s) (hk : 0 ≤ k) (hkn : k ≤ n) (hfuel : n - 1 - k ≤ fuel) :
    (computeLoop alpha fuel k info s tags).2.1 = Successful →
    ((computeLoop alpha fuel k info s tags).1 = n - 1 ∨ (computeLoop alpha fuel k info s tags).1 = n) ∧
      FInv s0 n (computeLoop alpha fuel k info s tags).1 (computeLoop alpha fuel k info s tags).2.2.1 := by
  induction fuel generalizing k info s tags with
  | zero => intro _; exact ⟨by simp only [computeLoop]; push_cast at hfuel; omega, h⟩
  | succ fuel ih =>
    unfold computeLoop
    split
    · rename_i hlt
      rw [h.1.n] at hlt
      have st := finv_step hE alpha hk (by omega) h
      generalize permutate_mat s k alpha = pm at st
      obtain ⟨is1, tag, s1⟩ := pm
      simp only [] at st ⊢
      cases is1
      · simp only [Bool.false_eq_true, if_false]
        split
        · rename_i hb
          exact fun hi => absurd hi ((C10S.break_iff _).1 hb)
        · rename_i hb
          rw [show k + 1 + 1 = k + 2 by ring]
          exact ih _ _ _ _ (st.2 rfl (not_not.1 (fun hne => hb ((C10S.break_iff _).2 hne)))) (by omega) (by omega) (by push_cast at hfuel; omega)
      · simp only [if_true]
        split
        · rename_i hb
          exact fun hi => absurd hi ((C10S.break_iff _).1 hb)
        · rename_i hb
          exact ih _ _ _ _ (st.1 rfl (not_not.1 (fun hne => hb ((C10S.break_iff _).2 hne)))) (by omega) (by omega) (by push_cast at hfuel; omega)
    · rename_i hlt
      rw [h.1.n] at hlt
      intro _
      exact ⟨by simp only []; omega, h⟩

end loop

/-! ### `compute` -/
section final
variable {K : Type} [Field K] [Sc K]

theorem finv_init (src : Array K) (rm : Bool) (n uplo : Int) (shift : K) :
    FInv (copy_data (initSt n) src rm uplo shift) n 0 (copy_data (initSt n) src rm uplo shift) := by
  have h0 := copy_data_inv (src := src) (rm := rm) (uplo := uplo) (shift := shift) (initSt_inv n)
  refine ⟨h0.self, (initSt_pinv n).of_perm h0.perm, fun i hi hin => ?_, ?_, fun c h0 h1 => by omega⟩
  · unfold pfn; rw [h0.perm]; exact initSt_pfn n i hi hin
  · intro i j hi hin hj hjn
    have e : (0 : Int).toNat = 0 := rfl
    simp only [e, Finset.range_zero, Finset.sum_empty, piN, zero_add]
    rw [if_pos ⟨by simpa using hi, by simpa using hj⟩]

theorem final_ne (hE : ExactSc K) {n k info : Int} {a : K} (hk : k = n - 1) (h : compute_final_info n k info a = Successful) : a ≠ 0 := by
  intro h0
  have hb := (hE.eq0 a).2 h0
  simp [compute_final_info, hk, hb, Successful] at h

/-- the invariant at the end of `compute` when it reports success -/
theorem compute_finv (hE : ExactSc K) (src : Array K) (rm : Bool) (n uplo : Int) (shift alpha : K) (hn : 1 ≤ n)
    (hinfo : (compute src rm n uplo shift alpha).info = Successful) :
    Core (copy_data (initSt n) src rm uplo shift) n n (piN (pfn (compute src rm n uplo shift alpha).s) n.toNat) (compute src rm n uplo shift alpha).s ∧
    DNs n (compute src rm n uplo shift alpha).s := by
  have h0 := finv_init src rm n uplo shift
  have hloop := loop_finv hE (alpha := alpha) n.toNat 0 (compute_init_info NotComputed) _ [] h0 (le_refl _) (by omega) (by omega)
  unfold compute at hinfo ⊢
  dsimp only at hinfo ⊢
  generalize computeLoop alpha n.toNat 0 (compute_init_info NotComputed) (copy_data (initSt n) src rm uplo shift) [] = cl at hloop hinfo ⊢
  obtain ⟨k, info, s, tags⟩ := cl
  dsimp only at hloop hinfo ⊢
  have hinf : info = Successful := by
    rcases compute_final_info_cases n k info
      (if k = n - 1 then (scalarop_real (s.get k k).1, (s.get k k).2.wr k k (scalarop_real (s.get k k).1)) else (zero, s)).1 with h | h
    · rw [h] at hinfo; exact hinfo
    · rw [h] at hinfo; exact absurd hinfo (by decide)
  obtain ⟨hkk, hI, hp, hid, hc, hd⟩ := hloop hinf
  by_cases hk : k = n - 1
  · rw [if_pos hk] at hinfo ⊢
    dsimp only at hinfo ⊢
    have hne : s.rd k k ≠ 0 := final_ne hE hk hinfo
    have hk0 : 0 ≤ k := by omega
    have hrd : ∀ i j, 0 ≤ j → j ≤ i → i < n → ((s.get k k).2.wr k k (scalarop_real (s.get k k).1)).rd i j =
        if j = k ∧ k < i then (0 : K) else if k < j then s.rd i j - (0 : K) * s.rd i k else s.rd i j := by
      intro i j h1 h2 h3
      rw [rd_wr (n := n) (sized_get hI.sized) ⟨hk0, le_refl _, by omega⟩ ⟨h1, h2, h3⟩, if_neg (show ¬(j = k ∧ k < i) by omega),
        if_neg (show ¬(k < j) by omega)]
      by_cases c : i = k ∧ j = k
      · rw [if_pos c, c.1, c.2]; rfl
      · rw [if_neg c]; rfl
    -- the trailing 1x1 block: a 1x1 elimination step with no rows below it (multipliers `x := 0`)
    obtain ⟨c2, d2⟩ := core_elim1 (s' := (s.get k k).2.wr k k (scalarop_real (s.get k k).1)) hk0 (by omega) hc hp.2.2.1
      (by rw [hid k (le_refl _) (by omega)]; exact hk0) hne rfl (fun _ => 0) (fun i h1 h2 => by omega) hrd
    have e : k + 1 = n := by omega
    rw [e] at c2 d2
    refine ⟨?_, d2 hd⟩
    have e1 : n.toNat = k.toNat + 1 := by omega
    have ek : ((k.toNat : Nat) : Int) = k := by omega
    have : piN (pfn ((s.get k k).2.wr k k (scalarop_real (s.get k k).1))) n.toNat = piN (pfn s) k.toNat := by
      funext x
      rw [e1]
      simp only [piN, ek]
      have : pfn ((s.get k k).2.wr k k (scalarop_real (s.get k k).1)) = pfn s := rfl
      rw [this, hid k (le_refl _) (by omega), dec_nonneg hk0, tr_self]
    rw [this]; exact c2
  · rw [if_neg hk] at hinfo ⊢
    dsimp only at hinfo ⊢
    have e : k = n := by omega
    rw [e] at hc hd
    exact ⟨hc, hd⟩

/-- **P (A − σI) Pᵀ = L D Lᵀ** for the model's `compute` in exact arithmetic (any `Sc` instance that is `ExactSc`, in particular
    `scOfField` on a linearly ordered field), for every pivot-decision sequence: if `compute` reports success, its result is an `L D Lᵀ`
    factorization of `shiftedSym`, the symmetric matrix `A − σI` read from the triangle of the input selected by `uplo`. -/
theorem compute_isLDLT (hE : ExactSc K) (src : Array K) (rm : Bool) (n uplo : Int) (shift alpha : K) (hn : 1 ≤ n)
    (hinfo : (compute src rm n uplo shift alpha).info = Successful) :
    (compute src rm n uplo shift alpha).IsLDLT (shiftedSym src rm n uplo shift) n := by
  obtain ⟨hc, hd⟩ := compute_finv hE src rm n uplo shift alpha hn hinfo
  have hok := compute_ok src rm n uplo shift alpha (by omega)
  refine Fact.IsLDLT.congr (A := symrd (copy_data (initSt n) src rm uplo shift)) ⟨hok, fun i j hi hin hj hjn => ?_, hd⟩
    (fun a b ha hb => (symrd_copy_data src rm n uplo shift (by omega) a b ha hb).symm)
  have h := hc i j hi hin hj hjn
  rw [show ((n.toNat : Nat) : Int) = n by omega, if_neg (by omega), add_zero] at h
  rw [hok.permc, permFn_compress _ _ (by omega), permFn_compress _ _ (by omega)]
  exact h

end final
end BKLDLT
