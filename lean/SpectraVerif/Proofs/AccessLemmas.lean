/-
  The accessor loops of `HermEigsBase` / `GenEigsBase` as the SOURCE has them (`Gen.Access`, regenerated from /repo on every run)
  against the list-level definitions the orchestration model uses (`Orch.convIdx`, `Orch.eigenvalues`, `Orch.eigenvectorCoords`).

  `eigenvalues()`:      Index j = 0; for (i < m_nev) if (m_ritz_conv[i]) { res[j] = m_ritz_val[i]; j++; }
  `eigenvectors(nvec)`: nvec = min(nvec, nconv); Index j = 0; for (i < m_nev && j < nvec) if (m_ritz_conv[i]) { out.col(j) = m_ritz_vec.col(i); j++; }

  Both are folds over `0..m_nev-1` with a running output index; the lemmas here say what the fold leaves behind for EVERY flag
  array, value array and `m_nev`: the output positions `0..j-1` hold the entries of the flagged indices, in increasing index order,
  nothing else is written, and `j` is the number of flagged indices (capped by `nvec` for the vectors).
  Core Lean only.
-/
import SpectraVerif.Gen.Access
import SpectraVerif.Model.Orch
import SpectraVerif.Proofs.ListFold

namespace AccessLemmas

/-- flagged indices below `n`, increasing -/
def idx (conv : Int → Bool) (n : Nat) : List Nat := (List.range n).filter (fun i => conv (i : Int))

theorem idx_succ (conv : Int → Bool) (n : Nat) :
    idx conv (n + 1) = idx conv n ++ (if conv (n : Int) then [n] else []) := by
  unfold idx
  rw [List.range_succ, List.filter_append]
  by_cases h : conv (n : Int) <;> simp [h]

/-- the output array that holds `g` of the entries of `l` at positions `0 .. l.length - 1` and is `r` elsewhere -/
def laidOut {β : Type} (g : Nat → β) (l : List Nat) (r : Int → β) : Int → β :=
  fun x => if 0 ≤ x ∧ x < (l.length : Int) then g (l.getD x.toNat 0) else r x

/-- writing `g n` at the running output index extends the list laid out by `n` -/
theorem laidOut_snoc {β : Type} (g : Nat → β) (l : List Nat) (n : Nat) (r : Int → β) :
    upd (laidOut g l r) (l.length : Int) (g n) = laidOut g (l ++ [n]) r := by
  funext x
  unfold laidOut upd
  dsimp only
  rw [List.length_append, List.length_singleton]
  by_cases hx : x = (l.length : Int)
  · subst hx
    rw [if_pos rfl, if_pos (by omega), Int.toNat_natCast, List.getD_eq_getElem?_getD, List.getElem?_append_right (Nat.le_refl _)]
    simp
  · rw [if_neg hx]
    by_cases hin : 0 ≤ x ∧ x < (l.length : Int)
    · rw [if_pos hin, if_pos (by omega), List.getD_eq_getElem?_getD, List.getD_eq_getElem?_getD,
        List.getElem?_append_left (by omega)]
    · rw [if_neg hin, if_neg (by omega)]

theorem laidOut_nil {β : Type} (g : Nat → β) (r : Int → β) : laidOut g [] r = r :=
  funext fun x => if_neg (by rw [List.length_nil]; omega)

theorem laidOut_outside {β : Type} (g : Nat → β) (l : List Nat) (r : Int → β) (x : Int)
    (hx : ¬ (0 ≤ x ∧ x < (l.length : Int))) : laidOut g l r x = r x := if_neg hx

/-- positions `0 .. l.length - 1` of an output array read back as a list -/
theorem readback {β : Type} (l : List Nat) (g : Nat → β) (f : Int → β)
    (h : ∀ x : Int, 0 ≤ x ∧ x < (l.length : Int) → f x = g (l.getD x.toNat 0)) :
    l.map g = (List.range l.length).map (fun (t : Nat) => f (t : Int)) := by
  apply List.ext_getElem
  · rw [List.length_map, List.length_map, List.length_range]
  · intro i h1 _
    rw [List.length_map] at h1
    rw [List.getElem_map, List.getElem_map, List.getElem_range, h (i : Int) (by omega), Int.toNat_natCast,
      List.getD_eq_getElem?_getD, List.getElem?_eq_getElem h1]
    rfl

/-- one iteration of the `eigenvalues()` loop -/
def valStep {β : Type} (conv : Int → Bool) (val : Int → β) (a : (Int → β) × Int) (i : Int) : (Int → β) × Int :=
  if conv i then (upd a.1 a.2 (val i), a.2 + 1) else a

/-- one iteration of the `eigenvectors(nvec)` loop (`colsel[j] = i` records `out.col(j) = m_ritz_vec.col(i)`) -/
def colStep (conv : Int → Bool) (nvec : Int) (a : (Int → Int) × Int) (i : Int) : (Int → Int) × Int :=
  if a.2 < nvec then (if conv i then (upd a.1 a.2 i, a.2 + 1) else a) else a

/-- what the `eigenvalues()` fold leaves behind: the values at the flagged indices laid out from position 0, and their number -/
theorem valFold_spec {β : Type} (conv : Int → Bool) (val : Int → β) (res0 : Int → β) (n : Nat) :
    ((List.range n).map (fun (k : Nat) => (k : Int))).foldl (valStep conv val) (res0, 0) =
      (laidOut (fun k => val (k : Int)) (idx conv n) res0, ((idx conv n).length : Int)) := by
  induction n with
  | zero => rw [show idx conv 0 = [] from rfl, laidOut_nil]; rfl
  | succ n ih =>
    rw [List.range_succ, List.map_append, List.foldl_append, ih, idx_succ]
    simp only [List.map_cons, List.map_nil, List.foldl_cons, List.foldl_nil, valStep]
    by_cases hc : conv (n : Int)
    · rw [if_pos hc, if_pos hc, laidOut_snoc (fun k => val (k : Int)), List.length_append]
      rfl
    · rw [if_neg hc, if_neg hc, List.append_nil]

/-- what the `eigenvectors(nvec)` fold leaves behind: the first `nvec` flagged indices laid out from position 0 -/
theorem colFold_spec (conv : Int → Bool) (nvec : Nat) (c0 : Int → Int) (n : Nat) :
    ((List.range n).map (fun (k : Nat) => (k : Int))).foldl (colStep conv (nvec : Int)) (c0, 0) =
      (laidOut (fun k => (k : Int)) ((idx conv n).take nvec) c0, (((idx conv n).take nvec).length : Int)) := by
  induction n with
  | zero => rw [show idx conv 0 = [] from rfl, List.take_nil, laidOut_nil]; rfl
  | succ n ih =>
    rw [List.range_succ, List.map_append, List.foldl_append, ih, idx_succ]
    simp only [List.map_cons, List.map_nil, List.foldl_cons, List.foldl_nil, colStep]
    by_cases hc : conv (n : Int)
    · rw [if_pos hc, if_pos hc]
      by_cases hlt : (idx conv n).length < nvec
      · -- room left: nothing has been cut off so far, and `n` is written
        rw [List.take_of_length_le (Nat.le_of_lt hlt), List.take_of_length_le (by rw [List.length_append]; exact hlt),
          if_pos (by omega), laidOut_snoc (fun k => (k : Int)), List.length_append]
        rfl
      · -- `nvec` columns are filled: `n` falls beyond the cut
        rw [List.take_append_of_le_length (Nat.le_of_not_lt hlt), if_neg (by rw [List.length_take]; omega)]
    · rw [if_neg hc, if_neg hc, List.append_nil]
      split <;> rfl

theorem hermEigenvectors_loop_eq (nev : Nat) (conv : Int → Bool) (nvec nconv : Nat) (c0 : Int → Int) :
    Gen.Access.hermEigenvectors_loop (nev : Int) conv (nvec : Int) (nconv : Int) c0 =
      (((min nvec nconv : Nat) : Int),
       ((intRange 0 (nev : Int)).foldl (colStep conv ((min nvec nconv : Nat) : Int)) (c0, 0)).2,
       ((intRange 0 (nev : Int)).foldl (colStep conv ((min nvec nconv : Nat) : Int)) (c0, 0)).1) := by
  unfold Gen.Access.hermEigenvectors_loop
  -- the source tests `j < nvec` through `decide`, `colStep` as a proposition; apart from that the translated loop unfolds to the fold
  simp only [decide_eq_true_eq, show min (nvec : Int) (nconv : Int) = ((min nvec nconv : Nat) : Int) by omega]
  rfl

theorem genEigenvectors_loop_eq (nev : Nat) (conv : Int → Bool) (nvec nconv : Nat) (c0 : Int → Int) :
    Gen.Access.genEigenvectors_loop (nev : Int) conv (nvec : Int) (nconv : Int) c0 =
      Gen.Access.hermEigenvectors_loop (nev : Int) conv (nvec : Int) (nconv : Int) c0 := rfl

/-! ### the folds over a solver state -/

section model
open Orch
variable {φ ρ ε κ β τ ω : Type} (K : Kern φ ρ ε κ β τ ω) (c : Cfg)

/-- the model's list of flagged indices is the index list the source loops walk -/
theorem convIdx_eq_idx (s : St φ ρ ε κ) :
    convIdx c s = idx (fun i => s.ritzConv.getD i.toNat false) c.nev := by
  simp [convIdx, idx]

/-- what the `eigenvalues()` loop of either base class, as a `valStep` fold over a solver state, leaves behind -/
theorem eigenvalues_fold (s : St φ ρ ε κ) (res0 : Int → ρ) :
    let r := (intRange 0 (c.nev : Int)).foldl
      (valStep (fun i => s.ritzConv.getD i.toNat false) (fun i => s.ritzVal.getD i.toNat K.zeroρ)) (res0, 0)
    r.2 = ((convIdx c s).length : Int) ∧
    (convIdx c s).map (fun i => s.ritzVal.getD i K.zeroρ) = (List.range (convIdx c s).length).map (fun (t : Nat) => r.1 (t : Int)) ∧
    (∀ x : Int, ¬ (0 ≤ x ∧ x < ((convIdx c s).length : Int)) → r.1 x = res0 x) := by
  rw [ListFold.intRange_zero, valFold_spec, ← convIdx_eq_idx]
  exact ⟨rfl, readback _ _ _ (fun _ hx => if_pos hx), fun x hx => if_neg hx⟩

end model

end AccessLemmas
