/-
  C09, UpperHessenbergEigen: the back-substitution of `doComputeEigenvectors`, said once.  It solves `(T − lam) y = 0` for an upper
  quasi-triangular `T` row by row from the bottom: a 1x1 row by one division, a 2x2 block by Cramer's rule.  `y` has entries in a
  commutative ring `E` (`K` for a real eigenvalue, `K[i]` for a complex one) and sits in one or two columns of the work matrix
  (`ColView`); `Solved` is the part of the system solved so far, `Inv` the invariant of the inner loop.  The two instances are in
  C09EigReal and C09EigCplx.
-/
import Mathlib.Algebra.BigOperators.Intervals
import Mathlib.Tactic.LinearCombination
import SpectraVerif.Proofs.C09EigBlock

namespace C09Eig
open Lin EigenPrims HessEigen C09Mat Finset

section eqs
variable {E : Type} [CommRing E]

/-- rows `l..c` of `(T − lam) y = 0` when `y` is cut off below row `c` -/
def Eqs (T : ℕ → ℕ → E) (lam : E) (y : ℕ → E) (l c : ℕ) : Prop :=
  ∀ a, l ≤ a → a ≤ c → ∑ b ∈ Ico l (c + 1), T a b * y b = lam * y a

variable {T : ℕ → ℕ → E} {lam : E} {y y' : ℕ → E} {l i c : ℕ}

theorem Eqs.nil : Eqs T lam y (c + 1) c := fun a h1 h2 => absurd h1 (by omega)

theorem Eqs.smul (h : Eqs T lam y l c) (s : E) (hy : ∀ b, l ≤ b → b ≤ c → y' b = s * y b) : Eqs T lam y' l c := by
  intro a h1 h2
  rw [hy a h1 h2, Finset.sum_congr rfl fun b hb => by
    rw [hy b (Finset.mem_Ico.mp hb).1 (by have := (Finset.mem_Ico.mp hb).2; omega), mul_left_comm], ← Finset.mul_sum, h a h1 h2,
    mul_left_comm]

/-- a row solved above the rows `i+1..c`: column `i` of `T` vanishes below row `i`, so only the new row has a new equation -/
theorem Eqs.cons (h : Eqs T lam y (i + 1) c) (hic : i ≤ c) (hy : ∀ b, i < b → b ≤ c → y' b = y b)
    (hz : ∀ a, i < a → a ≤ c → T a i = 0)
    (hi : (T i i - lam) * y' i + ∑ b ∈ Ico (i + 1) (c + 1), T i b * y b = 0) : Eqs T lam y' i c := by
  intro a h1 h2
  rw [Finset.sum_eq_sum_Ico_succ_bot (by omega), Finset.sum_congr rfl fun b hb => by
    rw [hy b (Finset.mem_Ico.mp hb).1 (by have := (Finset.mem_Ico.mp hb).2; omega)]]
  rcases Nat.eq_or_lt_of_le h1 with rfl | hlt
  · linear_combination hi
  · rw [hz a hlt h2, zero_mul, zero_add, hy a hlt h2]; exact h a hlt h2

theorem Eqs.cons2 (h : Eqs T lam y (i + 2) c) (hic : i + 1 ≤ c) (hy : ∀ b, i + 1 < b → b ≤ c → y' b = y b)
    (hz : ∀ a, i + 1 < a → a ≤ c → T a i = 0 ∧ T a (i + 1) = 0)
    (e0 : (T i i - lam) * y' i + T i (i + 1) * y' (i + 1) + ∑ b ∈ Ico (i + 2) (c + 1), T i b * y b = 0)
    (e1 : T (i + 1) i * y' i + (T (i + 1) (i + 1) - lam) * y' (i + 1) + ∑ b ∈ Ico (i + 2) (c + 1), T (i + 1) b * y b = 0) :
    Eqs T lam y' i c := by
  intro a h1 h2
  rw [Finset.sum_eq_sum_Ico_succ_bot (by omega), Finset.sum_eq_sum_Ico_succ_bot (by omega), Finset.sum_congr rfl fun b hb => by
    rw [hy b (Finset.mem_Ico.mp hb).1 (by have := (Finset.mem_Ico.mp hb).2; omega)]]
  by_cases hai : a = i
  · subst hai; linear_combination e0
  · by_cases hai1 : a = i + 1
    · subst hai1; linear_combination e1
    · have hlt : i + 1 < a := by omega
      rw [(hz a hlt h2).1, (hz a hlt h2).2, zero_mul, zero_mul, zero_add, zero_add, hy a hlt h2]; exact h a hlt h2

/-- Cramer's rule as the code applies it to `[[w, x], [z, lw]] (v0, v1) = −(r, lr)`: `v0` from the determinant, `v1` from the first
    equation (divisor `x`) or from the second (divisor `lw`); either way both equations hold -/
theorem cramer {x z w lw r lr v0 v1 : E} (hv0 : (w * lw - x * z) * v0 = x * lr - lw * r)
    (hv1 : (∀ u, x * u = 0 → u = 0) ∧ x * v1 = -r - w * v0 ∨ (∀ u, lw * u = 0 → u = 0) ∧ lw * v1 = -lr - z * v0) :
    w * v0 + x * v1 + r = 0 ∧ z * v0 + lw * v1 + lr = 0 := by
  rcases hv1 with ⟨hx, e⟩ | ⟨hl, e⟩
  · exact ⟨by linear_combination e, hx _ (by linear_combination lw * e - hv0)⟩
  · exact ⟨hl _ (by linear_combination x * e + hv0), by linear_combination e⟩

/-- an eigenvector `(y, e)` of the singular block `[[a, b], [cc, d]]`: either equation gives the other -/
theorem eigvec2 {a b cc d y e : E} (hdet : a * d - b * cc = 0)
    (h : (∀ u, cc * u = 0 → u = 0) ∧ cc * y + d * e = 0 ∨ (∀ u, a * u = 0 → u = 0) ∧ a * y + b * e = 0) :
    a * y + b * e = 0 ∧ cc * y + d * e = 0 := by
  rcases h with ⟨hc, h⟩ | ⟨ha, h⟩
  · exact ⟨hc _ (by linear_combination a * h - e * hdet), h⟩
  · exact ⟨h, ha _ (by linear_combination cc * h + e * hdet)⟩

end eqs

section view
variable {K E : Type} [Field K] [CommRing E] {sc : Sc K}

/-- how a vector with entries in `E` sits in the work matrix: in the columns `own`, its entry in row `a` read by `rd · a` and
    written by `wr · a`; `nz` says of the entry in row `c` that the vector is not zero, in the form the caller wants -/
structure ColView (K E : Type) [Field K] [CommRing E] (sc : Sc K) (n : ℕ) where
  emb : K →+* E
  own : ℕ → Prop
  rd : Mat K → ℕ → E
  wr : Mat K → ℕ → E → Mat K
  nz : E → Prop
  nz_smul : ∀ s z, s ≠ 0 → nz z → nz (emb s * z)
  rd_congr : ∀ t t' a, (∀ b, own b → t'.get a b = t.get a b) → rd t' a = rd t a
  wr_sq : ∀ t i v, Sq n t → Sq n (wr t i v)
  rd_wr : ∀ t i v, Sq n t → i < n → rd (wr t i v) i = v
  get_wr : ∀ t i v a b, Sq n t → i < n → a < n → a ≠ i ∨ ¬ own b → (wr t i v).get a b = t.get a b

variable {n : ℕ} (V : ColView K E sc n)

/-- the solved part of an eigenvector column: rows `l..c` of the vector `V.rd t` satisfy their equations (none yet when `l = c + 1`);
    the rows `< l` of its columns are still `T`, and everything outside its columns is still `R`, the work matrix when the column
    was reached -/
structure Solved (c : ℕ) (lam : E) (T R : Mat K) (l : ℕ) (t : Mat K) : Prop extends Sq n t where
  off : ∀ a b, a < n → ¬ V.own b → t.get a b = R.get a b
  lo : ∀ a b, a < l → V.own b → t.get a b = T.get a b
  lle : l ≤ c + 1
  cn : c < n
  eqs : Eqs (fun a b => V.emb (T.get a b)) lam (V.rd t) l c
  yc : l ≤ c → V.nz (V.rd t c)

variable {V} {c : ℕ} {lam : E} {T R : Mat K} {l i : ℕ} {t : Mat K}

theorem Solved.init (sq : Sq n t) (hc : c < n) (hT : ∀ a b, a < n → V.own b → t.get a b = T.get a b) :
    Solved V c lam T t (c + 1) t :=
  ⟨sq, fun _ _ _ _ => rfl, fun a b ha hb => hT a b (by omega) hb, le_rfl, hc, Eqs.nil, fun h => absurd h (by omega)⟩

/-- the solved part grows to the rows `i..c` by writing rows `i..l−1`; what is left to show is the equations (and, if row `c` is
    among those written, that its entry is not zero) -/
theorem Solved.write (h : Solved V c lam T R l t) (hil : i ≤ l) (t' : Mat K) (sq : Sq n t')
    (hout : ∀ a b, a < n → (¬ V.own b ∨ a < i ∨ l ≤ a) → t'.get a b = t.get a b)
    (heqs : Eqs (fun a b => V.emb (T.get a b)) lam (V.rd t') i c) (hyc : c < l → V.nz (V.rd t' c)) : Solved V c lam T R i t' := by
  have h1 := h.lle
  have h3 := h.cn
  refine ⟨sq, fun a b ha hb => ?_, fun a b ha hb => ?_, by omega, h3, heqs, fun _ => ?_⟩
  · rw [hout a b ha (Or.inl hb)]; exact h.off a b ha hb
  · rw [hout a b (by omega) (Or.inr (Or.inl ha))]; exact h.lo a b (by omega) hb
  · rcases Nat.lt_or_ge c l with hcl | hcl
    · exact hyc hcl
    · rw [V.rd_congr t t' c fun b _ => hout c b h3 (Or.inr (Or.inr hcl))]; exact h.yc hcl

theorem Solved.rd_above (h : Solved V c lam T R l t) (t' : Mat K)
    (hout : ∀ a b, a < n → (¬ V.own b ∨ a < i ∨ l ≤ a) → t'.get a b = t.get a b) (b : ℕ) (h1 : l ≤ b) (h2 : b ≤ c) :
    V.rd t' b = V.rd t b :=
  V.rd_congr t t' b fun b' _ => hout b b' (by have := h.cn; omega) (Or.inr (Or.inr h1))

/-- a 1x1 row: the entry `v` with `(T(i,i) − lam) v + r = 0`, `r` the dot product of row `i` with the solved part -/
theorem Solved.put1 (h : Solved V c lam T R (i + 1) t) (hz : ∀ a, i < a → a ≤ c → T.get a i = 0) (v : E)
    (hv : (V.emb (T.get i i) - lam) * v + ∑ b ∈ Ico (i + 1) (c + 1), V.emb (T.get i b) * V.rd t b = 0) (hnz : i = c → V.nz v) :
    Solved V c lam T R i (V.wr t i v) := by
  have h1 := h.lle
  have h3 := h.cn
  have hout : ∀ a b, a < n → (¬ V.own b ∨ a < i ∨ i + 1 ≤ a) → (V.wr t i v).get a b = t.get a b :=
    fun a b ha hor => V.get_wr t i v a b h.toSq (by omega) ha (hor.elim Or.inr fun h => Or.inl (by omega))
  have r0 := V.rd_wr t i v h.toSq (by omega)
  refine h.write (Nat.le_succ i) _ (V.wr_sq t i v h.toSq) hout
    (h.eqs.cons (by omega) (h.rd_above _ hout) (fun a h1 h2 => by rw [hz a h1 h2, map_zero]) ?_) fun hc => ?_
  · rw [r0]; exact hv
  · obtain rfl : i = c := by omega
    rw [r0]; exact hnz rfl

/-- a 2x2 block: the entries `v0`, `v1` of the rows `i`, `i + 1` satisfy the two equations of the block -/
theorem Solved.put2 (h : Solved V c lam T R (i + 2) t) (hz : ∀ a, i + 1 < a → a ≤ c → T.get a i = 0 ∧ T.get a (i + 1) = 0)
    (v0 v1 : E)
    (e0 : (V.emb (T.get i i) - lam) * v0 + V.emb (T.get i (i + 1)) * v1 +
      ∑ b ∈ Ico (i + 2) (c + 1), V.emb (T.get i b) * V.rd t b = 0)
    (e1 : V.emb (T.get (i + 1) i) * v0 + (V.emb (T.get (i + 1) (i + 1)) - lam) * v1 +
      ∑ b ∈ Ico (i + 2) (c + 1), V.emb (T.get (i + 1) b) * V.rd t b = 0) (hnz : i + 1 = c → V.nz v1) :
    Solved V c lam T R i (V.wr (V.wr t i v0) (i + 1) v1) := by
  have h1 := h.lle
  have h3 := h.cn
  have sq1 := V.wr_sq t i v0 h.toSq
  have hout : ∀ a b, a < n → (¬ V.own b ∨ a < i ∨ i + 2 ≤ a) → (V.wr (V.wr t i v0) (i + 1) v1).get a b = t.get a b :=
    fun a b ha hor => by
      rw [V.get_wr _ (i + 1) v1 a b sq1 (by omega) ha (hor.elim Or.inr fun h => Or.inl (by omega)),
        V.get_wr t i v0 a b h.toSq (by omega) ha (hor.elim Or.inr fun h => Or.inl (by omega))]
  have r0 : V.rd (V.wr (V.wr t i v0) (i + 1) v1) i = v0 := by
    rw [V.rd_congr (V.wr t i v0) _ i fun b _ => V.get_wr _ (i + 1) v1 i b sq1 (by omega) (by omega) (Or.inl (by omega)),
      V.rd_wr t i v0 h.toSq (by omega)]
  have r1 := V.rd_wr _ (i + 1) v1 sq1 (by omega)
  refine h.write (by omega) _ (V.wr_sq _ _ _ sq1) hout
    (h.eqs.cons2 (by omega) (h.rd_above _ hout)
      (fun a h1 h2 => by rw [(hz a h1 h2).1, (hz a h1 h2).2, map_zero]; exact ⟨rfl, rfl⟩) ?_ ?_) fun hc => ?_
  · rw [r0, r1]; exact e0
  · rw [r0, r1]; exact e1
  · obtain rfl : i + 1 = c := by omega
    rw [r1]; exact hnz rfl

/-- the overflow rescaling: the rows `l..` of the vector are multiplied by `s ≠ 0` -/
theorem Solved.scale (h : Solved V c lam T R l t) (t' : Mat K) (sq : Sq n t') (s : K) (hs : s ≠ 0)
    (hrd : ∀ b, l ≤ b → b ≤ c → V.rd t' b = V.emb s * V.rd t b)
    (hout : ∀ a b, a < n → (¬ V.own b ∨ a < l) → t'.get a b = t.get a b) : Solved V c lam T R l t' := by
  refine ⟨sq, fun a b ha hb => ?_, fun a b ha hb => ?_, h.lle, h.cn, h.eqs.smul _ hrd, fun hl => ?_⟩
  · rw [hout a b ha (Or.inl hb)]; exact h.off a b ha hb
  · rw [hout a b (by have := h.cn; have := h.lle; omega) (Or.inr ha)]; exact h.lo a b ha hb
  · rw [hrd c hl le_rfl]; exact V.nz_smul s _ hs (h.yc hl)

end view

theorem sum_cut {E : Type} [CommRing E] {n c : ℕ} (hc : c < n) (f g : ℕ → E) :
    ∑ b ∈ range n, f b * (if b ≤ c then g b else 0) = ∑ b ∈ range (c + 1), f b * g b := by
  rw [← Finset.sum_subset (Finset.range_subset_range.mpr (show c + 1 ≤ n by omega))]
  · exact Finset.sum_congr rfl fun b hb => by rw [if_pos (by have := Finset.mem_range.mp hb; omega)]
  · intro b _ hb
    rw [if_neg (fun hle => hb (Finset.mem_range.mpr (by omega))), mul_zero]

section view2
variable {K E : Type} [Field K] [CommRing E] {sc : Sc K} {n : ℕ} {V : ColView K E sc n} {c : ℕ} {lam : E} {T R : Mat K} {l i : ℕ} {t : Mat K}

/-- above the solved part the rows of the work matrix are still rows of `T`, as far as column `c` -/
theorem Solved.row_eq (h : Solved V c lam T R l t) (hRT : ∀ a b, a < n → ¬ V.own b → b ≤ c → R.get a b = T.get a b) {a b : ℕ}
    (ha : a < l) (hb : b ≤ c) : t.get a b = T.get a b := by
  have h1 := h.lle
  have h3 := h.cn
  by_cases ho : V.own b
  · exact h.lo a b ha ho
  · rw [h.off a b (by omega) ho]; exact hRT a b (by omega) ho hb

/-- when row `0` is reached, the vector cut off below row `c` is an eigenvector of the whole `T` -/
theorem Solved.full (h : Solved V c lam T R 0 t) (hz : ∀ a b, c < a → a < n → b ≤ c → T.get a b = 0) (a : ℕ) (ha : a < n) :
    ∑ b ∈ range n, V.emb (T.get a b) * (if b ≤ c then V.rd t b else 0) = lam * (if a ≤ c then V.rd t a else 0) := by
  rw [sum_cut h.cn]
  by_cases hac : a ≤ c
  · rw [if_pos hac, Finset.range_eq_Ico]; exact h.eqs a (Nat.zero_le _) hac
  · rw [if_neg hac, mul_zero]
    exact Finset.sum_eq_zero fun b hb => by
      rw [hz a b (by omega) ha (by have := Finset.mem_range.mp hb; omega), map_zero, zero_mul]

end view2

section inv
variable {K E : Type} [Field K] [LinearOrder K] [CommRing E] {sc : Sc K} {n : ℕ} (V : ColView K E sc n)

/-- loop invariant of the inner loop in front of row `k − 1`: the solved part, and either the previous row was completed (`l = k`) or
    it was the second row of a block whose dot product `lr` and diagonal entry `lw` are remembered (`l = k + 1`) -/
structure Inv (c c0 : ℕ) (lam : E) (p : K) (T R : Mat K) (ev : Vec (K × K)) (k l : ℕ) (t : Mat K) (lr : E) (lw : K) : Prop where
  solved : Solved V c lam T R l t
  lle : l ≤ c0
  mode : (l = k ∧ ¬ (evGet ev k).2 < 0) ∨
    (l = k + 1 ∧ (evGet ev k).2 < 0 ∧
      lr = ∑ b ∈ Ico l (c + 1), V.emb (T.get k b) * V.rd t b ∧ lw = T.get k k - p)

variable {V} {c c0 : ℕ} {lam : E} {p : K} {T R : Mat K} {ev : Vec (K × K)} {l i : ℕ} {t : Mat K} {lr : E} {lw : K}

/-- the second row of a block is only remembered -/
theorem Inv.skip (hsec : ∀ k, k < n → (evGet ev k).2 < 0 → 1 ≤ k ∧ 0 < (evGet ev (k - 1)).2) (h : Inv V c c0 lam p T R ev (i + 1) l t lr lw)
    (hneg : (evGet ev i).2 < 0) :
    Inv V c c0 lam p T R ev i l t (∑ b ∈ Ico l (c + 1), V.emb (T.get i b) * V.rd t b)
      (T.get i i - p) := by
  have h1 := h.solved.lle
  have h3 := h.solved.cn
  rcases h.mode with ⟨hl, _⟩ | ⟨hl, hk, _⟩
  · exact ⟨h.solved, h.lle, Or.inr ⟨hl, hneg, rfl, rfl⟩⟩
  · exact absurd hneg (not_lt.mpr (le_of_lt (hsec (i + 1) (by omega) hk).2))

/-- a 1x1 row is solved from the rows below it, the first row of a block together with the remembered second one -/
theorem Inv.solve (hsec : ∀ k, k < n → (evGet ev k).2 < 0 → 1 ≤ k ∧ 0 < (evGet ev (k - 1)).2)
    (hfst : ∀ k, k < n → 0 < (evGet ev k).2 → (evGet ev (k + 1)).2 < 0) (h : Inv V c c0 lam p T R ev (i + 1) l t lr lw)
    (hneg : ¬ (evGet ev i).2 < 0) (t' : Mat K)
    (h1 : (evGet ev i).2 = 0 → l = i + 1 → Solved V c lam T R (i + 1) t →
      Solved V c lam T R i t')
    (h2 : 0 < (evGet ev i).2 → l = i + 2 → Solved V c lam T R (i + 2) t →
      lr = ∑ b ∈ Ico (i + 2) (c + 1), V.emb (T.get (i + 1) b) * V.rd t b →
      lw = T.get (i + 1) (i + 1) - p → Solved V c lam T R i t') :
    Inv V c c0 lam p T R ev i i t' lr lw := by
  have g1 := h.solved.lle
  have g2 := h.lle
  have g3 := h.solved.cn
  refine ⟨?_, by rcases h.mode with h | h <;> omega, Or.inl ⟨rfl, hneg⟩⟩
  rcases lt_or_eq_of_le (not_lt.mp hneg) with hpos | hzero
  · rcases h.mode with ⟨hl, hk⟩ | ⟨hl, hk, hlr, hlw⟩
    · exact absurd (hfst i (by omega) hpos) hk
    · exact h2 hpos hl (hl ▸ h.solved) (hl ▸ hlr) hlw
  · rcases h.mode with ⟨hl, hk⟩ | ⟨hl, hk, _⟩
    · exact h1 hzero.symm hl (hl ▸ h.solved)
    · exact absurd (hzero ▸ (hsec (i + 1) (by omega) hk).2) (lt_irrefl _)

end inv

end C09Eig
