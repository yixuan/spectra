/-
  Which selection / sorting rules the generated dispatch functions of `Gen/Sort.lean` accept (core Lean only): on the accepted
  constants the dispatch is evaluated, elsewhere every test of the ladder fails.
-/
import SpectraVerif.Gen.Sort

namespace SortDispatch
open Gen.Sort

theorem argsort_rule_accepts (sel : Int) :
    argsort_rule sel ≠ -1 ↔ (sel = 0 ∨ sel = 3 ∨ sel = 4 ∨ sel = 7 ∨ sel = 8) := by
  by_cases h : sel = 0 ∨ sel = 3 ∨ sel = 4 ∨ sel = 7 ∨ sel = 8
  · rcases h with rfl | rfl | rfl | rfl | rfl <;> decide
  · obtain ⟨h0, h3, h4, h7, h8⟩ : sel ≠ 0 ∧ sel ≠ 3 ∧ sel ≠ 4 ∧ sel ≠ 7 ∧ sel ≠ 8 := by omega
    simp [argsort_rule, h0, h3, h4, h7, h8]

theorem gen_rules_accept (sel : Int) :
    (gen_select_rule sel ≠ -1 ↔ (sel = 0 ∨ sel = 1 ∨ sel = 2 ∨ sel = 4 ∨ sel = 5 ∨ sel = 6)) ∧
    (gen_sort_rule sel ≠ -1 ↔ (sel = 0 ∨ sel = 1 ∨ sel = 2 ∨ sel = 4 ∨ sel = 5 ∨ sel = 6)) := by
  by_cases h : sel = 0 ∨ sel = 1 ∨ sel = 2 ∨ sel = 4 ∨ sel = 5 ∨ sel = 6
  · rcases h with rfl | rfl | rfl | rfl | rfl | rfl <;> decide
  · obtain ⟨h0, h1, h2, h4, h5, h6⟩ : sel ≠ 0 ∧ sel ≠ 1 ∧ sel ≠ 2 ∧ sel ≠ 4 ∧ sel ≠ 5 ∧ sel ≠ 6 := by omega
    simp [gen_select_rule, gen_sort_rule, h0, h1, h2, h4, h5, h6]

theorem herm_sort_guard_accepts (r : Int) :
    (herm_sort_guard r = Res.ok () ↔ (r = 0 ∨ r = 3 ∨ r = 4 ∨ r = 7)) ∧
    (herm_sort_guard r ≠ Res.ok () → herm_sort_guard r = Res.throw "std::invalid_argument") := by
  by_cases h : r = 0 ∨ r = 3 ∨ r = 4 ∨ r = 7
  · rcases h with rfl | rfl | rfl | rfl <;> decide
  · obtain ⟨h0, h3, h4, h7⟩ : r ≠ 0 ∧ r ≠ 3 ∧ r ≠ 4 ∧ r ≠ 7 := by omega
    simp [herm_sort_guard, h0, h3, h4, h7]

/-- the generated `argsort` inlines this ladder instead of calling `argsort_rule` -/
theorem argsort_rule_eq (sel : Int) :
    (if decide (sel = 0) then (0 : Int) else if decide (sel = 8) || decide (sel = 3) then 3 else
      if decide (sel = 4) then 4 else if decide (sel = 7) then 7 else (-1)) = argsort_rule sel := rfl

end SortDispatch
