/-
  C08 (TridiagQR part, whole-loop theorems) -- exact-arithmetic theorems about the executable model
  `QRModel.TridiagQR` (Model/TridiagQR.lean, mirror of `Spectra::TridiagQR` in LinAlg/UpperHessenbergQR.h) at the
  instance `scOfField F` over any linearly ordered field `K`, for EVERY size `n`, input and shift, under ideal
  rotations (`hsqrt`: exact square root, `hcut`: series branch of `stable_scaling` disabled).

  Notation: `d`, `e` the stored diagonal / (deflated) subdiagonal of the input, `σ` the shift, `fk k` the compact state
  `(cos, sin, Rd, Rs, Rs2)` after `k` factorization steps, `piv k = (r_k, c_k, s_k)` the rotation of the pivot pair
  `(Rd_k[k], e[k])`, `qthqAt q k = (D_k, E_k)` the (diagonal, subdiagonal) of `dest` after `k` steps of `matrix_QtHQ`.

  The theorems are about every object that stores the result of the factorization loop on its own bands (`Linked q`;
  `linked_compute`: what `compute` returns) under `IdealF F` (`idealF_of`: what `hsqrt`, `hcut` give):
  * `linked_ideal`: stored rotations are orthogonal, `r ≥ 0`, `r² = x² + y²` (`tqr_R_diag_nonneg`, `tqr_rot_pivot` for `compute`);
  * `qthq_bulge` (main): the component `s_{i+1} y' + c_{i+1} o'` that `matrix_QtHQ` silently drops is exactly `0`;
    `qthq_step_rot` (`tqr_qthq_step_rot`): so the stored `y''` together with `0` IS the rotation `i+1` of `(y', o')`;
  * `qthq_sub_final`: the subdiagonal after the rotation loop is `E[i] = -s_i * R_diag (i+1)`  (entry `(i+1,i)` of `RQ`);
  * `qthq_diag_final`, `qthq_diag_last`: the diagonal after the rotation loop, `D[i] - σ` = entry `(i,i)` of `RQ`;
  * `factor_linked`, `factor_linked_eq` (`tqr_factor`): `Qᵀ (T̃ - σ I) = R` (entrywise / as matrices); `QR_linked_eq` (`tqr_QR`): `Q R = T̃ - σ I`.
-/
import Mathlib.Tactic.Ring
import Mathlib.Tactic.LinearCombination
import Mathlib.Algebra.Order.Field.Basic
import SpectraVerif.Model.TridiagQR
import SpectraVerif.Proofs.ScField
import SpectraVerif.Proofs.C08Givens
import SpectraVerif.Proofs.C08Mat
import SpectraVerif.Proofs.C08Hess
import SpectraVerif.Proofs.C08Tridiag

namespace C08TridiagQ
open QRModel Lin QRModel.TridiagQR

section field
variable {K : Type} [Field K] [LinearOrder K] [IsStrictOrderedRing K] (F : FieldFns K)

local notation "vg" => @Lin.vget K (scOfField F)
local notation "mg" => @Lin.Mat.get K (scOfField F)
local notation "fstep" => @facStep K _ _ _ _ _ (scOfField F)
local notation "qstep" => @qthqStep K _ _ _ _ (scOfField F)
local notation "qloc" => @qthqLocal K _ _ _ (scOfField F)
local notation "tcompute" => @compute K _ _ _ _ _ (scOfField F)
local notation "rot" => C08Givens.rot F

/-! ### 0. small facts of the `Lin` layer -/

theorem zero_eq : @Lin.zero K (scOfField F) = (0 : K) := C08Tridiag.zero_eq F

theorem vget_map (v : Vec K) (f : K → K) (j : Nat) (hj : j < v.size) : vg (v.map f) j = f (vg v j) := by
  unfold vget
  simp [Array.getD_eq_getD_getElem?, hj]

theorem vget_vzero (m j : Nat) : vg (@vzero K (scOfField F) m) j = 0 := by
  unfold vget vzero
  rw [Array.getD_eq_getD_getElem?]
  by_cases h : j < m
  · simp [h, Lin.zero]
  · simp [h, Lin.zero]

/-- ideal rotations: what `hsqrt` and `hcut` give for every input pair -/
def IdealF : Prop :=
  ∀ x y : K, (rot x y).2.1 * (rot x y).2.1 + (rot x y).2.2 * (rot x y).2.2 = 1 ∧
    (rot x y).2.1 * x - (rot x y).2.2 * y = (rot x y).1 ∧
    (rot x y).1 * (rot x y).1 = x * x + y * y ∧ 0 ≤ (rot x y).1 ∧
    (rot x y).2.2 * x + (rot x y).2.1 * y = 0

theorem idealF_of (hsqrt : ∀ x : K, 0 ≤ x → F.sqrt x * F.sqrt x = x ∧ 0 ≤ F.sqrt x) (hcut : C08Givens.cutoff F ≤ 0) :
    IdealF F := fun x y =>
  C08Givens.rot_std_of_cutoff_nonpos F hsqrt hcut x y (rot x y).1 (rot x y).2.1 (rot x y).2.2 rfl

/-! ### 1. the factorization loop -/

section fac
variable (n : Nat) (d e : Vec K) (σ : K)

/-- initial state of the factorization loop -/
def st0 : FacSt K := ⟨#[], #[], d.map (fun a => a - σ), e, @vzero K (scOfField F) (n - 2)⟩

/-- state after `k` factorization steps -/
def fk (k : Nat) : FacSt K := (List.range k).foldl (fstep n e) (st0 F n d e σ)

theorem fk_succ (k : Nat) : fk F n d e σ (k + 1) = fstep n e (fk F n d e σ k) k :=
  ListFold.foldl_range_succ _ _ _

/-- the pivot diagonal entry `Rd_k[k]` -/
def pd (k : Nat) : K := vg (fk F n d e σ k).Rd k

/-- `(r_k, c_k, s_k)`: rotation of the pivot pair `(Rd_k[k], e[k])` -/
def piv (k : Nat) : K × K × K := rot (pd F n d e σ k) (vg e k)

/-- the cosine of the previous rotation (`1` for the first step) -/
def cprev (k : Nat) : K := if k = 0 then 1 else (piv F n d e σ (k - 1)).2.1

theorem cprev_zero : cprev F n d e σ 0 = 1 := rfl
theorem cprev_succ (k : Nat) : cprev F n d e σ (k + 1) = (piv F n d e σ k).2.1 := by
  unfold cprev; simp

theorem fk_sizes (k : Nat) :
    (fk F n d e σ k).cos.size = k ∧ (fk F n d e σ k).sin.size = k ∧ (fk F n d e σ k).Rd.size = d.size ∧
    (fk F n d e σ k).Rs.size = e.size ∧ (fk F n d e σ k).Rs2.size = n - 2 := by
  obtain ⟨g1, g2, g3, g4, g5⟩ := C08Tridiag.facFold_sizes F n e (st0 F n d e σ) k
  refine ⟨g1.trans (by simp [st0]), g2.trans (by simp [st0]), g3.trans (by simp [st0]), g4,
    g5.trans (by simp [st0])⟩

/-- entries beyond the current step are untouched -/
theorem fk_frame (k : Nat) :
    (∀ j, k < j → vg (fk F n d e σ k).Rd j = vg (d.map (fun a => a - σ)) j) ∧
    (∀ j, k < j → vg (fk F n d e σ k).Rs j = vg e j) ∧
    (∀ j, k ≤ j → vg (fk F n d e σ k).Rs2 j = 0) := by
  induction k with
  | zero =>
    refine ⟨fun j _ => rfl, fun j _ => rfl, fun j _ => ?_⟩
    exact vget_vzero F _ _
  | succ k ih =>
    obtain ⟨h1, h2, h3⟩ := ih
    rw [fk_succ]
    refine ⟨fun j hj => ?_, fun j hj => ?_, fun j hj => ?_⟩
    · rw [(C08Tridiag.tqr_facStep_frame F n e (fk F n d e σ k) k j).1 (by omega) (by omega)]
      exact h1 j (by omega)
    · rw [(C08Tridiag.tqr_facStep_frame F n e (fk F n d e σ k) k j).2.1 (by omega) (by omega)]
      exact h2 j (by omega)
    · rw [(C08Tridiag.tqr_facStep_frame F n e (fk F n d e σ k) k j).2.2 (by omega)]
      exact h3 j (by omega)

/-- step `k` of the loop on its own state (the size conditions of the `Rs2` clause are those of `fk_sizes`) -/
theorem fk_step (hd : d.size = n) (he : e.size = n - 1) (k : Nat) (hk : k + 1 < n) :
    C08Tridiag.FacStepSpec F n (fk F n d e σ k) (fk F n d e σ (k + 1)) k (piv F n d e σ k) := by
  have hk' : k < n - 1 := by omega
  obtain ⟨_, _, s3, s4, _⟩ := fk_sizes F n d e σ k
  rw [fk_succ]
  exact C08Tridiag.tqr_facStep_local F n e (fk F n d e σ k) k (piv F n d e σ k) rfl (by rw [s3, hd]; exact hk)
    (by rw [s4, he]; exact hk')

theorem fk_step_Rs2 (hd : d.size = n) (he : e.size = n - 1) (k : Nat) (hk : k < n - 2) :
    vg (fk F n d e σ (k + 1)).Rs2 k = -(piv F n d e σ k).2.2 * vg (fk F n d e σ k).Rs (k + 1) ∧
    vg (fk F n d e σ (k + 1)).Rs (k + 1) = vg (fk F n d e σ k).Rs (k + 1) * (piv F n d e σ k).2.1 := by
  have hk1 : k + 1 < n := by omega
  have hk2 : k + 1 < n - 1 := by omega
  obtain ⟨_, _, _, s4, s5⟩ := fk_sizes F n d e σ k
  exact (fk_step F n d e σ hd he k hk1).2.2.2.2.2.1 hk (by rw [s4, he]; exact hk2) (by rw [s5]; exact hk)

/-- the stored rotation `i` is `piv i`, whatever happens later -/
theorem fk_rot (hd : d.size = n) (he : e.size = n - 1) (k : Nat) (hk : k ≤ n - 1) :
    ∀ i, i < k → vg (fk F n d e σ k).cos i = (piv F n d e σ i).2.1 ∧
                 vg (fk F n d e σ k).sin i = (piv F n d e σ i).2.2 := fun i hi =>
  ⟨(@C08Mat.vget_of_pushes K (scOfField F) (fun j => (fk F n d e σ j).cos) _ (n - 1) rfl
      (fun j hj => (fk_step F n d e σ hd he j (by omega)).1) k hk).2 i hi,
    (@C08Mat.vget_of_pushes K (scOfField F) (fun j => (fk F n d e σ j).sin) _ (n - 1) rfl
      (fun j hj => (fk_step F n d e σ hd he j (by omega)).2.1) k hk).2 i hi⟩

/-- rows above the pivot are final: `Rd`, `Rs`, `Rs2` at index `i < k` keep the values they got in step `i` -/
theorem fk_final (k : Nat) : ∀ i, i < k →
    vg (fk F n d e σ k).Rd i = vg (fk F n d e σ (i + 1)).Rd i ∧
    vg (fk F n d e σ k).Rs i = vg (fk F n d e σ (i + 1)).Rs i ∧
    vg (fk F n d e σ k).Rs2 i = vg (fk F n d e σ (i + 1)).Rs2 i := by
  induction k with
  | zero => intro i h; omega
  | succ k ih =>
    intro i hi
    by_cases h : i = k
    · subst h; exact ⟨rfl, rfl, rfl⟩
    · have hik : i < k := by omega
      obtain ⟨h1, h2, h3⟩ := ih i hik
      obtain ⟨f1, f2, f3⟩ := C08Tridiag.tqr_facStep_frame F n e (fk F n d e σ k) k i
      rw [fk_succ, f1 (by omega) (by omega), f2 (by omega) (by omega), f3 (by omega)]
      exact ⟨h1, h2, h3⟩

/-- the superdiagonal entry next to the pivot: `Rs_k[k] = c_{k-1} e[k]` -/
theorem fk_Rs_piv (hd : d.size = n) (he : e.size = n - 1) (k : Nat) (hk : k + 1 < n) :
    vg (fk F n d e σ k).Rs k = cprev F n d e σ k * vg e k := by
  cases k with
  | zero => rw [cprev_zero, one_mul]; rfl
  | succ k =>
    rw [(fk_step_Rs2 F n d e σ hd he k (by omega)).2, (fk_frame F n d e σ k).2.1 (k + 1) (by omega), cprev_succ, mul_comm]

theorem pd_zero (hd : d.size = n) (hn : 0 < n) : pd F n d e σ 0 = vg d 0 - σ := by
  show vg (d.map (fun a => a - σ)) 0 = _
  rw [vget_map F _ _ _ (by omega)]

/-- the next pivot diagonal entry -/
theorem pd_succ (hd : d.size = n) (he : e.size = n - 1) (k : Nat) (hk : k + 1 < n) :
    pd F n d e σ (k + 1) =
      (piv F n d e σ k).2.2 * (cprev F n d e σ k * vg e k) + (piv F n d e σ k).2.1 * (vg d (k + 1) - σ) := by
  obtain ⟨_, _, _, _, g5, _, _⟩ := fk_step F n d e σ hd he k hk
  unfold pd
  rw [g5, fk_Rs_piv F n d e σ hd he k hk, (fk_frame F n d e σ k).1 (k + 1) (by omega),
    vget_map F _ _ _ (by omega)]

end fac

/-! ### 2. the object returned by `compute` -/

/-- `q` stores the result of the factorization loop run on its own `T_diag`, `T_subd`, `shift` -/
structure Linked (q : TridiagQR K) : Prop where
  hd : q.T_diag.size = q.n
  he : q.T_subd.size = q.n - 1
  hcos : q.cos = (fk F q.n q.T_diag q.T_subd q.shift (q.n - 1)).cos
  hsin : q.sin = (fk F q.n q.T_diag q.T_subd q.shift (q.n - 1)).sin
  hRd : q.R_diag = (fk F q.n q.T_diag q.T_subd q.shift (q.n - 1)).Rd
  hRs : q.R_supd = (fk F q.n q.T_diag q.T_subd q.shift (q.n - 1)).Rs
  hRs2 : q.R_supd2 = (fk F q.n q.T_diag q.T_subd q.shift (q.n - 1)).Rs2

theorem linked_compute (mat : Mat K) (shift : K) : Linked F (tcompute mat shift) := by
  obtain ⟨_, _, _, _, _, _, h7, h8⟩ := C08Tridiag.tqr_compute_sizes F mat shift
  exact ⟨h7, h8, rfl, rfl, rfl, rfl, rfl⟩

section linked
variable (q : TridiagQR K) (hq : Linked F q)

local notation "Pv" => piv F q.n q.T_diag q.T_subd q.shift
local notation "Pd" => pd F q.n q.T_diag q.T_subd q.shift
local notation "Cp" => cprev F q.n q.T_diag q.T_subd q.shift
local notation "Fk" => fk F q.n q.T_diag q.T_subd q.shift

include hq in
theorem linked_rot (i : Nat) (hi : i + 1 < q.n) : vg q.cos i = (Pv i).2.1 ∧ vg q.sin i = (Pv i).2.2 := by
  rw [hq.hcos, hq.hsin]
  exact fk_rot F q.n q.T_diag q.T_subd q.shift hq.hd hq.he (q.n - 1) (Nat.le_refl _) i (by omega)

include hq in
/-- `R_diag i = r_i` for `i < n - 1` -/
theorem linked_Rd (i : Nat) (hi : i + 1 < q.n) : vg q.R_diag i = (Pv i).1 := by
  rw [hq.hRd, (fk_final F q.n q.T_diag q.T_subd q.shift (q.n - 1) i (by omega)).1]
  exact (fk_step F q.n q.T_diag q.T_subd q.shift hq.hd hq.he i hi).2.2.1

include hq in
/-- `R_diag (n-1)` is the last pivot diagonal entry -/
theorem linked_Rd_last : vg q.R_diag (q.n - 1) = Pd (q.n - 1) := by
  rw [hq.hRd]; rfl

include hq in
/-- `R_diag (i+1)` as the result of the rotation of the pair `(Rd_{i+1}[i+1], e[i+1])` -/
theorem linked_Rd_succ (hid : IdealF F) (i : Nat) (hi : i + 1 < q.n) :
    vg q.R_diag (i + 1) =
      (if i + 2 < q.n then (Pv (i + 1)).2.1 * Pd (i + 1) - (Pv (i + 1)).2.2 * vg q.T_subd (i + 1) else Pd (i + 1)) := by
  by_cases h : i + 2 < q.n
  · rw [if_pos h, linked_Rd F q hq (i + 1) h]
    exact ((hid (Pd (i + 1)) (vg q.T_subd (i + 1))).2.1).symm
  · rw [if_neg h]
    have : i + 1 = q.n - 1 := by omega
    rw [this]
    exact linked_Rd_last F q hq

/-! ### 3. the `matrix_QtHQ` loop -/

/-- (diagonal, subdiagonal) of `dest` after `k` steps of the rotation loop of `matrix_QtHQ` -/
def qthqAt (k : Nat) : Vec K × Vec K := (List.range k).foldl (qstep q) (q.T_diag, q.T_subd)

theorem qthqAt_succ (k : Nat) : qthqAt F q (k + 1) = qstep q (qthqAt F q k) k :=
  ListFold.foldl_range_succ _ _ _

theorem qthqRaw_eq : C08Tridiag.qthqRaw F q = qthqAt F q (q.n - 1) := rfl

/-- the triple `(x', y', z')` that step `k` forms from the 2x2 block `[D[k] E[k]; E[k] D[k+1]]` of the state it runs from -/
def qtrip (k : Nat) : K × K × K :=
  qloc (vg q.cos k) (vg q.sin k) (vg (qthqAt F q k).1 k) (vg (qthqAt F q k).2 k) (vg (qthqAt F q k).1 (k + 1))

theorem qloc_eq (c s x y z : K) :
    qloc c s x y z =
      (c * c * x - 2 * c * s * y + s * s * z, c * s * (x - z) + (c * c - s * s) * y,
        s * s * x + 2 * c * s * y + c * c * z) := by
  simp [qthqLocal]

theorem qstep_size (de : Vec K × Vec K) (i : Nat) :
    (qstep q de i).1.size = de.1.size ∧ (qstep q de i).2.size = de.2.size := by
  unfold qthqStep
  split <;> simp only [C08Tridiag.size_vset, and_self]

/-! pure algebra of one step: `(x, y, z)` the 2x2 block of `dest`, `(xR, yR)` the pivot pair of the factorization,
    `p` the previous cosine -/

omit [LinearOrder K] [IsStrictOrderedRing K] in
theorem alg_z (c s p xR yR x y z σ : K) (horth : c * c + s * s = 1) (hann : s * xR + c * yR = 0)
    (hx : x - σ = p * xR) (hy : y = p * yR) :
    s * s * x + 2 * c * s * y + c * c * z - σ = c * (s * (p * yR) + c * (z - σ)) := by
  linear_combination (s * s) * hx + (2 * c * s) * hy + σ * horth + (s * p) * hann

omit [LinearOrder K] [IsStrictOrderedRing K] in
theorem alg_y (c s p xR yR x y z σ : K) (hann : s * xR + c * yR = 0)
    (hx : x - σ = p * xR) (hy : y = p * yR) :
    c * s * (x - z) + (c * c - s * s) * y = -s * (s * (p * yR) + c * (z - σ)) := by
  linear_combination (c * s) * hx + (c * c - s * s) * hy + (c * p) * hann

omit [LinearOrder K] [IsStrictOrderedRing K] in
theorem alg_x (c s p xR yR x y z σ r : K) (horth : c * c + s * s = 1) (hr : c * xR - s * yR = r)
    (hx : x - σ = p * xR) (hy : y = p * yR) :
    c * c * x - 2 * c * s * y + s * s * z - σ = p * c * r - s * (c * (p * yR) - s * (z - σ)) := by
  linear_combination (c * c) * hx - (2 * c * s) * hy + σ * horth + (p * c) * hr

include hq in
theorem qthqAt_sizes (k : Nat) (hk : k ≤ q.n - 1) : (qthqAt F q k).1.size = q.n ∧ (qthqAt F q k).2.size = q.n - 1 := by
  induction k with
  | zero => exact ⟨hq.hd, hq.he⟩
  | succ k ih =>
    obtain ⟨s1, s2⟩ := ih (by omega)
    obtain ⟨g1, g2⟩ := qstep_size F q (qthqAt F q k) k
    rw [qthqAt_succ]
    exact ⟨g1.trans s1, g2.trans s2⟩

include hq in
/-- step `k` of the loop at the state it runs from: entry formulas and frame -/
theorem qstep_at (k : Nat) (hk : k + 1 < q.n) :
    vg (qthqAt F q (k + 1)).1 k = (qtrip F q k).1 ∧
    vg (qthqAt F q (k + 1)).1 (k + 1) = (qtrip F q k).2.2 ∧
    (∀ j, j ≠ k → j ≠ k + 1 → vg (qthqAt F q (k + 1)).1 j = vg (qthqAt F q k).1 j) ∧
    (∀ j, j ≠ k → j ≠ k + 1 → vg (qthqAt F q (k + 1)).2 j = vg (qthqAt F q k).2 j) ∧
    (k < q.n - 2 →
      vg (qthqAt F q (k + 1)).2 k =
        vg q.cos (k + 1) * (qtrip F q k).2.1 - vg q.sin (k + 1) * (-(vg q.sin k) * vg q.T_subd (k + 1)) ∧
      vg (qthqAt F q (k + 1)).2 (k + 1) = vg (qthqAt F q k).2 (k + 1) * vg q.cos k) ∧
    (¬ k < q.n - 2 → vg (qthqAt F q (k + 1)).2 k = (qtrip F q k).2.1) := by
  obtain ⟨s1, s2⟩ := qthqAt_sizes F q hq k (by omega)
  rw [qthqAt_succ]
  unfold qthqStep qtrip
  generalize qthqAt F q k = de at s1 s2 ⊢
  have hD : k + 1 < de.1.size := by rw [s1]; exact hk
  have hi : k < de.1.size := Nat.lt_of_succ_lt hD
  have hE : k < de.2.size := by rw [s2]; omega
  by_cases h : k < q.n - 2
  · have hE1 : k + 1 < de.2.size := by rw [s2]; omega
    simp only [h, if_true, @C08Tridiag.vget_vset K (scOfField F), C08Tridiag.size_vset, hD, hE, hi]
    refine ⟨?_, ?_, ?_, ?_, ?_, ?_⟩
    · simp
    · simp
    · intro j h1 h2
      rw [if_neg (fun hh => h2 hh.1.symm), if_neg (fun hh => h1 hh.1.symm)]
    · intro j h1 h2
      rw [if_neg (fun hh => h1 hh.1.symm), if_neg (fun hh => h2 hh.1.symm), if_neg (fun hh => h1 hh.1.symm)]
    · intro _
      simp [hE1]
    · intro hh; exact absurd trivial hh
  · simp only [h, if_false, @C08Tridiag.vget_vset K (scOfField F), C08Tridiag.size_vset, hD, hE, hi]
    refine ⟨?_, ?_, ?_, ?_, ?_, ?_⟩
    · simp
    · simp
    · intro j h1 h2
      rw [if_neg (fun hh => h2 hh.1.symm), if_neg (fun hh => h1 hh.1.symm)]
    · intro j h1 h2
      rw [if_neg (fun hh => h1 hh.1.symm)]
    · intro hh; exact absurd hh (by trivial)
    · intro _; simp

include hq in
/-- the facts about rotation `k`, on the stored `cos`/`sin` -/
theorem linked_ideal (hid : IdealF F) (k : Nat) (hk : k + 1 < q.n) :
    vg q.cos k * vg q.cos k + vg q.sin k * vg q.sin k = 1 ∧
    vg q.cos k * Pd k - vg q.sin k * vg q.T_subd k = (Pv k).1 ∧
    (Pv k).1 * (Pv k).1 = Pd k * Pd k + vg q.T_subd k * vg q.T_subd k ∧ 0 ≤ (Pv k).1 ∧
    vg q.sin k * Pd k + vg q.cos k * vg q.T_subd k = 0 := by
  obtain ⟨e1, e2⟩ := linked_rot F q hq k hk
  rw [e1, e2]
  exact hid (Pd k) (vg q.T_subd k)

include hq in
/-- invariant of the rotation loop of `matrix_QtHQ`: entries beyond `k` are the inputs, and the active pair
    `(D[k] - σ, E[k])` is `c_{k-1}` times the pivot pair `(Rd_k[k], e[k])` of the factorization -/
theorem qthq_inv (hid : IdealF F) (k : Nat) (hk : k ≤ q.n - 1) :
    (∀ j, k < j → vg (qthqAt F q k).1 j = vg q.T_diag j) ∧
    (∀ j, k < j → vg (qthqAt F q k).2 j = vg q.T_subd j) ∧
    (k < q.n → vg (qthqAt F q k).1 k - q.shift = Cp k * Pd k) ∧
    (k + 1 < q.n → vg (qthqAt F q k).2 k = Cp k * vg q.T_subd k) := by
  induction k with
  | zero =>
    refine ⟨fun j _ => rfl, fun j _ => rfl, fun h => ?_, fun h => ?_⟩
    · rw [cprev_zero, one_mul, pd_zero F q.n q.T_diag q.T_subd q.shift hq.hd h]; rfl
    · rw [cprev_zero, one_mul]; rfl
  | succ k ih =>
    have hk1 : k + 1 < q.n := by omega
    have hk2 : k + 2 < q.n → k < q.n - 2 := fun h => by omega
    obtain ⟨i3, i4, i5, i6⟩ := ih (by omega)
    obtain ⟨_, g4, g5, g6, g7, _⟩ := qstep_at F q hq k hk1
    obtain ⟨o1, o2, o3, o4, o5⟩ := linked_ideal F q hq hid k hk1
    obtain ⟨e1, e2⟩ := linked_rot F q hq k hk1
    refine ⟨fun j hj => ?_, fun j hj => ?_, fun _ => ?_, fun h => ?_⟩
    · rw [g5 j (by omega) (by omega)]; exact i3 j (by omega)
    · rw [g6 j (by omega) (by omega)]; exact i4 j (by omega)
    · rw [g4, qtrip, qloc_eq, cprev_succ, pd_succ F q.n q.T_diag q.T_subd q.shift hq.hd hq.he k hk1, ← e1, ← e2,
        i3 (k + 1) (by omega)]
      exact alg_z _ _ _ _ _ _ _ _ _ o1 o5 (i5 (by omega)) (i6 hk1)
    · rw [(g7 (hk2 h)).2, i4 (k + 1) (by omega), cprev_succ, ← e1, mul_comm]

include hq in
/-- the off-diagonal entry `y'` formed in step `k` is `-s_k` times the next pivot diagonal entry -/
theorem qthq_yprime (hid : IdealF F) (k : Nat) (hk : k + 1 < q.n) :
    (qtrip F q k).2.1 = -(vg q.sin k) * Pd (k + 1) := by
  obtain ⟨i3, i4, i5, i6⟩ := qthq_inv F q hq hid k (by omega)
  obtain ⟨o1, o2, o3, o4, o5⟩ := linked_ideal F q hq hid k hk
  obtain ⟨e1, e2⟩ := linked_rot F q hq k hk
  rw [qtrip, qloc_eq, pd_succ F q.n q.T_diag q.T_subd q.shift hq.hd hq.he k hk, ← e1, ← e2, i3 (k + 1) (by omega)]
  exact alg_y _ _ _ _ _ _ _ _ _ o5 (i5 (by omega)) (i6 hk)

include hq in
/-- the bulge dropped in step `k` is exactly zero -/
theorem qthq_bulge (hid : IdealF F) (k : Nat) (hk : k + 2 < q.n) :
    vg q.sin (k + 1) * (qtrip F q k).2.1 + vg q.cos (k + 1) * (-(vg q.sin k) * vg q.T_subd (k + 1)) = 0 := by
  obtain ⟨o1, o2, o3, o4, o5⟩ := linked_ideal F q hq hid (k + 1) hk
  rw [qthq_yprime F q hq hid k (by omega)]
  linear_combination (-(vg q.sin k)) * o5

include hq in
/-- the stored `y''` and the assumed `0` are rotation `k+1` of `(y', o')` -/
theorem qthq_step_rot (hid : IdealF F) (k : Nat) (hk : k + 2 < q.n) :
    (vg (qthqAt F q (k + 1)).2 k, (0 : K)) =
      @rotT K _ _ _ (vg q.cos (k + 1)) (vg q.sin (k + 1)) (qtrip F q k).2.1 (-(vg q.sin k) * vg q.T_subd (k + 1)) := by
  unfold rotT
  exact Prod.ext ((qstep_at F q hq k (by omega)).2.2.2.2.1 (by omega)).1 (qthq_bulge F q hq hid k hk).symm

include hq in
/-- later steps do not touch the entries `i < k` -/
theorem qthq_stable (k : Nat) (hk : k ≤ q.n - 1) : ∀ i, i < k →
    vg (qthqAt F q k).1 i = vg (qthqAt F q (i + 1)).1 i ∧ vg (qthqAt F q k).2 i = vg (qthqAt F q (i + 1)).2 i := by
  induction k with
  | zero => intro i h; omega
  | succ k ih =>
    intro i hi
    by_cases h : i = k
    · subst h; exact ⟨rfl, rfl⟩
    · have hik : i < k := by omega
      obtain ⟨h1, h2⟩ := ih (by omega) i hik
      obtain ⟨_, _, g5, g6, _⟩ := qstep_at F q hq k (by omega)
      rw [g5 i (by omega) (by omega), g6 i (by omega) (by omega)]
      exact ⟨h1, h2⟩

include hq in
/-- `c_{k-1}` on the stored cosines -/
theorem cprev_stored (k : Nat) (hk : k < q.n) : Cp k = if k = 0 then 1 else vg q.cos (k - 1) := by
  unfold cprev
  by_cases h : k = 0
  · rw [if_pos h, if_pos h]
  · rw [if_neg h, if_neg h, (linked_rot F q hq (k - 1) (by omega)).1]

include hq in
theorem qthq_sub_final (hid : IdealF F) (i : Nat) (hi : i + 1 < q.n) :
    vg (C08Tridiag.qthqRaw F q).2 i = -(vg q.sin i) * vg q.R_diag (i + 1) := by
  rw [qthqRaw_eq, (qthq_stable F q hq (q.n - 1) (Nat.le_refl _) i (by omega)).2]
  obtain ⟨_, _, _, _, g7, g8⟩ := qstep_at F q hq i hi
  rw [linked_Rd_succ F q hq hid i hi]
  by_cases h : i + 2 < q.n
  · obtain ⟨e1, e2⟩ := linked_rot F q hq (i + 1) h
    rw [if_pos h, (g7 (by omega)).1, qthq_yprime F q hq hid i hi, ← e1, ← e2]
    ring
  · rw [if_neg h, g8 (by omega), qthq_yprime F q hq hid i hi]

include hq in
theorem qthq_diag_final (hid : IdealF F) (i : Nat) (hi : i + 1 < q.n) :
    vg (C08Tridiag.qthqRaw F q).1 i - q.shift =
      (if i = 0 then 1 else vg q.cos (i - 1)) * vg q.cos i * vg q.R_diag i - vg q.sin i * vg q.R_supd i := by
  rw [qthqRaw_eq, (qthq_stable F q hq (q.n - 1) (Nat.le_refl _) i (by omega)).1,
    ← cprev_stored F q hq i (by omega)]
  obtain ⟨i3, i4, i5, i6⟩ := qthq_inv F q hq hid i (by omega)
  obtain ⟨g3, _⟩ := qstep_at F q hq i hi
  obtain ⟨o1, o2, o3, o4, o5⟩ := linked_ideal F q hq hid i hi
  obtain ⟨e1, e2⟩ := linked_rot F q hq i hi
  have hRs : vg q.R_supd i = vg q.cos i * (Cp i * vg q.T_subd i) - vg q.sin i * (vg q.T_diag (i + 1) - q.shift) := by
    rw [hq.hRs, (fk_final F q.n q.T_diag q.T_subd q.shift (q.n - 1) i (by omega)).2.1,
      (fk_step F q.n q.T_diag q.T_subd q.shift hq.hd hq.he i hi).2.2.2.1,
      fk_Rs_piv F q.n q.T_diag q.T_subd q.shift hq.hd hq.he i hi,
      (fk_frame F q.n q.T_diag q.T_subd q.shift i).1 (i + 1) (by omega),
      vget_map F _ _ _ (by rw [hq.hd]; omega), ← e1, ← e2]
  rw [g3, qtrip, qloc_eq, hRs, linked_Rd F q hq i hi, i3 (i + 1) (by omega)]
  exact alg_x _ _ _ _ _ _ _ _ _ _ o1 o2 (i5 (by omega)) (i6 hi)

include hq in
theorem qthq_diag_last (hid : IdealF F) (hn : 0 < q.n) :
    vg (C08Tridiag.qthqRaw F q).1 (q.n - 1) - q.shift =
      (if q.n - 1 = 0 then 1 else vg q.cos (q.n - 1 - 1)) * vg q.R_diag (q.n - 1) := by
  rw [qthqRaw_eq, ← cprev_stored F q hq (q.n - 1) (by omega), linked_Rd_last F q hq]
  exact (qthq_inv F q hq hid (q.n - 1) (Nat.le_refl _)).2.2.1 (by omega)

/-! ### 3'. `Qᵀ (T̃ - σ I) = R`: the compact three-band update is the full-row rotation -/

/-- `T̃ - σ I`, from the stored diagonal and subdiagonal -/
def Tshift (n : Nat) (d e : Vec K) (σ : K) : Mat K :=
  Mat.ofFn n n (fun i j =>
    if i = j then vg d i - σ else if i = j + 1 then vg e j else if j = i + 1 then vg e i else 0)

/-- row `a` of the three-band storage -/
def Rband (st : FacSt K) (a b : Nat) : K :=
  if b = a then vg st.Rd a else if b = a + 1 then vg st.Rs a else if b = a + 2 then vg st.Rs2 a else 0

local notation "QTK" => @C08Hess.qtk K _ (scOfField F)
local notation "TS" => Tshift F q.n q.T_diag q.T_subd q.shift

theorem Tshift_get (n : Nat) (d e : Vec K) (σ : K) (i j : Nat) (hi : i < n) (hj : j < n) :
    mg (Tshift F n d e σ) i j =
      if i = j then vg d i - σ else if i = j + 1 then vg e j else if j = i + 1 then vg e i else 0 :=
  @C08Mat.get_ofFn K (scOfField F) _ _ _ _ _ hi hj

omit [LinearOrder K] [IsStrictOrderedRing K] in
/-- the two rows of the window before the rotation, combined column by column -/
theorem row_calc (k b : Nat) (c s x a1 z eb w : K) :
    (c * (if b = k then x else if b = k + 1 then a1 else 0) -
        s * (if k + 1 = b then z else if k + 1 = b + 1 then eb else if b = k + 1 + 1 then w else 0) =
      if b = k then c * x - s * eb else if b = k + 1 then c * a1 - s * z else if b = k + 2 then -s * w else 0) ∧
    (s * (if b = k then x else if b = k + 1 then a1 else 0) +
        c * (if k + 1 = b then z else if k + 1 = b + 1 then eb else if b = k + 1 + 1 then w else 0) =
      if b = k then s * x + c * eb else if b = k + 1 then s * a1 + c * z else if b = k + 2 then w * c else 0) := by
  by_cases h1 : b = k
  · subst h1; simp
  · by_cases h2 : b = k + 1
    · subst h2; simp
    · by_cases h3 : b = k + 2
      · subst h3; simp; ring
      · have e1 : ¬ (k + 1 = b) := fun h => h2 h.symm
        have e2 : ¬ (k + 1 = b + 1) := by omega
        simp only [if_neg h1, if_neg h2, if_neg h3, if_neg e1, if_neg e2, mul_zero, sub_zero, add_zero, and_self]

include hq in
/-- joint invariant of the factorization loop (compact storage) and of the `apply_QtY_mat` loop started at
    `T̃ - σ I`: rows `≤ k` are rows of the three-band storage (row `k` the active one, its `Rs2` entry still `0`),
    rows `> k` are untouched -/
theorem factor_inv (hid : IdealF F) (k : Nat) (hk : k ≤ q.n - 1) :
    (∀ a b, a ≤ k → a < q.n → b < q.n → mg (QTK q.cos q.sin k TS) a b = Rband F (Fk k) a b) ∧
    (∀ a b, k < a → a < q.n → b < q.n → mg (QTK q.cos q.sin k TS) a b = mg TS a b) := by
  induction k with
  | zero =>
    refine ⟨fun a b hak h0 hb => ?_, fun a b _ _ _ => rfl⟩
    obtain rfl := Nat.le_zero.mp hak
    show mg TS 0 b = _
    have e0 : vg (Fk 0).Rd 0 = vg q.T_diag 0 - q.shift := pd_zero F q.n q.T_diag q.T_subd q.shift hq.hd h0
    have e1 : vg (Fk 0).Rs 0 = vg q.T_subd 0 := rfl
    rw [Tshift_get F _ _ _ _ _ _ h0 hb, Rband, e0, e1, (fk_frame F q.n q.T_diag q.T_subd q.shift 0).2.2 0 (Nat.le_refl _),
      ite_self]
    by_cases h1 : b = 0
    · subst h1; simp
    · have e2 : ¬ (0 = b) := fun h => h1 h.symm
      have e3 : ¬ (0 = b + 1) := by omega
      rw [if_neg e2, if_neg e3, if_neg h1]
  | succ k ih =>
    have hk1 : k + 1 < q.n := by omega
    obtain ⟨i1, i3⟩ := ih (by omega)
    have gA := @C08Mat.Rep.get K (scOfField F) _ _ _ _
      (@C08Hess.qtk_step K _ (scOfField F) q.cos q.sin TS q.n q.n _ (@C08Mat.Rep.ofFn K (scOfField F) _ _ _) k hk1)
    obtain ⟨o1, o2, o3, o4, o5⟩ := linked_ideal F q hq hid k hk1
    obtain ⟨e1, e2⟩ := linked_rot F q hq k hk1
    obtain ⟨_, _, g3, g4, g5, _, _⟩ := fk_step F q.n q.T_diag q.T_subd q.shift hq.hd hq.he k hk1
    have g6 := fk_step_Rs2 F q.n q.T_diag q.T_subd q.shift hq.hd hq.he k
    obtain ⟨f1, f2, f3⟩ := fk_frame F q.n q.T_diag q.T_subd q.shift k
    rw [← e1, ← e2] at g4 g5 g6
    -- the two rows of the window, before the rotation
    have hrowk : ∀ b, b < q.n → mg (QTK q.cos q.sin k TS) k b =
        if b = k then vg (Fk k).Rd k else if b = k + 1 then vg (Fk k).Rs k else 0 := fun b hb => by
      rw [i1 k b (Nat.le_refl k) (by omega) hb, Rband, f3 k (Nat.le_refl k), ite_self]
    have hrowk1 : ∀ b, b < q.n → mg (QTK q.cos q.sin k TS) (k + 1) b =
        if k + 1 = b then vg (Fk k).Rd (k + 1) else if k + 1 = b + 1 then vg q.T_subd b
        else if b = k + 1 + 1 then vg (Fk k).Rs (k + 1) else 0 := by
      intro b hb
      rw [i3 (k + 1) b (by omega) hk1 hb, Tshift_get F _ _ _ _ _ _ hk1 hb, f1 (k + 1) (by omega),
        vget_map F _ _ _ (by rw [hq.hd]; exact hk1), f2 (k + 1) (by omega)]
    have hpd : vg (Fk k).Rd k = Pd k := rfl
    refine ⟨fun a b hak ha hb => ?_, fun a b hka ha hb => ?_⟩
    · rw [gA a b ha hb]
      by_cases h : a = k
      · subst h
        rw [if_pos rfl, @C08Hess.rotT_fst K _ (scOfField F), hrowk b hb, hrowk1 b hb, (row_calc a b _ _ _ _ _ _ _).1]
        unfold Rband
        by_cases h1 : b = a
        · rw [if_pos h1, if_pos h1, h1, g3, hpd]; exact o2
        · rw [if_neg h1, if_neg h1]
          by_cases h2 : b = a + 1
          · rw [if_pos h2, if_pos h2, g4]
          · rw [if_neg h2, if_neg h2]
            by_cases h3 : b = a + 2
            · rw [if_pos h3, if_pos h3, (g6 (by omega)).1]
            · rw [if_neg h3, if_neg h3]
      · rw [if_neg h]
        by_cases h' : a = k + 1
        · subst h'
          rw [if_pos rfl, @C08Hess.rotT_snd K _ (scOfField F), hrowk b hb, hrowk1 b hb, (row_calc k b _ _ _ _ _ _ _).2,
            Rband, (fk_frame F q.n q.T_diag q.T_subd q.shift (k + 1)).2.2 (k + 1) (Nat.le_refl _), ite_self]
          by_cases h1 : b = k
          · have h1' : ¬ (b = k + 1) := by omega
            have h1'' : ¬ (b = k + 1 + 1) := by omega
            rw [if_pos h1, if_neg h1', if_neg h1'', h1, hpd]; exact o5
          · rw [if_neg h1]
            by_cases h2 : b = k + 1
            · rw [if_pos h2, if_pos h2, g5]
            · rw [if_neg h2, if_neg h2]
              by_cases h3 : b = k + 2
              · rw [if_pos h3, if_pos h3, (g6 (by omega)).2]
              · rw [if_neg h3, if_neg h3]
        · rw [if_neg h', i1 a b (by omega) ha hb]
          obtain ⟨t1, t2, t3⟩ := C08Tridiag.tqr_facStep_frame F q.n q.T_subd (Fk k) k a
          unfold Rband
          rw [fk_succ, t1 h h', t2 h h', t3 h]
    · have h : ¬ a = k := by omega
      have h' : ¬ a = k + 1 := by omega
      rw [gA a b ha hb, if_neg h, if_neg h']
      exact i3 a b (by omega) ha hb

include hq in
/-- T3, on a linked object: `Qᵀ (T̃ - σ I) = R` entrywise -/
theorem factor_linked (hid : IdealF F) (i j : Nat) (hi : i < q.n) (hj : j < q.n) :
    mg (@TridiagQR.apply_QtY_mat K _ _ _ (scOfField F) q TS) i j = mg (@matrix_R K (scOfField F) q) i j := by
  obtain ⟨i1, _⟩ := factor_inv F q hq hid (q.n - 1) (Nat.le_refl _)
  have e : @TridiagQR.apply_QtY_mat K _ _ _ (scOfField F) q TS = QTK q.cos q.sin (q.n - 1) TS := rfl
  rw [e, i1 i j (by omega) hi hj]
  unfold matrix_R Rband
  rw [@C08Tridiag.get_bandMat K (scOfField F) _ _ _ _ _ _ _ hi hj, hq.hRd, hq.hRs, hq.hRs2,
    C08Mat.ite_iff (eq_comm : i = j ↔ j = i), C08Mat.ite_iff (eq_comm : i + 1 = j ↔ j = i + 1),
    C08Mat.ite_iff (eq_comm : i + 2 = j ↔ j = i + 2)]
  simp

include hq in
/-- T3, on a linked object, as an equality of matrices -/
theorem factor_linked_eq (hid : IdealF F) :
    @TridiagQR.apply_QtY_mat K _ _ _ (scOfField F) q TS = @matrix_R K (scOfField F) q :=
  letI := scOfField F
  C08Mat.Rep.ext (((C08Mat.Rep.ofFn q.n q.n _).isM.qtk q.cos q.sin (q.n - 1) (Nat.le_refl _)).rep.congr
    (factor_linked F q hq hid)) (.of (C08Mat.ofFn_WF ..) rfl rfl)

include hq in
/-- `Q R = T̃ - σ I`, on a linked object -/
theorem QR_linked_eq (hid : IdealF F) :
    @TridiagQR.apply_QY_mat K _ _ _ (scOfField F) q (@matrix_R K (scOfField F) q) = TS := by
  have hwA : C08Mat.WF TS := C08Mat.ofFn_WF _ _ _
  rw [← factor_linked_eq F q hq hid]
  show @C08Hess.qk K _ (scOfField F) q.cos q.sin (q.n - 1) (QTK q.cos q.sin (q.n - 1) TS) = TS
  exact @C08Hess.qk_qtk K _ (scOfField F) q.cos q.sin (q.n - 1)
    (fun i hi => (linked_ideal F q hq hid i (by omega)).1) _ hwA (by show q.n - 1 ≤ q.n - 1; omega)

end linked

/-! ### 4. the theorems about `compute` -/

/-- T1: the diagonal of `R` is nonnegative except possibly its last entry -/
theorem tqr_R_diag_nonneg (hsqrt : ∀ x : K, 0 ≤ x → F.sqrt x * F.sqrt x = x ∧ 0 ≤ F.sqrt x)
    (hcut : C08Givens.cutoff F ≤ 0) (mat : Mat K) (shift : K) (i : Nat) (hi : i < mat.rows - 1) :
    0 ≤ vg (tcompute mat shift).R_diag i := by
  have hi' : i + 1 < (tcompute mat shift).n := by show i + 1 < mat.rows; omega
  rw [linked_Rd F _ (linked_compute F mat shift) i hi']
  exact (linked_ideal F _ (linked_compute F mat shift) (idealF_of F hsqrt hcut) i hi').2.2.2.1

/-- T1: the stored rotation `i` maps the pivot pair `(x, y) = (Rd_i[i], e[i])` of the working `R` after `i` steps to
    `(R_diag i, 0)`, and `R_diag i` is its Euclidean norm -/
theorem tqr_rot_pivot (hsqrt : ∀ x : K, 0 ≤ x → F.sqrt x * F.sqrt x = x ∧ 0 ≤ F.sqrt x)
    (hcut : C08Givens.cutoff F ≤ 0) (mat : Mat K) (shift : K) (i : Nat) (hi : i < mat.rows - 1) :
    vg (tcompute mat shift).cos i *
        pd F mat.rows (tcompute mat shift).T_diag (tcompute mat shift).T_subd shift i -
      vg (tcompute mat shift).sin i * vg (tcompute mat shift).T_subd i = vg (tcompute mat shift).R_diag i ∧
    vg (tcompute mat shift).sin i *
        pd F mat.rows (tcompute mat shift).T_diag (tcompute mat shift).T_subd shift i +
      vg (tcompute mat shift).cos i * vg (tcompute mat shift).T_subd i = 0 ∧
    vg (tcompute mat shift).R_diag i * vg (tcompute mat shift).R_diag i =
      pd F mat.rows (tcompute mat shift).T_diag (tcompute mat shift).T_subd shift i *
        pd F mat.rows (tcompute mat shift).T_diag (tcompute mat shift).T_subd shift i +
      vg (tcompute mat shift).T_subd i * vg (tcompute mat shift).T_subd i := by
  have hi' : i + 1 < (tcompute mat shift).n := by show i + 1 < mat.rows; omega
  obtain ⟨_, o2, o3, _, o5⟩ := linked_ideal F _ (linked_compute F mat shift) (idealF_of F hsqrt hcut) i hi'
  rw [linked_Rd F _ (linked_compute F mat shift) i hi']
  exact ⟨o2, o5, o3⟩

/-- T2: what step `i` stores at `(i+1, i)`, together with the `0` it assumes at `(i+2, i)`, IS rotation `i+1`
    applied to the pair `(y', o')` -/
theorem tqr_qthq_step_rot (hsqrt : ∀ x : K, 0 ≤ x → F.sqrt x * F.sqrt x = x ∧ 0 ≤ F.sqrt x)
    (hcut : C08Givens.cutoff F ≤ 0) (mat : Mat K) (shift : K) (i : Nat) (hi : i + 2 < mat.rows) :
    (vg (qthqAt F (tcompute mat shift) (i + 1)).2 i, (0 : K)) =
      @rotT K _ _ _ (vg (tcompute mat shift).cos (i + 1)) (vg (tcompute mat shift).sin (i + 1))
        (qloc (vg (tcompute mat shift).cos i) (vg (tcompute mat shift).sin i)
          (vg (qthqAt F (tcompute mat shift) i).1 i) (vg (qthqAt F (tcompute mat shift) i).2 i)
          (vg (qthqAt F (tcompute mat shift) i).1 (i + 1))).2.1
        (-(vg (tcompute mat shift).sin i) * vg (tcompute mat shift).T_subd (i + 1)) :=
  qthq_step_rot F _ (linked_compute F mat shift) (idealF_of F hsqrt hcut) i hi

/-- T3: `Qᵀ (T̃ - σ I) = R` entrywise, `T̃ - σ I = Tshift F n T_diag T_subd shift` (entries: `Tshift_get`) -/
theorem tqr_factor (hsqrt : ∀ x : K, 0 ≤ x → F.sqrt x * F.sqrt x = x ∧ 0 ≤ F.sqrt x) (hcut : C08Givens.cutoff F ≤ 0)
    (mat : Mat K) (shift : K) (i j : Nat) (hi : i < mat.rows) (hj : j < mat.rows) :
    mg (@UpperHessenbergQR.apply_QtY_mat K _ _ _ (scOfField F) (@toHess K (scOfField F) (tcompute mat shift))
        (Tshift F mat.rows (tcompute mat shift).T_diag (tcompute mat shift).T_subd shift)) i j =
      mg (@matrix_R K (scOfField F) (tcompute mat shift)) i j :=
  factor_linked F _ (linked_compute F mat shift) (idealF_of F hsqrt hcut) i j hi hj

/-- `Q R = T̃ - σ I`, entrywise with the entries of `T̃ - σ I` spelled out -/
theorem tqr_QR (hsqrt : ∀ x : K, 0 ≤ x → F.sqrt x * F.sqrt x = x ∧ 0 ≤ F.sqrt x)
    (hcut : C08Givens.cutoff F ≤ 0) (mat : Mat K) (shift : K) (i j : Nat) (hi : i < mat.rows) (hj : j < mat.rows) :
    mg (@UpperHessenbergQR.apply_QY_mat K _ _ _ (scOfField F) (@toHess K (scOfField F) (tcompute mat shift))
        (@matrix_R K (scOfField F) (tcompute mat shift))) i j =
      if i = j then vg (tcompute mat shift).T_diag i - shift
      else if i = j + 1 then vg (tcompute mat shift).T_subd j
      else if j = i + 1 then vg (tcompute mat shift).T_subd i else 0 := by
  rw [show @UpperHessenbergQR.apply_QY_mat K _ _ _ (scOfField F) _ _ = _ from
    QR_linked_eq F _ (linked_compute F mat shift) (idealF_of F hsqrt hcut)]
  exact Tshift_get F _ _ _ _ i j hi hj

end field
end C08TridiagQ
