/-
  What the proofs use of `List.foldl`, of loops over `List.range` / `intRange` and of lists and arrays read by index, for any state,
  step and element type.  The translated C++ loops are folds over `intRange lo hi`, the hand-written models fold over `List.range n`:
  `foldl_intRange` turns the first into the second, and the invariant rules come in both forms.  Last, the two entry lemmas of
  the vectors the array layer builds with `Lin.vofFn`.
  Core Lean only (sits under every proof module).
-/
import SpectraVerif.Model.Lin

namespace ListFold

/-! ### folds over any list -/
section fold
variable {σ τ ι γ : Type}

theorem foldl_inv (P : σ → Prop) (f : σ → ι → σ) (l : List ι) (a : σ)
    (h0 : P a) (hs : ∀ s x, x ∈ l → P s → P (f s x)) : P (l.foldl f a) := by
  induction l generalizing a with
  | nil => exact h0
  | cons x l ih => exact ih _ (hs _ _ List.mem_cons_self h0) fun s y hy => hs s y (List.mem_cons_of_mem _ hy)

theorem foldl_fix (π : σ → γ) (f : σ → ι → σ) (l : List ι) (a : σ) (h : ∀ s x, π (f s x) = π s) :
    π (l.foldl f a) = π a :=
  foldl_inv (fun s => π s = π a) f l a rfl fun s x _ hs => (h s x).trans hs

theorem foldl_pair (f : σ → ι → σ) (g : τ → ι → τ) (l : List ι) (a : σ) (b : τ) :
    l.foldl (fun (p : σ × τ) x => (f p.1 x, g p.2 x)) (a, b) = (l.foldl f a, l.foldl g b) := by
  induction l generalizing a b with
  | nil => rfl
  | cons x l ih => exact ih _ _

theorem foldl_rel (R : σ → τ → Prop) (f : σ → ι → σ) (g : τ → ι → τ) (l : List ι) (a : σ) (b : τ)
    (h0 : R a b) (hs : ∀ s t x, x ∈ l → R s t → R (f s x) (g t x)) : R (l.foldl f a) (l.foldl g b) := by
  have := foldl_inv (fun p : σ × τ => R p.1 p.2) (fun p x => (f p.1 x, g p.2 x)) l (a, b) h0 fun p x hx => hs p.1 p.2 x hx
  rwa [foldl_pair] at this

theorem foldl_congr_mem (f g : σ → ι → σ) (l : List ι) (a : σ) (h : ∀ s x, x ∈ l → f s x = g s x) :
    l.foldl f a = l.foldl g a :=
  foldl_rel Eq f g l a a rfl fun s _ x hx e => e ▸ h s x hx

/-- running an interleaving of calls (`true`: on the second component) on a pair is running each projection of the
    interleaving on its component -/
theorem foldl_interleave (f : σ → ι → σ) (l : List (Bool × ι)) (p : σ × σ) :
    l.foldl (fun p tc => if tc.1 then (p.1, f p.2 tc.2) else (f p.1 tc.2, p.2)) p =
      (((l.filter (fun tc => !tc.1)).map (·.2)).foldl f p.1, ((l.filter (fun tc => tc.1)).map (·.2)).foldl f p.2) := by
  induction l generalizing p with
  | nil => rfl
  | cons tc l ih => obtain ⟨_ | _, x⟩ := tc <;> exact ih _

theorem foldl_count_if (p : ι → Bool) (l : List ι) (a : Int) :
    l.foldl (fun c i => if p i then c + 1 else c) a = a + (l.countP p : Nat) := by
  induction l generalizing a with
  | nil => simp
  | cons x l ih =>
    rw [List.foldl_cons, ih, List.countP_cons]
    split <;> omega

theorem foldl_count_if_bounds (p : ι → Bool) (l : List ι) (a : Int) :
    a ≤ l.foldl (fun c i => if p i then c + 1 else c) a ∧ l.foldl (fun c i => if p i then c + 1 else c) a ≤ a + (l.length : Nat) := by
  have := List.countP_le_length (p := p) (l := l)
  rw [foldl_count_if]
  omega

/-- pointwise value of a translator-shaped write loop `for i in l: f[i] = g i` -/
theorem foldl_upd {β : Type} (g : Int → β) (l : List Int) (f : Int → β) (j : Int) :
    (l.foldl (fun f i => upd f i (g i)) f) j = if j ∈ l then g j else f j := by
  induction l generalizing f with
  | nil => simp
  | cons x xs ih =>
    simp only [List.foldl_cons, ih, List.mem_cons]
    by_cases hx : j ∈ xs
    · simp [hx]
    · by_cases hj : j = x
      · subst hj; simp [hx]
      · simp [hx, hj, upd]

theorem foldl_count (l : List ι) (a : Int) : l.foldl (fun c _ => c + 1) a = a + (l.length : Nat) := by
  induction l generalizing a with
  | nil => simp
  | cons x l ih => rw [List.foldl_cons, ih, List.length_cons]; omega

end fold

/-! ### counted loops: `List.range n` -/
section range
variable {σ τ : Type}

theorem foldl_range_succ (f : σ → Nat → σ) (a : σ) (n : Nat) :
    (List.range (n + 1)).foldl f a = f ((List.range n).foldl f a) n := by
  rw [List.range_succ, List.foldl_append]; rfl

/-- loop-invariant rule for `for (i = 0; i < n; ++i)`, the invariant indexed by the loop variable -/
theorem foldl_range_inv (P : Nat → σ → Prop) (f : σ → Nat → σ) (n : Nat) (a : σ)
    (h0 : P 0 a) (hs : ∀ i s, i < n → P i s → P (i + 1) (f s i)) : P n ((List.range n).foldl f a) := by
  induction n with
  | zero => exact h0
  | succ n ih =>
    rw [foldl_range_succ]
    exact hs n _ (Nat.lt_succ_self n) (ih fun i s hi => hs i s (Nat.lt_succ_of_lt hi))

/-- two counted loops in step -/
theorem foldl_range_rel (P : Nat → σ → τ → Prop) (f : σ → Nat → σ) (g : τ → Nat → τ) (n : Nat) (a : σ) (b : τ)
    (h0 : P 0 a b) (hs : ∀ i s t, i < n → P i s t → P (i + 1) (f s i) (g t i)) :
    P n ((List.range n).foldl f a) ((List.range n).foldl g b) := by
  have := foldl_range_inv (fun i (p : σ × τ) => P i p.1 p.2) (fun p i => (f p.1 i, g p.2 i)) n (a, b) h0
    fun i p hi h => hs i p.1 p.2 hi h
  rwa [foldl_pair] at this

/-- the loop `f` on a store that holds junk and the loop `g` on the clean store, seen through an erasure `π k` that forgets what
    the steps `≥ k` will overwrite: if every step commutes with the erasure (on states satisfying `I`), so does the loop.
    With `π n` the identity on final states the two loops end in the same state, whatever the junk was. -/
theorem foldl_range_erase (π : Nat → σ → τ) (I : Nat → σ → Prop) (f : σ → Nat → σ) (g : τ → Nat → τ) (n : Nat) (a : σ)
    (h0 : I 0 a) (hI : ∀ i s, i < n → I i s → I (i + 1) (f s i))
    (hs : ∀ i s, i < n → I i s → g (π i s) i = π (i + 1) (f s i)) :
    (List.range n).foldl g (π 0 a) = π n ((List.range n).foldl f a) ∧ I n ((List.range n).foldl f a) :=
  foldl_range_rel (fun i t s => t = π i s ∧ I i s) g f n (π 0 a) a ⟨rfl, h0⟩
    fun i t s hi h => ⟨by rw [h.1, hs i s hi h.2], hI i s hi h.2⟩

end range

/-! ### translated loops: `intRange lo hi` -/
section intRange
variable {σ τ : Type}

theorem intRange_zero (n : Nat) : intRange 0 (n : Int) = (List.range n).map (fun (k : Nat) => (k : Int)) := by
  simp [intRange]

theorem intRange_cons (lo hi : Int) (h : lo < hi) : intRange lo hi = lo :: intRange (lo + 1) hi := by
  have e : (hi - lo).toNat = (hi - (lo + 1)).toNat + 1 := by omega
  simp only [intRange, e, List.range_succ_eq_map, List.map_cons, List.map_map]
  congr 1
  · simp
  · apply List.map_congr_left; intro a _; simp only [Function.comp]; omega

/-- `for (i = lo; i < hi; ++i)` as a counted loop over the offset `i - lo` -/
theorem foldl_intRange (f : σ → Int → σ) (lo hi : Int) (a : σ) :
    (intRange lo hi).foldl f a = (List.range (hi - lo).toNat).foldl (fun s (k : Nat) => f s (lo + k)) a :=
  List.foldl_map

theorem foldl_intRange_shift (f : σ → Int → σ) (lo hi : Int) (a : σ) :
    (intRange lo hi).foldl f a = (intRange 0 (hi - lo)).foldl (fun a t => f a (lo + t)) a := by
  rw [foldl_intRange, foldl_intRange, Int.sub_zero]
  simp only [Int.zero_add]

/-- loop-invariant rule for `for (i = lo; i < hi; ++i)`, the invariant indexed by the loop variable -/
theorem foldl_intRange_inv (P : Int → σ → Prop) (f : σ → Int → σ) (lo hi : Int) (a : σ) (hle : lo ≤ hi)
    (h0 : P lo a) (hs : ∀ i s, lo ≤ i → i < hi → P i s → P (i + 1) (f s i)) : P hi ((intRange lo hi).foldl f a) := by
  have e : hi = lo + ((hi - lo).toNat : Nat) := by omega
  rw [foldl_intRange]
  conv => lhs; rw [e]
  refine foldl_range_inv (fun (k : Nat) s => P (lo + k) s) _ _ a (by simpa using h0) fun k s hk hp => ?_
  have := hs (lo + k) s (by omega) (by omega) hp
  rwa [Int.add_assoc] at this

theorem foldl_intRange_rel (P : Int → σ → τ → Prop) (f : σ → Int → σ) (g : τ → Int → τ) (lo hi : Int) (a : σ) (b : τ)
    (hle : lo ≤ hi) (h0 : P lo a b) (hs : ∀ i s t, lo ≤ i → i < hi → P i s t → P (i + 1) (f s i) (g t i)) :
    P hi ((intRange lo hi).foldl f a) ((intRange lo hi).foldl g b) := by
  have := foldl_intRange_inv (fun i (p : σ × τ) => P i p.1 p.2) (fun p i => (f p.1 i, g p.2 i)) lo hi (a, b) hle h0
    fun i p h1 h2 hp => hs i p.1 p.2 h1 h2 hp
  rwa [foldl_pair] at this

end intRange

/-! ### lists and arrays read by index -/
section getD
variable {α β : Type}

theorem getD_map_range (f : Nat → α) (d : α) (n i : Nat) (hi : i < n) : ((List.range n).map f).getD i d = f i := by
  rw [List.getD_eq_getElem?_getD, List.getElem?_map, List.getElem?_range hi]
  rfl

theorem getD_map (l : List α) (f : α → β) (d : α) (e : β) (i : Nat) (h : i < l.length) :
    (l.map f).getD i e = f (l.getD i d) := by
  simp [List.getD_eq_getElem?_getD, h]

theorem getD_mem (l : List α) (d : α) (i : Nat) (h : i < l.length) : l.getD i d ∈ l := by
  rw [List.getD_eq_getElem?_getD, List.getElem?_eq_getElem h]; simp

theorem map_range_getD_take (l : List α) (d : α) (n : Nat) (h : n ≤ l.length) :
    (List.range n).map (fun i => l.getD i d) = l.take n := by
  apply List.ext_getElem
  · simp [h]
  · intro i h1 _
    have hi : i < l.length := by simp at h1; omega
    simp [List.getD_eq_getElem?_getD, List.getElem?_eq_getElem hi]

theorem map_range_getD (l : List α) (d : α) (n : Nat) (h : l.length = n) :
    (List.range n).map (fun i => l.getD i d) = l := by
  rw [map_range_getD_take l d n (Nat.le_of_eq h.symm), List.take_of_length_le (Nat.le_of_eq h)]

theorem map_range_getD_map (l : List α) (f : α → β) (d : α) (n : Nat) (h : l.length = n) :
    (List.range n).map (fun i => f (l.getD i d)) = l.map f :=
  (List.map_map ..).symm.trans (congrArg (List.map f) (map_range_getD l d n h))

theorem getD_setIfInBounds (a : Array α) (q p : Nat) (v d : α) :
    (a.setIfInBounds q v).getD p d = if p = q then (if q < a.size then v else d) else a.getD p d := by
  simp only [Array.getD_eq_getD_getElem?, Array.getElem?_setIfInBounds]
  by_cases h1 : p = q
  · subst h1
    by_cases h2 : p < a.size <;> simp [h2]
  · simp [h1, Ne.symm h1]

end getD

/-! ### vectors built by `Lin.vofFn` -/
section vofFn
variable {α : Type}

theorem size_vofFn (n : Nat) (f : Nat → α) : (Lin.vofFn n f).size = n := by simp [Lin.vofFn]

theorem vget_vofFn [sc : Sc α] (n : Nat) (f : Nat → α) (i : Nat) (hi : i < n) : Lin.vget (Lin.vofFn n f) i = f i := by
  simp [Lin.vget, Lin.vofFn, hi]

end vofFn

end ListFold
