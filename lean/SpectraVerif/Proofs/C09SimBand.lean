/-
  C09: whole-matrix form of one rotation of the tridiagonal bulge chase (`band_step`; the identity is a band matrix, so `Gᵀ I G = I`
  is an instance), the bridge from the entrywise rotation formulas `mulG / mulGt / conjG` of `Proofs/C09Step.lean` to Mathlib matrices
  (`mat_conjG`, `gram_mat`, `Gm_orth`), and the entrywise reflector `mulP`.
-/
import Mathlib.Tactic.Ring
import Mathlib.Tactic.LinearCombination
import Mathlib.Algebra.BigOperators.Fin
import Mathlib.Data.Matrix.Mul
import SpectraVerif.Proofs.C09Step

set_option linter.unusedSectionVars false

namespace C09Sim
open C09Step Finset

section ring
variable {R : Type} [CommRing R]

/-- symmetric tridiagonal matrix (diagonal `d`, sub-diagonal `e`) plus the bulge `z` of the `q`-th rotation of a QR step at
    `(q+1, q−1)` and `(q−1, q+1)` (no such entry for `q = 0`) -/
def band (d e : ℕ → R) (q : ℕ) (z : R) : ℕ → ℕ → R := fun i j =>
  if i = j then d i else if i = j + 1 then e j else if j = i + 1 then e i
  else if (i = q + 1 ∧ j + 1 = q) ∨ (j = q + 1 ∧ i + 1 = q) then z else 0

theorem band_diag (d e : ℕ → R) (q : ℕ) (z : R) (i : ℕ) : band d e q z i i = d i := by simp only [band, ↓reduceIte]
theorem band_subdiag (d e : ℕ → R) (q : ℕ) (z : R) (j : ℕ) : band d e q z (j + 1) j = e j := by
  simp only [band, ↓reduceIte]; rw [if_neg (by omega)]
theorem band_bulge (d e : ℕ → R) (z : R) (j : ℕ) : band d e (j + 1) z (j + 2) j = z := by
  simp only [band]; rw [if_neg (by omega), if_neg (by omega), if_neg (by omega), if_pos (Or.inl ⟨trivial, trivial⟩)]
theorem band_off (d e : ℕ → R) (q : ℕ) (z : R) (i j : ℕ)
    (h : (i + 2 ≤ j ∨ j + 2 ≤ i) ∧ ¬ (i = q + 1 ∧ j + 1 = q) ∧ ¬ (j = q + 1 ∧ i + 1 = q)) : band d e q z i j = 0 := by
  simp only [band]; rw [if_neg (by omega), if_neg (by omega), if_neg (by omega), if_neg (by omega)]

theorem band_symm (d e : ℕ → R) (q : ℕ) (z : R) (i j : ℕ) : band d e q z i j = band d e q z j i := by
  simp only [band, eq_comm (a := i) (b := j), or_comm (a := i = q + 1 ∧ j + 1 = q)]
  by_cases h1 : j = i
  · rw [if_pos h1, if_pos h1, h1]
  · rw [if_neg h1, if_neg h1]
    by_cases h2 : i = j + 1
    · rw [if_pos h2, if_neg (by omega), if_pos h2]
    · rw [if_neg h2]
      by_cases h3 : j = i + 1
      · rw [if_pos h3, if_pos h3]
      · rw [if_neg h3, if_neg h3, if_neg h2]

theorem band_far (d e d' e' : ℕ → R) (k : ℕ) (zb zb' : R)
    (hd' : ∀ j, j ≠ k → j ≠ k + 1 → d' j = d j) (he' : ∀ j, j ≠ k → j + 1 ≠ k → j ≠ k + 1 → e' j = e j)
    (i j : ℕ) (hi1 : i ≠ k) (hi2 : i ≠ k + 1) (hj1 : j ≠ k) (hj2 : j ≠ k + 1) :
    band d' e' (k + 1) zb' i j = band d e k zb i j := by
  simp only [band]
  by_cases h1 : i = j
  · rw [if_pos h1, if_pos h1]; exact hd' i hi1 hi2
  · rw [if_neg h1, if_neg h1]
    by_cases h2 : i = j + 1
    · rw [if_pos h2, if_pos h2]; exact he' j hj1 (by omega) hj2
    · rw [if_neg h2, if_neg h2]
      by_cases h3 : j = i + 1
      · rw [if_pos h3, if_pos h3]; exact he' i hi1 (by omega) hi2
      · rw [if_neg h3, if_neg h3, if_neg (by omega), if_neg (by omega)]

/-- **one rotation of the bulge chase, whole matrix**: if the arrays are updated the way `qrBody` updates them and the rotation
    annihilates the old bulge (`s·e_{k-1} + c·z = 0`), then `Gᵀ (T + bulge_k) G = T' + bulge_{k+1}` entry by entry. -/
theorem band_step (d e d' e' : ℕ → R) (k : ℕ) (c s zb zb' : R)
    (hdk : d' k = c * c * d k - 2 * c * s * e k + s * s * d (k + 1))
    (hdk1 : d' (k + 1) = s * s * d k + 2 * c * s * e k + c * c * d (k + 1))
    (hek : e' k = c * s * (d k - d (k + 1)) + (c * c - s * s) * e k)
    (H1 : ∀ m, m + 1 = k → e' m = c * e m - s * zb) (H2 : ∀ m, m + 1 = k → s * e m + c * zb = 0)
    (H3 : zb' = -(s * e (k + 1))) (H4 : e' (k + 1) = c * e (k + 1))
    (hd' : ∀ j, j ≠ k → j ≠ k + 1 → d' j = d j)
    (he' : ∀ j, j ≠ k → j + 1 ≠ k → j ≠ k + 1 → e' j = e j) (i j : ℕ) :
    conjG (band d e k zb) k c s i j = band d' e' (k + 1) zb' i j := by
  -- rows `k`, `k+1` of `Gᵀ B` outside the 2×2 block; the columns follow by symmetry
  have row : ∀ j, j ≠ k → j ≠ k + 1 →
      c * band d e k zb k j - s * band d e k zb (k + 1) j = band d' e' (k + 1) zb' k j ∧
      s * band d e k zb k j + c * band d e k zb (k + 1) j = band d' e' (k + 1) zb' (k + 1) j := by
    intro j h0 h1
    by_cases hm : j + 1 = k
    · subst hm
      rw [band_subdiag, band_bulge, band_subdiag, band_off _ _ _ _ (j + 1 + 1) j (by omega)]
      exact ⟨(H1 j rfl).symm, H2 j rfl⟩
    · by_cases hp : j = k + 2
      · subst hp
        rw [band_off _ _ _ _ k (k + 2) (by omega), band_symm _ _ _ _ (k + 1), band_subdiag, band_symm _ _ _ _ k, band_bulge,
          band_symm _ _ _ _ (k + 1), band_subdiag, H3, H4]
        exact ⟨by ring, by ring⟩
      · rw [band_off _ _ _ _ k j (by omega), band_off _ _ _ _ (k + 1) j (by omega), band_off _ _ _ _ k j (by omega),
          band_off _ _ _ _ (k + 1) j (by omega)]
        exact ⟨by ring, by ring⟩
  have ek1 : band d e k zb k (k + 1) = e k := by rw [band_symm, band_subdiag]
  have ek1' : band d' e' (k + 1) zb' k (k + 1) = e' k := by rw [band_symm, band_subdiag]
  by_cases hi0 : i = k
  · subst hi0
    by_cases hj0 : j = i
    · subst hj0; rw [conjG_kk, band_diag, band_diag, band_diag, ek1, band_subdiag, hdk]; ring
    · by_cases hj1 : j = i + 1
      · subst hj1; rw [conjG_kk1, band_diag, band_diag, ek1, band_subdiag, ek1', hek]; ring
      · rw [conjG_kj _ _ _ _ _ hj0 hj1]; exact (row j hj0 hj1).1
  · by_cases hi1 : i = k + 1
    · subst hi1
      by_cases hj0 : j = k
      · subst hj0; rw [conjG_k1k, band_diag, band_diag, ek1, band_subdiag, band_subdiag, hek]; ring
      · by_cases hj1 : j = k + 1
        · subst hj1; rw [conjG_k1k1, band_diag, band_diag, band_diag, ek1, band_subdiag, hdk1]; ring
        · rw [conjG_k1j _ _ _ _ _ hj0 hj1]; exact (row j hj0 hj1).2
    · by_cases hj0 : j = k
      · subst hj0
        rw [conjG_ik _ _ _ _ _ hi0 hi1, band_symm _ _ _ _ i, band_symm _ _ _ _ i, band_symm _ _ _ _ i]
        exact (row i hi0 hi1).1
      · by_cases hj1 : j = k + 1
        · subst hj1
          rw [conjG_ik1 _ _ _ _ _ hi0 hi1, band_symm _ _ _ _ i, band_symm _ _ _ _ i, band_symm _ _ _ _ i]
          exact (row i hi0 hi1).2
        · rw [conjG_far _ _ _ _ _ _ hi0 hi1 hj0 hj1, band_far d e d' e' k zb zb' hd' he' i j hi0 hi1 hj0 hj1]

theorem band_one (q : ℕ) : band (fun _ => (1 : R)) (fun _ => 0) q 0 = fun i j => if i = j then 1 else 0 := by
  funext i j; simp only [band, ite_self]

/-- `Gᵀ I G = I` for `c² + s² = 1`: the identity is the band matrix with unit diagonal, and `band_step` keeps it -/
theorem conjG_delta (k : ℕ) (c s : R) (hcs : c * c + s * s = 1) :
    conjG (fun i j => if i = j then (1 : R) else 0) k c s = fun i j => if i = j then 1 else 0 := by
  funext i j
  rw [← band_one k, band_step (fun _ => 1) (fun _ => 0) (fun _ => 1) (fun _ => 0) k c s 0 0 (by linear_combination -hcs)
    (by linear_combination -hcs) (by ring) (fun _ _ => by ring) (fun _ _ => by ring) (by ring) (by ring) (fun _ _ _ => rfl)
    (fun _ _ _ _ => rfl), band_one]

theorem band_supdiag (d e : ℕ → R) (q : ℕ) (z : R) (i : ℕ) : band d e q z i (i + 1) = e i := by rw [band_symm, band_subdiag]

theorem bandT_none (d e : ℕ → R) (z : R) (q : ℕ) : bandT d e none z = band d e q 0 := by
  funext i j; simp only [bandT, band, reduceCtorEq, false_and, if_false, ite_self]

theorem bandT_some (d e : ℕ → R) (m : ℕ) (z : R) : bandT d e (some m) z = band d e (m + 1) z := by
  funext i j
  simp only [bandT, band, Option.some.injEq]
  refine ite_congr rfl (fun _ => rfl) fun _ => ite_congr rfl (fun _ => rfl) fun _ => ite_congr rfl (fun _ => rfl) fun _ => ?_
  by_cases h : (i = m + 1 + 1 ∧ j + 1 = m + 1) ∨ (j = m + 1 + 1 ∧ i + 1 = m + 1)
  · rw [if_pos h]
    rcases h with h | h
    · rw [if_pos (by omega)]
    · rw [if_neg (by omega), if_pos (by omega)]
  · rw [if_neg h, if_neg (by omega), if_neg (by omega)]

/-- with a zero bulge value the bulge position is irrelevant -/
theorem band_zero (d e : ℕ → R) (q q' : ℕ) : band d e q 0 = band d e q' 0 := by
  funext i j; simp only [band, ite_self]

theorem band_map₂ (g : R → R → R) (h0 : g 0 0 = 0) (d e d' e' : ℕ → R) (q : ℕ) (z z' : R) (i j : ℕ) :
    g (band d e q z i j) (band d' e' q z' i j) = band (fun k => g (d k) (d' k)) (fun k => g (e k) (e' k)) q (g z z') i j := by
  simp only [band]
  by_cases h1 : i = j
  · rw [if_pos h1, if_pos h1, if_pos h1]
  · rw [if_neg h1, if_neg h1, if_neg h1]
    by_cases h2 : i = j + 1
    · rw [if_pos h2, if_pos h2, if_pos h2]
    · rw [if_neg h2, if_neg h2, if_neg h2]
      by_cases h3 : j = i + 1
      · rw [if_pos h3, if_pos h3, if_pos h3]
      · rw [if_neg h3, if_neg h3, if_neg h3]
        by_cases h4 : (i = q + 1 ∧ j + 1 = q) ∨ (j = q + 1 ∧ i + 1 = q)
        · rw [if_pos h4, if_pos h4, if_pos h4]
        · rw [if_neg h4, if_neg h4, if_neg h4, h0]

/-- `band` is linear in the two diagonals -/
theorem band_sub (d e e2 : ℕ → R) (i j : ℕ) :
    band d e 0 0 i j - band (fun _ => 0) e2 0 0 i j = band d (fun k => e k - e2 k) 0 0 i j := by
  rw [band_map₂ (· - ·) (sub_zero 0)]; simp only [sub_zero]

end ring

section mat
variable {R : Type} [CommRing R]
open Matrix

/-- the leading `n × n` block of an entry function as a Mathlib matrix -/
def mat (n : ℕ) (f : ℕ → ℕ → R) : Matrix (Fin n) (Fin n) R := Matrix.of fun i j => f i.val j.val

/-- the plane rotation `G` in the plane `(k, k+1)` as an `n × n` matrix -/
def Gm (n k : ℕ) (c s : R) : Matrix (Fin n) (Fin n) R := mat n (mulG (fun i j => if i = j then 1 else 0) k c s)

theorem mat_congr (n : ℕ) (f g : ℕ → ℕ → R) (h : ∀ i j, i < n → j < n → f i j = g i j) : mat n f = mat n g := by
  ext i j; exact h i.val j.val i.isLt j.isLt

theorem sum_delta (n k : ℕ) (hk : k < n) (f : ℕ → R) : ∑ a ∈ range n, f a * (if a = k then 1 else 0) = f k := by
  simp only [mul_ite, mul_one, mul_zero]
  rw [Finset.sum_ite_eq' (range n) k]; simp [hk]

theorem mat_mulG (n k : ℕ) (hk : k + 1 < n) (M : ℕ → ℕ → R) (c s : R) : mat n (mulG M k c s) = mat n M * Gm n k c s := by
  ext i j
  simp only [mat, Gm, Matrix.mul_apply, Matrix.of_apply]
  rw [Fin.sum_univ_eq_sum_range (fun a => M i.val a * mulG (fun i j => if i = j then (1 : R) else 0) k c s a j.val) n]
  simp only [mulG]
  have hk0 : k < n := by omega
  split_ifs with h1 h2
  · rw [Finset.sum_congr rfl (fun a _ => show M i.val a * (c * (if a = k then (1 : R) else 0) - s * (if a = k + 1 then 1 else 0)) =
      c * (M i.val a * (if a = k then 1 else 0)) - s * (M i.val a * (if a = k + 1 then 1 else 0)) by ring)]
    rw [Finset.sum_sub_distrib, ← Finset.mul_sum, ← Finset.mul_sum, sum_delta n k hk0, sum_delta n (k + 1) hk]
  · rw [Finset.sum_congr rfl (fun a _ => show M i.val a * (s * (if a = k then (1 : R) else 0) + c * (if a = k + 1 then 1 else 0)) =
      s * (M i.val a * (if a = k then 1 else 0)) + c * (M i.val a * (if a = k + 1 then 1 else 0)) by ring)]
    rw [Finset.sum_add_distrib, ← Finset.mul_sum, ← Finset.mul_sum, sum_delta n k hk0, sum_delta n (k + 1) hk]
  · exact (sum_delta n j.val j.isLt (fun a => M i.val a)).symm

theorem mat_transpose (n : ℕ) (M : ℕ → ℕ → R) : (mat n M)ᵀ = mat n (fun i j => M j i) := by
  ext i j; rfl

theorem mat_mulGt (n k : ℕ) (hk : k + 1 < n) (M : ℕ → ℕ → R) (c s : R) : mat n (mulGt M k c s) = (Gm n k c s)ᵀ * mat n M := by
  have e : mat n (mulGt M k c s) = (mat n (mulG (fun i j => M j i) k c s))ᵀ := by
    ext i j; simp only [mat, Matrix.transpose_apply, Matrix.of_apply, mulGt, mulG]
  rw [e, mat_mulG n k hk, Matrix.transpose_mul, ← mat_transpose]
  rfl

/-- `Gᵀ M G` entrywise is the matrix product -/
theorem mat_conjG (n k : ℕ) (hk : k + 1 < n) (M : ℕ → ℕ → R) (c s : R) :
    mat n (conjG M k c s) = (Gm n k c s)ᵀ * mat n M * Gm n k c s := by
  simp only [conjG]; rw [mat_mulGt n k hk, mat_mulG n k hk, Matrix.mul_assoc]

/-- a rotation of the basis conjugates the projected matrix: `(QG)ᵀ X (QG) = Gᵀ (Qᵀ X Q) G` -/
theorem conj_rot (n k : ℕ) (hk : k + 1 < n) (Q X : Matrix (Fin n) (Fin n) R) (c s : R) (T : ℕ → ℕ → R)
    (h : Qᵀ * X * Q = mat n T) : (Q * Gm n k c s)ᵀ * X * (Q * Gm n k c s) = mat n (conjG T k c s) := by
  rw [mat_conjG n k hk, ← h, Matrix.transpose_mul]
  simp only [Matrix.mul_assoc]

theorem mat_one (n : ℕ) : mat n (fun i j => if i = j then (1 : R) else 0) = 1 := by
  ext i j; simp only [mat, Matrix.of_apply, Matrix.one_apply, Fin.ext_iff]

/-- `QᵀQ = 1` for the leading block of an entry function, as Gram sums -/
theorem gram_mat (n : ℕ) (Q : ℕ → ℕ → R) :
    (mat n Q)ᵀ * mat n Q = 1 ↔ ∀ a b, a < n → b < n → ∑ i ∈ range n, Q i a * Q i b = if a = b then 1 else 0 := by
  have e : ∀ a b : Fin n, ((mat n Q)ᵀ * mat n Q) a b = ∑ i ∈ range n, Q i a.val * Q i b.val := fun a b =>
    Fin.sum_univ_eq_sum_range (fun i => Q i a.val * Q i b.val) n
  constructor
  · intro h a b ha hb
    rw [← e ⟨a, ha⟩ ⟨b, hb⟩, h, Matrix.one_apply]; simp only [Fin.ext_iff]
  · intro h; ext a b
    rw [e, h a.val b.val a.isLt b.isLt, Matrix.one_apply]; simp only [Fin.ext_iff]

theorem orth_mul {n : ℕ} {Q W : Matrix (Fin n) (Fin n) R} (hQ : Qᵀ * Q = 1) (hW : Wᵀ * W = 1) : (Q * W)ᵀ * (Q * W) = 1 := by
  rw [Matrix.transpose_mul, Matrix.mul_assoc, ← Matrix.mul_assoc _ Q W, hQ, Matrix.one_mul, hW]

/-- a unit rotation is orthogonal: `Gᵀ 1 G` is `conjG` of the identity -/
theorem Gm_orth (n k : ℕ) (hk : k + 1 < n) (c s : R) (hcs : c * c + s * s = 1) : (Gm n k c s)ᵀ * Gm n k c s = 1 := by
  rw [← Matrix.mul_one (Gm n k c s)ᵀ, ← mat_one n, ← mat_conjG n k hk, conjG_delta k c s hcs]

end mat
end C09Sim

namespace C09OrthU
variable {R : Type} [CommRing R]

/-- `X P` on the three columns `k, k+1, k+2`, `P = I − τ v vᵀ`, `v = (1, v1, v2)` (function level) -/
def mulP (M : Nat → Nat → R) (k : Nat) (v1 v2 tau : R) : Nat → Nat → R := fun i j =>
  if j = k then M i k - tau * (M i k + v1 * M i (k + 1) + v2 * M i (k + 2))
  else if j = k + 1 then M i (k + 1) - tau * (M i k + v1 * M i (k + 1) + v2 * M i (k + 2)) * v1
  else if j = k + 2 then M i (k + 2) - tau * (M i k + v1 * M i (k + 1) + v2 * M i (k + 2)) * v2
  else M i j

/-- the vector `v = (1, v1, v2)` of a reflector acting on `k, k+1, k+2` -/
def hv (k : Nat) (v1 v2 : R) (a : Nat) : R := if a = k then 1 else if a = k + 1 then v1 else if a = k + 2 then v2 else 0

/-- `X P = X − τ (X v) vᵀ`: a rank-one update -/
theorem mulP_eq (M : Nat → Nat → R) (k : Nat) (v1 v2 tau : R) (i j : Nat) :
    mulP M k v1 v2 tau i j = M i j - tau * (M i k + v1 * M i (k + 1) + v2 * M i (k + 2)) * hv k v1 v2 j := by
  simp only [mulP, hv]
  split_ifs with h0 h1 h2
  · rw [h0]; ring
  · rw [h1]
  · rw [h2]
  · ring

end C09OrthU
