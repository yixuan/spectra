/-
  Exact-arithmetic algebra behind the spectral transformations and Ritz residuals (any field `K`; matrices over a finite index
  type).  These are the `Spectral.*` and `Ritz.residual` entries of DESIGN §4.2, used by C01, C02, C03, C04.

  Convention: the solver iterates on an operator `Op` and obtains a Ritz pair `(ν, x)` with residual `r`, i.e. `Op x = ν x + r`
  (for the B-inner-product modes `x`, `r` live in the same space).  `y` below always stands for `Op x`.
  The operator is characterised by the linear system it solves (`M y = N x`), never by an inverse, so no invertibility
  machinery is needed and singular `M` is simply a case where the hypothesis cannot be met.
-/
import Mathlib.Data.Matrix.Mul
import Mathlib.Algebra.Field.Basic
import Mathlib.Algebra.Order.Field.Basic
import Mathlib.Tactic.LinearCombination
import Mathlib.Tactic.FieldSimp
import Mathlib.Tactic.Ring
import Mathlib.Tactic.Linarith
import Mathlib.Tactic.Positivity
import Mathlib.Tactic.Abel

set_option linter.unusedSectionVars false
set_option linter.unusedVariables false
open Matrix

namespace Spectral
variable {n : Type} [Fintype n] [DecidableEq n] {K : Type} [Field K]

/-- regular-inverse mode: `Op = B⁻¹ A` (B-inner product):  `A x - θ B x = B r`.
    Read with `M y = N x` for `B y = A x`, this is what every mode below starts from: `N x - ν M x = M r`. -/
theorem reg_inverse (A B : Matrix n n K) (θ : K) (x r y : n → K)
    (hy : y = θ • x + r) (hM : B *ᵥ y = A *ᵥ x) :
    A *ᵥ x - θ • (B *ᵥ x) = B *ᵥ r := by
  rw [← hM, hy, mulVec_add, mulVec_smul, add_sub_cancel_left]

/-- generalized shift-and-invert: `Op = (A - σB)⁻¹ B`, `λ = σ + 1/ν`:  `A x - λ B x = -(1/ν) (A - σB) r` -/
theorem gen_shift_invert (A B : Matrix n n K) (σ ν : K) (x r y : n → K) (hν : ν ≠ 0)
    (hy : y = ν • x + r) (hM : (A - σ • B) *ᵥ y = B *ᵥ x) :
    A *ᵥ x - (σ + ν⁻¹) • (B *ᵥ x) = -ν⁻¹ • ((A - σ • B) *ᵥ r) := by
  rw [← reg_inverse B (A - σ • B) ν x r y hy hM, sub_mulVec, smul_mulVec]
  ext i
  simp only [Pi.sub_apply, Pi.smul_apply, smul_eq_mul]
  linear_combination (σ * (B *ᵥ x) i - (A *ᵥ x) i) * mul_inv_cancel₀ hν

/-- shift-and-invert, standard problem: `Op = (A - σI)⁻¹`, `λ = σ + 1/ν`:  `A x - λ x = -(1/ν) (A - σI) r` -/
theorem shift_invert (A : Matrix n n K) (σ ν : K) (x r y : n → K) (hν : ν ≠ 0)
    (hy : y = ν • x + r) (hM : (A - σ • (1 : Matrix n n K)) *ᵥ y = x) :
    A *ᵥ x - (σ + ν⁻¹) • x = -ν⁻¹ • ((A - σ • (1 : Matrix n n K)) *ᵥ r) := by
  have h := gen_shift_invert A 1 σ ν x r y hν hy (by rw [hM, one_mulVec])
  rwa [one_mulVec] at h

/-- buckling mode: `Op = (K - σ K_G)⁻¹ K`, `λ = σν/(ν-1)`:  `K x - λ K_G x = (K - σK_G) r / (1 - ν)` -/
theorem buckling (Km KG : Matrix n n K) (σ ν : K) (x r y : n → K) (hν : ν - 1 ≠ 0)
    (hy : y = ν • x + r) (hM : (Km - σ • KG) *ᵥ y = Km *ᵥ x) :
    Km *ᵥ x - (σ * ν / (ν - 1)) • (KG *ᵥ x) = (1 - ν)⁻¹ • ((Km - σ • KG) *ᵥ r) := by
  rw [← reg_inverse Km (Km - σ • KG) ν x r y hy hM, sub_mulVec, smul_mulVec, ← neg_sub ν 1, inv_neg, div_eq_mul_inv]
  ext i
  simp only [Pi.sub_apply, Pi.smul_apply, smul_eq_mul]
  linear_combination -(Km *ᵥ x) i * mul_inv_cancel₀ hν

/-- Cayley mode: `Op = (A - σB)⁻¹ (A + σB)`, `λ = σ(ν+1)/(ν-1)`:  `A x - λ B x = (A - σB) r / (1 - ν)` -/
theorem cayley (A B : Matrix n n K) (σ ν : K) (x r y : n → K) (hν : ν - 1 ≠ 0)
    (hy : y = ν • x + r) (hM : (A - σ • B) *ᵥ y = (A + σ • B) *ᵥ x) :
    A *ᵥ x - (σ * (ν + 1) / (ν - 1)) • (B *ᵥ x) = (1 - ν)⁻¹ • ((A - σ • B) *ᵥ r) := by
  rw [← reg_inverse (A + σ • B) (A - σ • B) ν x r y hy hM, sub_mulVec, add_mulVec, smul_mulVec, ← neg_sub ν 1, inv_neg,
    div_eq_mul_inv]
  ext i
  simp only [Pi.sub_apply, Pi.add_apply, Pi.smul_apply, smul_eq_mul]
  linear_combination -(A *ᵥ x) i * mul_inv_cancel₀ hν

/-- the vector returned in Cayley mode is the Ritz vector itself; the operator identity the code documents:
    `x + 2σ (A - σB)⁻¹ B x = (A - σB)⁻¹ (A + σB) x`, i.e. if `(A - σB) z = B x` then `(A - σB)(x + 2σ z) = (A + σB) x` -/
theorem cayley_op (A B : Matrix n n K) (σ : K) (x z : n → K) (hz : (A - σ • B) *ᵥ z = B *ᵥ x) :
    (A - σ • B) *ᵥ (x + (2 * σ) • z) = (A + σ • B) *ᵥ x := by
  rw [mulVec_add, mulVec_smul, hz, sub_mulVec, add_mulVec, smul_mulVec, two_mul, add_smul, sub_add_add_cancel]

/-- Cholesky mode: `B = L Lᵀ`, `Op = L⁻¹ A L⁻ᵀ`, returned vector `x = L⁻ᵀ y`:  `A x - θ B x = L r` -/
theorem cholesky (A L : Matrix n n K) (θ : K) (x yv r : n → K)
    (hx : Lᵀ *ᵥ x = yv) (hop : L *ᵥ (θ • yv + r) = A *ᵥ x) :
    A *ᵥ x - θ • ((L * Lᵀ) *ᵥ x) = L *ᵥ r := by
  rw [← hop, mulVec_add, mulVec_smul, ← mulVec_mulVec, hx]; abel

/-- Cholesky mode, Gram matrix of the returned vectors: `Xᵀ B X = Yᵀ Y` when `Lᵀ X = Y` (so orthonormal `Y` gives `B`-orthonormal `X`) -/
theorem cholesky_gram {m : Type} [Fintype m] (L : Matrix n n K) (X Y : Matrix n m K) (hX : Lᵀ * X = Y) :
    Xᵀ * (L * Lᵀ) * X = Yᵀ * Y := by
  rw [← hX, transpose_mul, transpose_transpose]
  simp only [Matrix.mul_assoc]

/-! ### the eigenvalue maps and their inverses ("λ is reported in the spectrum of the user's problem") -/

theorem shift_invert_inverse (σ lam : K) (h : lam - σ ≠ 0) : σ + ((lam - σ)⁻¹)⁻¹ = lam := by
  rw [inv_inv, add_sub_cancel]

/-- buckling and Cayley keys are affine in `1/(λ - σ)`: `ν - 1 = σ/(λ-σ)` resp. `ν - 1 = 2σ/(λ-σ)` -/
theorem buckling_key (σ lam : K) (h : lam - σ ≠ 0) : lam / (lam - σ) - 1 = σ / (lam - σ) := by
  rw [div_sub_one h, sub_sub_cancel]
theorem cayley_key (σ lam : K) (h : lam - σ ≠ 0) : (lam + σ) / (lam - σ) - 1 = 2 * σ / (lam - σ) := by
  rw [div_sub_one h, add_sub_sub_cancel, two_mul]

theorem buckling_inverse (σ lam : K) (h : lam - σ ≠ 0) (hσ : σ ≠ 0) :
    σ * (lam / (lam - σ)) / (lam / (lam - σ) - 1) = lam := by
  rw [buckling_key σ lam h, mul_div_assoc', div_div_div_cancel_right₀ h, mul_div_cancel_left₀ _ hσ]

theorem cayley_inverse (σ lam : K) (h : lam - σ ≠ 0) (hσ : σ ≠ 0) (h2 : (2 : K) ≠ 0) :
    σ * ((lam + σ) / (lam - σ) + 1) / ((lam + σ) / (lam - σ) - 1) = lam := by
  rw [cayley_key σ lam h, div_add_one h, add_add_sub_cancel, ← two_mul, mul_div_assoc', div_div_div_cancel_right₀ h,
    mul_left_comm, ← mul_assoc, mul_div_cancel_left₀ _ (mul_ne_zero h2 hσ)]

end Spectral

namespace Spectral
variable {K : Type} [Field K] [LinearOrder K] [IsStrictOrderedRing K]

/-- shift-and-invert turns "closest to σ" into "largest magnitude": `|ν₁| > |ν₂| ⇔ |λ₁ - σ| < |λ₂ - σ|` for `ν = 1/(λ - σ)` -/
theorem shift_invert_monotone (σ l1 l2 : K) (h1 : l1 - σ ≠ 0) (h2 : l2 - σ ≠ 0) :
    |(l2 - σ)⁻¹| < |(l1 - σ)⁻¹| ↔ |l1 - σ| < |l2 - σ| := by
  have pos : ∀ t : K, t ≠ 0 → 0 < |t| := fun _ => abs_pos.mpr
  rw [abs_inv, abs_inv]
  exact inv_lt_inv₀ (pos _ h2) (pos _ h1)

end Spectral

namespace Ritz
variable {n m : Type} [Fintype n] [Fintype m] [DecidableEq m] {K : Type} [Field K]

/-- **Ritz estimate = true residual**: if `A V = V H + f e_lastᵀ`, `H y = θ y` and `x = V y`, then `A x - θ x = y_last • f`.
    (`e_last` is the unit vector at the index `last`; commutative ring suffices) -/
theorem residual (A : Matrix n n K) (V : Matrix n m K) (H : Matrix m m K) (f : n → K) (last : m) (θ : K) (y : m → K)
    (hfac : A * V = V * H + vecMulVec f (Pi.single last 1)) (hy : H *ᵥ y = θ • y) :
    A *ᵥ (V *ᵥ y) - θ • (V *ᵥ y) = y last • f := by
  rw [mulVec_mulVec, hfac, add_mulVec, ← mulVec_mulVec, hy, mulVec_smul]
  rw [vecMulVec_mulVec, single_one_dotProduct, op_smul_eq_smul, add_sub_cancel_left]

end Ritz
