/-
  C10 — tier 3: `solve_inplace` returns a solution.  For a state `f` that is an `L D Lᵀ` factorization of `A` (`Fact.IsLDLT A n f`:
  the identity `P A Pᵀ = L D Lᵀ`, non-singular diagonal blocks, tiled `m_perm`; proved of `compute` in C10Factor) the five phases of
  `solve_inplace` (P, L⁻¹, D⁻¹, L⁻ᵀ, Pᵀ) compose to `x` with `A x = b`, in exact arithmetic (`ExactSc`): `Fact.IsLDLT.solve`.
-/
import Mathlib.Tactic.Ring
import Mathlib.Algebra.BigOperators.Ring.Finset
import SpectraVerif.Proofs.C10Tiling
import SpectraVerif.Proofs.C10Scalar
open Gen.BK

set_option linter.unusedSectionVars false
namespace BKLDLT
namespace SolveC
section
variable {K : Type} [Field K]

/-! ### sums over integer intervals -/
/-- `∑_{lo ≤ c < hi} f c` -/
def isum (lo hi : Int) (f : Int → K) : K := ∑ t ∈ Finset.range (hi - lo).toNat, f (lo + (t : Int))

theorem isum_empty {lo hi : Int} (f : Int → K) (h : hi ≤ lo) : isum lo hi f = 0 := by
  have e : (hi - lo).toNat = 0 := by omega
  simp [isum, e]

theorem isum_succ_right {lo hi : Int} (f : Int → K) (h : lo ≤ hi) : isum lo (hi + 1) f = isum lo hi f + f hi := by
  have e : (hi + 1 - lo).toNat = (hi - lo).toNat + 1 := by omega
  have e2 : lo + (((hi - lo).toNat : Nat) : Int) = hi := by omega
  simp only [isum, e, Finset.sum_range_succ, e2]

theorem isum_succ_left {lo hi : Int} (f : Int → K) (h : lo < hi) : isum lo hi f = f lo + isum (lo + 1) hi f := by
  have e : (hi - lo).toNat = (hi - (lo + 1)).toNat + 1 := by omega
  simp only [isum, e, Finset.sum_range_succ']
  rw [add_comm]
  congr 1
  · simp
  · apply Finset.sum_congr rfl
    intro t _
    congr 1; push_cast; ring

theorem isum_congr {lo hi : Int} {f g : Int → K} (h : ∀ c, lo ≤ c → c < hi → f c = g c) : isum lo hi f = isum lo hi g := by
  unfold isum
  apply Finset.sum_congr rfl
  intro t ht
  have := Finset.mem_range.1 ht
  exact h _ (by omega) (by omega)

theorem isum_zero {lo hi : Int} {f : Int → K} (h : ∀ c, lo ≤ c → c < hi → f c = 0) : isum lo hi f = 0 := by
  rw [isum_congr (g := fun _ => 0) h]
  simp [isum]

theorem isum_split {lo hi : Int} (f : Int → K) (mid : Int) (h1 : lo ≤ mid) (h2 : mid ≤ hi) :
    isum lo hi f = isum lo mid f + isum mid hi f := by
  have e : (hi - lo).toNat = (mid - lo).toNat + (hi - mid).toNat := by omega
  simp only [isum, e, Finset.sum_range_add]
  congr 1
  apply Finset.sum_congr rfl
  intro t _
  congr 1; push_cast; omega

theorem isum_range (n : Int) (f : Int → K) : isum 0 n f = ∑ c ∈ Finset.range n.toNat, f (c : Int) := by
  simp [isum]

theorem isum_ite_eq (lo hi a : Int) (A : K) : isum lo hi (fun c => if c = a then A else 0) = if lo ≤ a ∧ a < hi then A else 0 := by
  by_cases h : lo ≤ a ∧ a < hi
  · rw [if_pos h, isum_split _ a h.1 (by omega), isum_succ_left _ h.2, if_pos rfl,
      isum_zero (fun c h1 h2 => if_neg (by omega)), isum_zero (fun c h1 h2 => if_neg (by omega))]
    ring
  · rw [if_neg h]
    exact isum_zero (fun c h1 h2 => if_neg (by omega))

theorem isum_add (lo hi : Int) (f g : Int → K) : isum lo hi (fun c => f c + g c) = isum lo hi f + isum lo hi g := by
  simp [isum, Finset.sum_add_distrib]

end

section
variable {K : Type} [Field K] [Sc K]

/-! ### the right-hand side as a function, frame of the solve state -/
def xf (x : Array K) (i : Int) : K := x.getD i.toNat zero

theorem xf_set (x : Array K) (k j : Int) (a : K) (hk : 0 ≤ k) (hks : k.toNat < x.size) (hj : 0 ≤ j) :
    xf (x.setIfInBounds k.toNat a) j = if j = k then a else xf x j := by
  unfold xf
  rw [ListFold.getD_setIfInBounds, if_pos hks]
  exact if_congr (by omega) rfl rfl

/-- `solve_inplace` never writes the factorization: only the access flag of `v.s` changes -/
structure Fr (s0 : St K) (v : Sv K) : Prop where
  n : v.s.n = s0.n
  data : v.s.data = s0.data
  perm : v.s.perm = s0.perm

theorem Fr.rd {s0 : St K} {v : Sv K} (h : Fr s0 v) (i j : Int) : v.s.rd i j = s0.rd i j := by
  unfold St.rd; rw [h.n, h.data]
theorem Fr.pf {s0 : St K} {v : Sv K} (h : Fr s0 v) (i : Int) : pfn v.s i = pfn s0 i := by
  unfold pfn; rw [h.perm]

theorem fr_xget {s0 : St K} {v : Sv K} (h : Fr s0 v) (i : Int) : Fr s0 (v.xget i).2 := ⟨h.n, h.data, h.perm⟩
theorem fr_xset {s0 : St K} {v : Sv K} (h : Fr s0 v) (i : Int) (a : K) : Fr s0 (v.xset i a) := ⟨h.n, h.data, h.perm⟩
theorem fr_cget {s0 : St K} {v : Sv K} (h : Fr s0 v) (i j : Int) : Fr s0 (v.cget i j).2 := ⟨h.n, h.data, h.perm⟩
theorem fr_pget {s0 : St K} {v : Sv K} (h : Fr s0 v) (i : Int) : Fr s0 (v.pget i).2 := ⟨h.n, h.data, h.perm⟩
theorem fr_xswap {s0 : St K} {v : Sv K} (h : Fr s0 v) (a b : Int) : Fr s0 (v.xswap a b) := ⟨h.n, h.data, h.perm⟩

@[simp] theorem xget_fst (v : Sv K) (i : Int) : (v.xget i).1 = xf v.x i := rfl
@[simp] theorem xget_x (v : Sv K) (i : Int) : (v.xget i).2.x = v.x := rfl
@[simp] theorem xset_x (v : Sv K) (i : Int) (a : K) : (v.xset i a).x = v.x.setIfInBounds i.toNat a := rfl
@[simp] theorem cget_fst (v : Sv K) (i j : Int) : (v.cget i j).1 = v.s.rd i j := rfl
@[simp] theorem cget_x (v : Sv K) (i j : Int) : (v.cget i j).2.x = v.x := rfl
@[simp] theorem pget_fst (v : Sv K) (i : Int) : (v.pget i).1 = pfn v.s i := rfl
@[simp] theorem pget_x (v : Sv K) (i : Int) : (v.pget i).2.x = v.x := rfl

/-! ### the permutation -/
/-- the compressed permutation is a bijection of `[0, n)` (inverse: the reversed list) -/
theorem permFn_bij {n : Int} (pc : List (Int × Int)) (hpc : ∀ ab ∈ pc, 0 ≤ ab.1 ∧ ab.1 < n ∧ 0 ≤ ab.2 ∧ ab.2 < n) :
    (∀ i, 0 ≤ i → i < n → 0 ≤ permFn pc i ∧ permFn pc i < n) ∧
    (∀ i j, permFn pc i = permFn pc j → i = j) ∧
    (∀ i', 0 ≤ i' → i' < n → ∃ i, 0 ≤ i ∧ i < n ∧ permFn pc i = i') := by
  refine ⟨fun i h1 h2 => permFn_range pc hpc i ⟨h1, h2⟩, fun i j h => ?_, fun i' h1 h2 => ?_⟩
  · rw [← permFn_cancel pc i, h, permFn_cancel]
  · have := permFn_range pc.reverse (fun ab h => hpc ab (List.mem_reverse.1 h)) i' ⟨h1, h2⟩
    exact ⟨permFn pc.reverse i', this.1, this.2, permFn_cancel' pc i'⟩

theorem xf_swapArr (x : Array K) (a b i : Int) (ha : 0 ≤ a) (has : a.toNat < x.size) (hb : 0 ≤ b) (hbs : b.toNat < x.size) (hi : 0 ≤ i) :
    xf (swapArr x a b) i = xf x (tr a b i) := by
  unfold swapArr
  rw [xf_set _ _ _ _ hb (by simpa using hbs) hi, xf_set _ _ _ _ ha has hi]
  by_cases h1 : i = a
  · rw [h1, tr_left]
    by_cases h2 : a = b
    · rw [if_pos h2, h2]; rfl
    · rw [if_neg h2, if_pos rfl]; rfl
  · by_cases h2 : i = b
    · rw [if_pos h2, h2, tr_right]; rfl
    · rw [if_neg h2, if_neg h1, tr_other h1 h2]

theorem applyPermc_spec {s0 : St K} {n : Int} (pc : List (Int × Int)) (hpc : ∀ ab ∈ pc, 0 ≤ ab.1 ∧ ab.1 < n ∧ 0 ≤ ab.2 ∧ ab.2 < n)
    (v : Sv K) (hfr : Fr s0 v) (hsz : v.x.size = n.toNat) :
    Fr s0 (applyPermc v pc) ∧ (applyPermc v pc).x.size = n.toNat ∧
    ∀ i, 0 ≤ i → i < n → xf (applyPermc v pc).x i = xf v.x (permFn pc i) := by
  induction pc generalizing v with
  | nil => exact ⟨hfr, hsz, fun i _ _ => rfl⟩
  | cons ab pc ih =>
    have h := hpc ab List.mem_cons_self
    have hsz' : (v.xswap ab.1 ab.2).x.size = n.toNat := by rw [xswap_x, swapArr_size, hsz]
    obtain ⟨a1, a2, a3⟩ := ih (fun cd hcd => hpc cd (List.mem_cons_of_mem _ hcd)) (v.xswap ab.1 ab.2) (fr_xswap hfr _ _) hsz'
    have e : applyPermc v (ab :: pc) = applyPermc (v.xswap ab.1 ab.2) pc := rfl
    rw [e]
    refine ⟨a1, a2, fun i hi hin => ?_⟩
    have hr := permFn_range pc (fun cd hcd => hpc cd (List.mem_cons_of_mem _ hcd)) i ⟨hi, hin⟩
    rw [a3 i hi hin, xswap_x, xf_swapArr _ _ _ _ h.1 (by omega) h.2.2.1 (by omega) hr.1, permFn_cons]

/-! ### the three substitutions as pure recurrences -/
/-- forward substitution, columns `< i` done: rows `< i` are solved, rows `≥ i` hold the updated right-hand side -/
def FInv (s : St K) (n : Int) (y : Int → K) (i : Int) (x : Int → K) : Prop :=
  ∀ r, 0 ≤ r → r < n → isum 0 i (fun c => Lent s r c * x c) + (if i ≤ r then x r else 0) = y r

theorem FInv_init (s : St K) (n : Int) (y : Int → K) : FInv s n y 0 y := by
  intro r hr _
  rw [isum_empty _ (le_refl _), if_pos hr, zero_add]

theorem fwd_step {s : St K} {n : Int} {y x x' : Int → K} {i : Int} (hi : 0 ≤ i) (hin : i < n) (h : FInv s n y i x)
    (hx : ∀ r, 0 ≤ r → r < n → x' r = if i < r then x r - Lent s r i * x i else x r) : FInv s n y (i + 1) x' := by
  intro r hr0 hrn
  have h0 := h r hr0 hrn
  rw [isum_succ_right _ hi, isum_congr (g := fun c => Lent s r c * x c) (fun c h1 h2 => by rw [hx c h1 (by omega), if_neg (by omega)]),
    hx i hi hin, if_neg (lt_irrefl _)]
  rcases lt_trichotomy r i with hlt | heq | hgt
  · rw [if_neg (by omega)] at h0 ⊢
    rw [Lent_upper s hlt]; rw [← h0]; ring
  · subst heq
    rw [if_pos (le_refl _)] at h0
    rw [if_neg (by omega), Lent_diag, ← h0]; ring
  · rw [if_pos (by omega)] at h0
    rw [if_pos (by omega), hx r hr0 hrn, if_pos hgt, ← h0]; ring

/-- the two columns of a 2x2 block at once: inside the block `L` is the identity (`Lent s (i + 1) i = 0`, the stored entry belongs to `D`) -/
theorem fwd_step2 {s : St K} {n : Int} {y x x' : Int → K} {i : Int} (hi : 0 ≤ i) (hin : i + 1 < n) (hk : kind (pfn s) i = 1)
    (hk2 : kind (pfn s) (i + 1) = 2) (h : FInv s n y i x)
    (hx : ∀ r, 0 ≤ r → r < n → x' r = if i + 1 < r then x r - (s.rd r i * x i + s.rd r (i + 1) * x (i + 1)) else x r) :
    FInv s n y (i + 2) x' := by
  have s1 : FInv s n y (i + 1) (fun r => if i < r then x r - Lent s r i * x i else x r) := fwd_step hi (by omega) h (fun r _ _ => rfl)
  have s2 := fwd_step (x' := x') (i := i + 1) (by omega) hin s1 (fun r hr hrn => by
    rw [hx r hr hrn, if_pos (by omega : i < i + 1), Lent_sub s hk]
    by_cases c : i + 1 < r
    · rw [if_pos c, if_pos c, if_pos (by omega), Lent_lower s (by omega : i < r) (by omega), Lent_lower s c (by omega)]
      ring
    · rw [if_neg c, if_neg c]
      by_cases c' : i < r
      · obtain rfl : r = i + 1 := by omega
        rw [if_pos c', Lent_sub s hk]; ring
      · rw [if_neg c'])
  rwa [show i + 1 + 1 = i + 2 by ring] at s2

/-- backward substitution, rows `> i` done -/
def BInv (s : St K) (n : Int) (w : Int → K) (i : Int) (x : Int → K) : Prop :=
  ∀ r, 0 ≤ r → r < n → (r ≤ i → x r = w r) ∧ (i < r → isum 0 n (fun c => Lent s c r * x c) = w r)

theorem BInv_init (s : St K) (n : Int) (w : Int → K) : BInv s n w (n - 1) w := by
  intro r hr hrn
  exact ⟨fun _ => rfl, fun h => by omega⟩

theorem bwd_step {s : St K} {n : Int} {w x x' : Int → K} {i : Int} (hi : 0 ≤ i) (hin : i < n) (h : BInv s n w i x)
    (hx : ∀ r, 0 ≤ r → r < n → x' r = if r = i then x i - isum (i + 1) n (fun c => Lent s c i * x c) else x r) : BInv s n w (i - 1) x' := by
  intro r hr0 hrn
  constructor
  · intro hle
    rw [hx r hr0 hrn, if_neg (by omega)]
    exact (h r hr0 hrn).1 (by omega)
  · intro hlt
    by_cases e : r = i
    · subst e
      have e1 : isum (r + 1) n (fun c => Lent s c r * x' c) = isum (r + 1) n (fun c => Lent s c r * x c) :=
        isum_congr (fun c h1 h2 => by rw [hx c (by omega) h2, if_neg (by omega)])
      rw [isum_split _ r hr0 (by omega), isum_succ_left _ hrn,
        isum_zero (fun c h1 h2 => by rw [Lent_upper s h2, zero_mul]), Lent_diag, hx r hr0 hrn, if_pos rfl, e1,
        ← (h r hr0 hrn).1 (le_refl _)]
      ring
    · rw [← (h r hr0 hrn).2 (by omega)]
      apply isum_congr
      intro c h1 h2
      by_cases e' : c = i
      · subst e'; rw [Lent_upper s (by omega : c < r), zero_mul, zero_mul]
      · rw [hx c h1 h2, if_neg e']

/-- `D w = z` block by block -/
def DSpec (s : St K) (z w : Int → K) (c : Int) : Prop :=
  (kind (pfn s) c = 0 → s.rd c c * w c = z c) ∧
  (kind (pfn s) c = 1 → s.rd c c * w c + s.rd (c + 1) c * w (c + 1) = z c) ∧
  (kind (pfn s) c = 2 → s.rd c (c - 1) * w (c - 1) + s.rd c c * w c = z c)

theorem DSpec.congr_z {s : St K} {z z' w : Int → K} {c : Int} (h : DSpec s z w c) (e : z' c = z c) : DSpec s z' w c := by
  unfold DSpec at *; rw [e]; exact h

/-- row `c` of `D` has at most three entries: the diagonal one and, inside a 2x2 block, the one to its left or to its right -/
theorem Dent_row (s : St K) (c c' : Int) (w : Int → K) :
    Dent s c c' * w c' = (if c' = c then s.rd c c * w c else 0)
      + ((if c' = c - 1 then (if kind (pfn s) (c - 1) = 1 then s.rd c (c - 1) * w (c - 1) else 0) else 0)
      + (if c' = c + 1 then (if kind (pfn s) c = 1 then s.rd (c + 1) c * w (c + 1) else 0) else 0)) := by
  unfold Dent
  by_cases h0 : c = c'
  · subst h0
    have f1 : ¬ c = c - 1 := by omega
    have f2 : ¬ c = c + 1 := by omega
    simp only [f1, f2, ↓reduceIte, add_zero]
  · by_cases h1 : c = c' + 1
    · subst h1
      have f1 : ¬ c' = c' + 1 := by omega
      have f2 : ¬ c' = c' + 1 + 1 := by omega
      have f3 : c' + 1 - 1 = c' := by ring
      simp only [h0, f1, f2, f3, ↓reduceIte, true_and, false_and, add_zero, zero_add, ite_mul, zero_mul]
    · by_cases h2 : c' = c + 1
      · subst h2
        have f1 : ¬ c + 1 = c := by omega
        have f2 : ¬ c + 1 = c - 1 := by omega
        have f3 : ¬ c = c + 1 + 1 := by omega
        simp only [f1, f2, f3, h0, ↓reduceIte, true_and, false_and, zero_add, ite_mul, zero_mul]
      · have f1 : ¬ c' = c := fun h => h0 h.symm
        have f2 : ¬ c' = c - 1 := by omega
        simp only [h0, h1, h2, f1, f2, ↓reduceIte, false_and, zero_mul, add_zero]

theorem dsum {s : St K} {n : Int} {z w : Int → K} (ht : Tl (pfn s) 0 n) (h : ∀ c, 0 ≤ c → c < n → DSpec s z w c)
    (c : Int) (hc : 0 ≤ c) (hcn : c < n) : isum 0 n (fun c' => Dent s c c' * w c') = z c := by
  have hk1 := tl_kind1 ht Pre.zero
  have e : ∀ c', 0 ≤ c' → c' < n → Dent s c c' * w c' = _ := fun c' _ _ => Dent_row s c c' w
  rw [isum_congr e, isum_add, isum_add, isum_ite_eq, isum_ite_eq, isum_ite_eq, if_pos ⟨hc, hcn⟩]
  obtain ⟨d0, d1, d2⟩ := h c hc hcn
  -- an entry to the left of the diagonal exists only in the second row of a 2x2 block
  have b : kind (pfn s) c ≠ 2 → ∀ X : K, (if 0 ≤ c - 1 ∧ c - 1 < n then (if kind (pfn s) (c - 1) = 1 then X else 0) else 0) = 0 := by
    intro hne X
    split
    · rename_i hh
      rw [if_neg]
      intro hk
      have := (hk1 (c - 1) hh.1 hh.2 hk).2
      rw [show c - 1 + 1 = c by ring] at this
      exact hne this
    · rfl
  rcases kind_lt3 (pfn s) c hc with k | k | k
  · rw [← d0 k, b (by omega), if_neg (show ¬ kind (pfn s) c = 1 by omega)]
    simp only [ite_self, add_zero]
  · rw [← d1 k, b (by omega), if_pos ⟨by omega, (hk1 c hc hcn k).1⟩, if_pos k]; ring
  · obtain ⟨hc1, hkm⟩ := kind2_inv (pfn s) c hc k
    rw [← d2 k, if_pos ⟨by omega, by omega⟩, if_pos hkm, if_neg (show ¬ kind (pfn s) c = 1 by omega)]
    simp only [ite_self, add_zero]; ring

/-! ### forward substitution: the loop -/
/-- a fold that rewrites the entries `base ≤ j < base + m` one by one, each from its own old value -/
theorem fold_upd {s0 : St K} {n : Int} (step : Sv K → Int → Sv K) (base m : Int) (g : Int → K → K) (hb : 0 ≤ base) (hm : base + m ≤ n)
    (hstep : ∀ w t, 0 ≤ t → t < m → Fr s0 w → Fr s0 (step w t) ∧
      (step w t).x = w.x.setIfInBounds (base + t).toNat (g (base + t) (xf w.x (base + t))))
    (v : Sv K) (hv : Fr s0 v) (hsz : v.x.size = n.toNat) :
    Fr s0 ((intRange 0 m).foldl step v) ∧ ((intRange 0 m).foldl step v).x.size = n.toNat ∧
    ∀ j, 0 ≤ j → j < n → xf ((intRange 0 m).foldl step v).x j = if base ≤ j ∧ j < base + m then g j (xf v.x j) else xf v.x j := by
  by_cases hm0 : m ≤ 0
  · rw [intRange_empty 0 m hm0]
    exact ⟨hv, hsz, fun j _ _ => by rw [if_neg (by omega)]; rfl⟩
  · have := ListFold.foldl_intRange_inv (fun (t : Int) (w : Sv K) => Fr s0 w ∧ w.x.size = n.toNat ∧
        ∀ j, 0 ≤ j → j < n → xf w.x j = if base ≤ j ∧ j < base + t then g j (xf v.x j) else xf v.x j)
      step 0 m v (by omega) ⟨hv, hsz, fun j _ _ => by rw [if_neg (by omega)]⟩
      (fun t w ht0 htm hP => by
        obtain ⟨p1, p2, p3⟩ := hP
        obtain ⟨q1, q2⟩ := hstep w t ht0 htm p1
        refine ⟨q1, by rw [q2, Array.size_setIfInBounds, p2], fun j hj hjn => ?_⟩
        rw [q2, xf_set _ _ _ _ (by omega) (by omega) hj]
        by_cases e : j = base + t
        · rw [if_pos e, if_pos (by omega), p3 (base + t) (by omega) (by omega), if_neg (by omega), e]
        · rw [if_neg e, p3 j hj hjn]
          by_cases e2 : base ≤ j ∧ j < base + t
          · rw [if_pos e2, if_pos (by omega)]
          · rw [if_neg e2, if_neg (by omega)])
    exact this

/-- 1x1 block column `i` of the forward substitution -/
def fwdCol1 (v : Sv K) (i : Int) : Sv K :=
  let (xi, v) := v.xget i
  (intRange 0 (v.s.n - i - 1)).foldl (fun v t =>
    let (l, v) := v.cget (i + 1 + t) i
    let (r, v) := v.xget (i + 1 + t)
    v.xset (i + 1 + t) (r - l * xi)) v

/-- 2x2 block column `i, i+1` of the forward substitution -/
def fwdCol2 (v : Sv K) (i : Int) : Sv K :=
  let (xi, v) := v.xget i
  let (xi1, v) := v.xget (i + 1)
  (intRange 0 (v.s.n - i - 1 - 1)).foldl (fun v t =>
    let (l1, v) := v.cget (i + 2 + t) i
    let (l2, v) := v.cget (i + 2 + t) (i + 1)
    let (r, v) := v.xget (i + 2 + t)
    v.xset (i + 2 + t) (r - (l1 * xi + l2 * xi1))) v

theorem fwdLoop_succ (fuel : Nat) (i e : Int) (v : Sv K) :
    fwdLoop (fuel + 1) i e v =
      if i ≤ e then
        (if pfn v.s i ≥ 0 then fwdLoop fuel (i + 1) e (fwdCol1 (v.pget i).2 i) else fwdLoop fuel (i + 2) e (fwdCol2 (v.pget i).2 i))
      else v := rfl

theorem fwdCol1_spec {s0 : St K} {n : Int} (hn0 : s0.n = n) (v : Sv K) (i : Int) (hfr : Fr s0 v) (hsz : v.x.size = n.toNat) (hi : 0 ≤ i) :
    Fr s0 (fwdCol1 v i) ∧ (fwdCol1 v i).x.size = n.toNat ∧
    ∀ r, 0 ≤ r → r < n → xf (fwdCol1 v i).x r = if i < r then xf v.x r - s0.rd r i * xf v.x i else xf v.x r := by
  have hvn : v.s.n = n := by rw [hfr.n, hn0]
  have := fold_upd (s0 := s0) (n := n) (fun (v' : Sv K) t =>
      let (l, v') := v'.cget (i + 1 + t) i
      let (r, v') := v'.xget (i + 1 + t)
      v'.xset (i + 1 + t) (r - l * xf v.x i)) (i + 1) (n - i - 1) (fun r xr => xr - s0.rd r i * xf v.x i) (by omega) (by omega)
    (fun w t ht0 htm hw => ⟨fr_xset (fr_xget (fr_cget hw _ _) _) _ _, by
      show w.x.setIfInBounds (i + 1 + t).toNat (xf w.x (i + 1 + t) - w.s.rd (i + 1 + t) i * xf v.x i) = _
      rw [hw.rd]⟩) (v.xget i).2 (fr_xget hfr i) hsz
  have e : fwdCol1 v i = (intRange 0 (n - i - 1)).foldl (fun (v' : Sv K) t =>
      let (l, v') := v'.cget (i + 1 + t) i
      let (r, v') := v'.xget (i + 1 + t)
      v'.xset (i + 1 + t) (r - l * xf v.x i)) (v.xget i).2 := by
    simp only [fwdCol1, Sv.xget, xf, hvn]
  rw [e]
  refine ⟨this.1, this.2.1, fun r hr hrn => ?_⟩
  rw [this.2.2 r hr hrn]
  by_cases c : i < r
  · rw [if_pos c, if_pos (by omega)]; rfl
  · rw [if_neg c, if_neg (by omega)]; rfl

theorem fwdCol2_spec {s0 : St K} {n : Int} (hn0 : s0.n = n) (v : Sv K) (i : Int) (hfr : Fr s0 v) (hsz : v.x.size = n.toNat) (hi : 0 ≤ i) :
    Fr s0 (fwdCol2 v i) ∧ (fwdCol2 v i).x.size = n.toNat ∧
    ∀ r, 0 ≤ r → r < n → xf (fwdCol2 v i).x r =
      if i + 1 < r then xf v.x r - (s0.rd r i * xf v.x i + s0.rd r (i + 1) * xf v.x (i + 1)) else xf v.x r := by
  have hvn : v.s.n = n := by rw [hfr.n, hn0]
  have := fold_upd (s0 := s0) (n := n) (fun (v' : Sv K) t =>
      let (l1, v') := v'.cget (i + 2 + t) i
      let (l2, v') := v'.cget (i + 2 + t) (i + 1)
      let (r, v') := v'.xget (i + 2 + t)
      v'.xset (i + 2 + t) (r - (l1 * xf v.x i + l2 * xf v.x (i + 1)))) (i + 2) (n - i - 1 - 1)
    (fun r xr => xr - (s0.rd r i * xf v.x i + s0.rd r (i + 1) * xf v.x (i + 1))) (by omega) (by omega)
    (fun w t ht0 htm hw => ⟨fr_xset (fr_xget (fr_cget (fr_cget hw _ _) _ _) _) _ _, by
      show w.x.setIfInBounds (i + 2 + t).toNat (xf w.x (i + 2 + t) - (w.s.rd (i + 2 + t) i * xf v.x i + w.s.rd (i + 2 + t) (i + 1) * xf v.x (i + 1))) = _
      rw [hw.rd, hw.rd]⟩) ((v.xget i).2.xget (i + 1)).2 (fr_xget (fr_xget hfr i) (i + 1)) hsz
  have e : fwdCol2 v i = (intRange 0 (n - i - 1 - 1)).foldl (fun (v' : Sv K) t =>
      let (l1, v') := v'.cget (i + 2 + t) i
      let (l2, v') := v'.cget (i + 2 + t) (i + 1)
      let (r, v') := v'.xget (i + 2 + t)
      v'.xset (i + 2 + t) (r - (l1 * xf v.x i + l2 * xf v.x (i + 1)))) ((v.xget i).2.xget (i + 1)).2 := by
    simp only [fwdCol2, Sv.xget, xf, hvn]
  rw [e]
  refine ⟨this.1, this.2.1, fun r hr hrn => ?_⟩
  rw [this.2.2 r hr hrn]
  by_cases c : i + 1 < r
  · rw [if_pos c, if_pos (by omega)]; rfl
  · rw [if_neg c, if_neg (by omega)]; rfl

/-- the last block has no column below it: the loop may stop at `e` -/
theorem fwd_finish {s : St K} {n : Int} {y x : Int → K} {i e : Int} (hi : 0 ≤ i) (ht : Tl (pfn s) i n) (hp : Pre (pfn s) i)
    (he : e = if pfn s (n - 1) < 0 then n - 3 else n - 2) (hie : e < i) (h : FInv s n y i x) : FInv s n y n x := by
  have hle := ht.le
  cases ht with
  | nil => exact h
  | one h1 ht1 =>
    have hle1 := ht1.le
    have hin : i = n - 1 := by
      by_contra hne
      have hi2 : i = n - 2 := by split at he <;> omega
      have hcase : 0 ≤ pfn s (n - 1) ∨ n + 1 ≤ n := by
        cases ht1 with
        | nil => omega
        | one g1 _ =>
          left
          have e1 : i + 1 = n - 1 := by omega
          rw [e1] at g1; exact g1
        | two _ _ g3 => right; have := g3.le; omega
      rcases hcase with g1 | g1
      · rw [if_neg (by omega)] at he; omega
      · omega
    have := fwd_step (x' := x) hi (by omega) h (fun r hr hrn => by rw [if_neg (by omega)])
    rwa [show i + 1 = n by omega] at this
  | two h1 h2 ht2 =>
    have hle2 := ht2.le
    have hin : i = n - 2 := by split at he <;> omega
    have := fwd_step2 (x' := x) hi (by omega) (hp.kind_neg h1) (hp.kind_neg2 h1 h2) h (fun r hr hrn => by rw [if_neg (by omega)])
    rwa [show i + 2 = n by omega] at this

theorem fwdLoop_spec {s0 : St K} {n : Int} (hn0 : s0.n = n) (y : Int → K) (fuel : Nat) (i e : Int) (v : Sv K)
    (hfr : Fr s0 v) (hsz : v.x.size = n.toNat) (hi : 0 ≤ i) (hfuel : (n - i).toNat ≤ fuel)
    (ht : Tl (pfn s0) i n) (hp : Pre (pfn s0) i) (he : e = if pfn s0 (n - 1) < 0 then n - 3 else n - 2)
    (hinv : FInv s0 n y i (xf v.x)) :
    Fr s0 (fwdLoop fuel i e v) ∧ (fwdLoop fuel i e v).x.size = n.toNat ∧ FInv s0 n y n (xf (fwdLoop fuel i e v).x) := by
  induction fuel generalizing i v with
  | zero =>
    have hle := ht.le
    exact ⟨hfr, hsz, fwd_finish hi ht hp he (by split at he <;> omega) hinv⟩
  | succ fuel ih =>
    rw [fwdLoop_succ]
    split
    · rename_i hie
      have hen : e ≤ n - 2 := by split at he <;> omega
      rw [hfr.pf i]
      have hfr1 : Fr s0 (v.pget i).2 := fr_pget hfr i
      have hsz1 : (v.pget i).2.x.size = n.toNat := hsz
      split
      · rename_i hpos
        obtain ⟨c1, c2, c3⟩ := fwdCol1_spec hn0 (v.pget i).2 i hfr1 hsz1 hi
        have ht' := ht.tail1 (by omega) hpos
        have k0 := kind_of_nonneg hi hpos
        apply ih _ _ c1 c2 (by omega) (by omega) ht' (Pre.one hp hpos)
        apply fwd_step hi (by omega) hinv
        intro r hr hrn
        rw [c3 r hr hrn]
        by_cases c : i < r
        · rw [if_pos c, if_pos c, Lent_lower s0 c (by omega)]; rfl
        · rw [if_neg c, if_neg c]; rfl
      · rename_i hneg
        have hneg' : pfn s0 i < 0 := by omega
        obtain ⟨h2, ht2⟩ := ht.tail2 (by omega) hneg'
        have hle2 := ht2.le
        have k1 := hp.kind_neg hneg'
        have k2 := hp.kind_neg2 hneg' h2
        obtain ⟨c1, c2, c3⟩ := fwdCol2_spec hn0 (v.pget i).2 i hfr1 hsz1 hi
        apply ih _ _ c1 c2 (by omega) (by omega) ht2 (Pre.two hp hneg' h2)
        exact fwd_step2 hi (by omega) k1 k2 hinv c3
    · rename_i hie
      exact ⟨hfr, hsz, fwd_finish hi ht hp he (by omega) hinv⟩

/-! ### the block diagonal solve: the loop -/
def diag1 (v : Sv K) (i : Int) : Sv K :=
  let (e11, v) := v.cget i i
  let (_, v) := v.pget i
  let (xi, v) := v.xget i
  v.xset i (xi / e11)

def diag2 (v : Sv K) (i : Int) : Sv K :=
  let (e11, v) := v.cget i i
  let (_, v) := v.pget i
  let (e21, v) := v.cget (i + 1) i
  let (e22, v) := v.cget (i + 1) (i + 1)
  let (xi, v) := v.xget i
  let (xi1, v) := v.xget (i + 1)
  let (y1, y2) := solve_inplace_2x2 e11 e21 e22 xi xi1
  (v.xset i y1).xset (i + 1) y2

theorem diagLoop_succ (fuel : Nat) (i : Int) (v : Sv K) :
    diagLoop (fuel + 1) i v =
      if i < v.s.n then (if pfn v.s i ≥ 0 then diagLoop fuel (i + 1) (diag1 v i) else diagLoop fuel (i + 2) (diag2 v i)) else v := rfl

theorem diag1_spec {s0 : St K} {n : Int} (v : Sv K) (i : Int) (hfr : Fr s0 v) (hsz : v.x.size = n.toNat) (hi : 0 ≤ i) (hin : i < n) :
    Fr s0 (diag1 v i) ∧ (diag1 v i).x.size = n.toNat ∧
    ∀ r, 0 ≤ r → r < n → xf (diag1 v i).x r = if r = i then xf v.x i / s0.rd i i else xf v.x r := by
  have e : (diag1 v i).x = v.x.setIfInBounds i.toNat (xf v.x i / v.s.rd i i) := rfl
  refine ⟨fr_xset (fr_xget (fr_pget (fr_cget hfr _ _) _) _) _ _, by rw [e, Array.size_setIfInBounds, hsz], fun r hr hrn => ?_⟩
  rw [e, xf_set _ _ _ _ hi (by omega) hr, hfr.rd]

theorem diag2_spec {s0 : St K} {n : Int} (v : Sv K) (i : Int) (hfr : Fr s0 v) (hsz : v.x.size = n.toNat) (hi : 0 ≤ i) (hin : i + 1 < n) :
    Fr s0 (diag2 v i) ∧ (diag2 v i).x.size = n.toNat ∧
    ∀ r, 0 ≤ r → r < n → xf (diag2 v i).x r =
      if r = i + 1 then (solve_inplace_2x2 (s0.rd i i) (s0.rd (i + 1) i) (s0.rd (i + 1) (i + 1)) (xf v.x i) (xf v.x (i + 1))).2
      else if r = i then (solve_inplace_2x2 (s0.rd i i) (s0.rd (i + 1) i) (s0.rd (i + 1) (i + 1)) (xf v.x i) (xf v.x (i + 1))).1
      else xf v.x r := by
  have e : (diag2 v i).x = (v.x.setIfInBounds i.toNat
        (solve_inplace_2x2 (v.s.rd i i) (v.s.rd (i + 1) i) (v.s.rd (i + 1) (i + 1)) (xf v.x i) (xf v.x (i + 1))).1).setIfInBounds (i + 1).toNat
        (solve_inplace_2x2 (v.s.rd i i) (v.s.rd (i + 1) i) (v.s.rd (i + 1) (i + 1)) (xf v.x i) (xf v.x (i + 1))).2 := by
    simp only [diag2, Sv.cget, Sv.pget, Sv.xget, Sv.xset, St.getPerm, St.chk, St.rd, xf]
  refine ⟨fr_xset (fr_xset (fr_xget (fr_xget (fr_cget (fr_cget (fr_pget (fr_cget hfr _ _) _) _ _) _ _) _) _) _ _) _ _, by rw [e, Array.size_setIfInBounds, Array.size_setIfInBounds, hsz], fun r hr hrn => ?_⟩
  rw [e, xf_set _ _ _ _ (by omega) (by rw [Array.size_setIfInBounds]; omega) hr, xf_set _ _ _ _ hi (by omega) hr,
    hfr.rd, hfr.rd, hfr.rd]

theorem diagLoop_spec {s0 : St K} {n : Int} (hn0 : s0.n = n) (hE : ExactSc K) (hD : DNs n s0)
    (fuel : Nat) (i : Int) (v : Sv K)
    (hfr : Fr s0 v) (hsz : v.x.size = n.toNat) (hi : 0 ≤ i) (hfuel : (n - i).toNat ≤ fuel)
    (ht : Tl (pfn s0) i n) (hp : Pre (pfn s0) i) :
    Fr s0 (diagLoop fuel i v) ∧ (diagLoop fuel i v).x.size = n.toNat ∧
    (∀ c, 0 ≤ c → c < i → xf (diagLoop fuel i v).x c = xf v.x c) ∧
    (∀ c, i ≤ c → c < n → DSpec s0 (xf v.x) (xf (diagLoop fuel i v).x) c) := by
  induction fuel generalizing i v with
  | zero =>
    have hle := ht.le
    exact ⟨hfr, hsz, fun _ _ _ => rfl, fun c h1 h2 => by omega⟩
  | succ fuel ih =>
    rw [diagLoop_succ, hfr.n, hn0]
    split
    · rename_i hin
      rw [hfr.pf i]
      split
      · rename_i hpos
        obtain ⟨c1, c2, c3⟩ := diag1_spec (n := n) v i hfr hsz hi hin
        have ht' := ht.tail1 (by omega) hpos
        have k0 := kind_of_nonneg hi hpos
        obtain ⟨r1, r2, r3, r4⟩ := ih (i + 1) (diag1 v i) c1 c2 (by omega) (by omega) ht' (Pre.one hp hpos)
        refine ⟨r1, r2, fun c hc hci => ?_, fun c hc hcn => ?_⟩
        · rw [r3 c hc (by omega), c3 c hc (by omega), if_neg (by omega)]
        · by_cases e : c = i
          · subst e
            refine ⟨fun _ => ?_, fun h => by omega, fun h => by omega⟩
            rw [r3 c hi (by omega), c3 c hi hin, if_pos rfl]
            exact mul_div_cancel₀ _ ((hD c hi hin).1 k0)
          · exact (r4 c (by omega) hcn).congr_z (by rw [c3 c (by omega) hcn, if_neg e])
      · rename_i hneg
        have hneg' : pfn s0 i < 0 := by omega
        obtain ⟨h2, ht2⟩ := ht.tail2 (by omega) hneg'
        have hle2 := ht2.le
        have k1 := hp.kind_neg hneg'
        have k2 := hp.kind_neg2 hneg' h2
        obtain ⟨c1, c2, c3⟩ := diag2_spec (n := n) v i hfr hsz hi (by omega)
        obtain ⟨r1, r2, r3, r4⟩ := ih (i + 2) (diag2 v i) c1 c2 (by omega) (by omega) ht2 (Pre.two hp hneg' h2)
        have hs := hE.solve2 (s0.rd i i) (s0.rd (i + 1) i) (s0.rd (i + 1) (i + 1)) (xf v.x i) (xf v.x (i + 1)) ((hD i hi hin).2 k1)
        -- name the pair the 2x2 solve returns (its components are read off in `ei`, `ei1`)
        obtain ⟨Y, hY⟩ : ∃ Y, Y = solve_inplace_2x2 (s0.rd i i) (s0.rd (i + 1) i) (s0.rd (i + 1) (i + 1)) (xf v.x i) (xf v.x (i + 1)) := ⟨_, rfl⟩
        rw [← hY] at c3 hs
        have ei : xf (diagLoop fuel (i + 2) (diag2 v i)).x i = Y.1 := by
          rw [r3 i hi (by omega), c3 i hi hin, if_neg (by omega), if_pos rfl]
        have ei1 : xf (diagLoop fuel (i + 2) (diag2 v i)).x (i + 1) = Y.2 := by
          rw [r3 (i + 1) (by omega) (by omega), c3 (i + 1) (by omega) (by omega), if_pos rfl]
        refine ⟨r1, r2, fun c hc hci => ?_, fun c hc hcn => ?_⟩
        · rw [r3 c hc (by omega), c3 c hc (by omega), if_neg (by omega), if_neg (by omega)]
        · by_cases e : c = i
          · subst e
            refine ⟨fun h => by omega, fun _ => ?_, fun h => by omega⟩
            rw [ei, ei1]; exact hs.1
          · by_cases e' : c = i + 1
            · subst e'
              refine ⟨fun h => by omega, fun h => by omega, fun _ => ?_⟩
              rw [show i + 1 - 1 = i by ring, ei, ei1]; exact hs.2
            · exact (r4 c (by omega) hcn).congr_z (by rw [c3 c (by omega) hcn, if_neg e', if_neg e])
    · rename_i hin
      have hle := ht.le
      exact ⟨hfr, hsz, fun _ _ _ => rfl, fun c h1 h2 => by omega⟩

/-! ### backward substitution: the loop -/
theorem colDot_spec {s0 : St K} (hE : ExactSc K) (v : Sv K) (i j ldim : Int) (hfr : Fr s0 v) :
    (colDot v i j ldim).1 = isum (i + 1) (i + 1 + ldim) (fun c => s0.rd c j * xf v.x c) ∧
    Fr s0 (colDot v i j ldim).2 ∧ (colDot v i j ldim).2.x = v.x := by
  unfold colDot
  split
  · rename_i h
    exact ⟨by rw [isum_empty _ (by omega)]; exact hE.zero, hfr, rfl⟩
  · rename_i h
    have := ListFold.foldl_intRange_inv (fun (t : Int) (acc : K × Sv K) =>
        acc.1 = isum (i + 1) (i + 1 + t) (fun c => s0.rd c j * xf v.x c) ∧ Fr s0 acc.2 ∧ acc.2.x = v.x)
      (fun (acc : K × Sv K) t =>
        let (sum, v) := acc
        let (l, v) := v.cget (i + 1 + t) j
        let (r, v) := v.xget (i + 1 + t)
        (sum + scalarop_conj l * r, v)) 1 ldim
      (scalarop_conj (v.cget (i + 1) j).1 * ((v.cget (i + 1) j).2.xget (i + 1)).1, ((v.cget (i + 1) j).2.xget (i + 1)).2) (by omega)
      (by
        refine ⟨?_, fr_xget (fr_cget hfr _ _) _, rfl⟩
        rw [isum_succ_left _ (by omega), isum_empty _ (by omega), add_zero, ← hfr.rd]
        rfl)
      (by
        rintro t ⟨sm, w⟩ ht1 htl ⟨p1, p2, p3⟩
        refine ⟨?_, fr_xget (fr_cget p2 _ _) _, p3⟩
        rw [show i + 1 + (t + 1) = i + 1 + t + 1 by ring, isum_succ_right _ (by omega)]
        show sm + w.s.rd (i + 1 + t) j * xf w.x (i + 1 + t) = _
        have p1' : sm = isum (i + 1) (i + 1 + t) (fun c => s0.rd c j * xf v.x c) := p1
        have p3' : w.x = v.x := p3
        rw [p2.rd, p3', p1'])
    exact this

/-- one row of the backward substitution: `x[j] -= coeff(i+1.., j) · x[i+1..]` -/
def bwdRow (v : Sv K) (i j ldim : Int) : Sv K :=
  let (d, v) := colDot v i j ldim
  let (xj, v) := v.xget j
  v.xset j (xj - d)

theorem bwdLoop_succ (fuel : Nat) (i : Int) (v : Sv K) :
    bwdLoop (fuel + 1) i v =
      if i ≥ 0 then
        (if pfn (bwdRow v i i (v.s.n - i - 1)).s i < 0 then
          bwdLoop fuel (i - 2) (bwdRow ((bwdRow v i i (v.s.n - i - 1)).pget i).2 i (i - 1) (v.s.n - i - 1))
        else bwdLoop fuel (i - 1) ((bwdRow v i i (v.s.n - i - 1)).pget i).2)
      else v := rfl

theorem bwdRow_spec {s0 : St K} {n : Int} (hE : ExactSc K) (v : Sv K) (i j ldim : Int) (hfr : Fr s0 v) (hsz : v.x.size = n.toNat)
    (hj : 0 ≤ j) (hjn : j < n) :
    Fr s0 (bwdRow v i j ldim) ∧ (bwdRow v i j ldim).x.size = n.toNat ∧
    ∀ r, 0 ≤ r → r < n → xf (bwdRow v i j ldim).x r =
      if r = j then xf v.x j - isum (i + 1) (i + 1 + ldim) (fun c => s0.rd c j * xf v.x c) else xf v.x r := by
  obtain ⟨a1, a2, a3⟩ := colDot_spec hE v i j ldim hfr
  have e : (bwdRow v i j ldim).x = (colDot v i j ldim).2.x.setIfInBounds j.toNat (xf (colDot v i j ldim).2.x j - (colDot v i j ldim).1) := rfl
  refine ⟨fr_xset (fr_xget a2 _) _ _, by rw [e, Array.size_setIfInBounds, a3, hsz], fun r hr hrn => ?_⟩
  rw [e, a3, a1, xf_set _ _ _ _ hj (by omega) hr]

theorem bwdLoop_spec {s0 : St K} {n : Int} (hn0 : s0.n = n) (hE : ExactSc K) (w : Int → K) (fuel : Nat) (i : Int) (v : Sv K)
    (hfr : Fr s0 v) (hsz : v.x.size = n.toNat) (hin : i < n) (hfuel : (i + 1).toNat ≤ fuel)
    (hpre : Pre (pfn s0) (i + 1)) (hinv : BInv s0 n w i (xf v.x)) :
    Fr s0 (bwdLoop fuel i v) ∧ (bwdLoop fuel i v).x.size = n.toNat ∧ BInv s0 n w (-1) (xf (bwdLoop fuel i v).x) := by
  induction fuel generalizing i v with
  | zero =>
    have := hpre.nonneg
    have e : i = -1 := by omega
    subst e
    exact ⟨hfr, hsz, hinv⟩
  | succ fuel ih =>
    rw [bwdLoop_succ, hfr.n, hn0]
    split
    · rename_i hi0
      obtain ⟨a1, a2, a3⟩ := bwdRow_spec (n := n) hE v i i (n - i - 1) hfr hsz hi0 hin
      rw [a1.pf i]
      have e1 : i + 1 + (n - i - 1) = n := by ring
      rw [e1] at a3
      have hfr1 : Fr s0 ((bwdRow v i i (n - i - 1)).pget i).2 := fr_pget a1 i
      have step1 : kind (pfn s0) i ≠ 1 → BInv s0 n w (i - 1) (xf (bwdRow v i i (n - i - 1)).x) := by
        intro hk
        apply bwd_step hi0 hin hinv
        intro r hr hrn
        rw [a3 r hr hrn, isum_congr (f := fun c => s0.rd c i * xf v.x c) (g := fun c => Lent s0 c i * xf v.x c)
          (fun c h1 h2 => by rw [Lent_lower s0 (by omega) (fun h => hk h.1)])]
      rcases hpre.inv_succ hi0 with ⟨h1, h2⟩ | ⟨h1, h2, h3⟩
      · rw [if_neg (by omega)]
        have k0 := kind_of_nonneg hi0 h1
        exact ih _ _ hfr1 a2 (by omega) (by omega) (by rw [show i - 1 + 1 = i by ring]; exact h2) (step1 (by omega))
      · rw [if_pos h1]
        have h0 := h3.nonneg
        have k1 := h3.kind_neg h2
        have k2 : kind (pfn s0) i = 2 := by
          have := h3.kind_neg2 h2 (by rw [show i - 1 + 1 = i by ring]; exact h1)
          rwa [show i - 1 + 1 = i by ring] at this
        have hl : Lent s0 i (i - 1) = 0 := by
          have := Lent_sub s0 k1
          rwa [show i - 1 + 1 = i by ring] at this
        have s1 := step1 (by omega)
        obtain ⟨b1, b2, b3⟩ := bwdRow_spec (n := n) hE ((bwdRow v i i (n - i - 1)).pget i).2 i (i - 1) (n - i - 1) hfr1 a2 (by omega) (by omega)
        rw [e1] at b3
        apply ih _ _ b1 b2 (by omega) (by omega) (by rw [show i - 2 + 1 = i - 1 by ring]; exact h3)
        have s2 := bwd_step (i := i - 1) (x' := xf (bwdRow ((bwdRow v i i (n - i - 1)).pget i).2 i (i - 1) (n - i - 1)).x)
          (by omega) (by omega) s1 (fun r hr hrn => by
            rw [b3 r hr hrn, show i - 1 + 1 = i by ring, isum_succ_left (lo := i) _ hin, hl, zero_mul, zero_add,
              isum_congr (f := fun c => s0.rd c (i - 1) * xf ((bwdRow v i i (n - i - 1)).pget i).2.x c)
                (g := fun c => Lent s0 c (i - 1) * xf (bwdRow v i i (n - i - 1)).x c)
                (fun c h1 h2 => by rw [Lent_lower s0 (by omega) (fun h => by omega)]; rfl)]
            rfl)
        rwa [show i - 1 - 1 = i - 2 by ring] at s2
    · rename_i hi0
      have := hpre.nonneg
      have e : i = -1 := by omega
      subst e
      exact ⟨hfr, hsz, hinv⟩

/-- the last block has no row below it: the loop may start above it -/
theorem bwd_start {s : St K} {n : Int} (hn : 1 ≤ n) (hpre : Pre (pfn s) n) (x : Int → K) :
    BInv s n x (if pfn s (n - 1) < 0 then n - 3 else n - 2) x ∧ Pre (pfn s) ((if pfn s (n - 1) < 0 then n - 3 else n - 2) + 1) := by
  have s1 : BInv s n x (n - 1 - 1) x := bwd_step (i := n - 1) (by omega) (by omega) (BInv_init s n x) (fun r hr hrn => by
    split
    · rename_i h; rw [isum_empty _ (by omega), sub_zero, h]
    · rfl)
  rcases (show Pre (pfn s) (n - 1 + 1) by rwa [Int.sub_add_cancel]).inv_succ (by omega) with ⟨h1, h2⟩ | ⟨h1, h2, h3⟩
  · rw [if_neg (by omega)]
    refine ⟨by rwa [show n - 1 - 1 = n - 2 by ring] at s1, by rwa [show n - 2 + 1 = n - 1 by ring]⟩
  · rw [if_pos h1]
    rw [show n - 1 - 1 = n - 2 by ring] at h2 h3
    have h0 := h3.nonneg
    have k1 := h3.kind_neg h2
    have hl : Lent s (n - 1) (n - 2) = 0 := by
      have := Lent_sub s k1
      rwa [show n - 2 + 1 = n - 1 by ring] at this
    rw [show n - 1 - 1 = n - 2 by ring] at s1
    have s2 := bwd_step (i := n - 2) (x' := x) (by omega) (by omega) s1 (fun r hr hrn => by
      split
      · rename_i h
        rw [show n - 2 + 1 = n - 1 by ring, isum_succ_left _ (by omega), hl, isum_empty _ (by omega), h]; ring
      · rfl)
    refine ⟨by rwa [show n - 2 - 1 = n - 3 by ring] at s2, by rwa [show n - 3 + 1 = n - 2 by ring]⟩

/-! ### composition -/
theorem sum_perm {n : Int} (π π' : Int → Int) (hr : ∀ i, 0 ≤ i → i < n → 0 ≤ π i ∧ π i < n)
    (hr' : ∀ i, 0 ≤ i → i < n → 0 ≤ π' i ∧ π' i < n) (h1 : ∀ i, π' (π i) = i) (h2 : ∀ i, π (π' i) = i) (G : Int → K) :
    ∑ j ∈ Finset.range n.toNat, G (j : Int) = ∑ j ∈ Finset.range n.toNat, G (π (j : Int)) := by
  symm
  apply Finset.sum_nbij' (fun (j : Nat) => (π (j : Int)).toNat) (fun (j : Nat) => (π' (j : Int)).toNat)
  · intro a ha
    have := Finset.mem_range.1 ha
    have := hr a (by omega) (by omega)
    exact Finset.mem_range.2 (by omega)
  · intro a ha
    have := Finset.mem_range.1 ha
    have := hr' a (by omega) (by omega)
    exact Finset.mem_range.2 (by omega)
  · intro a ha
    have := Finset.mem_range.1 ha
    have := hr a (by omega) (by omega)
    show (π' ((π (a : Int)).toNat : Int)).toNat = a
    rw [Int.toNat_of_nonneg this.1, h1]; simp
  · intro a ha
    have := Finset.mem_range.1 ha
    have := hr' a (by omega) (by omega)
    show (π ((π' (a : Int)).toNat : Int)).toNat = a
    rw [Int.toNat_of_nonneg this.1, h2]; simp
  · intro a ha
    have := Finset.mem_range.1 ha
    have := hr a (by omega) (by omega)
    show G (π a) = G ((π (a : Int)).toNat : Int)
    rw [Int.toNat_of_nonneg this.1]

theorem ldl_apply (s : St K) (n i : Int) (x1 : K) (x2 x3 x4 : Int → K)
    (h2 : ∑ c ∈ Finset.range n.toNat, Lent s i (c : Int) * x2 c = x1)
    (h3 : ∀ c : Nat, c < n.toNat → ∑ c' ∈ Finset.range n.toNat, Dent s c (c' : Int) * x3 c' = x2 c)
    (h4 : ∀ c' : Nat, c' < n.toNat → ∑ j ∈ Finset.range n.toNat, Lent s (j : Int) c' * x4 j = x3 c') :
    ∑ j ∈ Finset.range n.toNat, LDLt s n i (j : Int) * x4 j = x1 := by
  rw [← h2]
  have e : ∀ c ∈ Finset.range n.toNat, Lent s i (c : Int) * x2 c =
      ∑ c' ∈ Finset.range n.toNat, ∑ j ∈ Finset.range n.toNat, Lent s i (c : Int) * Dent s c (c' : Int) * Lent s (j : Int) c' * x4 j := by
    intro c hc
    rw [← h3 c (Finset.mem_range.1 hc), Finset.mul_sum]
    apply Finset.sum_congr rfl
    intro c' hc'
    rw [← h4 c' (Finset.mem_range.1 hc'), Finset.mul_sum, Finset.mul_sum]
    apply Finset.sum_congr rfl
    intro j _
    ring
  rw [Finset.sum_congr rfl e]
  unfold LDLt
  simp only [Finset.sum_mul]
  rw [Finset.sum_comm]
  apply Finset.sum_congr rfl
  intro c _
  rw [Finset.sum_comm]

theorem solve_inplace_eq (f : Fact K) (b : Array K) :
    solve_inplace f b =
      applyPermc (bwdLoop f.s.n.toNat
        (if pfn (diagLoop f.s.n.toNat 0 (fwdLoop f.s.n.toNat 0
            (if pfn (applyPermc ⟨b, f.s⟩ f.permc).s (f.s.n - 1) < 0 then f.s.n - 3 else f.s.n - 2)
            ((applyPermc ⟨b, f.s⟩ f.permc).pget (f.s.n - 1)).2)).s (f.s.n - 1) < 0 then f.s.n - 3 else f.s.n - 2)
        ((diagLoop f.s.n.toNat 0 (fwdLoop f.s.n.toNat 0
            (if pfn (applyPermc ⟨b, f.s⟩ f.permc).s (f.s.n - 1) < 0 then f.s.n - 3 else f.s.n - 2)
            ((applyPermc ⟨b, f.s⟩ f.permc).pget (f.s.n - 1)).2)).pget (f.s.n - 1)).2) f.permc.reverse := rfl

/-- the five phases of `solve_inplace` compose to a solution of `A x = b`, for any factorization state: all that is used of `f` is
    `P A Pᵀ = L D Lᵀ`, the non-singular diagonal blocks and the tiling of `m_perm` -/
theorem _root_.BKLDLT.Fact.IsLDLT.solve (hE : ExactSc K) {A : Int → Int → K} {n : Int} {f : Fact K} (h : f.IsLDLT A n) (hn : 1 ≤ n)
    (b : Array K) (hb : b.size = n.toNat) :
    ∀ i, 0 ≤ i → i < n → ∑ j ∈ Finset.range n.toNat, A i (j : Int) * xf (solve f b) (j : Int) = xf b i := by
  have hfn := h.good.1
  have hid := h.ident
  have hD := h.dns
  have hpcr := h.permc_range
  have hpcr' : ∀ ab ∈ f.permc.reverse, 0 ≤ ab.1 ∧ ab.1 < n ∧ 0 ≤ ab.2 ∧ ab.2 < n := fun ab h => hpcr ab (List.mem_reverse.1 h)
  have htl : Tl (pfn f.s) 0 n := h.pinv.2.1
  have hpre : Pre (pfn f.s) n := h.pinv.2.2.1
  unfold BKLDLT.solve
  rw [solve_inplace_eq, hfn]
  -- phase 1
  obtain ⟨p1, p2, p3⟩ := applyPermc_spec f.permc hpcr (⟨b, f.s⟩ : Sv K) ⟨rfl, rfl, rfl⟩ hb
  generalize applyPermc (⟨b, f.s⟩ : Sv K) f.permc = v1 at p1 p2 p3 ⊢
  -- phase 2
  rw [p1.pf]
  obtain ⟨q1, q2, q3⟩ := fwdLoop_spec hfn (xf v1.x) n.toNat 0 (if pfn f.s (n - 1) < 0 then n - 3 else n - 2) (v1.pget (n - 1)).2
    (fr_pget p1 _) p2 (le_refl _) (by omega) htl Pre.zero rfl (FInv_init _ _ _)
  generalize fwdLoop n.toNat 0 (if pfn f.s (n - 1) < 0 then n - 3 else n - 2) (v1.pget (n - 1)).2 = v2 at q1 q2 q3 ⊢
  -- phase 3
  obtain ⟨d1, d2, _, d4⟩ := diagLoop_spec hfn hE hD n.toNat 0 v2 q1 q2 (le_refl _) (by omega) htl Pre.zero
  generalize diagLoop n.toNat 0 v2 = v3 at d1 d2 d4 ⊢
  -- phase 4
  rw [d1.pf]
  obtain ⟨b0, bp⟩ := bwd_start (s := f.s) hn hpre (xf v3.x)
  obtain ⟨g1, g2, g3⟩ := bwdLoop_spec hfn hE (xf v3.x) n.toNat (if pfn f.s (n - 1) < 0 then n - 3 else n - 2) (v3.pget (n - 1)).2
    (fr_pget d1 _) d2 (by split <;> omega) (by split <;> omega) bp b0
  generalize bwdLoop n.toNat (if pfn f.s (n - 1) < 0 then n - 3 else n - 2) (v3.pget (n - 1)).2 = v4 at g1 g2 g3 ⊢
  -- phase 5
  obtain ⟨_, _, t3⟩ := applyPermc_spec f.permc.reverse hpcr' v4 g1 g2
  generalize applyPermc v4 f.permc.reverse = v5 at t3 ⊢
  intro i' hi' hin'
  have hri := permFn_range f.permc.reverse hpcr' i' ⟨hi', hin'⟩
  obtain ⟨i, hi⟩ : ∃ i, i = permFn f.permc.reverse i' := ⟨_, rfl⟩
  rw [← hi] at hri
  have hπi : permFn f.permc i = i' := by rw [hi, permFn_cancel']
  rw [sum_perm (permFn f.permc) (permFn f.permc.reverse) (fun j h1 h2 => permFn_range f.permc hpcr j ⟨h1, h2⟩)
    (fun j h1 h2 => permFn_range f.permc.reverse hpcr' j ⟨h1, h2⟩) (permFn_cancel f.permc) (permFn_cancel' f.permc)
    (fun j => A i' j * xf v5.x j)]
  have e : ∀ j ∈ Finset.range n.toNat, A i' (permFn f.permc (j : Int)) * xf v5.x (permFn f.permc (j : Int)) =
      LDLt f.s n i (j : Int) * xf v4.x (j : Int) := by
    intro j hj
    have hj' := Finset.mem_range.1 hj
    have hrj := permFn_range f.permc hpcr (j : Int) ⟨by omega, by omega⟩
    rw [t3 _ hrj.1 hrj.2, permFn_cancel, ← hπi, hid i j hri.1 hri.2 (by omega) (by omega)]
  rw [Finset.sum_congr rfl e, ← hπi, ← p3 i hri.1 hri.2]
  apply ldl_apply f.s n i (xf v1.x i) (xf v2.x) (xf v3.x) (xf v4.x)
  · have := q3 i hri.1 hri.2
    rw [if_neg (by omega), add_zero, isum_range] at this
    exact this
  · intro c hc
    have := dsum htl d4 (c : Int) (by omega) (by omega)
    rw [isum_range] at this
    exact this
  · intro c' hc'
    have := (g3 (c' : Int) (by omega) (by omega)).2 (by omega)
    rw [isum_range] at this
    exact this

end

/-! ### exact arithmetic over an ordered field, the state produced by `compute` -/
section
variable {K : Type} [Field K] [LinearOrder K] [IsStrictOrderedRing K] (F : FieldFns K)

/-- `solve` after `compute` with only 1x1 pivots (every `m_perm` entry ≥ 0): then `kind = 0` everywhere, and `P A Pᵀ = L D Lᵀ` with non-zero
    diagonal entries is all that is needed -/
theorem solve_correct_1x1 (src : Array K) (rm : Bool) (n uplo : Int) (shift alpha : K) (hn : 1 ≤ n) (b : Array K) (hb : b.size = n.toNat)
    (A : Int → Int → K) :
    letI : Sc K := scOfField F
    (∀ c, 0 ≤ c → c < n → 0 ≤ pfn (compute src rm n uplo shift alpha).s c) →
    (∀ i j, 0 ≤ i → i < n → 0 ≤ j → j < n →
      A (permFn (compute src rm n uplo shift alpha).permc i) (permFn (compute src rm n uplo shift alpha).permc j)
        = LDLt (compute src rm n uplo shift alpha).s n i j) →
    (∀ c, 0 ≤ c → c < n → (compute src rm n uplo shift alpha).s.rd c c ≠ 0) →
    ∀ i, 0 ≤ i → i < n →
      ∑ j ∈ Finset.range n.toNat, A i (j : Int) * (solve (compute src rm n uplo shift alpha) b).getD j 0 = b.getD i.toNat 0 := by
  let _ : Sc K := scOfField F
  intro hpos hid hd i hi hin
  have h : (compute src rm n uplo shift alpha).IsLDLT A n := ⟨compute_ok src rm n uplo shift alpha (by omega), hid, fun c hc hcn =>
    ⟨fun _ => hd c hc hcn, fun hk => by rw [kind_of_nonneg hc (hpos c hc hcn)] at hk; omega⟩⟩
  have := h.solve (exactSc_field F) hn b hb i hi hin
  simp only [xf, Int.toNat_natCast, (exactSc_field F).zero] at this
  exact this

end
end SolveC
end BKLDLT
