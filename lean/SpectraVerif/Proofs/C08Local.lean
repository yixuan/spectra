/-
  C08 helper lemmas, part 1: the local algebra of one plane rotation / one reflector as the models write them
  (`QRModel.rotT`, `rotG`, `TridiagQR.qthqLocal`, `DoubleShiftQR.firstCol*`), over any field `K` with the exact-arithmetic
  scalar instance `scOfField F`.
-/
import Mathlib.Tactic.Ring
import Mathlib.Tactic.LinearCombination
import Mathlib.Tactic.FinCases
import Mathlib.Data.Matrix.Mul
import Mathlib.LinearAlgebra.Matrix.Notation
import Mathlib.Data.Fin.VecNotation
import Mathlib.Algebra.BigOperators.Fin
import SpectraVerif.Proofs.ScField
import SpectraVerif.Model.HessQR
import SpectraVerif.Model.TridiagQR
import SpectraVerif.Model.DoubleShiftQR

set_option linter.unusedSectionVars false

namespace C08Local
open QRModel

variable {K : Type} [Field K] [LinearOrder K] [IsStrictOrderedRing K] (F : FieldFns K)

/-- `rotT` / `rotG` use only `+ - *` and unary minus: the lemmas hold in the field for every choice of `F` (`F` is carried only
    for uniformity with the statements about `Sc`-dependent definitions) -/
abbrev rT (_F : FieldFns K) (c s x y : K) : K × K := rotT c s x y
abbrev rG (_F : FieldFns K) (c s x y : K) : K × K := rotG c s x y

theorem rT_eq (c s x y : K) : rT F c s x y = (c * x - s * y, s * x + c * y) := rfl
theorem rG_eq (c s x y : K) : rG F c s x y = (c * x + s * y, -s * x + c * y) := rfl

/-- one rotation applied to two pairs scales their inner product by `c² + s²` -/
theorem rT_inner (c s x y u v : K) :
    (rT F c s x y).1 * (rT F c s u v).1 + (rT F c s x y).2 * (rT F c s u v).2 = (c * c + s * s) * (x * u + y * v) := by
  simp only [rT_eq]; ring

theorem rG_inner (c s x y u v : K) :
    (rG F c s x y).1 * (rG F c s u v).1 + (rG F c s x y).2 * (rG F c s u v).2 = (c * c + s * s) * (x * u + y * v) := by
  simp only [rG_eq]; ring

/-- `G (G' p) = (c² + s²) p` -/
theorem rG_rT (c s x y : K) :
    rG F c s (rT F c s x y).1 (rT F c s x y).2 = ((c * c + s * s) * x, (c * c + s * s) * y) :=
  Prod.ext (by simp only [rT_eq, rG_eq]; ring) (by simp only [rT_eq, rG_eq]; ring)

theorem rT_rG (c s x y : K) :
    rT F c s (rG F c s x y).1 (rG F c s x y).2 = ((c * c + s * s) * x, (c * c + s * s) * y) :=
  Prod.ext (by simp only [rT_eq, rG_eq]; ring) (by simp only [rT_eq, rG_eq]; ring)

/-- `G' (x, y)ᵀ = (r, 0)ᵀ` exactly when the pair annihilates and reproduces `r` -/
theorem rT_annihilate (c s x y r : K) (h0 : s * x + c * y = 0) (hr : c * x - s * y = r) : rT F c s x y = (r, 0) := by
  simp only [rT_eq, h0, hr]

/-! ### TridiagQR: the closed formulas are the entries of `Gᵀ T G` -/

abbrev qloc (c s x y z : K) : K × K × K := @TridiagQR.qthqLocal K _ _ _ (scOfField F) c s x y z

theorem qloc_eq (c s x y z : K) :
    qloc F c s x y z = (c * c * x - 2 * c * s * y + s * s * z, c * s * (x - z) + (c * c - s * s) * y, s * s * x + 2 * c * s * y + c * c * z) := by
  simp only [qloc, TridiagQR.qthqLocal, ScF.ofInt]; norm_num

/-- the 3x3 window of the symmetric tridiagonal matrix and the rotation acting on its first two rows/columns -/
def T3 (x y z w u : K) : Matrix (Fin 3) (Fin 3) K := !![x, y, 0; y, z, w; 0, w, u]
def G3 (c s : K) : Matrix (Fin 3) (Fin 3) K := !![c, s, 0; -s, c, 0; 0, 0, 1]

/-- `x', y', z', o' = -s w, w' = c w, u' = u` are exactly the entries of `Gᵀ T G` -/
theorem qthq_window (c s x y z w u : K) :
    (G3 c s).transpose * T3 x y z w u * G3 c s =
      !![(qloc F c s x y z).1, (qloc F c s x y z).2.1, -s * w;
         (qloc F c s x y z).2.1, (qloc F c s x y z).2.2, c * w;
         -s * w, c * w, u] := by
  rw [qloc_eq]
  ext i j
  fin_cases i <;> fin_cases j <;>
    simp only [G3, T3, Fin.zero_eta, Fin.isValue, Fin.mk_one, Fin.reduceFinMk, Matrix.mul_apply, Matrix.transpose_apply,
      Matrix.of_apply, Matrix.cons_val', Matrix.cons_val_zero, Matrix.cons_val_fin_one, Fin.sum_univ_three,
      Matrix.cons_val_one, Matrix.cons_val] <;> ring

/-- the second update of the subdiagonal entry, `y'' = c₁ y' - s₁ o'`, is the `(1,0)` entry after the next rotation acts from
    the left on rows 1, 2; the entry `(2,0)` becomes `s₁ y' + c₁ o'`, which the code takes to be `0` (true when the rotations
    are those of the QR factorization: that is `rT_annihilate` for the next step) -/
theorem qthq_next (c1 s1 y' o' : K) : rT F c1 s1 y' o' = (c1 * y' - s1 * o', s1 * y' + c1 * o') := rfl

/-! ### DoubleShiftQR: first column of `H² - sH + tI` for an upper Hessenberg `H` (any size) -/

abbrev fc0 (_F : FieldFns K) (x00 x01 x10 s t : K) : K := DoubleShiftQR.firstCol0 x00 x01 x10 s t
abbrev fc1 (_F : FieldFns K) (x00 x10 x11 s : K) : K := DoubleShiftQR.firstCol1 x00 x10 x11 s
abbrev fc2 (_F : FieldFns K) (x21 x10 : K) : K := DoubleShiftQR.firstCol2 x21 x10

theorem first_col_hessenberg {n : Nat} (H : Matrix (Fin (n + 3)) (Fin (n + 3)) K)
    (hH : ∀ i j : Fin (n + 3), j.val + 1 < i.val → H i j = 0) (s t : K) (i : Fin (n + 3)) :
    (H * H - s • H + t • (1 : Matrix (Fin (n + 3)) (Fin (n + 3)) K)) i 0 =
      if i.val = 0 then fc0 F (H 0 0) (H 0 1) (H 1 0) s t
      else if i.val = 1 then fc1 F (H 0 0) (H 1 0) (H 1 1) s
      else if i.val = 2 then fc2 F (H 2 1) (H 1 0) else 0 := by
  have hsum : (H * H) i 0 = H i 0 * H 0 0 + H i 1 * H 1 0 := by
    rw [Matrix.mul_apply]
    apply Fintype.sum_eq_add (0 : Fin (n + 3)) 1 (by intro h; have := congrArg Fin.val h; simp at this)
    intro k hk
    have hk2 : 2 ≤ k.val := by
      rcases hk with ⟨h0, h1⟩
      have : k.val ≠ 0 := fun h => h0 (Fin.ext h)
      have : k.val ≠ 1 := fun h => h1 (Fin.ext h)
      omega
    rw [hH k 0 (by simp; omega)]; ring
  have v1 : ((1 : Fin (n + 3)) : Nat) = 1 := by simp
  have v2 : ((2 : Fin (n + 3)) : Nat) = 2 := Fin.val_two
  simp only [Matrix.add_apply, Matrix.sub_apply, Matrix.smul_apply, smul_eq_mul, hsum, Matrix.one_apply,
    fc0, fc1, fc2, DoubleShiftQR.firstCol0, DoubleShiftQR.firstCol1, DoubleShiftQR.firstCol2]
  by_cases h0 : i.val = 0
  · have hi : i = 0 := Fin.ext h0
    rw [if_pos h0, hi]; simp only [if_true]; ring
  have hne : i ≠ 0 := fun h => h0 (by rw [h]; rfl)
  by_cases h1 : i.val = 1
  · have hi : i = 1 := Fin.ext (by rw [v1]; exact h1)
    rw [if_neg h0, if_pos h1, if_neg hne, hi]; ring
  by_cases h2 : i.val = 2
  · have hi : i = 2 := Fin.ext (by rw [v2]; exact h2)
    have z : H i 0 = 0 := hH i 0 (by simp; omega)
    rw [if_neg h0, if_neg h1, if_pos h2, if_neg hne, z, hi]; ring
  · have hi : 3 ≤ i.val := by omega
    have z0 : H i 0 = 0 := hH i 0 (by simp; omega)
    have z1 : H i 1 = 0 := hH i 1 (by rw [v1]; omega)
    rw [if_neg h0, if_neg h1, if_neg h2, if_neg hne, z0, z1]; ring

/-- if the unit reflector `P = I − 2uuᵀ` maps `x` to `κ e₁` (what `compute_reflector` guarantees, `κ = ρ‖x‖`), then the first
    column of `P` is `x / κ`:  `κ · P e₁ = x`, i.e. `P e₁ ∥ x` -/
theorem refl_first_col {K : Type} [Field K] (u0 u1 u2 x1 x2 x3 κ : K) (hu : u0 * u0 + u1 * u1 + u2 * u2 = 1)
    (h1 : x1 - 2 * (u0 * x1 + u1 * x2 + u2 * x3) * u0 = κ)
    (h2 : x2 - 2 * (u0 * x1 + u1 * x2 + u2 * x3) * u1 = 0)
    (h3 : x3 - 2 * (u0 * x1 + u1 * x2 + u2 * x3) * u2 = 0) :
    κ * (1 - 2 * u0 * u0) = x1 ∧ κ * (-(2 * u0 * u1)) = x2 ∧ κ * (-(2 * u0 * u2)) = x3 := by
  have hd : 2 * (u0 * x1 + u1 * x2 + u2 * x3) = -(2 * κ * u0) := by
    linear_combination (-2 * u0) * h1 + (-2 * u1) * h2 + (-2 * u2) * h3 + (-4 * (u0 * x1 + u1 * x2 + u2 * x3)) * hu
  refine ⟨?_, ?_, ?_⟩
  · rw [hd] at h1; linear_combination (-1 : K) * h1
  · rw [hd] at h2; linear_combination (-1 : K) * h2
  · rw [hd] at h3; linear_combination (-1 : K) * h3

end C08Local
