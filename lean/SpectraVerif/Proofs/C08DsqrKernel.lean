/-
  C08 — the three reflector kernels of `QRModel.DoubleShiftQR` (Model/DoubleShiftQR.lean), entry by entry.

  A call `apply_XP(Y.block(r0, c0, nrow, ·), ind)` turns, in every row `a` of the block, the `m` entries `x = Y(a, c0 … c0+m−1)`
  into `x − 2 (x·u) u`, `u` the stored column `ind` of `m_ref_u`; `m = 2` if the code takes its two-column loop
  (`nr[ind] = 2 ∨ ncol = 2`), else `3`; nothing happens when `nr[ind] = 1`.  Written with the dot product `wdot` and the column
  placed at its window `wvec`, this reads `Y'(a, b) = Y(a, b) − 2 · wdot u x m · wvec u c0 m b` for EVERY column `b`: outside
  the window `wvec` vanishes, so no case distinction on `b` is left.  `apply_PX` is the same with rows and columns exchanged,
  `apply_PX_vec` the same on a vector.

  Section `Generic` works over any field `α` with any `Sc α` whose `Sc.ofInt 2 = c`; `AtField` instantiates at `scOfField F`
  (`apply_*_window`) and derives the forms with one formula per position of the window (`apply_*_spec`; `window_two`, `window_three`).
-/
import Mathlib.Tactic.Ring
import Mathlib.Algebra.Order.Field.Basic
import SpectraVerif.Model.DoubleShiftQR
import SpectraVerif.Proofs.ScField
import SpectraVerif.Proofs.C08Mat

set_option linter.unusedSectionVars false

namespace C08DsqrQ
open Lin QRModel C08Mat
open QRModel.DoubleShiftQR

section Generic
variable {α : Type} [Field α]

/-- `x·u` on the `m` live entries (`m = 2`; any other `m` stands for `3`) -/
def wdot (uu x : Nat → α) : Nat → α
  | 2 => x 0 * uu 0 + x 1 * uu 1
  | _ => x 0 * uu 0 + x 1 * uu 1 + x 2 * uu 2

/-- the column `uu` placed at the positions `c0 … c0 + m − 1` -/
def wvec (uu : Nat → α) (c0 m b : Nat) : α := if c0 ≤ b ∧ b < c0 + m then uu (b - c0) else 0

theorem wdot_zero (uu x : Nat → α) {m : Nat} (hm : m = 2 ∨ m = 3) (hx : ∀ d, d < m → x d = 0) : wdot uu x m = 0 := by
  rcases hm with rfl | rfl
  · simp only [wdot, hx 0 (by omega), hx 1 (by omega)]; ring
  · simp only [wdot, hx 0 (by omega), hx 1 (by omega), hx 2 (by omega)]; ring

theorem wvec_in (uu : Nat → α) (c0 : Nat) {m d : Nat} (hd : d < m) : wvec uu c0 m (c0 + d) = uu d := by
  unfold wvec
  rw [if_pos (by omega), Nat.add_sub_cancel_left]

theorem wvec_two (uu : Nat → α) (c0 b : Nat) :
    wvec uu c0 2 b = if b = c0 then uu 0 else if b = c0 + 1 then uu 1 else 0 := by
  unfold wvec
  by_cases h0 : b = c0
  · rw [if_pos (by omega), if_pos h0, h0, Nat.sub_self]
  · rw [if_neg h0]
    by_cases h1 : b = c0 + 1
    · rw [if_pos (by omega), if_pos h1, h1, Nat.add_sub_cancel_left]
    · rw [if_neg h1, if_neg (by omega)]

theorem wvec_three (uu : Nat → α) (c0 b : Nat) :
    wvec uu c0 3 b = if b = c0 then uu 0 else if b = c0 + 1 then uu 1 else if b = c0 + 2 then uu 2 else 0 := by
  unfold wvec
  by_cases h0 : b = c0
  · rw [if_pos (by omega), if_pos h0, h0, Nat.sub_self]
  · rw [if_neg h0]
    by_cases h1 : b = c0 + 1
    · rw [if_pos (by omega), if_pos h1, h1, Nat.add_sub_cancel_left]
    · rw [if_neg h1]
      by_cases h2 : b = c0 + 2
      · rw [if_pos (by omega), if_pos h2, h2, Nat.add_sub_cancel_left]
      · rw [if_neg h2, if_neg (by omega)]

/-- the window form at `m = 2` by cases on the position `b`; `t` is the scaled dot product in the caller's spelling -/
theorem window_two (c : α) (uu x : Nat → α) (c0 b : Nat) (y t : α) (hy : ∀ d, b = c0 + d → y = x d)
    (ht : c * (x 0 * uu 0 + x 1 * uu 1) = t) :
    y - c * wdot uu x 2 * wvec uu c0 2 b =
      if b = c0 then x 0 - t * uu 0 else if b = c0 + 1 then x 1 - t * uu 1 else y := by
  rw [wvec_two, ← ht]
  split_ifs with h0 h1
  · rw [hy 0 h0]; rfl
  · rw [hy 1 h1]; rfl
  · rw [mul_zero, sub_zero]

theorem window_three (c : α) (uu x : Nat → α) (c0 b : Nat) (y t : α) (hy : ∀ d, b = c0 + d → y = x d)
    (ht : c * (x 0 * uu 0 + x 1 * uu 1 + x 2 * uu 2) = t) :
    y - c * wdot uu x 3 * wvec uu c0 3 b =
      if b = c0 then x 0 - t * uu 0 else if b = c0 + 1 then x 1 - t * uu 1
      else if b = c0 + 2 then x 2 - t * uu 2 else y := by
  rw [wvec_three, ← ht]
  split_ifs with h0 h1 h2
  · rw [hy 0 h0]; rfl
  · rw [hy 1 h1]; rfl
  · rw [hy 2 h2]; rfl
  · rw [mul_zero, sub_zero]

theorem dot_two_comm (c u0 u1 x0 x1 : α) : c * (x0 * u0 + x1 * u1) = c * u0 * x0 + c * u1 * x1 := by ring

theorem dot_three_comm (c u0 u1 u2 x0 x1 x2 : α) :
    c * (x0 * u0 + x1 * u1 + x2 * u2) = c * u0 * x0 + c * u1 * x1 + c * u2 * x2 := by ring

/-- the new value of the `k`-th touched entry: `x_k − c (x·u) u_k` -/
def nvP (c : α) (uu : Nat → α) (m k : Nat) (x : Nat → α) : α := x k - c * wdot uu x m * uu k

theorem nvP_cong (c : α) (uu : Nat → α) {m : Nat} (hm : m = 2 ∨ m = 3) (k : Nat) (x x' : Nat → α) (hk : k < m)
    (h : ∀ k', k' < m → x k' = x' k') : nvP c uu m k x = nvP c uu m k x' := by
  unfold nvP
  rcases hm with rfl | rfl
  · simp only [wdot]; rw [h k hk, h 0 (by omega), h 1 (by omega)]
  · simp only [wdot]; rw [h k hk, h 0 (by omega), h 1 (by omega), h 2 (by omega)]

variable [Sc α]

/-- step with three entries -/
def upd3 (f : α → α → α → α × α × α) (pr pc : Nat → Nat → Nat) (H : Mat α) (i : Nat) : Mat α :=
  ((H.set (pr i 0) (pc i 0)
      (f (H.get (pr i 0) (pc i 0)) (H.get (pr i 1) (pc i 1)) (H.get (pr i 2) (pc i 2))).1).set (pr i 1) (pc i 1)
      (f (H.get (pr i 0) (pc i 0)) (H.get (pr i 1) (pc i 1)) (H.get (pr i 2) (pc i 2))).2.1).set (pr i 2) (pc i 2)
      (f (H.get (pr i 0) (pc i 0)) (H.get (pr i 1) (pc i 1)) (H.get (pr i 2) (pc i 2))).2.2

/-- `(x0, x1) ↦ x − tmp u`, `tmp = c u0 x0 + c u1 x1` (the code's evaluation order; `c = 2`) -/
def P2 (c u0 u1 x0 x1 : α) : α × α :=
  (x0 - (c * u0 * x0 + c * u1 * x1) * u0, x1 - (c * u0 * x0 + c * u1 * x1) * u1)

/-- `(x0, x1, x2) ↦ x − tmp u`, `tmp = c u0 x0 + c u1 x1 + c u2 x2` -/
def P3 (c u0 u1 u2 x0 x1 x2 : α) : α × α × α :=
  (x0 - (c * u0 * x0 + c * u1 * x1 + c * u2 * x2) * u0, x1 - (c * u0 * x0 + c * u1 * x1 + c * u2 * x2) * u1,
   x2 - (c * u0 * x0 + c * u1 * x1 + c * u2 * x2) * u2)

theorem upd2_ok (c : α) (uu : Nat → α) (pr pc : Nat → Nat → Nat) (R C cnt : Nat)
    (hin : ∀ i k, i < cnt → k < 2 → pr i k < R ∧ pc i k < C)
    (hd : ∀ i, i < cnt → ¬ (pr i 0 = pr i 1 ∧ pc i 0 = pc i 1)) :
    StepOK (upd2 (P2 c (uu 0) (uu 1)) pr pc) 2 pr pc (nvP c uu 2) R C cnt :=
  (C08Mat.upd2_ok (P2 c (uu 0) (uu 1)) pr pc R C cnt hin hd).congr_nv (fun k x hk => by
    have hk' : k = 0 ∨ k = 1 := by omega
    rcases hk' with rfl | rfl <;> simp only [pairNv, P2, nvP, wdot, if_true, Nat.one_ne_zero, if_false] <;> ring)

theorem upd3_ok (c : α) (uu : Nat → α) (pr pc : Nat → Nat → Nat) (R C cnt : Nat)
    (hin : ∀ i k, i < cnt → k < 3 → pr i k < R ∧ pc i k < C)
    (hd : ∀ i k k', i < cnt → k < 3 → k' < 3 → pr i k = pr i k' → pc i k = pc i k' → k = k') :
    StepOK (upd3 (P3 c (uu 0) (uu 1) (uu 2)) pr pc) 3 pr pc (nvP c uu 3) R C cnt := by
  intro Z hw hr hc i hi
  obtain ⟨a0, b0⟩ := hin i 0 hi (by omega)
  obtain ⟨a1, b1⟩ := hin i 1 hi (by omega)
  obtain ⟨a2, b2⟩ := hin i 2 hi (by omega)
  subst hr; subst hc
  have d01 : ¬ (pr i 0 = pr i 1 ∧ pc i 0 = pc i 1) := fun h => by
    have := hd i 0 1 hi (by omega) (by omega) h.1 h.2; omega
  have d02 : ¬ (pr i 0 = pr i 2 ∧ pc i 0 = pc i 2) := fun h => by
    have := hd i 0 2 hi (by omega) (by omega) h.1 h.2; omega
  have d12 : ¬ (pr i 1 = pr i 2 ∧ pc i 1 = pc i 2) := fun h => by
    have := hd i 1 2 hi (by omega) (by omega) h.1 h.2; omega
  unfold upd3
  refine ⟨set_WF (set_WF (set_WF hw _ _ _) _ _ _) _ _ _, by simp, by simp, ?_, ?_⟩
  · intro k hk
    rw [get_set3 hw _ _ _ a0 b0 a1 b1 a2 b2 (hin i k hi hk).1]
    have hk' : k = 0 ∨ k = 1 ∨ k = 2 := by omega
    rcases hk' with rfl | rfl | rfl
    · rw [if_neg d02, if_neg d01, if_pos ⟨rfl, rfl⟩]; simp only [P3, nvP, wdot]; ring
    · rw [if_neg d12, if_pos ⟨rfl, rfl⟩]; simp only [P3, nvP, wdot]; ring
    · rw [if_pos ⟨rfl, rfl⟩]; simp only [P3, nvP, wdot]; ring
  · intro a b ha hne
    rw [get_set3 hw _ _ _ a0 b0 a1 b1 a2 b2 ha,
      if_neg (fun h => hne 2 (by omega) ⟨h.1.symm, h.2.symm⟩),
      if_neg (fun h => hne 1 (by omega) ⟨h.1.symm, h.2.symm⟩),
      if_neg (fun h => hne 0 (by omega) ⟨h.1.symm, h.2.symm⟩)]

/-- a loop over the rows `r0 + i` of `y` that rewrites the entries `c0 … c0 + m − 1` of each, in window form.  `z`, `y` are functions of
    two indices: for `apply_XP` the matrices, for `apply_PX` the matrices with the indices exchanged -/
theorem window {z y : Nat → Nat → α} (c : α) (uu : Nat → α) {m r0 c0 cnt R C : Nat}
    (ht : ∀ i k, i < cnt → k < m → z (r0 + i) (c0 + k) = nvP c uu m k (fun d => y (r0 + i) (c0 + d)))
    (hu : ∀ a b, a < R → b < C → (∀ i k, i < cnt → k < m → ¬ (r0 + i = a ∧ c0 + k = b)) → z a b = y a b)
    {a b : Nat} (ha : a < R) (hb : b < C) :
    z a b = if r0 ≤ a ∧ a < r0 + cnt then y a b - c * wdot uu (fun d => y a (c0 + d)) m * wvec uu c0 m b else y a b := by
  by_cases hin : r0 ≤ a ∧ a < r0 + cnt
  · rw [if_pos hin]
    unfold wvec
    by_cases hwin : c0 ≤ b ∧ b < c0 + m
    · have h := ht (a - r0) (b - c0) (by omega) (by omega)
      rw [show r0 + (a - r0) = a by omega, show c0 + (b - c0) = b by omega] at h
      rw [h, if_pos hwin, nvP, show c0 + (b - c0) = b by omega]
    · rw [if_neg hwin, hu a b ha hb (by intro i k hi hk; omega)]; ring
  · rw [if_neg hin]
    exact hu a b ha hb (by intro i k hi hk; omega)

/-! ### the kernels `apply_XP`, `apply_PX`, `apply_PX_vec` -/

theorem apply_XP_one (Y u : Mat α) (nr : Array Nat) (r0 c0 nrow ncol ind : Nat) (h : nr.getD ind 0 = 1) :
    apply_XP Y u nr r0 c0 nrow ncol ind = Y := by
  unfold apply_XP; simp [h]

theorem apply_PX_one (Y u : Mat α) (nr : Array Nat) (r0 c0 nrow ncol ind : Nat) (h : nr.getD ind 0 = 1) :
    apply_PX Y u nr r0 c0 nrow ncol ind = Y := by
  unfold apply_PX; simp [h]

theorem apply_PX_vec_one (u : Mat α) (nr : Array Nat) (y : Vec α) (off ind : Nat) (h : nr.getD ind 0 = 1) :
    apply_PX_vec u nr y off ind = y := by
  unfold apply_PX_vec; simp [h]

theorem apply_XP_eq2 (Y u : Mat α) (nr : Array Nat) (r0 c0 nrow ncol ind : Nat) (h1 : nr.getD ind 0 ≠ 1)
    (h2 : nr.getD ind 0 = 2 ∨ ncol = 2) :
    apply_XP Y u nr r0 c0 nrow ncol ind =
      (List.range nrow).foldl (upd2 (P2 (Sc.ofInt 2) (u.get 0 ind) (u.get 1 ind)) (fun i _ => r0 + i) (fun _ k => c0 + k)) Y := by
  unfold apply_XP
  have e1 : (nr.getD ind 0 == 1) = false := by simpa using h1
  have e2 : (nr.getD ind 0 == 2 || ncol == 2) = true := by simpa using h2
  simp only [e1, e2, ↓reduceIte, Bool.false_eq_true]
  rfl

theorem apply_XP_eq3 (Y u : Mat α) (nr : Array Nat) (r0 c0 nrow ncol ind : Nat) (h1 : nr.getD ind 0 ≠ 1)
    (h2 : ¬ (nr.getD ind 0 = 2 ∨ ncol = 2)) :
    apply_XP Y u nr r0 c0 nrow ncol ind =
      (List.range nrow).foldl (upd3 (P3 (Sc.ofInt 2) (u.get 0 ind) (u.get 1 ind) (u.get 2 ind))
        (fun i _ => r0 + i) (fun _ k => c0 + k)) Y := by
  unfold apply_XP
  have e1 : (nr.getD ind 0 == 1) = false := by simpa using h1
  have e2 : (nr.getD ind 0 == 2 || ncol == 2) = false := by simpa using h2
  simp only [e1, e2, ↓reduceIte, Bool.false_eq_true]
  rfl

theorem apply_PX_eq2 (Y u : Mat α) (nr : Array Nat) (r0 c0 nrow ncol ind : Nat) (h1 : nr.getD ind 0 ≠ 1)
    (h2 : nr.getD ind 0 = 2 ∨ nrow = 2) :
    apply_PX Y u nr r0 c0 nrow ncol ind =
      (List.range ncol).foldl (upd2 (P2 (Sc.ofInt 2) (u.get 0 ind) (u.get 1 ind)) (fun _ k => r0 + k) (fun i _ => c0 + i)) Y := by
  unfold apply_PX
  have e1 : (nr.getD ind 0 == 1) = false := by simpa using h1
  have e2 : (nr.getD ind 0 == 2 || nrow == 2) = true := by simpa using h2
  simp only [e1, e2, ↓reduceIte, Bool.false_eq_true]
  rfl

theorem apply_PX_eq3 (Y u : Mat α) (nr : Array Nat) (r0 c0 nrow ncol ind : Nat) (h1 : nr.getD ind 0 ≠ 1)
    (h2 : ¬ (nr.getD ind 0 = 2 ∨ nrow = 2)) :
    apply_PX Y u nr r0 c0 nrow ncol ind =
      (List.range ncol).foldl (upd3 (P3 (Sc.ofInt 2) (u.get 0 ind) (u.get 1 ind) (u.get 2 ind))
        (fun _ k => r0 + k) (fun i _ => c0 + i)) Y := by
  unfold apply_PX
  have e1 : (nr.getD ind 0 == 1) = false := by simpa using h1
  have e2 : (nr.getD ind 0 == 2 || nrow == 2) = false := by simpa using h2
  simp only [e1, e2, ↓reduceIte, Bool.false_eq_true]
  rfl

/-- `apply_XP` with `nr[ind] ≠ 1`: `m` is the number of columns the loop the code takes works on -/
theorem apply_XP_get {c : α} (hc2 : (Sc.ofInt 2 : α) = c) {Y : Mat α} (hw : WF Y) (u : Mat α) (nr : Array Nat)
    (r0 c0 nrow ncol ind : Nat) (hr : r0 + nrow ≤ Y.rows) (h1 : nr.getD ind 0 ≠ 1) (m : Nat)
    (hm : m = if nr.getD ind 0 = 2 ∨ ncol = 2 then 2 else 3) (hc : c0 + m ≤ Y.cols)
    {a b : Nat} (ha : a < Y.rows) (hb : b < Y.cols) :
    (apply_XP Y u nr r0 c0 nrow ncol ind).get a b =
      if r0 ≤ a ∧ a < r0 + nrow then
        Y.get a b - c * wdot (fun d => u.get d ind) (fun d => Y.get a (c0 + d)) m * wvec (fun d => u.get d ind) c0 m b
      else Y.get a b := by
  subst hc2
  by_cases h2 : nr.getD ind 0 = 2 ∨ ncol = 2
  · rw [if_pos h2] at hm; subst hm
    rw [apply_XP_eq2 Y u nr r0 c0 nrow ncol ind h1 h2]
    obtain ⟨_, _, _, ht, hu⟩ := fold_spec
      (upd2_ok (Sc.ofInt 2) (fun d => u.get d ind) (fun i _ => r0 + i) (fun _ k => c0 + k) Y.rows Y.cols nrow
        (by intro i k hi hk; constructor <;> omega) (by intro i hi; omega))
      (by intro i k hi hk; constructor <;> omega) (by intro i i' k k' _ _ _ _ h _; omega)
      (nvP_cong _ _ (Or.inl rfl)) hw rfl rfl nrow (Nat.le_refl _)
    exact window (z := Mat.get _) (y := Y.get) _ _ ht (fun a b ha _ => hu a b ha) ha hb
  · rw [if_neg h2] at hm; subst hm
    rw [apply_XP_eq3 Y u nr r0 c0 nrow ncol ind h1 h2]
    obtain ⟨_, _, _, ht, hu⟩ := fold_spec
      (upd3_ok (Sc.ofInt 2) (fun d => u.get d ind) (fun i _ => r0 + i) (fun _ k => c0 + k) Y.rows Y.cols nrow
        (by intro i k hi hk; constructor <;> omega) (by intro i k k' hi hk hk' _ h; omega))
      (by intro i k hi hk; constructor <;> omega) (by intro i i' k k' _ _ _ _ h _; omega)
      (nvP_cong _ _ (Or.inr rfl)) hw rfl rfl nrow (Nat.le_refl _)
    exact window (z := Mat.get _) (y := Y.get) _ _ ht (fun a b ha _ => hu a b ha) ha hb

/-- `apply_PX` with `nr[ind] ≠ 1`: `m` is the number of rows the loop the code takes works on -/
theorem apply_PX_get {c : α} (hc2 : (Sc.ofInt 2 : α) = c) {Y : Mat α} (hw : WF Y) (u : Mat α) (nr : Array Nat)
    (r0 c0 nrow ncol ind : Nat) (hc : c0 + ncol ≤ Y.cols) (h1 : nr.getD ind 0 ≠ 1) (m : Nat)
    (hm : m = if nr.getD ind 0 = 2 ∨ nrow = 2 then 2 else 3) (hr : r0 + m ≤ Y.rows)
    {a b : Nat} (ha : a < Y.rows) (hb : b < Y.cols) :
    (apply_PX Y u nr r0 c0 nrow ncol ind).get a b =
      if c0 ≤ b ∧ b < c0 + ncol then
        Y.get a b - c * wdot (fun d => u.get d ind) (fun d => Y.get (r0 + d) b) m * wvec (fun d => u.get d ind) r0 m a
      else Y.get a b := by
  subst hc2
  by_cases h2 : nr.getD ind 0 = 2 ∨ nrow = 2
  · rw [if_pos h2] at hm; subst hm
    rw [apply_PX_eq2 Y u nr r0 c0 nrow ncol ind h1 h2]
    obtain ⟨_, _, _, ht, hu⟩ := fold_spec
      (upd2_ok (Sc.ofInt 2) (fun d => u.get d ind) (fun _ k => r0 + k) (fun i _ => c0 + i) Y.rows Y.cols ncol
        (by intro i k hi hk; constructor <;> omega) (by intro i hi; omega))
      (by intro i k hi hk; constructor <;> omega) (by intro i i' k k' _ _ _ _ _ h; omega)
      (nvP_cong _ _ (Or.inl rfl)) hw rfl rfl ncol (Nat.le_refl _)
    exact window (z := fun b a => Mat.get _ a b) (y := fun b a => Y.get a b) _ _ ht
      (fun b a _ ha hne => hu a b ha (fun i k hi hk h => hne i k hi hk ⟨h.2, h.1⟩)) hb ha
  · rw [if_neg h2] at hm; subst hm
    rw [apply_PX_eq3 Y u nr r0 c0 nrow ncol ind h1 h2]
    obtain ⟨_, _, _, ht, hu⟩ := fold_spec
      (upd3_ok (Sc.ofInt 2) (fun d => u.get d ind) (fun _ k => r0 + k) (fun i _ => c0 + i) Y.rows Y.cols ncol
        (by intro i k hi hk; constructor <;> omega) (by intro i k k' hi hk hk' h _; omega))
      (by intro i k hi hk; constructor <;> omega) (by intro i i' k k' _ _ _ _ _ h; omega)
      (nvP_cong _ _ (Or.inr rfl)) hw rfl rfl ncol (Nat.le_refl _)
    exact window (z := fun b a => Mat.get _ a b) (y := fun b a => Y.get a b) _ _ ht
      (fun b a _ ha hne => hu a b ha (fun i k hi hk h => hne i k hi hk ⟨h.2, h.1⟩)) hb ha

/-- `apply_PX_vec` with `nr[ind] ≠ 1`: the three-entry form is taken unless `nr[ind] = 2` -/
theorem apply_PX_vec_get (hz : (zero : α) = 0) {c : α} (hc2 : (Sc.ofInt 2 : α) = c) (u : Mat α) (nr : Array Nat)
    (y : Vec α) (off ind : Nat) (h1 : nr.getD ind 0 ≠ 1) (m : Nat) (hm : m = if nr.getD ind 0 = 2 then 2 else 3)
    (hs : off + m ≤ y.size) (a : Nat) :
    vget (apply_PX_vec u nr y off ind) a =
      vget y a - c * wdot (fun d => u.get d ind) (fun d => vget y (off + d)) m * wvec (fun d => u.get d ind) off m a := by
  subst hc2
  unfold apply_PX_vec
  have e1 : (nr.getD ind 0 == 1) = false := by simpa using h1
  by_cases h2 : nr.getD ind 0 = 2
  · rw [if_pos h2] at hm; subst hm
    have e2 : (nr.getD ind 0 == 2) = true := by simp [h2]
    simp only [e1, e2, ↓reduceIte, Bool.false_eq_true, hz, add_zero]
    rw [vget_vset _ _ (by rw [vset_size]; omega), vget_vset _ _ (by omega), wvec_two]
    simp only [wdot, Nat.add_zero]
    by_cases a1 : a = off + 1
    · subst a1; rw [if_pos rfl, if_neg (by omega), if_pos rfl]
    · rw [if_neg a1]
      by_cases a0 : a = off
      · subst a0; rw [if_pos rfl, if_pos rfl]
      · rw [if_neg a0, if_neg a0, if_neg a1]; ring
  · rw [if_neg h2] at hm; subst hm
    have e2 : (nr.getD ind 0 == 2) = false := by simpa using h2
    simp only [e1, e2, ↓reduceIte, Bool.false_eq_true]
    have s1 : off + 1 < (vset y off
        (vget y off - Sc.ofInt 2 * (vget y off * u.get 0 ind + vget y (off + 1) * u.get 1 ind + vget y (off + 2) * u.get 2 ind)
          * u.get 0 ind)).size := by rw [vset_size]; omega
    rw [vget_vset _ _ (by rw [vset_size, vset_size]; omega), vget_vset _ _ s1, vget_vset _ _ (by omega),
      vget_vset _ _ s1, vget_vset _ _ (by omega), wvec_three]
    simp only [wdot, Nat.add_zero]
    by_cases a2 : a = off + 2
    · subst a2
      rw [if_pos rfl, if_neg (by omega), if_neg (by omega), if_neg (by omega), if_neg (by omega), if_pos rfl]
    · rw [if_neg a2]
      by_cases a1 : a = off + 1
      · subst a1; rw [if_pos rfl, if_neg (by omega), if_pos rfl]
      · rw [if_neg a1]
        by_cases a0 : a = off
        · subst a0; rw [if_pos rfl, if_pos rfl]
        · rw [if_neg a0, if_neg a0, if_neg a1, if_neg a2]; ring

/-! shape preservation needs no range hypothesis (`Mat.set` never changes the shape) -/

theorem foldl_dims (g : Mat α → Nat → Mat α)
    (hg : ∀ Z i, WF Z → WF (g Z i) ∧ (g Z i).rows = Z.rows ∧ (g Z i).cols = Z.cols) (l : List Nat) {Y : Mat α} (hw : WF Y) :
    WF (l.foldl g Y) ∧ (l.foldl g Y).rows = Y.rows ∧ (l.foldl g Y).cols = Y.cols :=
  ListFold.foldl_inv (fun Z => WF Z ∧ Z.rows = Y.rows ∧ Z.cols = Y.cols) g l Y ⟨hw, rfl, rfl⟩
    (fun Z i _ h => let ⟨a, b, c⟩ := hg Z i h.1; ⟨a, b.trans h.2.1, c.trans h.2.2⟩)

theorem upd2_dims (f : α → α → α × α) (pr pc : Nat → Nat → Nat) (Z : Mat α) (i : Nat) (wz : WF Z) :
    WF (upd2 f pr pc Z i) ∧ (upd2 f pr pc Z i).rows = Z.rows ∧ (upd2 f pr pc Z i).cols = Z.cols :=
  ⟨set_WF (set_WF wz _ _ _) _ _ _, by simp [upd2], by simp [upd2]⟩

theorem upd3_dims (f : α → α → α → α × α × α) (pr pc : Nat → Nat → Nat) (Z : Mat α) (i : Nat) (wz : WF Z) :
    WF (upd3 f pr pc Z i) ∧ (upd3 f pr pc Z i).rows = Z.rows ∧ (upd3 f pr pc Z i).cols = Z.cols :=
  ⟨set_WF (set_WF (set_WF wz _ _ _) _ _ _) _ _ _, by simp [upd3], by simp [upd3]⟩

theorem apply_XP_dims {Y : Mat α} (hw : WF Y) (u : Mat α) (nr : Array Nat) (r0 c0 nrow ncol ind : Nat) :
    WF (apply_XP Y u nr r0 c0 nrow ncol ind) ∧ (apply_XP Y u nr r0 c0 nrow ncol ind).rows = Y.rows ∧
    (apply_XP Y u nr r0 c0 nrow ncol ind).cols = Y.cols := by
  by_cases h1 : nr.getD ind 0 = 1
  · rw [apply_XP_one _ _ _ _ _ _ _ _ h1]; exact ⟨hw, rfl, rfl⟩
  · by_cases h2 : nr.getD ind 0 = 2 ∨ ncol = 2
    · rw [apply_XP_eq2 _ _ _ _ _ _ _ _ h1 h2]
      exact foldl_dims _ (upd2_dims _ _ _) _ hw
    · rw [apply_XP_eq3 _ _ _ _ _ _ _ _ h1 h2]
      exact foldl_dims _ (upd3_dims _ _ _) _ hw

theorem apply_PX_dims {Y : Mat α} (hw : WF Y) (u : Mat α) (nr : Array Nat) (r0 c0 nrow ncol ind : Nat) :
    WF (apply_PX Y u nr r0 c0 nrow ncol ind) ∧ (apply_PX Y u nr r0 c0 nrow ncol ind).rows = Y.rows ∧
    (apply_PX Y u nr r0 c0 nrow ncol ind).cols = Y.cols := by
  by_cases h1 : nr.getD ind 0 = 1
  · rw [apply_PX_one _ _ _ _ _ _ _ _ h1]; exact ⟨hw, rfl, rfl⟩
  · by_cases h2 : nr.getD ind 0 = 2 ∨ nrow = 2
    · rw [apply_PX_eq2 _ _ _ _ _ _ _ _ h1 h2]
      exact foldl_dims _ (upd2_dims _ _ _) _ hw
    · rw [apply_PX_eq3 _ _ _ _ _ _ _ _ h1 h2]
      exact foldl_dims _ (upd3_dims _ _ _) _ hw

theorem apply_YQ_eq (q : DoubleShiftQR α) (Y : Mat α) :
    apply_YQ q Y = apply_XP ((List.range (q.n - 2)).foldl (fun Z i => apply_XP Z q.u q.nr 0 i Y.rows 3 i) Y)
      q.u q.nr 0 (q.n - 2) Y.rows 2 (q.n - 2) := rfl

theorem apply_QtY_eq (q : DoubleShiftQR α) (y : Vec α) :
    apply_QtY q y = (List.range (q.n - 1)).foldl (fun y i => apply_PX_vec q.u q.nr y i i) y := rfl

theorem apply_YQ_dims (q : DoubleShiftQR α) {Y : Mat α} (hw : WF Y) :
    WF (apply_YQ q Y) ∧ (apply_YQ q Y).rows = Y.rows ∧ (apply_YQ q Y).cols = Y.cols := by
  rw [apply_YQ_eq]
  obtain ⟨a, b, c⟩ := foldl_dims (fun Z i => apply_XP Z q.u q.nr 0 i Y.rows 3 i)
    (fun Z i wz => apply_XP_dims wz q.u q.nr 0 i Y.rows 3 i) (List.range (q.n - 2)) hw
  obtain ⟨a', b', c'⟩ := apply_XP_dims a q.u q.nr 0 (q.n - 2) Y.rows 2 (q.n - 2)
  exact ⟨a', by rw [b', b], by rw [c', c]⟩

theorem apply_PX_vec_size (u : Mat α) (nr : Array Nat) (y : Vec α) (off ind : Nat) :
    (apply_PX_vec u nr y off ind).size = y.size := by
  unfold apply_PX_vec
  simp only []
  split
  · rfl
  · split
    · rw [vset_size, vset_size]
    · rw [vset_size, vset_size, vset_size]

theorem apply_QtY_size (q : DoubleShiftQR α) (y : Vec α) : (apply_QtY q y).size = y.size :=
  ListFold.foldl_fix Array.size _ _ y (fun z i => apply_PX_vec_size q.u q.nr z i i)

/-! ### only step 0 of `apply_QtY` touches entry 0 -/

/-- a reflector at offset `off ≥ 1` does not touch entry 0 (no range hypothesis needed) -/
theorem apply_PX_vec_head (u : Mat α) (nr : Array Nat) (y : Vec α) (off ind : Nat) (ho : 1 ≤ off) :
    vget (apply_PX_vec u nr y off ind) 0 = vget y 0 := by
  unfold apply_PX_vec
  simp only []
  split
  · rfl
  · split
    · rw [vget_vset_ne _ _ (by omega), vget_vset_ne _ _ (by omega)]
    · rw [vget_vset_ne _ _ (by omega), vget_vset_ne _ _ (by omega), vget_vset_ne _ _ (by omega)]

theorem QtY_head (q : DoubleShiftQR α) (hn : 2 ≤ q.n) (y : Vec α) :
    vget (apply_QtY q y) 0 = vget (apply_PX_vec q.u q.nr y 0 0) 0 := by
  rw [apply_QtY_eq]
  have e : q.n - 1 = (q.n - 2) + 1 := by omega
  rw [e, List.range_succ_eq_map, List.foldl_cons, List.foldl_map]
  exact ListFold.foldl_fix (fun z => vget z 0) _ _ _ (fun z i => apply_PX_vec_head q.u q.nr z _ _ (Nat.succ_pos i))

end Generic

/-! ### instantiation at the exact-arithmetic scalar instance `scOfField F` -/

section AtField
variable {K : Type} [Field K] [LinearOrder K] [IsStrictOrderedRing K] (F : FieldFns K)

@[simp] theorem zero_eq : @Lin.zero K (scOfField F) = (0 : K) := by
  show ((0 : Int) : K) = 0
  exact Int.cast_zero

@[simp] theorem one_eq : @Lin.one K (scOfField F) = (1 : K) := by
  show ((1 : Int) : K) = 1
  exact Int.cast_one

theorem two_eq : @Sc.ofInt K (scOfField F) 2 = (2 : K) := by
  show ((2 : Int) : K) = 2
  norm_cast

/-! the model functions at `scOfField F` (reducible abbreviations) -/

abbrev mget (M : Mat K) (i j : Nat) : K := @Mat.get K (scOfField F) M i j
abbrev vgt (v : Vec K) (i : Nat) : K := @vget K (scOfField F) v i
abbrev aXP (H u : Mat K) (nr : Array Nat) (r0 c0 nrow ncol ind : Nat) : Mat K :=
  @apply_XP K _ _ _ (scOfField F) H u nr r0 c0 nrow ncol ind
abbrev aPX (H u : Mat K) (nr : Array Nat) (r0 c0 nrow ncol ind : Nat) : Mat K :=
  @apply_PX K _ _ _ (scOfField F) H u nr r0 c0 nrow ncol ind
abbrev aPXv (u : Mat K) (nr : Array Nat) (y : Vec K) (off ind : Nat) : Vec K :=
  @apply_PX_vec K _ _ _ (scOfField F) u nr y off ind
abbrev aQtY (q : DoubleShiftQR K) (y : Vec K) : Vec K := @apply_QtY K _ _ _ (scOfField F) q y
abbrev aYQ (q : DoubleShiftQR K) (Y : Mat K) : Mat K := @apply_YQ K _ _ _ (scOfField F) q Y
abbrev ident (n : Nat) : Mat K := @Mat.identity K (scOfField F) n
abbrev sqN (y : Vec K) : K := @sqNorm K _ _ (scOfField F) y
abbrev comp (mat : Mat K) (s t : K) : DoubleShiftQR K := @DoubleShiftQR.compute K _ _ _ _ _ (scOfField F) mat s t

/-- the stored column `ind` of `m_ref_u` as a function of the offset -/
abbrev ucol (u : Mat K) (ind : Nat) : Nat → K := fun d => mget F u d ind

/-- `apply_XP` when `nr[ind] ≠ 1`: the entries `x = Y(a, c0 … c0+m−1)` of every row `r0 ≤ a < r0 + nrow` become `x − 2 (x·u) u`;
    `m = 2` iff the code takes the two-column loop (`nr[ind] = 2 ∨ ncol = 2`), else `3` -/
theorem apply_XP_window {Y : Mat K} (hw : WF Y) (u : Mat K) (nr : Array Nat) (r0 c0 nrow ncol ind : Nat)
    (hr : r0 + nrow ≤ Y.rows) (h1 : nr.getD ind 0 ≠ 1) (m : Nat) (hm : m = if nr.getD ind 0 = 2 ∨ ncol = 2 then 2 else 3)
    (hc : c0 + m ≤ Y.cols) {a b : Nat} (ha : a < Y.rows) (hb : b < Y.cols) :
    mget F (aXP F Y u nr r0 c0 nrow ncol ind) a b =
      if r0 ≤ a ∧ a < r0 + nrow then
        mget F Y a b - 2 * wdot (ucol F u ind) (fun d => mget F Y a (c0 + d)) m * wvec (ucol F u ind) c0 m b
      else mget F Y a b :=
  @apply_XP_get K _ (scOfField F) 2 (two_eq F) Y hw u nr r0 c0 nrow ncol ind hr h1 m hm hc a b ha hb

/-- `apply_PX` when `nr[ind] ≠ 1`: the same on the rows `r0 … r0+m−1` of every column `c0 ≤ b < c0 + ncol`; the two-row loop is
    taken iff `nr[ind] = 2 ∨ nrow = 2` -/
theorem apply_PX_window {Y : Mat K} (hw : WF Y) (u : Mat K) (nr : Array Nat) (r0 c0 nrow ncol ind : Nat)
    (hc : c0 + ncol ≤ Y.cols) (h1 : nr.getD ind 0 ≠ 1) (m : Nat) (hm : m = if nr.getD ind 0 = 2 ∨ nrow = 2 then 2 else 3)
    (hr : r0 + m ≤ Y.rows) {a b : Nat} (ha : a < Y.rows) (hb : b < Y.cols) :
    mget F (aPX F Y u nr r0 c0 nrow ncol ind) a b =
      if c0 ≤ b ∧ b < c0 + ncol then
        mget F Y a b - 2 * wdot (ucol F u ind) (fun d => mget F Y (r0 + d) b) m * wvec (ucol F u ind) r0 m a
      else mget F Y a b :=
  @apply_PX_get K _ (scOfField F) 2 (two_eq F) Y hw u nr r0 c0 nrow ncol ind hc h1 m hm hr a b ha hb

/-- `apply_PX` on a vector (`x = y.data() + off`) when `nr[ind] ≠ 1`: the entries `off … off+m−1` become `x − 2 (x·u) u`;
    the third entry is left out exactly when `nr[ind] = 2` -/
theorem apply_PX_vec_window (u : Mat K) (nr : Array Nat) (y : Vec K) (off ind : Nat) (h1 : nr.getD ind 0 ≠ 1) (m : Nat)
    (hm : m = if nr.getD ind 0 = 2 then 2 else 3) (hs : off + m ≤ y.size) (a : Nat) :
    vgt F (aPXv F u nr y off ind) a =
      vgt F y a - 2 * wdot (ucol F u ind) (fun d => vgt F y (off + d)) m * wvec (ucol F u ind) off m a :=
  @apply_PX_vec_get K _ (scOfField F) (zero_eq F) 2 (two_eq F) u nr y off ind h1 m hm hs a

/-- `apply_XP`, case by case: identity when `nr[ind] = 1`; otherwise the two-column form iff `nr[ind] = 2 ∨ ncol = 2`, else the
    three-column form.  Shape and well-formedness are preserved; an entry `(a, b)` changes only for `r0 ≤ a < r0 + nrow` and
    `b ∈ {c0, c0+1(, c0+2)}`, where it becomes `x_b − tmp u_b`, `tmp = 2 u0 x0 + 2 u1 x1 (+ 2 u2 x2)`, `x_k = Y(a, c0 + k)` (old). -/
theorem apply_XP_spec {Y : Mat K} (hw : WF Y) (u : Mat K) (nr : Array Nat) (r0 c0 nrow ncol ind : Nat)
    (hr : r0 + nrow ≤ Y.rows) :
    (nr.getD ind 0 = 1 → aXP F Y u nr r0 c0 nrow ncol ind = Y) ∧
    (nr.getD ind 0 ≠ 1 → (nr.getD ind 0 = 2 ∨ ncol = 2) → c0 + 1 < Y.cols →
      WF (aXP F Y u nr r0 c0 nrow ncol ind) ∧ (aXP F Y u nr r0 c0 nrow ncol ind).rows = Y.rows ∧
      (aXP F Y u nr r0 c0 nrow ncol ind).cols = Y.cols ∧
      ∀ a b, a < Y.rows → b < Y.cols →
        mget F (aXP F Y u nr r0 c0 nrow ncol ind) a b =
          if r0 ≤ a ∧ a < r0 + nrow then
            (if b = c0 then
              mget F Y a c0 -
                (2 * mget F u 0 ind * mget F Y a c0 + 2 * mget F u 1 ind * mget F Y a (c0 + 1)) * mget F u 0 ind
             else if b = c0 + 1 then
              mget F Y a (c0 + 1) -
                (2 * mget F u 0 ind * mget F Y a c0 + 2 * mget F u 1 ind * mget F Y a (c0 + 1)) * mget F u 1 ind
             else mget F Y a b)
          else mget F Y a b) ∧
    (nr.getD ind 0 ≠ 1 → ¬ (nr.getD ind 0 = 2 ∨ ncol = 2) → c0 + 2 < Y.cols →
      WF (aXP F Y u nr r0 c0 nrow ncol ind) ∧ (aXP F Y u nr r0 c0 nrow ncol ind).rows = Y.rows ∧
      (aXP F Y u nr r0 c0 nrow ncol ind).cols = Y.cols ∧
      ∀ a b, a < Y.rows → b < Y.cols →
        mget F (aXP F Y u nr r0 c0 nrow ncol ind) a b =
          if r0 ≤ a ∧ a < r0 + nrow then
            (if b = c0 then
              mget F Y a c0 -
                (2 * mget F u 0 ind * mget F Y a c0 + 2 * mget F u 1 ind * mget F Y a (c0 + 1) +
                  2 * mget F u 2 ind * mget F Y a (c0 + 2)) * mget F u 0 ind
             else if b = c0 + 1 then
              mget F Y a (c0 + 1) -
                (2 * mget F u 0 ind * mget F Y a c0 + 2 * mget F u 1 ind * mget F Y a (c0 + 1) +
                  2 * mget F u 2 ind * mget F Y a (c0 + 2)) * mget F u 1 ind
             else if b = c0 + 2 then
              mget F Y a (c0 + 2) -
                (2 * mget F u 0 ind * mget F Y a c0 + 2 * mget F u 1 ind * mget F Y a (c0 + 1) +
                  2 * mget F u 2 ind * mget F Y a (c0 + 2)) * mget F u 2 ind
             else mget F Y a b)
          else mget F Y a b) := by
  have hd := @apply_XP_dims K _ (scOfField F) Y hw u nr r0 c0 nrow ncol ind
  refine ⟨fun h => @apply_XP_one K _ (scOfField F) Y u nr r0 c0 nrow ncol ind h,
    fun h1 h2 hc => ⟨hd.1, hd.2.1, hd.2.2, fun a b ha hb => ?_⟩, fun h1 h2 hc => ⟨hd.1, hd.2.1, hd.2.2, fun a b ha hb => ?_⟩⟩
  · exact (apply_XP_window F hw u nr r0 c0 nrow ncol ind hr h1 2 (if_pos h2).symm hc ha hb).trans
      (if_congr Iff.rfl (window_two 2 _ _ c0 b _ _ (fun d h => by rw [h]) (dot_two_comm ..)) rfl)
  · exact (apply_XP_window F hw u nr r0 c0 nrow ncol ind hr h1 3 (if_neg h2).symm hc ha hb).trans
      (if_congr Iff.rfl (window_three 2 _ _ c0 b _ _ (fun d h => by rw [h]) (dot_three_comm ..)) rfl)

/-- `apply_PX`: the same for the left application: rows `r0, r0+1(, r0+2)`, columns `c0 … c0 + ncol − 1`; the two-row
    form is taken iff `nr[ind] = 2 ∨ nrow = 2` -/
theorem apply_PX_spec {Y : Mat K} (hw : WF Y) (u : Mat K) (nr : Array Nat) (r0 c0 nrow ncol ind : Nat)
    (hc : c0 + ncol ≤ Y.cols) :
    (nr.getD ind 0 = 1 → aPX F Y u nr r0 c0 nrow ncol ind = Y) ∧
    (nr.getD ind 0 ≠ 1 → (nr.getD ind 0 = 2 ∨ nrow = 2) → r0 + 1 < Y.rows →
      WF (aPX F Y u nr r0 c0 nrow ncol ind) ∧ (aPX F Y u nr r0 c0 nrow ncol ind).rows = Y.rows ∧
      (aPX F Y u nr r0 c0 nrow ncol ind).cols = Y.cols ∧
      ∀ a b, a < Y.rows → b < Y.cols →
        mget F (aPX F Y u nr r0 c0 nrow ncol ind) a b =
          if c0 ≤ b ∧ b < c0 + ncol then
            (if a = r0 then
              mget F Y r0 b -
                (2 * mget F u 0 ind * mget F Y r0 b + 2 * mget F u 1 ind * mget F Y (r0 + 1) b) * mget F u 0 ind
             else if a = r0 + 1 then
              mget F Y (r0 + 1) b -
                (2 * mget F u 0 ind * mget F Y r0 b + 2 * mget F u 1 ind * mget F Y (r0 + 1) b) * mget F u 1 ind
             else mget F Y a b)
          else mget F Y a b) ∧
    (nr.getD ind 0 ≠ 1 → ¬ (nr.getD ind 0 = 2 ∨ nrow = 2) → r0 + 2 < Y.rows →
      WF (aPX F Y u nr r0 c0 nrow ncol ind) ∧ (aPX F Y u nr r0 c0 nrow ncol ind).rows = Y.rows ∧
      (aPX F Y u nr r0 c0 nrow ncol ind).cols = Y.cols ∧
      ∀ a b, a < Y.rows → b < Y.cols →
        mget F (aPX F Y u nr r0 c0 nrow ncol ind) a b =
          if c0 ≤ b ∧ b < c0 + ncol then
            (if a = r0 then
              mget F Y r0 b -
                (2 * mget F u 0 ind * mget F Y r0 b + 2 * mget F u 1 ind * mget F Y (r0 + 1) b +
                  2 * mget F u 2 ind * mget F Y (r0 + 2) b) * mget F u 0 ind
             else if a = r0 + 1 then
              mget F Y (r0 + 1) b -
                (2 * mget F u 0 ind * mget F Y r0 b + 2 * mget F u 1 ind * mget F Y (r0 + 1) b +
                  2 * mget F u 2 ind * mget F Y (r0 + 2) b) * mget F u 1 ind
             else if a = r0 + 2 then
              mget F Y (r0 + 2) b -
                (2 * mget F u 0 ind * mget F Y r0 b + 2 * mget F u 1 ind * mget F Y (r0 + 1) b +
                  2 * mget F u 2 ind * mget F Y (r0 + 2) b) * mget F u 2 ind
             else mget F Y a b)
          else mget F Y a b) := by
  have hd := @apply_PX_dims K _ (scOfField F) Y hw u nr r0 c0 nrow ncol ind
  refine ⟨fun h => @apply_PX_one K _ (scOfField F) Y u nr r0 c0 nrow ncol ind h,
    fun h1 h2 hr => ⟨hd.1, hd.2.1, hd.2.2, fun a b ha hb => ?_⟩, fun h1 h2 hr => ⟨hd.1, hd.2.1, hd.2.2, fun a b ha hb => ?_⟩⟩
  · exact (apply_PX_window F hw u nr r0 c0 nrow ncol ind hc h1 2 (if_pos h2).symm hr ha hb).trans
      (if_congr Iff.rfl (window_two 2 _ _ r0 a _ _ (fun d h => by rw [h]) (dot_two_comm ..)) rfl)
  · exact (apply_PX_window F hw u nr r0 c0 nrow ncol ind hc h1 3 (if_neg h2).symm hr ha hb).trans
      (if_congr Iff.rfl (window_three 2 _ _ r0 a _ _ (fun d h => by rw [h]) (dot_three_comm ..)) rfl)

/-- `apply_PX` on a vector (`x = y.data() + off`): identity when `nr[ind] = 1`; otherwise entries `off, off+1(, off+2)`
    become `x_k − dot2 u_k`, `dot2 = 2 (x0 u0 + x1 u1 (+ x2 u2))` (the third term is dropped exactly when `nr[ind] = 2`) -/
theorem apply_PX_vec_spec (u : Mat K) (nr : Array Nat) (y : Vec K) (off ind : Nat) :
    (nr.getD ind 0 = 1 → aPXv F u nr y off ind = y) ∧
    (nr.getD ind 0 = 2 → off + 1 < y.size →
      (aPXv F u nr y off ind).size = y.size ∧
      ∀ a, vgt F (aPXv F u nr y off ind) a =
        if a = off then
          vgt F y off - 2 * (vgt F y off * mget F u 0 ind + vgt F y (off + 1) * mget F u 1 ind) * mget F u 0 ind
        else if a = off + 1 then
          vgt F y (off + 1) - 2 * (vgt F y off * mget F u 0 ind + vgt F y (off + 1) * mget F u 1 ind) * mget F u 1 ind
        else vgt F y a) ∧
    (nr.getD ind 0 ≠ 1 → nr.getD ind 0 ≠ 2 → off + 2 < y.size →
      (aPXv F u nr y off ind).size = y.size ∧
      ∀ a, vgt F (aPXv F u nr y off ind) a =
        if a = off then
          vgt F y off -
            2 * (vgt F y off * mget F u 0 ind + vgt F y (off + 1) * mget F u 1 ind + vgt F y (off + 2) * mget F u 2 ind)
              * mget F u 0 ind
        else if a = off + 1 then
          vgt F y (off + 1) -
            2 * (vgt F y off * mget F u 0 ind + vgt F y (off + 1) * mget F u 1 ind + vgt F y (off + 2) * mget F u 2 ind)
              * mget F u 1 ind
        else if a = off + 2 then
          vgt F y (off + 2) -
            2 * (vgt F y off * mget F u 0 ind + vgt F y (off + 1) * mget F u 1 ind + vgt F y (off + 2) * mget F u 2 ind)
              * mget F u 2 ind
        else vgt F y a) := by
  have hs := @apply_PX_vec_size K _ (scOfField F) u nr y off ind
  refine ⟨fun h => @apply_PX_vec_one K _ (scOfField F) u nr y off ind h,
    fun h hl => ⟨hs, fun a => ?_⟩, fun h1 h2 hl => ⟨hs, fun a => ?_⟩⟩
  · exact (apply_PX_vec_window F u nr y off ind (by omega) 2 (if_pos h).symm hl a).trans
      (window_two 2 _ _ off a _ _ (fun d h => by rw [h]) rfl)
  · exact (apply_PX_vec_window F u nr y off ind h1 3 (if_neg h2).symm hl a).trans
      (window_three 2 _ _ off a _ _ (fun d h => by rw [h]) rfl)

end AtField

end C08DsqrQ
