/-
  Real embedding of the complex kernels of Model/HermCplx.lean at an exact field (helper file of
  Properties/C05c.lean): on data whose imaginary parts are zero, every complex vector kernel of the Hermitian solver model computes
  the corresponding REAL kernel of Model/Arnoldi.lean / Model/Lin.lean, with zero imaginary parts.

  Setting: any `Sc` instance on an ordered field with `ofInt 0 = 0`, `ofInt (-1) = -1`, `ofInt 2 = 2`, exact `lt`/`le`/`abs` and
  `cabs (x, 0) = |x|` (`EmbSc`; satisfied by `scOfField F` as soon as `F.sqrt (x * x) = |x|`, see `embSc_scOfField`).
-/
import SpectraVerif.Proofs.ScField
import SpectraVerif.Model.HermCplx

set_option linter.unusedSectionVars false

namespace HermCplxEmbed
open Lin HermCplx

/-- what the embedding lemmas use from the scalar class -/
structure EmbSc (K : Type) [Field K] [LinearOrder K] [IsStrictOrderedRing K] [Sc K] : Prop where
  ofInt0 : (Sc.ofInt 0 : K) = 0
  ofIntm1 : (Sc.ofInt (-1) : K) = -1
  ofInt2 : (Sc.ofInt 2 : K) = 2
  lt : ∀ a b : K, Sc.lt a b = decide (a < b)
  le : ∀ a b : K, Sc.le a b = decide (a ≤ b)
  abs : ∀ a : K, Sc.abs a = |a|
  cabs : ∀ x : K, Sc.cabs (x, (0 : K)) = |x|

theorem embSc_scOfField {K : Type} [Field K] [LinearOrder K] [IsStrictOrderedRing K] (F : FieldFns K)
    (hsqrt : ∀ x : K, F.sqrt (x * x) = |x|) : @EmbSc K _ _ _ (scOfField F) := by
  refine @EmbSc.mk K _ _ _ (scOfField F) (by simp) (by simp) (by simp) (fun _ _ => rfl) (fun _ _ => rfl) (fun _ => rfl) ?_
  intro x
  show F.sqrt (x * x + 0 * 0) = |x|
  rw [mul_zero, add_zero]; exact hsqrt x

/-- the arguments `(a, b, c, d)` of `__divdc3` for a real numerator `a` and a real denominator `c`, after any number of its scaling
    stages: still real, and both scaled by the same `l ≠ 0` -/
def RealArgs {K : Type} [Field K] (a c : K) (q : K × K × K × K) : Prop := ∃ l : K, l ≠ 0 ∧ q = (a * l, 0, c * l, 0)

theorem RealArgs.ite {K : Type} [Field K] {a c : K} {x y : K × K × K × K} (P : Prop) [Decidable P] (hx : RealArgs a c x)
    (hy : RealArgs a c y) : RealArgs a c (if P then x else y) := by
  split <;> assumption

theorem RealArgs.scale {K : Type} [Field K] {a c a1 b1 c1 d1 : K} (s : K → K) (k : K) (hk : k ≠ 0) (hs : ∀ x, s x = x * k)
    (h : RealArgs a c (a1, b1, c1, d1)) : RealArgs a c (s a1, s b1, s c1, s d1) := by
  obtain ⟨l, hl, e⟩ := h
  cases e
  exact ⟨l * k, mul_ne_zero hl hk, by simp only [hs, zero_mul, mul_assoc]⟩

section
variable {K : Type} [Field K] [LinearOrder K] [IsStrictOrderedRing K] [Sc K]

def emb (x : K) : Cx K := (x, 0)
def embV (x : Vec K) : CVec K := x.map emb
def embM (V : Mat K) : CMat K := ⟨V.rows, V.cols, V.d.map emb⟩

theorem emb_cadd (a b : K) : cadd (emb a) (emb b) = emb (a + b) := by simp [cadd, emb]
theorem emb_csub (a b : K) : csub (emb a) (emb b) = emb (a - b) := by simp [csub, emb]
theorem emb_cmul (a b : K) : cmul (emb a) (emb b) = emb (a * b) := by simp [cmul, emb]
theorem emb_cmul_conj (a b : K) : cmul (cconj (emb a)) (emb b) = emb (a * b) := by simp [cmul, cconj, emb]
theorem emb_cmulR (a r : K) : cmulR (emb a) r = emb (a * r) := by simp [cmulR, emb]
theorem emb_cdivR (a r : K) : cdivR (emb a) r = emb (a / r) := by simp [cdivR, emb]
theorem emb_cabs2 (a : K) : cabs2 (emb a) = a * a := by simp [cabs2, emb]

variable (E : EmbSc K)
include E

theorem zero_eq : (Lin.zero : K) = 0 := E.ofInt0
theorem cz_eq : (cz : Cx K) = emb 0 := by simp [cz, emb, zero_eq E]
theorem emb_cabs (a : K) : cabs (emb a) = Sc.abs a := by rw [E.abs]; exact E.cabs a
theorem cofReal_eq (a : K) : cofReal a = emb a := by simp [cofReal, emb, zero_eq E]

/-- multiplication by `alpha = (-1, 0)` (fact 7 of the model header) is negation on embedded values -/
theorem emb_cmul_m1 (a : K) : cmul ((Sc.ofInt (-1) : K), (Lin.zero : K)) (emb a) = emb (-a) := by
  simp [cmul, emb, E.ofIntm1, zero_eq E]

/-- libgcc's complex division by an embedded real (the `v /= vnorm` of `Arnoldi::init`) is the real division, whatever scaling
    branch is taken (`rminscal ≠ 0`) -/
theorem emb_cdiv (D : DivK K) (hs : D.rminscal ≠ 0) (a c : K) : cdiv D (emb a) (emb c) = emb (a / c) := by
  have hlt : ¬ Sc.lt (Sc.abs c) (Sc.abs (0 : K)) = true := by
    rw [E.lt, E.abs, E.abs, abs_zero]; simp
  have h2 : ∀ x : K, x / Sc.ofInt 2 = x * 2⁻¹ := fun x => by rw [E.ofInt2, div_eq_mul_inv]
  have h20 : (2 : K)⁻¹ ≠ 0 := inv_ne_zero two_ne_zero
  have r0 : RealArgs a c (a, 0, c, 0) := ⟨1, one_ne_zero, by rw [mul_one, mul_one]⟩
  unfold cdiv
  extract_lets a0 b0 c0 d0 ab
  rw [if_neg (show ¬ Sc.lt (ab c0) (ab d0) = true from hlt)]
  -- each `split` names the quadruple a scaling stage returns, so that the stages are not substituted into one another
  split
  rename_i a1 b1 c1 d1 e1
  have r1 : RealArgs a c (a1, b1, c1, d1) := e1 ▸ .ite _ (r0.scale _ _ h20 h2) r0
  split
  rename_i a2 b2 c2 d2 e2
  have r2 : RealArgs a c (a2, b2, c2, d2) :=
    e2 ▸ .ite _ (r1.scale _ _ hs fun _ => rfl) (.ite _ (r1.scale _ _ hs fun _ => rfl) r1)
  obtain ⟨l, hl, e⟩ := r2
  cases e
  simp only [zero_div, mul_zero, zero_mul, zero_add, sub_zero, ite_self, mul_div_mul_right _ _ hl, emb]

omit E in
theorem foldl_cadd_emb (g : Nat → K) (l : List Nat) (a : K) :
    l.foldl (fun acc i => cadd acc (emb (g i))) (emb a) = emb (l.foldl (fun acc i => acc + g i) a) :=
  List.foldl_hom emb fun x i => emb_cadd x (g i)

theorem csum0_emb (n : Nat) (g : Nat → K) : csum0 n (fun i => emb (g i)) = emb (Arnoldi.sum0 n g) := by
  unfold csum0 Arnoldi.sum0
  rw [cz_eq E, foldl_cadd_emb, zero_eq E]

theorem csumFrom0_emb (n : Nat) (g : Nat → K) : csumFrom0 n (fun i => emb (g i)) = emb (sumFrom0 n g) := by
  cases n with
  | zero => simp [csumFrom0, sumFrom0, cz_eq E, zero_eq E]
  | succ k =>
    simp only [csumFrom0, sumFrom0]
    exact foldl_cadd_emb (fun i => g (i + 1)) (List.range k) (g 0)

/-- reading an embedded array, in or out of bounds (the defaults `cz` and `zero` correspond) -/
theorem getD_map_emb (a : Array K) (i : Nat) : (a.map emb).getD i cz = emb (a.getD i Lin.zero) := by
  by_cases h : i < a.size
  · simp [Array.getD, h]
  · simp [Array.getD, h, cz_eq E, zero_eq E]

theorem cvget_embV (x : Vec K) (i : Nat) : cvget (embV x) i = emb (vget x i) := getD_map_emb E x i

theorem get_embM (V : Mat K) (i j : Nat) : (embM V).get i j = emb (V.get i j) := getD_map_emb E V.d _

omit E in
theorem embV_vofFn (n : Nat) (f : Nat → K) : embV (vofFn n f) = cvofFn n (fun i => emb (f i)) := by
  unfold embV vofFn cvofFn
  apply Array.ext
  · simp
  · intro i h1 h2; simp

omit E in
theorem size_embV (x : Vec K) : (embV x).size = x.size := by simp [embV]

/-- `x.dot(y)` -/
theorem cdot_emb (x y : Vec K) : cdot (embV x) (embV y) = emb (dot x y) := by
  unfold cdot dot
  simp only [cvget_embV E, emb_cmul_conj, size_embV]
  exact csumFrom0_emb E _ _

/-- `x.norm()` -/
theorem cnorm_emb (x : Vec K) : cnorm (embV x) = Lin.norm x := by
  unfold cnorm Lin.norm csqNorm sqNorm
  simp only [cvget_embV E, emb_cabs2, size_embV]

/-- `x.cwiseAbs().maxCoeff()` -/
theorem cmaxAbs_emb (x : Vec K) : cmaxAbs (embV x) = maxAbs x := by
  unfold cmaxAbs maxAbs embV
  rw [← Array.foldl_toList, ← Array.foldl_toList, Array.toList_map, List.foldl_map]
  simp only [emb_cabs E]

/-- `V.leftCols(k).adjoint() * y` -/
theorem cadjoint_emb (V : Mat K) (k : Nat) (y : Vec K) :
    cadjoint (embM V) k (embV y) = embV (Arnoldi.tmulVecK0 V k y) := by
  unfold cadjoint Arnoldi.tmulVecK0
  rw [embV_vofFn]
  simp only [get_embM E, cvget_embV E, emb_cmul_conj, csum0_emb E]
  rfl

/-- `f.noalias() -= V.leftCols(k) * g` -/
theorem csubMulVecK0_emb (f : Vec K) (V : Mat K) (k : Nat) (g : Vec K) :
    csubMulVecK0 (embV f) (embM V) k (embV g) = embV (Arnoldi.subMulVecK0 f V k g) := by
  unfold csubMulVecK0 Arnoldi.subMulVecK0
  rw [embV_vofFn]
  simp only [get_embM E, cvget_embV E, emb_cmul, csum0_emb E, emb_cmul_m1 E, emb_cadd, size_embV, ← sub_eq_add_neg]

/-- `V.leftCols(k) * y` with a real `y` (`compress_V`, `eigenvectors`) -/
theorem cmulVecRealK0_emb (V : Mat K) (k : Nat) (y : Vec K) :
    cmulVecRealK0 (embM V) k y = embV (Arnoldi.mulVecK0 V k y) := by
  unfold cmulVecRealK0 Arnoldi.mulVecK0
  rw [embV_vofFn]
  simp only [get_embM E, emb_cmulR, csum0_emb E]
  rfl

/-- the explicit-loop operator of the correspondence stream -/
theorem crowMajorOp_emb (n : Nat) (a : Array K) (x : Vec K) :
    crowMajorOp n (a.map emb) (embV x) = embV (Arnoldi.rowMajorOp n a x) := by
  unfold crowMajorOp Arnoldi.rowMajorOp
  rw [embV_vofFn]
  simp only [getD_map_emb E, cvget_embV E, emb_cmul, csum0_emb E]

end
/-! ### `Arnoldi::init` through the complex code path on real data -/

section
variable {K : Type} [Field K] [LinearOrder K] [IsStrictOrderedRing K] [Sc K]

def embS (s : Arnoldi.State K) : CState K :=
  { n := s.n, m := s.m, k := s.k, V := embM s.V, H := embM s.H, f := embV s.f, beta := s.beta, near0 := s.near0, eps := s.eps,
    ops := s.ops, nexpand := s.nexpand, nreorth := s.nreorth }

variable (E : EmbSc K)
include E

theorem embM_zeros (r c : Nat) : (CMat.zeros r c : CMat K) = embM (Mat.zeros r c) := by
  simp [CMat.zeros, Mat.zeros, embM, cz_eq E, zero_eq E, emb]

theorem cvzero_eq (n : Nat) : (cvzero n : CVec K) = embV (vzero n) := by
  simp [cvzero, vzero, embV, cz_eq E, zero_eq E, emb]

omit E in
theorem embM_set (M : Mat K) (i j : Nat) (x : K) : (embM M).set i j (emb x) = embM (M.set i j x) := by
  unfold CMat.set Mat.set
  by_cases h : i < M.rows ∧ j < M.cols
  · have h' : i < (embM M).rows ∧ j < (embM M).cols := h
    rw [if_pos h, if_pos h']
    simp only [embM, Array.map_setIfInBounds]
  · have h' : ¬ (i < (embM M).rows ∧ j < (embM M).cols) := h
    rw [if_neg h, if_neg h']

theorem embM_setCol (M : Mat K) (j : Nat) (v : Vec K) : (embM M).setCol j (embV v) = embM (M.setCol j v) := by
  unfold CMat.setCol Mat.setCol
  exact List.foldl_hom embM fun x i => by rw [cvget_embV E, embM_set]

omit E in
theorem embV_vdivs_via (D : DivK K) (x : Vec K) (c : K)
    (h : ∀ a : K, cdiv D (emb a) (cofReal c) = emb (a / c)) :
    (embV x).map (fun z => cdiv D z (cofReal c)) = embV (vdivs x c) := by
  unfold embV vdivs
  rw [Array.map_map, Array.map_map]
  congr 1
  funext a
  exact h a

/-- `Arnoldi::init` with `Scalar = std::complex`, run on a real operator and a real start vector, is the real `Arnoldi::init`
    (identity `B`), embedded: same acceptance decision, same `V`, `H`, `f`, `beta`, `k`, op counter -/
theorem cinit_emb (op : COp K) (opr : Arnoldi.Op K) (hB : opr.B = none) (hD : op.dk.rminscal ≠ 0)
    (hA : ∀ x : Vec K, op.A (embV x) = embV (opr.A x)) (s : Arnoldi.State K) (v0 : Vec K) :
    cinit op (embS s) (embV v0) = (Arnoldi.init opr s v0).map embS := by
  unfold cinit Arnoldi.init
  simp only [Arnoldi.Op.norm, Arnoldi.Op.inner, hB, cnorm_emb E, hA, embS]
  by_cases h0 : Sc.lt (Lin.norm v0) s.near0 = true
  · simp [h0]
  · rw [if_neg h0, if_neg h0]
    have hdiv : ∀ a : K, cdiv op.dk (emb a) (cofReal (Lin.norm (opr.A v0))) = emb (a / Lin.norm (opr.A v0)) := by
      intro a; rw [cofReal_eq E]; exact emb_cdiv E op.dk hD a _
    simp only [embV_vdivs_via op.dk _ _ hdiv, hA, cdot_emb E, cvget_embV E, emb_cmul, emb_csub, emb_cabs E,
      embM_zeros E, embM_set, embM_setCol E, Option.map_some]
    rw [← embV_vofFn, cmaxAbs_emb E]
    split <;> simp [cvzero_eq E, cnorm_emb E, embS]

end
end HermCplxEmbed
