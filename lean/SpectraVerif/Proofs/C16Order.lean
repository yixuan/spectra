/-
  C16: the singular values come out in non-increasing order.  Orchestration-level argument, valid for every inner kernel whose
  final sort (rule LargestAlge) returns an index vector along which the values it was given are non-increasing
  (`SortDesc`; for the library's `argsort` this is C18's `c18_sorted`).  Core Lean only.
-/
import SpectraVerif.Proofs.C16Model

namespace SVD
open Lin

section
variable {φ α ε κ β τ ω : Type} [LE α]
variable (K : Orch.Kern φ α ε κ β τ ω) (c : Orch.Cfg)

/-- the index vector of `sort_ritzpair(LargestAlge)` lists the values it was given in non-increasing order -/
def SortDesc : Prop := ∀ vals ind, K.sortIdx LARGEST_ALGE vals c.nev = .ok ind →
  ∀ i j, i < j → j < c.nev → vals.getD (ind.getD j 0) K.zeroρ ≤ vals.getD (ind.getD i 0) K.zeroρ

/-- after a normal return of the inner `compute(…, sorting = LargestAlge)` the first `nev` stored Ritz values are non-increasing -/
theorem orch_sorted (hcfg : c.nev ≤ c.ncv) (hs : SortDesc K c) (sel : Int) (maxit : Nat) (tol : τ) (s : Orch.St φ α ε κ) (r : Nat)
    (h : (Orch.compute K c sel maxit tol LARGEST_ALGE s).out = .ok r) :
    ∀ i j, i < j → j < c.nev →
      (Orch.compute K c sel maxit tol LARGEST_ALGE s).st.ritzVal.getD j K.zeroρ ≤
      (Orch.compute K c sel maxit tol LARGEST_ALGE s).st.ritzVal.getD i K.zeroρ := by
  obtain ⟨s2, s4, _, _, _, hsort, hst, _, _, _⟩ := Orch.compute_ok_unfold K c sel maxit tol LARGEST_ALGE s r h
  obtain ⟨ind, hind, hp⟩ := Orch.sortRitz_pairing K c hcfg LARGEST_ALGE _ s4 hsort
  intro i j hij hj
  have hv : (Orch.compute K c sel maxit tol LARGEST_ALGE s).st.ritzVal = s4.ritzVal := by rw [hst]
  rw [hv, (hp i (by omega)).1, (hp j hj).1]
  exact hs _ ind hind i j hij hj

/-- `eigenvalues()` walks the flagged positions in increasing index order, so it inherits the order of the stored values -/
theorem eigenvalues_sorted (s : Orch.St φ α ε κ)
    (h : ∀ i j, i < j → j < c.nev → s.ritzVal.getD j K.zeroρ ≤ s.ritzVal.getD i K.zeroρ) :
    (Orch.eigenvalues K c s).Pairwise (fun a b => b ≤ a) := by
  unfold Orch.eigenvalues
  split
  · exact List.Pairwise.nil
  · unfold Orch.convIdx
    rw [List.pairwise_map]
    have h1 : ((List.range c.nev).filter (fun i => s.ritzConv.getD i false)).Pairwise (· < ·) :=
      List.Pairwise.filter _ List.pairwise_lt_range
    refine List.Pairwise.imp_of_mem ?_ h1
    intro a b _ hb hab
    have hb' : b < c.nev := by
      have := (List.mem_filter.mp hb).1
      exact List.mem_range.mp this
    exact h a b hab hb'

end

section
variable {φ α ε κ β τ : Type} [Add α] [Sub α] [Mul α] [Div α] [Neg α] [Sc α] [LE α]
variable (K : Orch.Kern φ α ε κ β τ (Vec α)) (c : Orch.Cfg) (A : Mat α) (v0 : β)

/-- singular values after a successful `compute`: non-increasing, provided `x ↦ sqrt(max(x, 0))` is monotone (true of `Real.sqrt`
    and of IEEE sqrt) -/
theorem singular_values_sorted (hcfg : c.nev ≤ c.ncv) (hs : SortDesc K c)
    (hmono : ∀ a b : α, a ≤ b → (Sc.sqrt (clamp0 a) : α) ≤ Sc.sqrt (clamp0 b))
    (maxit : Nat) (tol : τ) (s : St φ α ε κ) (r : Nat) (h : (compute K c v0 maxit tol s).2 = .ok r) :
    (singular_values K c (compute K c v0 maxit tol s).1).Pairwise (fun a b => b ≤ a) := by
  obtain ⟨_, hout, hst, _⟩ := compute_ok K c v0 maxit tol s r h
  have h1 := orch_sorted K c hcfg hs LARGEST_ALGE maxit tol _ r hout
  have h2 := eigenvalues_sorted K c _ h1
  unfold singular_values
  rw [hst, List.pairwise_map]
  exact List.Pairwise.imp (fun {a b} hab => hmono b a hab) h2

end
end SVD
