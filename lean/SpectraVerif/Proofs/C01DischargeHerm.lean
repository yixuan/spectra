/-
  `ExactKernelsOn` (the relativised kernel specifications of Proofs/C01DischargeOn.lean) DISCHARGED for the executable numeric kernel
  record `HermSolver.hermKern` — `Arnoldi.init`, `Lanczos.factorize_from`, `HermSolver.restartFac` (TridiagQR shifts +
  `compress_H/compress_V` + `factorize_from`) — at an exact field (helper file of Properties/C01.lean).

  Invariant: `HInv … s := PassInv n ncv A s s.k ∧ G s` (array shapes, Krylov relation at the advertised dimension, `VᵀV = I`, `Vᵀf = 0`,
  `beta = ‖f‖`, `H` symmetric tridiagonal; `G` = the user's set of REGULAR states, see `Reg`).
  Everything is proved for any `Sc` instance with exact comparisons / abs / sqrt (`C07L.ExactSc`); the facts about the QR helper, the
  sort wrappers and the convergence test enter as hypotheses that the last section discharges at `scOfField F`.
-/
import SpectraVerif.Proofs.C07ModelRestart
import SpectraVerif.Proofs.C07ModelInit
import SpectraVerif.Proofs.C01DischargeOn
import SpectraVerif.Proofs.C01DischargeTqr
import SpectraVerif.Proofs.C01Model
import SpectraVerif.Proofs.C13Lemmas

set_option linter.unusedSectionVars false

open Finset Lin Matrix

namespace C01H
open C07 C07L C01E C01B Orch

section generic
variable {K : Type} [Field K] [LinearOrder K] [IsStrictOrderedRing K] [Sc K]

/-- the user's set `G` of REGULAR factorization states and set `S` of admissible start vectors: `G` is closed under the three kernel
    calls `Orch.compute`/`Orch.init` make, and none of these calls meets a breakdown (`beta < near_0`, `beta = 0`, `‖A v0‖ = 0`, the
    `f := 0` shortcut of `init`).  In exact arithmetic a breakdown means an invariant subspace was found; what the code does then
    (random `expand_basis` directions, absolute thresholds) is not an exact Krylov step — findings F12*, F17a. -/
structure Reg (op : Arnoldi.Op K) (n m : ℕ) (A : (Fin n → K) →ₗ[K] (Fin n → K)) (G : Arnoldi.State K → Prop) (S : Vec K → Prop) : Prop where
  start_size : ∀ v0, S v0 → v0.size = n
  init : ∀ s v0 s', G s → S v0 → Arnoldi.init op { s with ops := 0 } v0 = some s' → InitRegular op { s with ops := 0 } v0 ∧ G s'
  fac : ∀ s, G s → PassInv n m A s s.k → 1 ≤ s.k → s.k < m →
    Regular op (s.eps * Sc.sqrt (Sc.ofInt (s.n : Int))) (Sc.sqrt s.eps) (m - s.k) s.k (cleanH s s.k) ∧
    ∀ s', Lanczos.factorize_from op s s.k m = some s' → G s'
  restart : ∀ s k vals, G s → PassInv n m A s m → s.k = m → 0 < k → k < m →
    Regular op ((restartMid op m k vals s).eps * Sc.sqrt (Sc.ofInt ((restartMid op m k vals s).n : Int)))
      (Sc.sqrt (restartMid op m k vals s).eps) (m - k) k (cleanH (restartMid op m k vals s) k) ∧
    G (HermSolver.restartFac op m k vals s).fac

/-- the invariant on which the kernel specifications are discharged -/
def HInv (n m : ℕ) (A : (Fin n → K) →ₗ[K] (Fin n → K)) (G : Arnoldi.State K → Prop) (s : Arnoldi.State K) : Prop :=
  PassInv n m A s s.k ∧ G s

/-- what C08 provides about the shift loop (discharged at `scOfField F` by `C01DT.shiftLoop_spec`) -/
def QROK (m : ℕ) : Prop :=
  ∀ (H : Mat K) (k : ℕ) (vals : List K), 0 < k → k < m → C08Mat.WF H → H.rows = m → H.cols = m →
    (∀ i j, i < m → j < m → (i + 1 < j ∨ j + 1 < i) → H.get i j = 0) → (∀ i j, i < m → j < m → H.get i j = H.get j i) →
    QRFacts m k H (shiftLoopG (HermSolver.restartShifts m k vals) H (Mat.identity m)).1
      (shiftLoopG (HermSolver.restartShifts m k vals) H (Mat.identity m)).2

/-- the kernel hypothesis about the small eigen-solver (discharged by `eigSpecOn_c09`, Proofs/C01DischargeEig.lean): on a full factorization `TridiagEigen` returns eigenpairs
    of the projected matrix, and the "estimate" is the last coordinate of the eigenvector -/
def EigSpec (c : Cfg) (n : ℕ) (A : (Fin n → K) →ₗ[K] (Fin n → K)) : Prop :=
  ∀ (s : Arnoldi.State K) evals lastRow cols, PassInv n c.ncv A s c.ncv → s.k = c.ncv →
    HermSolver.eigH c.ncv s = .ok (evals, lastRow, cols) → ∀ j, j < c.ncv →
      (∀ i, i < c.ncv → ∑ a ∈ range c.ncv, s.H.get i a * vget (cols.getD j (vzero c.ncv)) a
          = evals.getD j Lin.zero * vget (cols.getD j (vzero c.ncv)) i) ∧
      lastRow.getD j Lin.zero = vget (cols.getD j (vzero c.ncv)) (c.ncv - 1)

/-- `EigSpec` required only on the regular states `G` -/
def EigSpecOn (c : Cfg) (n : ℕ) (A : (Fin n → K) →ₗ[K] (Fin n → K)) (G : Arnoldi.State K → Prop) : Prop :=
  ∀ (s : Arnoldi.State K) evals lastRow cols, PassInv n c.ncv A s c.ncv → G s → s.k = c.ncv →
    HermSolver.eigH c.ncv s = .ok (evals, lastRow, cols) → ∀ j, j < c.ncv →
      (∀ i, i < c.ncv → ∑ a ∈ range c.ncv, s.H.get i a * vget (cols.getD j (vzero c.ncv)) a
          = evals.getD j Lin.zero * vget (cols.getD j (vzero c.ncv)) i) ∧
      lastRow.getD j Lin.zero = vget (cols.getD j (vzero c.ncv)) (c.ncv - 1)

theorem EigSpec.on {c : Cfg} {n : ℕ} {A : (Fin n → K) →ₗ[K] (Fin n → K)} (h : EigSpec c n A) (G : Arnoldi.State K → Prop) :
    EigSpecOn c n A G := fun s ev lr cl hI _ hk he => h s ev lr cl hI hk he

variable (E : ExactSc K)
include E

theorem inv_factorize (op : Arnoldi.Op K) (c : Cfg) (eps23 : K) (back : K → K) (n : ℕ) (A : (Fin n → K) →ₗ[K] (Fin n → K))
    (hop : OpOK n op A) (hsa : ∀ x y, dotProduct x (A y) = dotProduct (A x) y) (G : Arnoldi.State K → Prop) (S : Vec K → Prop)
    (hR : Reg op n c.ncv A G S) (hm2 : 2 ≤ c.ncv) (s : Arnoldi.State K) (h : HInv n c.ncv A G s) :
    HInv n c.ncv A G ((HermSolver.hermKern op c eps23 back).factorize (max 1 s.k) c.ncv s).fac ∧
    (((HermSolver.hermKern op c eps23 back).factorize (max 1 s.k) c.ncv s).exn = none →
      ((HermSolver.hermKern op c eps23 back).factorize (max 1 s.k) c.ncv s).fac.k = c.ncv) := by
  rw [show (HermSolver.hermKern op c eps23 back).factorize (max 1 s.k) c.ncv s
      = (match Lanczos.factorize_from op s (max 1 s.k) c.ncv with
        | some s' => (⟨s', s'.ops - s.ops, none⟩ : FacRes (Arnoldi.State K))
        | none => ⟨s, 0, some (.invalidArgument "Arnoldi: from_k is larger than the current subspace dimension")⟩) from rfl]
  cases hs' : Lanczos.factorize_from op s (max 1 s.k) c.ncv with
  | none => exact ⟨h, fun hex => nomatch hex⟩
  | some s' =>
    suffices HInv n c.ncv A G s' ∧ s'.k = c.ncv from ⟨this.1, fun _ => this.2⟩
    obtain ⟨hI, hG⟩ := h
    have hkm : s.k ≤ c.ncv := hI.im
    by_cases hk0 : s.k = 0
    · -- from_k = 1 > 0 = k: throws
      exfalso
      have := (C07R.lanczos_factorize_throws op s (max 1 s.k) c.ncv).mpr
        ⟨lt_of_le_of_lt (max_le (le_refl 1) (hk0 ▸ Nat.zero_le 1)) hm2, hk0 ▸ lt_of_lt_of_le Nat.one_pos (le_max_left 1 0)⟩
      rw [this] at hs'; cases hs'
    · have hk1 : 1 ≤ s.k := Nat.one_le_iff_ne_zero.mpr hk0
      rw [max_eq_right hk1] at hs'
      by_cases hfull : s.k = c.ncv
      · have := (C07R.lanczos_factorize_dim op s s' s.k c.ncv hs').2 (le_of_eq hfull.symm)
        rw [this]; exact ⟨⟨hI, hG⟩, hfull⟩
      · have hlt : s.k < c.ncv := lt_of_le_of_ne hkm hfull
        obtain ⟨hreg, hcl⟩ := hR.fac s hG hI hk1 hlt
        obtain ⟨s'', hfac, h3k, _, _, h3I, _⟩ := factorize_run E n c.ncv A op hop hsa s c.ncv hI hk1 hlt (le_refl _) hreg
        rw [hfac] at hs'
        cases hs'
        exact ⟨⟨h3I, hcl _ hfac⟩, h3k⟩

theorem inv_init (op : Arnoldi.Op K) (c : Cfg) (eps23 : K) (back : K → K) (n : ℕ) (A : (Fin n → K) →ₗ[K] (Fin n → K)) (hop : OpOK n op A)
    (G : Arnoldi.State K → Prop) (S : Vec K → Prop) (hR : Reg op n c.ncv A G S) (hm1 : 1 ≤ c.ncv)
    (v0 : Vec K) (s : Arnoldi.State K) (hS : S v0) (h : HInv n c.ncv A G s) :
    HInv n c.ncv A G ((HermSolver.hermKern op c eps23 back).facInit v0 s).fac := by
  obtain ⟨hI, hG⟩ := h
  show HInv n c.ncv A G (match Arnoldi.init op { s with ops := 0 } v0 with
      | some s' => (⟨s', s'.ops, none⟩ : FacRes (Arnoldi.State K))
      | none => ⟨s, 0, some (.invalidArgument "initial residual vector cannot be zero")⟩).fac
  cases hinit : Arnoldi.init op { s with ops := 0 } v0 with
  | none => exact ⟨hI, hG⟩
  | some s' =>
    obtain ⟨hreg, hG'⟩ := hR.init s v0 s' hG hS hinit
    obtain ⟨hP, hk, _, _⟩ := init_passInv E n c.ncv A op hop { s with ops := 0 } s' hI.hn hI.hm hm1 hI.eps0 v0 (hR.start_size v0 hS) hinit hreg
    exact ⟨by rw [hk]; exact hP, hG'⟩

theorem inv_restart (op : Arnoldi.Op K) (n m : ℕ) (A : (Fin n → K) →ₗ[K] (Fin n → K)) (hop : OpOK n op A)
    (hsa : ∀ x y, dotProduct x (A y) = dotProduct (A x) y) (G : Arnoldi.State K → Prop) (S : Vec K → Prop) (hR : Reg op n m A G S)
    (hQR : QROK (K := K) m) (s : Arnoldi.State K) (k : ℕ) (vals : List K) (h : HInv n m A G s) (hfull : s.k = m) (hk0 : 0 < k) (hkm : k < m) :
    HInv n m A G (HermSolver.restartFac op m k vals s).fac ∧ (HermSolver.restartFac op m k vals s).exn = none ∧
      (HermSolver.restartFac op m k vals s).fac.k = m := by
  obtain ⟨hI, hG⟩ := h
  have hIm : PassInv n m A s m := by have := hI; rw [hfull] at this; exact this
  obtain ⟨hreg, hG'⟩ := hR.restart s k vals hG hIm hfull hk0 hkm
  have hq := hQR s.H k vals hk0 hkm hI.Hw hI.Hr hI.Hc (fun i j hi hj hij => hIm.triH.1 i j hi hj hij.symm) hIm.triH.2
  obtain ⟨s3, hfac, h3k, _, _, h3I, _⟩ := restart_run E n m A op hop hsa s k vals hIm hfull hk0 hkm hq hreg
  rw [hfac] at hG' ⊢
  exact ⟨⟨h3I, hG'⟩, rfl, h3k⟩

omit E in
theorem nevAdj_pos (op : Arnoldi.Op K) (c : Cfg) (eps23 : K) (back : K → K) (h1 : 1 ≤ c.nev) (h2 : c.nev < c.ncv)
    (nconv : ℕ) (rv re : List K) : 0 < (HermSolver.hermKern op c eps23 back).nevAdj c nconv rv re := by
  show 0 < (Gen.Restart.hermNevAdj (c.nev : Int) (c.ncv : Int) (HermSolver.listFn re) (nconv : Int)).toNat
  -- `herm_k`: `nev ≤ hermNevAdj … ≤ ncv - 1`
  have := (RestartIdx.herm_k (c.nev : Int) (c.ncv : Int) (HermSolver.listFn re) (nconv : Int) (by omega) (by omega) (by omega)).1
  omega

/-- hypotheses about the index-vector wrappers (C18; discharged at `scOfField F` by `C01Model.argsortIdx_lt/hermSortIdx_lt`) -/
def SortOK : Prop :=
  (∀ (rule : Int) (vals : List K) (n : ℕ) (ind : List ℕ), HermSolver.argsortIdx rule vals n = .ok ind → ∀ i, i < n → ind.getD i 0 < n) ∧
  (∀ (rule : Int) (vals : List K) (n : ℕ) (ind : List ℕ), HermSolver.hermSortIdx rule vals n = .ok ind → ∀ i, i < n → ind.getD i 0 < n)

/-- **`ExactKernelsOn` for `HermSolver.hermKern`** on the invariant `HInv`: every field except `eig_spec` (hypothesis `EigSpec`) is
    proved from the model-level C07 theorems (`init_passInv`, `factorize_run`, `restart_run`) -/
def hermX (op : Arnoldi.Op K) (c : Cfg) (eps23 : K) (back : K → K) (n : ℕ) (M : Matrix (Fin n) (Fin n) K)
    (hop : OpOK n op (opOf M)) (hsa : ∀ x y, dotProduct x (opOf M y) = dotProduct (opOf M x) y)
    (G : Arnoldi.State K → Prop) (S : Vec K → Prop) (hR : Reg op n c.ncv (opOf M) G S)
    (h1 : 1 ≤ c.nev) (h2 : c.nev < c.ncv) (hQR : QROK (K := K) c.ncv) (hSort : SortOK (K := K)) (hEig : EigSpecOn c n (opOf M) G) :
    ExactKernelsOn (HermSolver.hermKern op c eps23 back) c n M eps23 (HInv n c.ncv (opOf M) G) S where
  abs s := absAt n s.k s
  fnorm s := s.beta
  val x := x
  est x := x
  vec y j := vget y j
  out x := vecOf n x
  tolv t := t
  back := back
  ncv_pos := lt_of_le_of_lt (Nat.zero_le _) h2
  nev_le := le_of_lt h2
  inv_good := by
    intro s h
    exact ⟨(kry_iff_kryE _ _ _ _ _).mp h.1.kry, rfl⟩
  inv_init := fun v0 s hS h => inv_init E op c eps23 back n (opOf M) hop G S hR (lt_of_le_of_lt (Nat.zero_le _) h2) v0 s hS h
  inv_factorize := fun s h => (inv_factorize E op c eps23 back n (opOf M) hop hsa G S hR (lt_of_le_of_lt h1 h2) s h).1
  factorize_full := fun s h => (inv_factorize E op c eps23 back n (opOf M) hop hsa G S hR (lt_of_le_of_lt h1 h2) s h).2
  inv_restart := by
    intro k vals s h hfull hk0 hkm
    obtain ⟨a, b, d⟩ := inv_restart E op n c.ncv (opOf M) hop hsa G S hR hQR s k vals h hfull hk0 hkm
    exact ⟨a, fun _ => d⟩
  nevAdj_pos := fun nconv rv re => nevAdj_pos op c eps23 back h1 h2 nconv rv re
  fnorm_spec := fun s h => ⟨h.1.beta0, h.1.betasq⟩
  eig_spec := by
    intro s evals lastRow cols h hfull heig j hj
    have hfull' : s.k = c.ncv := hfull
    have hIm : PassInv n c.ncv (opOf M) s c.ncv := by have := h.1; rw [hfull'] at this; exact this
    obtain ⟨e1, e2⟩ := hEig s evals lastRow cols hIm h.2 hfull' heig j hj
    refine ⟨?_, e2⟩
    intro i hi
    show ∑ a ∈ range c.ncv, maskH s.k s.H i a * vget (cols.getD j (vzero c.ncv)) a
        = evals.getD j Lin.zero * vget (cols.getD j (vzero c.ncv)) i
    rw [← e1 i hi]
    apply Finset.sum_congr rfl
    intro a ha
    rw [hfull', maskH_lead c.ncv s.H i a hi (Finset.mem_range.mp ha)]
  select_lt := fun sel evals ind h => hSort.1 sel evals c.ncv ind h
  sort_lt := fun rule vals ind h => hSort.2 rule vals c.nev ind h
  conv_spec := fun tol s θ e _ h => (C01Model.convTest_iff E.abs E.lt eps23 tol s θ e).mp h
  assemble_spec := fun s y h => C01Model.assemble_eq E.ofInt0 c.ncv s y n h.1.Vr
  back_spec := by
    intro l hl
    refine ⟨by show (l.map back).length = c.nev; rw [List.length_map, hl], ?_⟩
    intro i hi
    show (l.map back).getD i Lin.zero = back (l.getD i Lin.zero)
    simp [List.getD_eq_getElem?_getD, hl, hi]

/-- every history, for `hermX`, read through the identity interpretations `hermX` uses -/
theorem histories_hermX (op : Arnoldi.Op K) (c : Cfg) (eps23 : K) (back : K → K) (n : ℕ) (M : Matrix (Fin n) (Fin n) K)
    (hop : OpOK n op (opOf M)) (hsa : ∀ x y, dotProduct x (opOf M y) = dotProduct (opOf M x) y)
    (G : Arnoldi.State K → Prop) (S : Vec K → Prop) (hR : Reg op n c.ncv (opOf M) G S)
    (h1 : 1 ≤ c.nev) (h2 : c.nev < c.ncv) (hQR : QROK (K := K) c.ncv) (hSort : SortOK (K := K)) (hEig : EigSpecOn c n (opOf M) G)
    (hist : List (Call (Vec K) K)) (hS : StartsOk S hist) (s0 : St (Arnoldi.State K) K K (Vec K))
    (h0 : HInv n c.ncv (opOf M) G s0.fac) (sel : Int) (maxit : Nat) (tol : K) (sorting : Int) (r : Nat)
    (h : (compute (HermSolver.hermKern op c eps23 back) c sel maxit tol sorting
            (Orch.run (HermSolver.hermKern op c eps23 back) c s0 hist)).out = .ok r) :
    PairsOK (HermSolver.hermKern op c eps23 back) c M eps23 (fun x => x) back (vecOf n) tol
      (compute (HermSolver.hermKern op c eps23 back) c sel maxit tol sorting
        (Orch.run (HermSolver.hermKern op c eps23 back) c s0 hist)).st :=
  compute_pairs_on (hermX E op c eps23 back n M hop hsa G S hR h1 h2 hQR hSort hEig) sel maxit tol sorting _
    (run_inv_on (hermX E op c eps23 back n M hop hsa G S hR h1 h2 hQR hSort hEig) hist hS s0 h0) r h

theorem histories_orth_hermX (op : Arnoldi.Op K) (c : Cfg) (eps23 : K) (back : K → K) (n : ℕ) (M : Matrix (Fin n) (Fin n) K)
    (hop : OpOK n op (opOf M)) (hsa : ∀ x y, dotProduct x (opOf M y) = dotProduct (opOf M x) y)
    (G : Arnoldi.State K → Prop) (S : Vec K → Prop) (hR : Reg op n c.ncv (opOf M) G S)
    (h1 : 1 ≤ c.nev) (h2 : c.nev < c.ncv) (hQR : QROK (K := K) c.ncv) (hSort : SortOK (K := K)) (hEig : EigSpecOn c n (opOf M) G)
    (O : ExactOrthOn (hermX E op c eps23 back n M hop hsa G S hR h1 h2 hQR hSort hEig))
    (hist : List (Call (Vec K) K)) (hS : StartsOk S hist) (s0 : St (Arnoldi.State K) K K (Vec K))
    (h0 : HInv n c.ncv (opOf M) G s0.fac) (sel : Int) (maxit : Nat) (tol : K) (sorting : Int) (r : Nat)
    (h : (compute (HermSolver.hermKern op c eps23 back) c sel maxit tol sorting
            (Orch.run (HermSolver.hermKern op c eps23 back) c s0 hist)).out = .ok r) :
    OrthOK (HermSolver.hermKern op c eps23 back) c (vecOf n)
      (compute (HermSolver.hermKern op c eps23 back) c sel maxit tol sorting
        (Orch.run (HermSolver.hermKern op c eps23 back) c s0 hist)).st :=
  compute_orth_on _ O sel maxit tol sorting _ (run_inv_on (hermX E op c eps23 back n M hop hsa G S hR h1 h2 hQR hSort hEig) hist hS s0 h0) r h

end generic
end C01H

/-! ### the exact-arithmetic instance `scOfField F` -/
namespace C01H
open C07L C01B
section field
variable {K : Type} [Field K] [LinearOrder K] [IsStrictOrderedRing K] (F : FieldFns K)

theorem exactSc (hsqrt : ∀ x : K, 0 ≤ x → F.sqrt x * F.sqrt x = x ∧ 0 ≤ F.sqrt x) : @ExactSc K _ _ _ (scOfField F) :=
  @ExactSc.mk K _ _ _ (scOfField F) (by simp) (fun a b => rfl) (fun a => rfl) hsqrt

/-- C08 (`C01DT.shiftLoop_spec`) discharges the QR hypotheses: exact square root, ideal rotations (series branch off), and unit
    round-off `Sc.eps = 0`, i.e. both deflation passes of `TridiagQR` drop only exact zeros -/
theorem qrOK (hsqrt : ∀ x : K, 0 ≤ x → F.sqrt x * F.sqrt x = x ∧ 0 ≤ F.sqrt x) (hcut : C08Givens.cutoff F ≤ 0) (heps : F.eps = 0)
    (m : ℕ) : (letI := scOfField F; QROK (K := K) m) := by
  let _ := scOfField F
  show QROK (K := K) m
  intro H k vals hk0 hkm hw hr hc htri hsym
  have hlen := restartShifts_length (K := K) m k vals
  obtain ⟨⟨w, r, c', t, sy⟩, _, _, _, hHQ, horth, hband⟩ :=
    C01DT.shiftLoop_spec F hsqrt hcut heps m H ⟨hw, hr, hc, htri, hsym⟩ (HermSolver.restartShifts m k vals)
  exact ⟨w, r, c', t, sy, hHQ, horth, fun a b ha hb hab => hband a b ha hb (by rw [hlen]; exact hab)⟩

theorem sortOK : (letI := scOfField F; SortOK (K := K)) :=
  ⟨fun rule vals n ind h => C01Model.argsortIdx_lt F rule vals n ind h,
   fun rule vals n ind h => C01Model.hermSortIdx_lt F rule vals n ind h⟩

/-- a symmetric matrix is self-adjoint for the Euclidean form -/
theorem selfadjoint_of_symm {n : ℕ} (M : Matrix (Fin n) (Fin n) K) (hM : Mᵀ = M) (x y : Fin n → K) :
    dotProduct x (opOf M y) = dotProduct (opOf M x) y := by
  simp only [opOf_apply]
  rw [dotProduct_mulVec, ← mulVec_transpose, hM]

end field
end C01H
