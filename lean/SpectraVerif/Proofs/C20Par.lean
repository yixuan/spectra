/-
  Non-interference lemmas for `Model/Par.lean` (C20): every interleaving of independent threads ends in the states of
  the threads' solo runs.  General in the number of threads (any index type), the actions, the schedule and its length.
-/
import SpectraVerif.Model.Par
import SpectraVerif.Proofs.ListFold

namespace Par

section typed
variable {ι : Type} [DecidableEq ι] {S : Type} {σ : ι → Type}

@[simp] theorem upd_same (c : (j : ι) → σ j) (i : ι) (v : σ i) : upd c i v i = v := by
  simp [upd]

@[simp] theorem upd_other (c : (j : ι) → σ j) (i j : ι) (v : σ i) (h : j ≠ i) : upd c i v j = c j := by
  simp [upd, h]

theorem exec_cons (sh : S) (a : Act ι S σ) (tr : List (Act ι S σ)) (c : (j : ι) → σ j) :
    exec sh (a :: tr) c = exec sh tr (stepG sh a c) := rfl

theorem runSeq_cons {τ : Type} (sh : S) (f : S → τ → τ) (p : List (S → τ → τ)) (s : τ) :
    runSeq sh (f :: p) s = runSeq sh p (f sh s) := rfl

theorem proj_cons_same (i : ι) (f : S → σ i → σ i) (tr : List (Act ι S σ)) :
    proj i ((⟨i, f⟩ : Act ι S σ) :: tr) = f :: proj i tr := by
  simp [proj]

theorem proj_cons_other (i : ι) (a : Act ι S σ) (tr : List (Act ι S σ)) (h : a.tid ≠ i) :
    proj i (a :: tr) = proj i tr := by
  simp [proj, h]

/-- component `i` of the result of ANY global trace = thread `i`'s own actions run alone on its own initial state -/
theorem exec_proj (sh : S) (tr : List (Act ι S σ)) (c : (j : ι) → σ j) (i : ι) :
    exec sh tr c i = runSeq sh (proj i tr) (c i) := by
  induction tr generalizing c with
  | nil => rfl
  | cons a tr ih =>
    rw [exec_cons, ih]
    obtain ⟨t, f⟩ := a
    by_cases h : t = i
    · subst h
      rw [proj_cons_same, runSeq_cons]; simp [stepG]
    · rw [proj_cons_other _ _ _ h]; simp [stepG, upd_other _ _ _ _ (Ne.symm h)]

/-- an interleaving (inductive merge) of per-thread programs projects back onto those programs -/
theorem merge_proj {progs : (i : ι) → List (S → σ i → σ i)} {tr : List (Act ι S σ)} (h : Merge progs tr) (j : ι) :
    proj j tr = progs j := by
  induction h with
  | nil => rfl
  | cons i f progs tr _ ih =>
    by_cases hj : i = j
    · subst hj; rw [proj_cons_same, ih]; simp
    · rw [proj_cons_other _ _ _ hj, ih, upd_other _ _ _ _ (Ne.symm hj)]

/-- conversely every trace is an interleaving of its own projections (so `Merge` describes exactly all schedules) -/
theorem merge_of_trace (tr : List (Act ι S σ)) : Merge (fun i => proj i tr) tr := by
  induction tr with
  | nil => exact Merge.nil
  | cons a tr ih =>
    obtain ⟨t, f⟩ := a
    have := Merge.cons t f _ tr ih
    have e : (upd (σ := fun i => List (S → σ i → σ i)) (fun i => proj i tr) t (f :: proj t tr)) = fun i => proj i (⟨t, f⟩ :: tr) := by
      funext j
      by_cases hj : t = j
      · subst hj; rw [proj_cons_same]; simp
      · rw [proj_cons_other _ _ _ hj, upd_other _ _ _ _ (Ne.symm hj)]
    rw [← e]; exact this

theorem proj_append (i : ι) (l₁ l₂ : List (Act ι S σ)) : proj i (l₁ ++ l₂) = proj i l₁ ++ proj i l₂ := by
  induction l₁ with
  | nil => rfl
  | cons a l ih =>
    obtain ⟨t, f⟩ := a
    by_cases h : t = i
    · subst h; rw [List.cons_append, proj_cons_same, proj_cons_same, ih]; rfl
    · rw [List.cons_append, proj_cons_other _ _ _ h, proj_cons_other _ _ _ h, ih]

theorem proj_block_same (i : ι) (p : List (S → σ i → σ i)) :
    proj i (p.map (fun f => (⟨i, f⟩ : Act ι S σ))) = p := by
  induction p with
  | nil => rfl
  | cons f p ih => rw [List.map_cons, proj_cons_same, ih]

theorem proj_block_other (i j : ι) (p : List (S → σ j → σ j)) (h : j ≠ i) :
    proj i (p.map (fun f => (⟨j, f⟩ : Act ι S σ))) = [] := by
  induction p with
  | nil => rfl
  | cons f p ih => rw [List.map_cons, proj_cons_other _ _ _ h, ih]

omit [DecidableEq ι] in
theorem seqTrace_cons (progs : (i : ι) → List (S → σ i → σ i)) (j : ι) (order : List ι) :
    seqTrace progs (j :: order) = (progs j).map (fun f => (⟨j, f⟩ : Act ι S σ)) ++ seqTrace progs order := by
  simp [seqTrace]

theorem proj_seqTrace_notin (progs : (i : ι) → List (S → σ i → σ i)) (order : List ι) (i : ι) (h : i ∉ order) :
    proj i (seqTrace progs order) = [] := by
  induction order with
  | nil => rfl
  | cons j order ih =>
    have hj : j ≠ i := fun e => h (by simp [e])
    rw [seqTrace_cons, proj_append, proj_block_other _ _ _ hj, ih (fun m => h (List.mem_cons_of_mem _ m))]; rfl

/-- the sequential schedule (threads one after another, in any duplicate-free order) is itself an interleaving of the programs -/
theorem proj_seqTrace (progs : (i : ι) → List (S → σ i → σ i)) (order : List ι) (hnd : order.Nodup) (i : ι) (hi : i ∈ order) :
    proj i (seqTrace progs order) = progs i := by
  induction order with
  | nil => cases hi
  | cons j order ih =>
    rw [List.nodup_cons] at hnd
    rw [seqTrace_cons, proj_append]
    by_cases hj : j = i
    · subst hj
      rw [proj_block_same, proj_seqTrace_notin _ _ _ hnd.1, List.append_nil]
    · rw [proj_block_other _ _ _ hj, List.nil_append]
      exact ih hnd.2 (by cases hi with | head => exact absurd rfl hj | tail _ m => exact m)

end typed

section memory
variable {ι : Type} [DecidableEq ι] {Loc Val : Type}

/-- two stores agree on what thread `i` may read -/
def Agree (L : Layout ι Loc) (i : ι) (m m' : Mem Loc Val) : Prop := ∀ l, L.priv i l ∨ L.shared l → m l = m' l

omit [DecidableEq ι] in
theorem mexec_cons (a : MAct ι Loc Val) (tr : List (MAct ι Loc Val)) (m : Mem Loc Val) :
    mexec (a :: tr) m = mexec tr (a.f m) := rfl

/-- simulation: the full interleaved run and thread `i`'s solo run stay in agreement on `priv i ∪ shared` -/
theorem agree_mexec (L : Layout ι Loc) (tr : List (MAct ι Loc Val)) (hloc : ∀ a ∈ tr, Local L a) (i : ι)
    (m m' : Mem Loc Val) (h : Agree L i m m') : Agree L i (mexec tr m) (mexec (mproj i tr) m') := by
  induction tr generalizing m m' with
  | nil => exact h
  | cons a tr ih =>
    have ha : Local L a := hloc a (by simp)
    have htr : ∀ b ∈ tr, Local L b := fun b hb => hloc b (List.mem_cons_of_mem _ hb)
    by_cases e : a.tid = i
    · have : mproj i (a :: tr) = a :: mproj i tr := by simp [mproj, e]
      rw [this, mexec_cons, mexec_cons]
      apply ih htr
      intro l hl
      cases hl with
      | inl hp => exact ha.locality m m' (by rw [e]; exact h) l (by rw [e]; exact hp)
      | inr hs =>
        have np : ¬ L.priv a.tid l := fun hp => L.disjS _ _ hp hs
        rw [ha.frame m l np, ha.frame m' l np]; exact h l (Or.inr hs)
    · have : mproj i (a :: tr) = mproj i tr := by simp [mproj, e]
      rw [this, mexec_cons]
      apply ih htr
      intro l hl
      have np : ¬ L.priv a.tid l := by
        intro hp
        cases hl with
        | inl hpi => exact L.disj _ _ _ e hp hpi
        | inr hs => exact L.disjS _ _ hp hs
      rw [ha.frame m l np]; exact h l hl

omit [DecidableEq ι] in
/-- a trace all of whose actions are local changes nothing outside the private sets of the threads that act in it -/
theorem mexec_frame (L : Layout ι Loc) (tr : List (MAct ι Loc Val)) (hloc : ∀ a ∈ tr, Local L a) (m : Mem Loc Val) (l : Loc)
    (hl : ∀ a ∈ tr, ¬ L.priv a.tid l) : mexec tr m l = m l := by
  induction tr generalizing m with
  | nil => rfl
  | cons a tr ih =>
    rw [mexec_cons, ih (fun b hb => hloc b (List.mem_cons_of_mem _ hb)) _ (fun b hb => hl b (List.mem_cons_of_mem _ hb))]
    exact (hloc a (by simp)).frame m l (hl a (by simp))

end memory

/-! ### the executable schedule runner agrees with solo runs -/

theorem runSchedule_size (step : Int → Int → Int) (sh : Int) (sched : List Nat) (st : Array Int) :
    (runSchedule step sh sched st).size = st.size := by
  refine ListFold.foldl_fix Array.size _ sched st fun st i => ?_
  split
  · simp
  · rfl

theorem runAlone_succ (step : Int → Int → Int) (sh : Int) (k : Nat) (s : Int) :
    runAlone step sh (k + 1) s = runAlone step sh k (step sh s) := rfl

/-- component `i` after any schedule = `count i` solo steps from its initial value -/
theorem runSchedule_get (step : Int → Int → Int) (sh : Int) (sched : List Nat) (st : Array Int) (i : Nat) (hi : i < st.size) :
    (runSchedule step sh sched st)[i]'(by rw [runSchedule_size]; exact hi) = runAlone step sh (sched.count i) st[i] := by
  induction sched generalizing st with
  | nil => rfl
  | cons j sched ih =>
    simp only [runSchedule, List.foldl_cons] at ih ⊢
    by_cases hj : j < st.size
    · simp only [hj, dite_true]
      have hi' : i < (st.set j (step sh st[j])).size := by simp [hi]
      rw [ih _ hi']
      by_cases e : j = i
      · subst e; simp [runAlone_succ]
      · have : (List.count i (j :: sched)) = List.count i sched := by simp [e]
        rw [this]; simp [Array.getElem_set, e]
    · simp only [hj, dite_false]
      rw [ih _ hi]
      have e : j ≠ i := fun e => hj (e ▸ hi)
      simp [e]

end Par
