/-
  C09 helper lemmas: the write footprint of every transformation of the UpperHessenbergSchur model (`PresK Keep t t'`: the positions
  `Keep` are left alone), the steps of the main loop as a rule for runs that end normally, and the block-structure invariant of the
  main loop.  Arbitrary scalar type, arbitrary `Sc` instance (comparisons are oracles).
-/
import SpectraVerif.Proofs.C09Step

set_option linter.unusedSectionVars false
namespace C09Hess
open Lin EigenPrims HessSchur C09Mat
open C08Mat hiding WF
variable {α : Type} [Add α] [Sub α] [Mul α] [Div α] [Neg α] [Sc α]

/-- `t'` is well-formed, has the shape of `t`, and agrees with `t` at every position `(i, j)` with `Keep i j` -/
def PresK (Keep : Nat → Nat → Prop) (t t' : Mat α) : Prop :=
  WF t' ∧ t'.rows = t.rows ∧ t'.cols = t.cols ∧ ∀ i j, Keep i j → i < t.rows → t'.get i j = t.get i j

theorem presK_refl (Keep : Nat → Nat → Prop) (t : Mat α) (h : WF t) : PresK Keep t t := ⟨h, rfl, rfl, fun _ _ _ _ => rfl⟩

theorem presK_trans {Keep : Nat → Nat → Prop} {t t' t'' : Mat α} (h1 : PresK Keep t t') (h2 : PresK Keep t' t'') : PresK Keep t t'' := by
  obtain ⟨w1, r1, c1, g1⟩ := h1
  obtain ⟨w2, r2, c2, g2⟩ := h2
  refine ⟨w2, by rw [r2, r1], by rw [c2, c1], ?_⟩
  intro i j hk hi
  rw [g2 i j hk (by rw [r1]; exact hi), g1 i j hk hi]

theorem presK_mono {Keep Keep' : Nat → Nat → Prop} {t t' : Mat α} (hp : PresK Keep t t') (h : ∀ i j, Keep' i j → Keep i j) :
    PresK Keep' t t' :=
  ⟨hp.1, hp.2.1, hp.2.2.1, fun i j hk hi => hp.2.2.2 i j (h i j hk) hi⟩

theorem presK_ite {Keep : Nat → Nat → Prop} {t a b : Mat α} (c : Prop) [Decidable c] (ha : PresK Keep t a) (hb : PresK Keep t b) :
    PresK Keep t (if c then a else b) := by
  split
  · exact ha
  · exact hb

theorem presK_set (Keep : Nat → Nat → Prop) (t : Mat α) (h : WF t) (i0 j0 : Nat) (x : α) (hk : ¬ Keep i0 j0) :
    PresK Keep t (t.set i0 j0 x) := by
  refine ⟨set_WF h _ _ _, set_rows _ _ _ _, set_cols _ _ _ _, ?_⟩
  intro i j hkeep hi
  by_cases hb : i0 < t.rows ∧ j0 < t.cols
  · rw [get_set h _ hb.1 hb.2 hi, if_neg (by rintro ⟨rfl, rfl⟩; exact hk hkeep)]
  · simp only [Mat.set, if_neg hb]

theorem presK_foldl_proj {σ β : Type} (Keep : Nat → Nat → Prop) (proj : σ → Mat α) (l : List β) (f : σ → β → σ)
    (hf : ∀ acc x, x ∈ l → WF (proj acc) → PresK Keep (proj acc) (proj (f acc x))) (s0 : σ) (h : WF (proj s0)) :
    PresK Keep (proj s0) (proj (l.foldl f s0)) := by
  induction l generalizing s0 with
  | nil => exact presK_refl Keep _ h
  | cons x l ih =>
    have h1 := hf s0 x List.mem_cons_self h
    exact presK_trans h1 (ih (fun acc y hy => hf acc y (List.mem_cons_of_mem _ hy)) _ h1.1)

theorem presK_foldl {β : Type} (Keep : Nat → Nat → Prop) (l : List β) (f : Mat α → β → Mat α)
    (hf : ∀ acc x, x ∈ l → WF acc → PresK Keep acc (f acc x)) (t : Mat α) (h : WF t) : PresK Keep t (l.foldl f t) :=
  presK_foldl_proj Keep id l f hf t h

theorem presK_set2 (Keep : Nat → Nat → Prop) (t : Mat α) (h : WF t) (i0 j0 i1 j1 : Nat) (x y : α) (h0 : ¬ Keep i0 j0) (h1 : ¬ Keep i1 j1) :
    PresK Keep t ((t.set i0 j0 x).set i1 j1 y) :=
  presK_trans (presK_set Keep t h i0 j0 x h0) (presK_set Keep _ (set_WF h _ _ _) i1 j1 y h1)

theorem presK_set3 (Keep : Nat → Nat → Prop) (t : Mat α) (h : WF t) (i0 j0 i1 j1 i2 j2 : Nat) (x y z : α)
    (h0 : ¬ Keep i0 j0) (h1 : ¬ Keep i1 j1) (h2 : ¬ Keep i2 j2) :
    PresK Keep t (((t.set i0 j0 x).set i1 j1 y).set i2 j2 z) :=
  presK_trans (presK_set2 Keep t h i0 j0 i1 j1 x y h0 h1) (presK_set Keep _ (set_WF (set_WF h _ _ _) _ _ _) i2 j2 z h2)

theorem presK_set4 (Keep : Nat → Nat → Prop) (t : Mat α) (h : WF t) (i0 j0 i1 j1 i2 j2 i3 j3 : Nat) (x y z w : α)
    (h0 : ¬ Keep i0 j0) (h1 : ¬ Keep i1 j1) (h2 : ¬ Keep i2 j2) (h3 : ¬ Keep i3 j3) :
    PresK Keep t ((((t.set i0 j0 x).set i1 j1 y).set i2 j2 z).set i3 j3 w) :=
  presK_trans (presK_set3 Keep t h i0 j0 i1 j1 i2 j2 x y z h0 h1 h2)
    (presK_set Keep _ (set_WF (set_WF (set_WF h _ _ _) _ _ _) _ _ _) i3 j3 w h3)

theorem presK_hhLeft (Keep : Nat → Nat → Prop) (t : Mat α) (h : WF t) (v1 v2 tau : α) (k c0 ncol : Nat)
    (hk : ∀ jj, jj < ncol → ¬ Keep k (c0 + jj) ∧ ¬ Keep (k + 1) (c0 + jj) ∧ ¬ Keep (k + 2) (c0 + jj)) :
    PresK Keep t (applyHouseholderLeft t v1 v2 tau k c0 ncol) :=
  presK_foldl Keep _ _ (fun acc jj hjj hw => by
    have := hk jj (List.mem_range.mp hjj)
    exact presK_set3 Keep acc hw _ _ _ _ _ _ _ _ _ this.1 this.2.1 this.2.2) t h

theorem presK_hhRight (Keep : Nat → Nat → Prop) (t : Mat α) (h : WF t) (v1 v2 tau : α) (k nrow : Nat)
    (hk : ∀ i, i < nrow → ¬ Keep i k ∧ ¬ Keep i (k + 1) ∧ ¬ Keep i (k + 2)) :
    PresK Keep t (applyHouseholderRight t v1 v2 tau k nrow) :=
  presK_foldl Keep _ _ (fun acc i hi hw => by
    have := hk i (List.mem_range.mp hi)
    exact presK_set3 Keep acc hw _ _ _ _ _ _ _ _ _ this.1 this.2.1 this.2.2) t h

theorem presK_rotRight (Keep : Nat → Nat → Prop) (t : Mat α) (h : WF t) (nrow p q : Nat) (c s : α)
    (hk : ∀ i, i < nrow → ¬ Keep i p ∧ ¬ Keep i q) : PresK Keep t (applyOnTheRight t nrow p q c s) :=
  presK_ite _ (presK_refl Keep t h) (presK_foldl Keep _ _ (fun acc i hi hw => by
    have := hk i (List.mem_range.mp hi)
    exact presK_set2 Keep acc hw _ _ _ _ _ _ this.1 this.2) t h)

theorem presK_rotLeft (Keep : Nat → Nat → Prop) (t : Mat α) (h : WF t) (c0 ncol p q : Nat) (c s : α)
    (hk : ∀ jj, jj < ncol → ¬ Keep p (c0 + jj) ∧ ¬ Keep q (c0 + jj)) : PresK Keep t (applyOnTheLeftAdj t c0 ncol p q c s) :=
  presK_ite _ (presK_refl Keep t h) (presK_foldl Keep _ _ (fun acc jj hjj hw => by
    have := hk jj (List.mem_range.mp hjj)
    exact presK_set2 Keep acc hw _ _ _ _ _ _ this.1 this.2) t h)

theorem presK_subDiagShift (Keep : Nat → Nat → Prop) (t : Mat α) (h : WF t) (iu : Nat) (x : α) (hk : ∀ i, i ≤ iu → ¬ Keep i i) :
    PresK Keep t (subDiagShift t iu x) :=
  presK_foldl Keep _ _ (fun acc i hi hw => presK_set Keep acc hw _ _ _ (hk i (Nat.le_of_lt_succ (List.mem_range.mp hi)))) t h

/-- `compute_shift` writes diagonal entries of the rows `≤ iu` only -/
theorem presK_computeShift (Keep : Nat → Nat → Prop) (t : Mat α) (h : WF t) (iu iter : Nat) (ex : α) (hk : ∀ i, i ≤ iu → ¬ Keep i i) :
    PresK Keep t (computeShift iu iter ex t).1 := by
  simp only [computeShift]
  by_cases h10 : iter = 10
  · simp only [if_pos h10, if_neg (show ¬ iter = 30 by omega)]
    exact presK_subDiagShift Keep t h iu _ hk
  · simp only [if_neg h10]
    split
    · split
      · exact presK_subDiagShift Keep t h iu _ hk
      · exact presK_refl Keep t h
    · exact presK_refl Keep t h

/-- one trip of the reflector loop writes `(k, k−1)`, the rows `k..k+2` from column `k` on, and the columns `k..k+2` down to row
    `min(iu, k+3)` -/
theorem presK_francisBody (Keep : Nat → Nat → Prop) (n il im iu : Nat) (near0 : α) (fv : α × α × α) (s : TU α) (h : WF s.t) (k : Nat)
    (h0 : ¬ Keep k (k - 1))
    (hL : ∀ jj, jj < n - k → ¬ Keep k (k + jj) ∧ ¬ Keep (k + 1) (k + jj) ∧ ¬ Keep (k + 2) (k + jj))
    (hR : ∀ i, i < min iu (k + 3) + 1 → ¬ Keep i k ∧ ¬ Keep i (k + 1) ∧ ¬ Keep i (k + 2)) :
    PresK Keep s.t (francisBody n il im iu near0 fv s k).t := by
  simp only [francisBody]
  generalize (if k = im then fv else (s.t.get k (k - 1), s.t.get (k + 1) (k - 1), s.t.get (k + 2) (k - 1))) = v
  generalize makeHouseholder v.1 v.2.1 v.2.2 = hh
  split
  · have hp0 := presK_ite ((decide (k = im) && decide (il < k)) = true) (presK_set Keep s.t h k (k - 1) (-s.t.get k (k - 1)) h0)
      (presK_ite ((!decide (k = im)) = true) (presK_set Keep s.t h k (k - 1) hh.beta h0) (presK_refl Keep s.t h))
    have hp1 := presK_hhLeft Keep _ hp0.1 hh.v1 hh.v2 hh.tau k k (n - k) hL
    exact presK_trans hp0 (presK_trans hp1 (presK_hhRight Keep _ hp1.1 hh.v1 hh.v2 hh.tau k (min iu (k + 3) + 1) hR))
  · exact presK_refl _ _ h

end C09Hess

namespace C09Schur
open Lin EigenPrims HessSchur C09Mat C09Hess
open C08Mat hiding WF
variable {α : Type} [Add α] [Sub α] [Mul α] [Div α] [Neg α] [Sc α]

/-- the positions a Francis sweep on the window `im .. iu` may pollute; exactly the positions its clean-up loop zeroes -/
def Poll (im iu i j : Nat) : Prop := im + 2 ≤ i ∧ i ≤ iu ∧ (j + 2 = i ∨ (im + 2 < i ∧ j + 3 = i))

/-- what the reflector loop and the closing rotation of a sweep on the window `im .. iu` leave alone: the rows below the window, and
    below the sub-diagonal everything but `Poll` -/
def KeepF (im iu i j : Nat) : Prop := iu < i ∨ (j + 2 ≤ i ∧ ¬ Poll im iu i j)

/-- the closing rotation of `perform_francis_qr_step` (rows/columns `iu − 1, iu`), skipped when `|r| ≤ near_0` -/
def closing (n iu : Nat) (near0 : α) (s : TU α) : TU α :=
  let rot := makeGivens (s.t.get (iu - 1) (iu - 2)) (s.t.get iu (iu - 2))
  if Sc.gt (Sc.abs rot.r) near0 then
    ⟨applyOnTheRight (applyOnTheLeftAdj (s.t.set (iu - 1) (iu - 2) rot.r) (iu - 1) (n - iu + 1) (iu - 1) iu rot.c rot.s) (iu + 1) (iu - 1) iu
      rot.c rot.s, applyOnTheRight s.u n (iu - 1) iu rot.c rot.s⟩
  else s

/-- the reflector loop and the closing rotation of `perform_francis_qr_step` -/
def chase (n il im iu : Nat) (near0 : α) (fv : α × α × α) (s : TU α) : TU α :=
  closing n iu near0 ((List.range (iu - 1 - im)).foldl (fun acc kk => francisBody n il im iu near0 fv acc (im + kk)) s)

/-- one trip of the clean-up loop of `perform_francis_qr_step` -/
def cleanStep (im : Nat) (acc : Mat α) (ii : Nat) : Mat α :=
  if im + 2 < im + 2 + ii then (acc.set (im + 2 + ii) (im + 2 + ii - 2) zero).set (im + 2 + ii) (im + 2 + ii - 3) zero
  else acc.set (im + 2 + ii) (im + 2 + ii - 2) zero

theorem performFrancis_eq (n il im iu : Nat) (near0 : α) (fv : α × α × α) (s : TU α) :
    performFrancis n il im iu near0 fv s =
      ⟨(List.range (iu - im - 1)).foldl (cleanStep im) (chase n il im iu near0 fv s).t, (chase n il im iu near0 fv s).u⟩ := rfl

theorem presK_closing (n im iu : Nat) (near0 : α) (s : TU α) (h : WF s.t) : PresK (KeepF im iu) s.t (closing n iu near0 s).t := by
  simp only [closing]
  generalize makeGivens (s.t.get (iu - 1) (iu - 2)) (s.t.get iu (iu - 2)) = rot
  split
  · have p1 := presK_set (KeepF im iu) s.t h (iu - 1) (iu - 2) rot.r (by unfold KeepF Poll; omega)
    have p2 := presK_rotLeft (KeepF im iu) _ p1.1 (iu - 1) (n - iu + 1) (iu - 1) iu rot.c rot.s (by intro jj _; unfold KeepF Poll; omega)
    exact presK_trans p1 (presK_trans p2 (presK_rotRight (KeepF im iu) _ p2.1 (iu + 1) (iu - 1) iu rot.c rot.s
      (by intro i hi; unfold KeepF Poll; omega)))
  · exact presK_refl _ _ h

theorem presK_chase (n il im iu : Nat) (near0 : α) (fv : α × α × α) (s : TU α) (h : WF s.t) :
    PresK (KeepF im iu) s.t (chase n il im iu near0 fv s).t := by
  have h1 : PresK (KeepF im iu) s.t ((List.range (iu - 1 - im)).foldl (fun acc kk => francisBody n il im iu near0 fv acc (im + kk)) s).t :=
    presK_foldl_proj (KeepF im iu) (fun x : TU α => x.t) _ _ (fun acc kk hkk hw => by
      have := List.mem_range.mp hkk
      exact presK_francisBody _ n il im iu near0 fv acc hw (im + kk) (by unfold KeepF Poll; omega)
        (by intro jj _; unfold KeepF Poll; omega) (by intro i hi; unfold KeepF Poll; omega)) s h
  exact presK_trans h1 (presK_closing n im iu near0 _ h1.1)

theorem presK_clean (im iu : Nat) (l : List Nat) (hl : ∀ ii ∈ l, im + 2 + ii ≤ iu) (t : Mat α) (h : WF t) :
    PresK (fun i j => ¬ Poll im iu i j) t (l.foldl (cleanStep im) t) :=
  presK_foldl _ _ _ (fun acc ii hii hw => by
    have := hl ii hii
    unfold cleanStep
    split
    · exact presK_set2 _ acc hw _ _ _ _ _ _ (by intro h; apply h; unfold Poll; omega) (by intro h; apply h; unfold Poll; omega)
    · exact presK_set _ acc hw _ _ _ (by intro h; apply h; unfold Poll; omega)) t h

theorem presK_performFrancis (n il im iu : Nat) (near0 : α) (fv : α × α × α) (s : TU α) (h : WF s.t) :
    PresK (KeepF im iu) s.t (performFrancis n il im iu near0 fv s).t := by
  have h1 := presK_chase n il im iu near0 fv s h
  rw [performFrancis_eq]
  exact presK_trans h1 (presK_mono (presK_clean im iu _ (fun ii hii => by have := List.mem_range.mp hii; omega) _ h1.1)
    (by intro i j; unfold KeepF Poll; omega))

/-- what every other step of the main loop with the active window `0..iu` leaves alone: the rows below the window and the positions
    below the sub-diagonal -/
def KeepM (iu i j : Nat) : Prop := iu < i ∨ j + 2 ≤ i

/-- `split_off_two_rows`, and the zero it writes in front of the block -/
theorem presK_split (n iu : Nat) (ex : α) (s : TU α) (h : WF s.t) :
    PresK (KeepM iu) s.t (splitOffTwoRows n iu ex s).t ∧
    (1 < iu → iu - 1 < s.t.rows → iu - 2 < s.t.cols → (splitOffTwoRows n iu ex s).t.get (iu - 1) (iu - 2) = zero) := by
  simp only [splitOffTwoRows]
  have p12 := presK_set2 (KeepM iu) s.t h iu iu (iu - 1) (iu - 1) (s.t.get iu iu + ex)
    ((s.t.set iu iu (s.t.get iu iu + ex)).get (iu - 1) (iu - 1) + ex) (by unfold KeepM; omega) (by unfold KeepM; omega)
  generalize ((s.t.set iu iu (s.t.get iu iu + ex)).set (iu - 1) (iu - 1) ((s.t.set iu iu (s.t.get iu iu + ex)).get (iu - 1) (iu - 1) + ex)) = t2
    at p12 ⊢
  generalize (TridiagEigen.half * (s.t.get (iu - 1) (iu - 1) - s.t.get iu iu) : α) = p
  generalize (p * p + s.t.get iu (iu - 1) * s.t.get (iu - 1) iu : α) = q
  generalize makeGivens (if Sc.ge p zero = true then p + Sc.sqrt (Sc.abs q) else p - Sc.sqrt (Sc.abs q)) (t2.get iu (iu - 1)) = rot
  have p3 : PresK (KeepM iu) s.t (if Sc.ge q zero = true then
        ({ t := (applyOnTheRight (applyOnTheLeftAdj t2 (iu - 1) (n - iu + 1) (iu - 1) iu rot.c rot.s) (iu + 1) (iu - 1) iu rot.c rot.s).set iu (iu - 1) zero,
           u := applyOnTheRight s.u n (iu - 1) iu rot.c rot.s } : TU α) else { t := t2, u := s.u }).t := by
    split
    · have a1 := presK_rotLeft (KeepM iu) t2 p12.1 (iu - 1) (n - iu + 1) (iu - 1) iu rot.c rot.s (by intro jj _; unfold KeepM; omega)
      have a2 := presK_rotRight (KeepM iu) _ a1.1 (iu + 1) (iu - 1) iu rot.c rot.s (by intro i hi; unfold KeepM; omega)
      exact presK_trans p12 (presK_trans a1 (presK_trans a2 (presK_set (KeepM iu) _ a2.1 iu (iu - 1) zero (by unfold KeepM; omega))))
    · exact p12
  generalize (if Sc.ge q zero = true then ({ t := _, u := _ } : TU α) else { t := t2, u := s.u }) = s3 at p3 ⊢
  split
  · refine ⟨presK_trans p3 (presK_set (KeepM iu) _ p3.1 (iu - 1) (iu - 2) zero (by unfold KeepM; omega)), fun _ hr hc => ?_⟩
    exact get_set_self p3.1 _ (by rw [p3.2.1]; exact hr) (by rw [p3.2.2.1]; exact hc)
  · rename_i h1
    exact ⟨p3, fun hh => absurd hh h1⟩

/-- the 1x1 deflation of the main loop: `T(iu,iu) += exShift`, `T(iu,iu−1) = 0` -/
def deflate (t : Mat α) (iu : Nat) (ex : α) : Mat α :=
  if 0 < iu then (t.set iu iu (t.get iu iu + ex)).set iu (iu - 1) zero else t.set iu iu (t.get iu iu + ex)

theorem presK_deflate (t : Mat α) (h : WF t) (iu : Nat) (ex : α) : PresK (KeepM iu) t (deflate t iu ex) :=
  presK_ite _ (presK_set2 _ t h _ _ _ _ _ _ (by unfold KeepM; omega) (by unfold KeepM; omega)) (presK_set _ t h _ _ _ (by unfold KeepM; omega))

theorem deflate_get (t : Mat α) (h : WF t) (iu : Nat) (ex : α) (h0 : 0 < iu) (hr : iu < t.rows) (hc : iu < t.cols) :
    (deflate t iu ex).get iu (iu - 1) = zero := by
  rw [deflate, if_pos h0]
  exact get_set_self (set_WF h _ _ _) _ (by rw [set_rows]; exact hr) (by rw [set_cols]; omega)

theorem findSmallSubdiag_le (t : Mat α) (near0 : α) (r : Nat) : findSmallSubdiag t near0 r ≤ r := by
  induction r with
  | zero => exact Nat.le_refl _
  | succ r ih => simp only [findSmallSubdiag]; split <;> omega

/-- the start row of the sweep only moves up -/
theorem initFrancis_le (t : Mat α) (il : Nat) (sh : Shift α) (f im : Nat) : (initFrancis t il sh f im).1 ≤ im := by
  induction f generalizing im with
  | zero => exact Nat.le_refl _
  | succ f ih =>
    simp only [initFrancis]
    split
    · exact Nat.le_refl _
    · split
      · exact Nat.le_refl _
      · exact Nat.le_trans (ih (im - 1)) (Nat.sub_le _ _)

/-- **a run of the `while (iu >= 0)` loop that ends normally is a sequence of 1x1 deflations, 2x2 splits and Francis sweeps**: what
    these three steps carry from window to window (`P m exShift state`, `m = iu + 1`) holds with the empty window on exit -/
theorem mainLoop_rule (n : Nat) (near0 : α) (P : Nat → α → TU α → Prop)
    (hdefl : ∀ iu ex s, P (iu + 1) ex s → P iu ex ⟨deflate s.t iu ex, s.u⟩)
    (hsplit : ∀ iu ex s, P (iu + 1 + 1) ex s → P iu ex (splitOffTwoRows n (iu + 1) ex s))
    (hsweep : ∀ il im iu iter ex s fv, P (iu + 1) ex s → im + 2 ≤ iu →
      P (iu + 1) (computeShift iu iter ex s.t).2.1 (performFrancis n il im iu near0 fv ⟨(computeShift iu iter ex s.t).1, s.u⟩))
    (f m iter total : Nat) (ex : α) (s : TU α) (h : P m ex s) (hd : (mainLoop n near0 f m iter total ex s).exit = Exit.done) :
    ∃ ex', P 0 ex' ⟨(mainLoop n near0 f m iter total ex s).t, (mainLoop n near0 f m iter total ex s).u⟩ := by
  induction f generalizing m iter total ex s with
  | zero => cases hd
  | succ f ih =>
    simp only [mainLoop] at hd ⊢
    by_cases hm : m = 0
    · rw [if_pos hm]; subst hm; exact ⟨ex, h⟩
    · rw [if_neg hm] at hd ⊢
      obtain ⟨iu, rfl⟩ : ∃ iu, m = iu + 1 := ⟨m - 1, by omega⟩
      simp only [Nat.add_sub_cancel] at hd ⊢
      have hle := findSmallSubdiag_le s.t near0 iu
      by_cases h1 : findSmallSubdiag s.t near0 iu = iu
      · rw [if_pos h1] at hd ⊢
        exact ih _ _ _ _ _ (hdefl iu ex s h) hd
      · rw [if_neg h1] at hd ⊢
        by_cases h2 : findSmallSubdiag s.t near0 iu + 1 = iu
        · rw [if_pos h2] at hd ⊢
          obtain ⟨p, rfl⟩ : ∃ p, iu = p + 1 := ⟨iu - 1, by omega⟩
          exact ih _ _ _ _ _ (hsplit p ex s h) hd
        · rw [if_neg h2] at hd ⊢
          have hs := hsweep (findSmallSubdiag s.t near0 iu) (initFrancis (computeShift iu iter ex s.t).1 (findSmallSubdiag s.t near0 iu)
            (computeShift iu iter ex s.t).2.2 (iu - 1 - findSmallSubdiag s.t near0 iu) (iu - 2)).1 iu iter ex s
          have hifle := initFrancis_le (computeShift iu iter ex s.t).1 (findSmallSubdiag s.t near0 iu)
            (computeShift iu iter ex s.t).2.2 (iu - 1 - findSmallSubdiag s.t near0 iu) (iu - 2)
          generalize computeShift iu iter ex s.t = cs at hd hs hifle ⊢
          obtain ⟨t, ex', sh⟩ := cs
          simp only at hd hs hifle ⊢
          by_cases hcap : 40 * n < total + 1
          · rw [if_pos hcap] at hd; cases hd
          · rw [if_neg hcap] at hd ⊢
            generalize initFrancis t (findSmallSubdiag s.t near0 iu) sh (iu - 1 - findSmallSubdiag s.t near0 iu) (iu - 2) = fr at hd hs hifle ⊢
            obtain ⟨im, v0, v1, v2⟩ := fr
            exact ih _ _ _ _ _ (hs (v0, v1, v2) h (by simp only at hifle; omega)) hd

/-- `t'` is well-formed, has the shape of `t`, and agrees with `t` on all rows `≥ a` -/
def Pres (a : Nat) (t t' : Mat α) : Prop := PresK (fun i _ => a ≤ i) t t'

theorem pres_of_keepM {iu : Nat} {t t' : Mat α} (h : PresK (KeepM iu) t t') : Pres (iu + 1) t t' :=
  presK_mono h (fun _ _ hi => Or.inl hi)

theorem pres_hhLeft (a : Nat) (t : Mat α) (h : WF t) (v1 v2 tau : α) (k c0 ncol : Nat) (hk : k + 2 < a) :
    Pres a t (applyHouseholderLeft t v1 v2 tau k c0 ncol) :=
  presK_hhLeft _ t h v1 v2 tau k c0 ncol (fun _ _ => by omega)

theorem pres_hhRight (a : Nat) (t : Mat α) (h : WF t) (v1 v2 tau : α) (k nrow : Nat) (hn : nrow ≤ a) :
    Pres a t (applyHouseholderRight t v1 v2 tau k nrow) :=
  presK_hhRight _ t h v1 v2 tau k nrow (fun _ _ => by omega)

theorem pres_rotRight (a : Nat) (t : Mat α) (h : WF t) (nrow p q : Nat) (c s : α) (hn : nrow ≤ a) :
    Pres a t (applyOnTheRight t nrow p q c s) :=
  presK_rotRight _ t h nrow p q c s (fun _ _ => by omega)

theorem pres_rotLeft (a : Nat) (t : Mat α) (h : WF t) (c0 ncol p q : Nat) (c s : α) (hp : p < a) (hq : q < a) :
    Pres a t (applyOnTheLeftAdj t c0 ncol p q c s) :=
  presK_rotLeft _ t h c0 ncol p q c s (fun _ _ => by omega)

theorem pres_computeShift (a : Nat) (t : Mat α) (h : WF t) (iu iter : Nat) (ex : α) (hi : iu < a) :
    Pres a t (computeShift iu iter ex t).1 :=
  presK_computeShift _ t h iu iter ex (fun _ _ => by omega)

theorem pres_francisBody (a n il im iu : Nat) (near0 : α) (fv : α × α × α) (s : TU α) (h : WF s.t) (k : Nat) (hk : k + 2 < a) (hiu : iu < a) :
    Pres a s.t (francisBody n il im iu near0 fv s k).t :=
  presK_francisBody _ n il im iu near0 fv s h k (by omega) (fun _ _ => by omega) (fun _ _ => by omega)

theorem pres_performFrancis (n il im iu : Nat) (near0 : α) (fv : α × α × α) (s : TU α) (h : WF s.t) :
    Pres (iu + 1) s.t (performFrancis n il im iu near0 fv s).t :=
  presK_mono (presK_performFrancis n il im iu near0 fv s h) (fun _ _ hi => Or.inl hi)

theorem pres_split (n iu : Nat) (ex : α) (s : TU α) (h : WF s.t) :
    Pres (iu + 1) s.t (splitOffTwoRows n iu ex s).t ∧
    (1 < iu → iu - 1 < s.t.rows → iu - 2 < s.t.cols → (splitOffTwoRows n iu ex s).t.get (iu - 1) (iu - 2) = zero) :=
  ⟨pres_of_keepM (presK_split n iu ex s h).1, (presK_split n iu ex s h).2⟩

/-- the sub-diagonal entry of row `r` is exactly the constant `0` the code assigns -/
def sdz (t : Mat α) (r : Nat) : Prop := t.get r (r - 1) = (zero : α)

/-- invariant of the `while (iu >= 0)` loop (`m = iu + 1`): rows `≥ m` are finished -/
structure Inv (n m : Nat) (t : Mat α) : Prop where
  wf : WF t
  rows : t.rows = n
  cols : t.cols = n
  le : m ≤ n
  bnd : 0 < m → m < n → sdz t m
  pairs : ∀ r, m ≤ r → 0 < r → r + 1 < n → sdz t r ∨ sdz t (r + 1)

theorem inv_pres {n m : Nat} {t t' : Mat α} (hI : Inv n m t) (hp : Pres m t t') : Inv n m t' := by
  obtain ⟨w, hr, hc, hg⟩ := hp
  have e : ∀ r, m ≤ r → r < n → (sdz t' r ↔ sdz t r) := by
    intro r h1 h2; unfold sdz; rw [hg r (r - 1) h1 (by rw [hI.rows]; exact h2)]
  refine ⟨w, by rw [hr, hI.rows], by rw [hc, hI.cols], hI.le, ?_, ?_⟩
  · intro h0 hlt; exact (e m (Nat.le_refl _) hlt).mpr (hI.bnd h0 hlt)
  · intro r h1 h2 h3
    rcases hI.pairs r h1 h2 h3 with h | h
    · exact Or.inl ((e r h1 (by omega)).mpr h)
    · exact Or.inr ((e (r + 1) (by omega) h3).mpr h)

theorem inv_down1 {n m m' : Nat} {t : Mat α} (hI : Inv n m t) (hm : m = m' + 1) (hb : 0 < m' → sdz t m') : Inv n m' t := by
  subst hm
  refine ⟨hI.wf, hI.rows, hI.cols, by have := hI.le; omega, fun h0 _ => hb h0, ?_⟩
  intro r h1 h2 h3
  by_cases hr : r = m'
  · subst hr; exact Or.inl (hb h2)
  · exact hI.pairs r (by omega) h2 h3

theorem inv_down2 {n m m' : Nat} {t : Mat α} (hI : Inv n m t) (hm : m = m' + 2) (hb : 0 < m' → sdz t m') : Inv n m' t := by
  subst hm
  refine ⟨hI.wf, hI.rows, hI.cols, by have := hI.le; omega, fun h0 _ => hb h0, ?_⟩
  intro r h1 h2 h3
  by_cases hr : r = m'
  · subst hr; exact Or.inl (hb h2)
  · by_cases hr1 : r = m' + 1
    · subst hr1; exact Or.inr (hI.bnd (by omega) h3)
    · exact hI.pairs r (by omega) h2 h3

theorem inv_deflate {n iu : Nat} {t : Mat α} (hI : Inv n (iu + 1) t) (ex : α) : Inv n iu (deflate t iu ex) :=
  inv_down1 (inv_pres hI (pres_of_keepM (presK_deflate t hI.wf iu ex))) rfl
    (fun h0 => deflate_get t hI.wf iu ex h0 (by have := hI.le; rw [hI.rows]; omega) (by have := hI.le; rw [hI.cols]; omega))

theorem inv_split {n iu : Nat} {s : TU α} (hI : Inv n (iu + 1 + 1) s.t) (ex : α) : Inv n iu (splitOffTwoRows n (iu + 1) ex s).t := by
  obtain ⟨hp, hz⟩ := pres_split n (iu + 1) ex s hI.wf
  have := hI.le
  exact inv_down2 (inv_pres hI hp) rfl (fun h0 => hz (by omega) (by rw [hI.rows]; omega) (by rw [hI.cols]; omega))

theorem inv_sweep {n iu : Nat} {s : TU α} (hI : Inv n (iu + 1) s.t) (il im iter : Nat) (near0 ex : α) (fv : α × α × α) :
    Inv n (iu + 1) (performFrancis n il im iu near0 fv ⟨(computeShift iu iter ex s.t).1, s.u⟩).t := by
  have h1 := inv_pres hI (pres_computeShift (iu + 1) s.t hI.wf iu iter ex (Nat.lt_succ_self _))
  exact inv_pres h1 (pres_performFrancis n il im iu near0 fv ⟨_, s.u⟩ h1.wf)

/-- **block structure on normal exit of the Schur main loop**: no two consecutive sub-diagonal entries are left non-zero -/
theorem mainLoop_struct (n : Nat) (near0 : α) (f m iter total : Nat) (ex : α) (s : TU α) (hI : Inv n m s.t)
    (hd : (mainLoop n near0 f m iter total ex s).exit = Exit.done) :
    ∀ r, 0 < r → r + 1 < n → sdz (mainLoop n near0 f m iter total ex s).t r ∨ sdz (mainLoop n near0 f m iter total ex s).t (r + 1) := by
  obtain ⟨_, h0⟩ := mainLoop_rule n near0 (fun m _ s => Inv n m s.t) (fun _ ex _ h => inv_deflate h ex) (fun _ ex _ h => inv_split h ex)
    (fun il im _ iter ex _ fv h _ => inv_sweep h il im iter near0 ex fv) f m iter total ex s hI hd
  exact fun r => h0.pairs r (Nat.zero_le _)

/-- the invariant holds trivially when the loop starts (`m = n`) -/
theorem inv_init (n : Nat) (h : Mat α) (hw : WF h) (hr : h.rows = n) (hc : h.cols = n) : Inv n n h :=
  ⟨hw, hr, hc, Nat.le_refl _, fun _ hlt => absurd hlt (Nat.lt_irrefl _), fun r h1 _ h3 => by omega⟩

/-- a normal return of `compute` is the `norm == 0` early exit (`T = H`, `U = I`) or a run of the main loop that ended `done` -/
theorem compute_ok_cases (n : Nat) (h : Mat α) (r : Decomp α) (hok : compute n h = Res.ok r) :
    (Sc.ne (l1norm n h) (zero : α) = false ∧ r = ⟨h, Mat.identity n⟩) ∨
    (Sc.ne (l1norm n h) (zero : α) = true ∧
      (mainLoop n (near0Of (l1norm n h)) (41 * n + 1) n 0 0 zero ⟨h, Mat.identity n⟩).exit = Exit.done ∧
      r = ⟨(mainLoop n (near0Of (l1norm n h)) (41 * n + 1) n 0 0 zero ⟨h, Mat.identity n⟩).t,
           (mainLoop n (near0Of (l1norm n h)) (41 * n + 1) n 0 0 zero ⟨h, Mat.identity n⟩).u⟩) := by
  simp only [compute, core] at hok
  by_cases hn : Sc.ne (l1norm n h) (zero : α) = true
  · simp only [if_pos hn] at hok
    split at hok
    · rename_i hd; cases hok; exact Or.inr ⟨hn, hd, rfl⟩
    · cases hok
  · simp only [if_neg hn, if_true] at hok
    cases hok; exact Or.inl ⟨by simpa using hn, rfl⟩

theorem compute_struct (n : Nat) (h : Mat α) (hw : WF h) (hr : h.rows = n) (hc : h.cols = n) (r : Decomp α)
    (hok : compute n h = Res.ok r) :
    (Sc.ne (l1norm n h) (zero : α) = false ∧ r.t = h) ∨
    (∀ i, 0 < i → i + 1 < n → r.t.get i (i - 1) = (zero : α) ∨ r.t.get (i + 1) i = (zero : α)) := by
  obtain ⟨hn, rfl⟩ | ⟨_, hd, rfl⟩ := compute_ok_cases n h r hok
  · exact Or.inl ⟨hn, rfl⟩
  · exact Or.inr (mainLoop_struct n _ _ n 0 0 zero ⟨h, Mat.identity n⟩ (inv_init n h hw hr hc) hd)

end C09Schur
