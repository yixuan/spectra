/-
  C06 — the stale columns of a reused basis matrix are harmless ("column i of V is written before it is read").

  The C++ `Arnoldi::init` calls `m_fac_V.resize(m_n, m_m)`, which on an object that has been used before keeps the OLD contents:
  only column 0 is assigned, columns >= 1 hold whatever the previous run left.  The executable model `Arnoldi.init` builds `V`
  from a zero matrix instead.  This file proves that the difference is invisible: `Lanczos.factorize_from op s from_k m` on a basis
  matrix with `m` columns reads column `i` only after writing it (`v <- f/beta` resp. the `expand_basis` branch, which reads
  `leftCols(i)` only; the re-orthogonalisation reads `leftCols(i+1)`), so its result — the whole object state, all `m` columns
  included — does not depend on the columns `>= from_k` it starts from (`factorize_overwrites`); hence the C++-faithful
  `initKeepV` followed by the first factorization of `compute()` equals the model's `init` followed by it
  (`init_stale_columns_harmless`).  The argument is made once for any loop over the columns whose body writes column `i` before
  reading it (`steps_rel`, `factorize_shape_overwrites`, `init_stale_of_overwrites`); `Proofs/C06GenStaleV.lean` instantiates it
  for `Arnoldi.factorize_from`.  Hypotheses: the old matrix has the right shape (what `resize` guarantees) and the operator
  returns vectors of the problem dimension (`OpWF`; an out-of-range row index would alias the next column in the column-major array).
  Core Lean + the array lemmas of `Proofs/LinLemmas.lean` (`WF`, `setCol_spec`, `ext_get`, `vofFn_congr`).
-/
import SpectraVerif.Proofs.C08Mat
import SpectraVerif.Model.Lanczos
import SpectraVerif.Proofs.ListFold
open Lin Arnoldi C08Mat

namespace C06StaleV
section
variable {α : Type} [Add α] [Sub α] [Mul α] [Div α] [Neg α] [Sc α]
set_option linter.unusedSectionVars false

/-! ### congruence of the array builders -/

theorem sum0_congr (n : Nat) (f g : Nat → α) (h : ∀ i, i < n → f i = g i) : sum0 n f = sum0 n g := by
  unfold sum0
  apply ListFold.foldl_congr_mem
  intro x i hi
  rw [h i (List.mem_range.mp hi)]

/-! ### agreement on the leading columns -/

/-- two well-formed matrices of the same shape whose columns `< j` coincide (columns `>= j`: anything) -/
structure AgreeCols (j : Nat) (A B : Mat α) : Prop where
  wfA : WF A
  wfB : WF B
  rows : A.rows = B.rows
  cols : A.cols = B.cols
  get : ∀ r c, r < A.rows → c < j → c < A.cols → A.get r c = B.get r c

theorem AgreeCols.mono {j k : Nat} {A B : Mat α} (h : AgreeCols j A B) (hk : k ≤ j) : AgreeCols k A B :=
  ⟨h.wfA, h.wfB, h.rows, h.cols, fun r c hr hc hcc => h.get r c hr (by omega) hcc⟩

/-- all columns agree: the matrices are equal -/
theorem AgreeCols.eq {j : Nat} {A B : Mat α} (h : AgreeCols j A B) (hj : A.cols ≤ j) : A = B :=
  ext_get h.wfA h.wfB h.rows h.cols (fun a b ha hb => h.get a b ha (by omega) hb)

/-- `A'` is `A` with column `i` replaced by `v` (what `setCol` and `withCol` establish) -/
def ColSet (i : Nat) (v : Vec α) (A A' : Mat α) : Prop :=
  WF A' ∧ A'.rows = A.rows ∧ A'.cols = A.cols ∧
    ∀ r c, r < A.rows → c < A.cols → A'.get r c = if c = i then vget v r else A.get r c

theorem ColSet.setCol {A : Mat α} (hw : WF A) {i : Nat} (hi : i < A.cols) (v : Vec α) : ColSet i v A (A.setCol i v) :=
  let ⟨w1, w2, w3, w4⟩ := setCol_spec hw hi v
  ⟨w1, w2, w3, fun r c hr _ => w4 r c hr⟩

theorem AgreeCols.write {i j j' : Nat} {A B A' B' : Mat α} {v : Vec α} (h : AgreeCols j A B)
    (hA : ColSet i v A A') (hB : ColSet i v B B') (hj : ∀ c, c < j' → c < j ∨ c = i) : AgreeCols j' A' B' := by
  obtain ⟨a1, a2, a3, a4⟩ := hA
  obtain ⟨b1, b2, b3, b4⟩ := hB
  refine ⟨a1, b1, by rw [a2, b2, h.rows], by rw [a3, b3, h.cols], ?_⟩
  intro r c hr hc hcc
  rw [a2] at hr; rw [a3] at hcc
  rw [a4 r c hr hcc, b4 r c (h.rows ▸ hr) (h.cols ▸ hcc)]
  by_cases e : c = i
  · rw [if_pos e, if_pos e]
  · rw [if_neg e, if_neg e]; exact h.get r c hr ((hj c hc).resolve_right e) hcc

theorem AgreeCols.setCol {i : Nat} {A B : Mat α} (h : AgreeCols i A B) (hi : i < A.cols) (v : Vec α) :
    AgreeCols (i + 1) (A.setCol i v) (B.setCol i v) :=
  h.write (.setCol h.wfA hi v) (.setCol h.wfB (h.cols ▸ hi) v) (fun _ hc => Nat.lt_succ_iff_lt_or_eq.mp hc)

/-- same column written into an agreeing pair when the column index is already below the agreement bound -/
theorem AgreeCols.setCol_le {i j : Nat} {A B : Mat α} (h : AgreeCols j A B) (hi : i < A.cols) (v : Vec α) :
    AgreeCols j (A.setCol i v) (B.setCol i v) :=
  h.write (.setCol h.wfA hi v) (.setCol h.wfB (h.cols ▸ hi) v) (fun _ hc => Or.inl hc)

theorem tmulVecK0_agree {j k : Nat} {A B : Mat α} (h : AgreeCols j A B) (hk : k ≤ j) (hkc : k ≤ A.cols) (y : Vec α) :
    tmulVecK0 A k y = tmulVecK0 B k y := by
  unfold tmulVecK0
  rw [← h.rows]
  refine vofFn_congr ?_
  intro c hc
  apply sum0_congr
  intro r hr
  rw [h.get r c hr (by omega) (by omega)]

theorem adjoint_agree (op : Op α) {j k : Nat} {A B : Mat α} (h : AgreeCols j A B) (hk : k ≤ j) (hkc : k ≤ A.cols) (y : Vec α) :
    op.adjoint A k y = op.adjoint B k y := by
  unfold Op.adjoint
  split <;> exact tmulVecK0_agree h hk hkc _

theorem subMulVecK0_agree {j k : Nat} {A B : Mat α} (h : AgreeCols j A B) (hk : k ≤ j) (hkc : k ≤ A.cols) (f g : Vec α)
    (hf : f.size ≤ A.rows) : subMulVecK0 f A k g = subMulVecK0 f B k g := by
  unfold subMulVecK0
  refine vofFn_congr ?_
  intro r hr
  congr 1
  apply sum0_congr
  intro c hc
  rw [h.get r c (by omega) (by omega) (by omega)]

theorem col_agree {j c : Nat} {A B : Mat α} (h : AgreeCols j A B) (hc : c < j) (hcc : c < A.cols) : A.col c = B.col c := by
  unfold Mat.col
  rw [← h.rows]
  refine vofFn_congr ?_
  intro r hr
  exact h.get r c hr hc hcc

theorem size_subMulVecK0 (f : Vec α) (V : Mat α) (k : Nat) (g : Vec α) : (subMulVecK0 f V k g).size = f.size :=
  size_vofFn _ _

/-! ### expand_basis -/

theorem expandRefine_agree (op : Op α) (eps : α) {j i : Nat} {A B : Mat α} (h : AgreeCols j A B) (hi : i ≤ j) (hic : i ≤ A.cols) :
    ∀ (fuel count : Nat) (f : Vec α) (fnorm : α) (Vf : Vec α) (oerr : α), f.size ≤ A.rows →
      expandRefine op eps A i fuel count f fnorm Vf oerr = expandRefine op eps B i fuel count f fnorm Vf oerr := by
  intro fuel
  induction fuel with
  | zero => intros; rfl
  | succ fuel ih =>
    intro count f fnorm Vf oerr hf
    unfold expandRefine
    split
    · dsimp only
      rw [subMulVecK0_agree h hi hic f Vf hf, adjoint_agree op h hi hic]
      exact ih _ _ _ _ _ (by rw [size_subMulVecK0]; exact hf)
    · rfl


theorem randomVec_fold_size (l : List Nat) : ∀ (st : Int × Array α),
    (l.foldl (fun (st : Int × Array α) _ => ((Gen.Rand.draw (α := α) st.1).1, st.2.push (Gen.Rand.draw (α := α) st.1).2)) st).2.size = st.2.size + l.length := by
  induction l with
  | nil => intro st; simp
  | cons a l ih => intro st; simp only [List.foldl_cons, List.length_cons]; rw [ih]; simp; omega

theorem randomVec_size (n : Nat) (seed : Int) : (randomVec (α := α) n seed).size = n := by
  unfold randomVec
  have := randomVec_fold_size (α := α) (List.range n) (Gen.Rand.seed_norm seed, Array.mkEmpty n)
  simpa using this

/-- the operator returns vectors of the problem dimension -/
structure OpWF (op : Op α) (dim : Nat) : Prop where
  n : op.n = dim
  size : ∀ x, (op.A x).size = dim

theorem expand_go_agree (op : Op α) (eps : α) {j i : Nat} {A B : Mat α} (h : AgreeCols j A B) (hi : i ≤ j) (hic : i ≤ A.cols)
    (hop : OpWF op A.rows) (seed : Int) :
    ∀ (fuel iter : Nat) (f : Vec α) (fnorm : α) (ops : Nat),
      expand_basis.go op eps A i seed fuel iter f fnorm ops = expand_basis.go op eps B i seed fuel iter f fnorm ops := by
  intro fuel
  induction fuel with
  | zero => intros; rfl
  | succ fuel ih =>
    intro iter f fnorm ops
    unfold expand_basis.go
    dsimp only
    -- the first draw of the pass, as the unfolded model spells it; the literals `3 0`, `5 0` below and in the stage lemmas are the
    -- fuel and start counter the model passes to `expandRefine`, `expand_basis.go` and `reorth`
    generalize hp : (if (iter == 0) = true then (op.A (randomVec (α := α) op.n (seed + 123 * (iter : Int))), ops + 1)
        else (randomVec (α := α) op.n (seed + 123 * (iter : Int)), ops)) = p
    have hps : p.1.size ≤ A.rows := by
      rw [← hp]
      split
      · rw [hop.size]; exact Nat.le_refl _
      · rw [randomVec_size, hop.n]; exact Nat.le_refl _
    obtain ⟨f1, ops1⟩ := p
    dsimp only at hps ⊢
    rw [adjoint_agree op h hi hic f1, subMulVecK0_agree h hi hic f1 _ hps, adjoint_agree op h hi hic]
    rw [expandRefine_agree op eps h hi hic 3 0 _ _ _ _ (by rw [size_subMulVecK0]; exact hps)]
    split
    · rfl
    · exact ih _ _ _ _

theorem expand_basis_agree (op : Op α) (eps : α) {j i : Nat} {A B : Mat α} (h : AgreeCols j A B) (hi : i ≤ j) (hic : i ≤ A.cols)
    (hop : OpWF op A.rows) (seed : Int) (f0 : Vec α) (fnorm0 : α) (ops0 : Nat) :
    expand_basis op eps A i seed f0 fnorm0 ops0 = expand_basis op eps B i seed f0 fnorm0 ops0 := by
  unfold expand_basis
  exact expand_go_agree op eps h hi hic hop seed 5 0 f0 fnorm0 ops0


/-! ### Lanczos::factorize_from reads column `i` of `V` only after writing it -/

theorem lreorth_agree (op : Op α) (eps bt : α) {j i : Nat} {A B : Mat α} (h : AgreeCols j A B) (hi : i + 1 ≤ j) (hic : i + 1 ≤ A.cols) (n : Nat) :
    ∀ (fuel count : Nat) (f : Vec α) (H : Mat α) (beta : α) (Vf : Vec α) (oerr : α) (np : Nat), f.size ≤ A.rows →
      Lanczos.reorth op eps bt A i n fuel count f H beta Vf oerr np = Lanczos.reorth op eps bt B i n fuel count f H beta Vf oerr np := by
  intro fuel
  induction fuel with
  | zero => intros; rfl
  | succ fuel ih =>
    intro count f H beta Vf oerr np hf
    unfold Lanczos.reorth
    split
    · split
      · rfl
      · dsimp only
        rw [subMulVecK0_agree h hi hic f Vf hf, adjoint_agree op h hi hic]
        exact ih _ _ _ _ _ _ _ (by rw [size_subMulVecK0]; exact hf)
    · rfl

/-- first stage of a Lanczos step on basis matrix `V0`: `v <- f / beta` into column `i`, local orthogonality test -/
def stage1 (op : Op α) (es : α) (s : State α) (i : Nat) (V0 : Mat α) : Mat α × Bool :=
  if !(Sc.lt s.beta s.near0) then
    let v := vdivs s.f s.beta
    let V := V0.setCol i v
    if Sc.lt s.beta es then
      let viv := op.inner (V.col (i - 1)) v
      (V, Sc.gt (Sc.abs viv) es)
    else (V, false)
  else (V0, true)

/-- second stage: on restart a new direction from `expand_basis` goes into column `i` -/
def stage2 (op : Op α) (s : State α) (i : Nat) (p : Mat α × Bool) : Mat α × Vec α × α × Nat × Nat :=
  if p.2 then
    let (f, b, ops, acc) := expand_basis op s.eps p.1 i (2 * (i : Int)) s.f s.beta s.ops
    (p.1.setCol i (vdivs f b), f, b, ops, if acc then s.nexpand + 1 else s.nexpand)
  else (p.1, s.f, s.beta, s.ops, s.nexpand)

/-- third stage: the three-term recurrence and the re-orthogonalisation on columns `0..i` -/
def stage3 (op : Op α) (bt : α) (s : State α) (i : Nat) (restart : Bool) (q : Mat α × Vec α × α × Nat × Nat) : State α :=
  let V := q.1
  let beta := q.2.2.1
  let ops := q.2.2.2.1
  let nexp := q.2.2.2.2
  let v := V.col i
  let hsub : α := if restart then zero else beta
  let H := (s.H.set i (i - 1) hsub).set (i - 1) i hsub
  let w := op.A v
  let ops := ops + 1
  let w := if !restart then
      let c := V.col (i - 1)
      vofFn s.n (fun j => vget w j - hsub * vget c j)
    else w
  let hii := op.inner v w
  let H := H.set i i hii
  let f := vofFn s.n (fun j => vget w j - hii * vget v j)
  let beta := op.norm f
  let Vf := op.adjoint V (i + 1) f
  let oerr := maxAbs Vf
  let (f, H, beta, np) := Lanczos.reorth op s.eps bt V i s.n 5 0 f H beta Vf oerr s.nreorth
  { s with V := V, H := H, f := f, beta := beta, ops := ops, nexpand := nexp, nreorth := np }

/-- `Lanczos.factorStep` on a state whose basis matrix is `V0`, in stages -/
theorem factorStep_stages (op : Op α) (bt es : α) (s : State α) (i : Nat) (V0 : Mat α) :
    Lanczos.factorStep op bt es { s with V := V0 } i =
      stage3 op bt s i (stage1 op es s i V0).2 (stage2 op s i (stage1 op es s i V0)) := by
  unfold Lanczos.factorStep stage3 stage2 stage1
  dsimp only


theorem stage1_agree (op : Op α) (es : α) (s : State α) {i : Nat} {A B : Mat α} (h : AgreeCols i A B) (hi : i < A.cols) :
    (stage1 op es s i A).2 = (stage1 op es s i B).2 ∧
    AgreeCols i (stage1 op es s i A).1 (stage1 op es s i B).1 ∧
    ((stage1 op es s i A).2 = false → AgreeCols (i + 1) (stage1 op es s i A).1 (stage1 op es s i B).1) ∧
    (stage1 op es s i A).1.rows = A.rows ∧ (stage1 op es s i A).1.cols = A.cols := by
  have hS := h.setCol hi (vdivs s.f s.beta)
  obtain ⟨_, a2, a3, _⟩ := setCol_spec h.wfA hi (vdivs s.f s.beta)
  unfold stage1
  split
  · dsimp only
    split
    · rw [col_agree hS (by omega : i - 1 < i + 1) (by rw [a3]; omega)]
      exact ⟨rfl, hS.mono (by omega), fun _ => hS, a2, a3⟩
    · exact ⟨rfl, hS.mono (by omega), fun _ => hS, a2, a3⟩
  · exact ⟨rfl, h, fun e => Bool.noConfusion e, rfl, rfl⟩

theorem stage2_restart (op : Op α) (s : State α) (i : Nat) (V : Mat α) :
    stage2 op s i (V, true) =
      let e := expand_basis op s.eps V i (2 * (i : Int)) s.f s.beta s.ops
      (V.setCol i (vdivs e.1 e.2.1), e.1, e.2.1, e.2.2.1, if e.2.2.2 then s.nexpand + 1 else s.nexpand) := rfl

theorem stage2_keep (op : Op α) (s : State α) (i : Nat) (V : Mat α) :
    stage2 op s i (V, false) = (V, s.f, s.beta, s.ops, s.nexpand) := rfl

theorem stage2_agree (op : Op α) (s : State α) {i : Nat} {p p' : Mat α × Bool} (hb : p.2 = p'.2) (h : AgreeCols i p.1 p'.1)
    (h1 : p.2 = false → AgreeCols (i + 1) p.1 p'.1) (hi : i < p.1.cols) (hop : OpWF op p.1.rows) :
    (stage2 op s i p).2 = (stage2 op s i p').2 ∧ AgreeCols (i + 1) (stage2 op s i p).1 (stage2 op s i p').1 ∧
    (stage2 op s i p).1.rows = p.1.rows ∧ (stage2 op s i p).1.cols = p.1.cols := by
  obtain ⟨V, b⟩ := p
  obtain ⟨V', b'⟩ := p'
  dsimp only at hb h h1 hi hop
  subst hb
  cases b with
  | false =>
    rw [stage2_keep, stage2_keep]
    exact ⟨rfl, h1 rfl, rfl, rfl⟩
  | true =>
    have he := expand_basis_agree op s.eps h (Nat.le_refl i) (Nat.le_of_lt hi) hop (2 * (i : Int)) s.f s.beta s.ops
    rw [stage2_restart, stage2_restart]
    dsimp only
    rw [← he]
    generalize expand_basis op s.eps V i (2 * (i : Int)) s.f s.beta s.ops = e
    obtain ⟨_, a2, a3, _⟩ := setCol_spec h.wfA hi (vdivs e.1 e.2.1)
    exact ⟨rfl, h.setCol hi _, a2, a3⟩

theorem stage3_agree (op : Op α) (bt : α) (s : State α) {i : Nat} (restart : Bool) {q q' : Mat α × Vec α × α × Nat × Nat}
    (hq : q.2 = q'.2) (h : AgreeCols (i + 1) q.1 q'.1) (hi : i < q.1.cols) (hn : s.n ≤ q.1.rows) :
    stage3 op bt s i restart q' = { stage3 op bt s i restart q with V := q'.1 } ∧ (stage3 op bt s i restart q).V = q.1 ∧
    (stage3 op bt s i restart q').V = q'.1 ∧ (stage3 op bt s i restart q).n = s.n := by
  obtain ⟨V, r⟩ := q
  obtain ⟨V', r'⟩ := q'
  dsimp only at hq h hi hn
  subst hq
  have c1 : V.col i = V'.col i := col_agree h (by omega) hi
  have c2 : V.col (i - 1) = V'.col (i - 1) := col_agree h (by omega) (by omega)
  unfold stage3
  dsimp only
  rw [← c1, ← c2, ← adjoint_agree op h (Nat.le_refl _) (by omega),
    ← lreorth_agree op s.eps bt h (Nat.le_refl _) (by omega) s.n 5 0 _ _ _ _ _ _ (by rw [size_vofFn]; exact hn)]
  exact ⟨rfl, rfl, rfl, rfl⟩

/-- `t` is `s` with another basis matrix whose columns `< j` agree with those of `s` -/
structure Rel (j : Nat) (s t : State α) : Prop where
  agree : AgreeCols j s.V t.V
  rest : t = { s with V := t.V }

theorem eta_V (s : State α) : s = { s with V := s.V } := by cases s; rfl

/-- the loop body `step · i` writes column `i` of the basis before it reads it (so it keeps `Rel`), and keeps the shape facts `I`
    the next pass needs -/
def WritesFirst (step : State α → Nat → State α) (I : State α → Prop) : Prop :=
  ∀ {i : Nat} {s t : State α}, Rel i s t → I s → i < s.V.cols →
    Rel (i + 1) (step s i) (step t i) ∧ I (step s i) ∧ (step s i).V.cols = s.V.cols

theorem factorStep_rel (op : Op α) (bt es : α) :
    WritesFirst (Lanczos.factorStep op bt es) (fun s => s.n ≤ s.V.rows ∧ OpWF op s.V.rows) := by
  intro i s t h hI hi
  obtain ⟨hag, hrest⟩ := h
  obtain ⟨hn, hop⟩ := hI
  have e1 : Lanczos.factorStep op bt es s i = _ := (congrArg (fun x => Lanczos.factorStep op bt es x i) (eta_V s)).trans (factorStep_stages op bt es s i s.V)
  have e2 : Lanczos.factorStep op bt es t i = _ := (congrArg (fun x => Lanczos.factorStep op bt es x i) hrest).trans (factorStep_stages op bt es s i t.V)
  obtain ⟨s1, s2, s3, s4, s5⟩ := stage1_agree op es s hag hi
  obtain ⟨t1, t2, t3, t4⟩ := stage2_agree op s s1 s2 s3 (by rw [s5]; exact hi) (by rw [s4]; exact hop)
  obtain ⟨u1, u2, u3, u4⟩ := stage3_agree op bt s (stage1 op es s i s.V).2 t1 t2 (by rw [t4, s5]; exact hi) (by rw [t3, s4]; exact hn)
  rw [e1, e2, ← s1]
  have hrows : (stage3 op bt s i (stage1 op es s i s.V).2 (stage2 op s i (stage1 op es s i s.V))).V.rows = s.V.rows := by
    rw [u2, t3, s4]
  refine ⟨⟨?_, ?_⟩, ⟨?_, ?_⟩, ?_⟩
  · rw [u2, u3]; exact t2
  · rw [u3]; exact u1
  · rw [u4, hrows]; exact hn
  · rw [hrows]; exact hop
  · rw [u2, t4, s5]

/-! ### a loop over the columns `k, k+1, …` whose body writes column `i` before reading it -/

section loop
variable (step : State α → Nat → State α) (I : State α → Prop) (hstep : WritesFirst step I)
include hstep

theorem steps_rel (k : Nat) : ∀ (cnt : Nat) {s t : State α}, Rel k s t → I s → k + cnt ≤ s.V.cols →
    Rel (k + cnt) ((List.range cnt).foldl (fun st d => step st (k + d)) s) ((List.range cnt).foldl (fun st d => step st (k + d)) t) ∧
    I ((List.range cnt).foldl (fun st d => step st (k + d)) s) ∧
    ((List.range cnt).foldl (fun st d => step st (k + d)) s).V.cols = s.V.cols := by
  intro cnt
  induction cnt with
  | zero => intro s t h hI _; exact ⟨h, hI, rfl⟩
  | succ cnt ih =>
    intro s t h hI hc
    obtain ⟨r1, r2, r3⟩ := ih h hI (by omega)
    rw [List.range_succ, List.foldl_append, List.foldl_append]
    simp only [List.foldl_cons, List.foldl_nil]
    obtain ⟨q1, q2, q3⟩ := hstep r1 r2 (by rw [r3]; omega)
    exact ⟨q1, q2, q3.trans r3⟩

/-- both `factorize_from` have this shape: guard, zero `H` outside the leading block, run the steps, set `k` -/
theorem factorize_shape_overwrites (s : State α) (B : Mat α) (k : Nat) (h : AgreeCols k s.V B)
    (hI : I { s with H := keepTopLeft s.H k }) :
    (if s.V.cols ≤ k then some { s with V := B } else if k > s.k then none else
      some { (List.range (s.V.cols - k)).foldl (fun st d => step st (k + d)) { s with V := B, H := keepTopLeft s.H k } with k := s.V.cols }) =
    (if s.V.cols ≤ k then some s else if k > s.k then none else
      some { (List.range (s.V.cols - k)).foldl (fun st d => step st (k + d)) { s with H := keepTopLeft s.H k } with k := s.V.cols }) := by
  split
  · rename_i hle
    rw [← h.eq hle]
  · rename_i hlt
    -- run to the last column, the loop has overwritten every column `≥ k`: agreement on all columns is equality
    obtain ⟨r1, _, r3⟩ := steps_rel step I hstep k (s.V.cols - k) (s := { s with H := keepTopLeft s.H k })
      (t := { s with V := B, H := keepTopLeft s.H k }) ⟨h, rfl⟩ hI (by show k + (s.V.cols - k) ≤ s.V.cols; omega)
    have hV := r1.agree.eq (by rw [r3]; show s.V.cols ≤ k + (s.V.cols - k); omega)
    have hrest := r1.rest
    rw [← hV] at hrest
    rw [hrest]

end loop

/-- **written before read**: `Lanczos::factorize_from(from_k, ncv)` on a basis matrix with `ncv` columns does not depend on the
    columns `>= from_k` it finds — every one of them is overwritten before anything reads it — and what it leaves behind is
    identical, stale columns and all -/
theorem factorize_overwrites (op : Op α) (s : State α) (B : Mat α) (from_k : Nat) (h : AgreeCols from_k s.V B)
    (hn : s.n ≤ s.V.rows) (hop : OpWF op s.V.rows) :
    Lanczos.factorize_from op { s with V := B } from_k s.V.cols = Lanczos.factorize_from op s from_k s.V.cols :=
  factorize_shape_overwrites (Lanczos.factorStep op (s.eps * Sc.sqrt (Sc.ofInt (s.n : Int))) (Sc.sqrt s.eps))
    (fun s => s.n ≤ s.V.rows ∧ OpWF op s.V.rows) (factorStep_rel op _ _) s B from_k h ⟨hn, hop⟩

/-- `Arnoldi::init` as the C++ does it on an ALREADY ALLOCATED object: `m_fac_V.resize(m_n, m_m)` keeps the old contents, only
    column 0 is written (`H` is zeroed, `f`, `beta`, `k` are assigned) -/
def initKeepV (op : Op α) (s : State α) (v0 : Vec α) : Option (State α) :=
  let v0norm := op.norm v0
  if Sc.lt v0norm s.near0 then none else
  let v := op.A v0
  let vnorm := op.norm v
  let v := vdivs v vnorm
  let w := op.A v
  let h00 := op.inner v w
  let f := vofFn s.n (fun i => vget w i - vget v i * h00)
  let H := (Mat.zeros s.m s.m).set 0 0 h00
  let V := s.V.setCol 0 v
  let (f, beta) :=
    if Sc.lt (maxAbs f) (s.eps * Sc.abs h00) then (vzero s.n, zero) else (f, op.norm f)
  some { s with V := V, H := H, f := f, beta := beta, k := 1, ops := s.ops + 2 }

/-- for a factorization `fz` that overwrites the columns `≥ 1` before reading them, the C++-faithful `initKeepV` (stale columns
    kept) and the model's zero-filling `Arnoldi.init` give the same object after `fz … 1 ncv`: the two differ only in those columns -/
theorem init_stale_of_overwrites (op : Op α) (fz : State α → Nat → Nat → Option (State α))
    (hfz : ∀ (s : State α) (B : Mat α), AgreeCols 1 s.V B → s.n ≤ s.V.rows → OpWF op s.V.rows →
      fz { s with V := B } 1 s.V.cols = fz s 1 s.V.cols)
    (s : State α) (v0 : Vec α) (hw : WF s.V) (hr : s.V.rows = s.n) (hc : s.V.cols = s.m) (hm : 1 ≤ s.m) (hop : OpWF op s.n) :
    (initKeepV op s v0).bind (fun s' => fz s' 1 s.m) = (Arnoldi.init op s v0).bind (fun s' => fz s' 1 s.m) := by
  -- any well-formed `Z` of the right shape in place of the old contents
  have key : ∀ (Z : Mat α), WF Z → Z.rows = s.n → Z.cols = s.m → ∀ (u : State α), u.n = s.n → ∀ v : Vec α,
      fz { u with V := s.V.setCol 0 v } 1 s.m = fz { u with V := Z.setCol 0 v } 1 s.m := by
    intro Z hZ zr zc u hu v
    have h0 : AgreeCols 0 Z s.V :=
      ⟨hZ, hw, zr.trans hr.symm, zc.trans hc.symm, fun r c _ hc0 _ => absurd hc0 (Nat.not_lt_zero c)⟩
    have hm' : 0 < Z.cols := zc ▸ hm
    obtain ⟨_, a2, a3, _⟩ := setCol_spec hZ hm' v
    have := hfz { u with V := Z.setCol 0 v } (s.V.setCol 0 v) (h0.setCol (i := 0) hm' v)
      (by show u.n ≤ (Z.setCol 0 v).rows; rw [a2, zr, hu]; exact Nat.le_refl _)
      (by show OpWF op (Z.setCol 0 v).rows; rw [a2, zr]; exact hop)
    rwa [show (Z.setCol 0 v).cols = s.m from a3.trans zc] at this
  unfold initKeepV Arnoldi.init
  dsimp only
  split
  · rfl
  · simp only [Option.bind_some]
    split <;> exact key _ (zeros_WF _ _) rfl rfl { s with H := _, f := _, beta := _, k := 1, ops := s.ops + 2 } rfl _

/-- **the stale columns of a reused `m_fac_V` are harmless**: whatever the old basis matrix of the object holds (right shape, as
    `resize` guarantees), the C++-faithful `init` followed by the first factorization of `compute()` gives EXACTLY the object state
    that the model's zero-filling `Arnoldi.init` gives — so the model's simplification loses nothing, and `c06_herm_*` speak about
    the code as it is -/
theorem init_stale_columns_harmless (op : Op α) (s : State α) (v0 : Vec α) (hw : WF s.V) (hr : s.V.rows = s.n) (hc : s.V.cols = s.m)
    (hm : 1 ≤ s.m) (hop : OpWF op s.n) :
    (initKeepV op s v0).bind (fun s' => Lanczos.factorize_from op s' 1 s.m) =
    (Arnoldi.init op s v0).bind (fun s' => Lanczos.factorize_from op s' 1 s.m) :=
  init_stale_of_overwrites op (Lanczos.factorize_from op) (fun s B h => factorize_overwrites op s B 1 h) s v0 hw hr hc hm hop

/-- `C08Mat.setCol_spec` with explicit arguments and the column bound in its last part -/
theorem setCol_spec (m : Mat α) (hw : WF m) (j : Nat) (hj : j < m.cols) (v : Vec α) :
    WF (m.setCol j v) ∧ (m.setCol j v).rows = m.rows ∧ (m.setCol j v).cols = m.cols ∧
    ∀ r c, r < m.rows → c < m.cols → (m.setCol j v).get r c = if c = j then vget v r else m.get r c :=
  ColSet.setCol hw hj v

end
end C06StaleV
