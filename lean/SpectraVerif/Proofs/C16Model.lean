/-
  Lemmas about the `PartialSVDSolver` state machine `Model/SVD.lean`, for EVERY inner kernel record `K` (every behaviour of the
  inner numerics, including exceptions), every matrix, every scalar type.  Core Lean + the orchestration lemmas of C05.
-/
import SpectraVerif.Model.SVD
import SpectraVerif.Properties.C05

namespace SVD
open Lin
set_option linter.unusedSectionVars false

section
variable {φ α ε κ β τ : Type} [Add α] [Sub α] [Mul α] [Div α] [Neg α] [Sc α]
variable (K : Orch.Kern φ α ε κ β τ (Vec α)) (c : Orch.Cfg) (A : Mat α) (v0 : β)

/-! ### frame facts: who writes what -/

/-- `compute` ALWAYS empties the eigenvector cache, whatever it returns or throws (the repair of finding F4 in the C++ class) -/
theorem compute_evecs (maxit : Nat) (tol : τ) (s : St φ α ε κ) : (compute K c v0 maxit tol s).1.evecs = [] := by
  unfold compute
  split
  · rfl
  · dsimp only; split <;> rfl

/-- a normal return of `compute`: `init` did not throw, the inner `compute` returned `r`, and `m_nconv = r` -/
theorem compute_ok (maxit : Nat) (tol : τ) (s : St φ α ε κ) (r : Nat) (h : (compute K c v0 maxit tol s).2 = .ok r) :
    (Orch.init K c v0 s.eigs).2 = none ∧
    (Orch.compute K c LARGEST_ALGE maxit tol LARGEST_ALGE (Orch.init K c v0 s.eigs).1).out = .ok r ∧
    (compute K c v0 maxit tol s).1.eigs = (Orch.compute K c LARGEST_ALGE maxit tol LARGEST_ALGE (Orch.init K c v0 s.eigs).1).st ∧
    (compute K c v0 maxit tol s).1.nconv = r := by
  unfold compute at h ⊢
  rcases hi : Orch.init K c v0 s.eigs with ⟨e1, x⟩
  rw [hi] at h
  cases x with
  | some x => simp at h
  | none =>
    dsimp only at h ⊢
    cases hn : (Orch.compute K c LARGEST_ALGE maxit tol LARGEST_ALGE e1).out with
    | error x => rw [hn] at h; simp at h
    | ok n =>
      rw [hn] at h
      simp only [Except.ok.injEq] at h
      subst h
      exact ⟨rfl, rfl, rfl, rfl⟩

/-- a throwing `compute` leaves `m_nconv` as it was -/
theorem compute_error_nconv (maxit : Nat) (tol : τ) (s : St φ α ε κ) (e : Orch.Exn)
    (h : (compute K c v0 maxit tol s).2 = .error e) : (compute K c v0 maxit tol s).1.nconv = s.nconv := by
  unfold compute at h ⊢
  rcases hi : Orch.init K c v0 s.eigs with ⟨e1, x⟩
  rw [hi] at h
  cases x with
  | some x => rfl
  | none =>
    dsimp only at h ⊢
    cases hn : (Orch.compute K c LARGEST_ALGE maxit tol LARGEST_ALGE e1).out with
    | error x => rfl
    | ok n => rw [hn] at h; simp at h

theorem fillCache_eigs (s : St φ α ε κ) : (fillCache K c s).eigs = s.eigs ∧ (fillCache K c s).nconv = s.nconv := by
  unfold fillCache; split <;> exact ⟨rfl, rfl⟩

theorem fillCache_evecs (s : St φ α ε κ) :
    (fillCache K c s).evecs = if s.evecs.length < 1 then Orch.eigenvectors K c c.nev s.eigs else s.evecs := by
  unfold fillCache; split <;> rfl

/-- what `matrix_U` and `matrix_V` share: fill the cache, cut `k` down to `m_nconv`, hand out the cached side (`cached`) or the
    computed one `B * scaled_evecs(k)` -/
def factor (cached : Bool) (mul : Vec α → Vec α) (k : Nat) (s : St φ α ε κ) : St φ α ε κ × Cols α :=
  (fillCache K c s, if cached then cachedSide (min k (fillCache K c s).nconv) (fillCache K c s)
    else computedSide K c mul (min k (fillCache K c s).nconv) (fillCache K c s))

theorem matrix_U_eq (k : Nat) (s : St φ α ε κ) : matrix_U K c A k s = factor K c (!isTall A) A.mulVec k s := by
  unfold matrix_U factor; cases isTall A <;> rfl

theorem matrix_V_eq (k : Nat) (s : St φ α ε κ) : matrix_V K c A k s = factor K c (isTall A) (tmulVec A) k s := by
  unfold matrix_V factor; cases isTall A <;> rfl

/-! ### the counting invariant -/

/-- what a successful `compute` establishes and every accessor preserves: `m_nconv`, the number of eigenvalues and the number of
    eigenvectors the inner solver hands out all equal `r ≤ nev` -/
structure Good (r : Nat) (s : St φ α ε κ) : Prop where
  nconv : s.nconv = r
  evals : (Orch.eigenvalues K c s.eigs).length = r
  evecs : ∀ nvec, (Orch.eigenvectors K c nvec s.eigs).length = min nvec r
  le : r ≤ c.nev

theorem good_after_compute (hperm : C05.SortPerm K c) (maxit : Nat) (tol : τ) (s : St φ α ε κ) (r : Nat)
    (h : (compute K c v0 maxit tol s).2 = .ok r) : Good K c r (compute K c v0 maxit tol s).1 := by
  obtain ⟨_, hout, hst, hn⟩ := compute_ok K c v0 maxit tol s r h
  obtain ⟨_, h2, h3, h4, _, _⟩ := C05.c05_counts K c hperm LARGEST_ALGE maxit tol LARGEST_ALGE _ r hout
  exact ⟨hn, by rw [hst]; exact h2, by rw [hst]; exact h3, h4⟩

theorem good_fillCache (r : Nat) (s : St φ α ε κ) (hg : Good K c r s) : Good K c r (fillCache K c s) := by
  obtain ⟨he, hn⟩ := fillCache_eigs K c s
  exact ⟨by rw [hn]; exact hg.nconv, by rw [he]; exact hg.evals, by rw [he]; exact hg.evecs, hg.le⟩

/-- the cache is usable for the current count: empty (it will be filled from the current inner state) or long enough -/
def CacheFits (r : Nat) (s : St φ α ε κ) : Prop := s.evecs = [] ∨ r ≤ s.evecs.length

theorem fillCache_length (r : Nat) (s : St φ α ε κ) (hg : Good K c r s) (hf : CacheFits r s) : r ≤ (fillCache K c s).evecs.length := by
  rw [fillCache_evecs]
  rcases hf with h | h
  · simp only [h, List.length_nil, Nat.lt_one_iff, if_true]
    rw [hg.evecs]; have := hg.le; omega
  · split
    · rw [hg.evecs]; have := hg.le; omega
    · exact h

theorem singular_values_length' (s : St φ α ε κ) : (singular_values K c s).length = (Orch.eigenvalues K c s.eigs).length := by
  unfold singular_values; rw [List.length_map]

theorem singular_values_length (r : Nat) (s : St φ α ε κ) (hg : Good K c r s) : (singular_values K c s).length = r := by
  rw [singular_values_length']; exact hg.evals

theorem cachedSide_spec (k : Nat) (s : St φ α ε κ) :
    (∀ cols, cachedSide k s = .ok cols → cols = s.evecs.take k ∧ cols.length = k) ∧
    (k ≤ s.evecs.length → cachedSide k s = .ok (s.evecs.take k)) := by
  unfold cachedSide
  constructor
  · intro cols h
    split at h
    · simp at h
    · rename_i hk
      simp only [Except.ok.injEq] at h
      subst h
      exact ⟨rfl, by simp; omega⟩
  · intro hk
    have : ¬ k > s.evecs.length := by omega
    simp [this]

theorem computedSide_spec (mul : Vec α → Vec α) (k : Nat) (s : St φ α ε κ) :
    (∀ cols, computedSide K c mul k s = .ok cols →
        cols = (List.range k).map (fun j => mul (scaleCol (s.evecs.getD j #[]) ((singular_values K c s).getD j zero))) ∧
        cols.length = k) ∧
    (k ≤ s.evecs.length → k ≤ (singular_values K c s).length →
        computedSide K c mul k s =
          .ok ((List.range k).map (fun j => mul (scaleCol (s.evecs.getD j #[]) ((singular_values K c s).getD j zero))))) := by
  unfold computedSide
  dsimp only
  constructor
  · intro cols h
    split at h
    · simp at h
    · split at h
      · simp at h
      · simp only [Except.ok.injEq] at h
        subst h
        exact ⟨rfl, by simp⟩
  · intro h1 h2
    have a : ¬ k > s.evecs.length := by omega
    have b : ¬ k > (singular_values K c s).length := by omega
    simp [a, b]

/-- **column counts**: whenever a factor is returned it has `min(k, r)` columns; it is returned (no assertion) whenever the cache fits -/
theorem factor_count (cached : Bool) (mul : Vec α → Vec α) (r k : Nat) (s : St φ α ε κ) (hg : Good K c r s) :
    (∀ cols, (factor K c cached mul k s).2 = .ok cols → cols.length = min k r) ∧
    (CacheFits r s → ∃ cols, (factor K c cached mul k s).2 = .ok cols) := by
  have hg1 := good_fillCache K c r s hg
  unfold factor
  dsimp only
  rw [hg1.nconv]
  cases cached
  · constructor
    · intro cols h; exact ((computedSide_spec K c _ (min k r) _).1 cols h).2
    · intro hf
      have := fillCache_length K c r s hg hf
      exact ⟨_, (computedSide_spec K c _ (min k r) _).2 (by omega) (by rw [singular_values_length K c r _ hg1]; omega)⟩
  · constructor
    · intro cols h; exact ((cachedSide_spec (min k r) _).1 cols h).2
    · intro hf
      have := fillCache_length K c r s hg hf
      exact ⟨_, (cachedSide_spec (min k r) _).2 (by omega)⟩

/-! ### accessor-only histories -/

/-- a call that is not `compute` -/
def Call.isAccessor : Call τ → Bool
  | .compute _ _ => false
  | _ => true

theorem step_accessor (s : St φ α ε κ) (a : Call τ) (ha : a.isAccessor = true) :
    step K c A v0 s a = s ∨ step K c A v0 s a = fillCache K c s := by
  cases a with
  | compute _ _ => cases ha
  | singular_values => exact .inl rfl
  | matrix_U k => exact .inr (congrArg Prod.fst (matrix_U_eq K c A k s))
  | matrix_V k => exact .inr (congrArg Prod.fst (matrix_V_eq K c A k s))

theorem run_accessors_inv (P : St φ α ε κ → Prop) (hP : ∀ t, P t → P (fillCache K c t)) (s : St φ α ε κ)
    (acc : List (Call τ)) (hacc : ∀ a ∈ acc, a.isAccessor = true) (h : P s) : P (run K c A v0 s acc) := by
  refine ListFold.foldl_inv P (step K c A v0) acc s h fun t a ha ht => ?_
  rcases step_accessor K c A v0 t a (hacc a ha) with e | e <;> rw [e]
  · exact ht
  · exact hP t ht

/-- the cache is "fresh": empty, or exactly what `m_eigs->eigenvectors()` returns for the CURRENT inner state -/
def Fresh (s : St φ α ε κ) : Prop := s.evecs = [] ∨ s.evecs = Orch.eigenvectors K c c.nev s.eigs

theorem fresh_fillCache (s : St φ α ε κ) (hf : Fresh K c s) :
    Fresh K c (fillCache K c s) ∧ ((fillCache K c s).evecs = Orch.eigenvectors K c c.nev s.eigs) := by
  have he := (fillCache_eigs K c s).1
  have : (fillCache K c s).evecs = Orch.eigenvectors K c c.nev s.eigs := by
    rw [fillCache_evecs]
    rcases hf with h | h
    · rw [h]; rfl
    · split
      · rfl
      · exact h
  exact ⟨Or.inr (by rw [this, he]), this⟩

theorem run_accessors (s : St φ α ε κ) (acc : List (Call τ)) (hacc : ∀ a ∈ acc, a.isAccessor = true) :
    (run K c A v0 s acc).eigs = s.eigs ∧ (run K c A v0 s acc).nconv = s.nconv ∧
    (Fresh K c s → Fresh K c (run K c A v0 s acc)) :=
  run_accessors_inv K c A v0 (fun t => t.eigs = s.eigs ∧ t.nconv = s.nconv ∧ (Fresh K c s → Fresh K c t))
    (fun t ⟨h1, h2, h3⟩ => ⟨(fillCache_eigs K c t).1.trans h1, (fillCache_eigs K c t).2.trans h2,
      fun hf => (fresh_fillCache K c t (h3 hf)).1⟩) s acc hacc ⟨rfl, rfl, id⟩

theorem good_run_accessors (r : Nat) (s : St φ α ε κ) (acc : List (Call τ)) (hacc : ∀ a ∈ acc, a.isAccessor = true)
    (hg : Good K c r s) : Good K c r (run K c A v0 s acc) := by
  obtain ⟨h1, h2, _⟩ := run_accessors K c A v0 s acc hacc
  exact ⟨by rw [h2]; exact hg.nconv, by rw [h1]; exact hg.evals, by rw [h1]; exact hg.evecs, hg.le⟩

/-! ### what the factors are when the cache is fresh -/

/-- the side the eigenproblem was solved for, as a function of the inner solver's eigenvector list -/
def specCached (E : List (Vec α)) (k r : Nat) : List (Vec α) := E.take (min k r)

/-- the other side, as a function of the singular values and the inner solver's eigenvectors: column `j` is `B (e_j / σ_j)`
    (`B 0` where `σ_j` is not positive) -/
def specComputed (mul : Vec α → Vec α) (lam : List α) (E : List (Vec α)) (k r : Nat) : List (Vec α) :=
  (List.range (min k r)).map (fun j => mul (scaleCol (E.getD j #[]) (lam.getD j zero)))

/-- with a fresh cache a factor is a function of the CURRENT inner solver state only -/
theorem factor_fresh (cached : Bool) (mul : Vec α → Vec α) (r k : Nat) (s : St φ α ε κ) (hg : Good K c r s) (hf : Fresh K c s) :
    (factor K c cached mul k s).2 = .ok (if cached then specCached (Orch.eigenvectors K c c.nev s.eigs) k r
      else specComputed mul (singular_values K c s) (Orch.eigenvectors K c c.nev s.eigs) k r) := by
  have hg1 := good_fillCache K c r s hg
  obtain ⟨_, hev⟩ := fresh_fillCache K c s hf
  have hlen : r ≤ (fillCache K c s).evecs.length := by rw [hev, hg.evecs]; have := hg.le; omega
  unfold factor
  dsimp only
  rw [hg1.nconv]
  cases cached
  · rw [if_neg Bool.false_ne_true, if_neg Bool.false_ne_true,
      (computedSide_spec K c _ (min k r) _).2 (by omega) (by rw [singular_values_length K c r _ hg1]; omega)]
    have hsv : singular_values K c (fillCache K c s) = singular_values K c s := by
      unfold singular_values; rw [(fillCache_eigs K c s).1]
    simp only [specComputed, hev, hsv]
  · rw [if_pos rfl, if_pos rfl, (cachedSide_spec (min k r) _).2 (by omega)]
    simp only [specCached, hev]

end
end SVD
