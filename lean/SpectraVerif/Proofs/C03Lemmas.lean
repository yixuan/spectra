/-
  C03 helper lemmas: the executable model `Model/GSymSolver.lean` instantiated at an exact field, expressed in Mathlib's `Matrix`
  language.  `toFn`/`matOf` read a model vector / row-major array as a function on `Fin n`; every sub-operator of the model is then a
  `Matrix.mulVec`, the composite operators of the five modes are the documented matrix products, the inner product of the model's
  `ArnoldiOp` is the bilinear form of the documented matrix, `assemble` is `V *ᵥ y`.
-/
import Mathlib.Algebra.BigOperators.Fin
import Mathlib.LinearAlgebra.Matrix.NonsingularInverse
import SpectraVerif.Proofs.Spectral
import SpectraVerif.Proofs.C07Refine
import SpectraVerif.Proofs.LinField
import SpectraVerif.Model.GSymSolver

open Matrix

namespace C03L
open GSymSolver Lin

/-- what "exact arithmetic" means for the scalar class: integer literals are the field's, `Sc.eq` decides equality
    (true of `scOfField F` for every `F`: `scExact_ofField`) -/
structure ScExact (K : Type) [Field K] [Sc K] : Prop where
  ofInt : ∀ i : Int, (Sc.ofInt i : K) = (i : K)
  eq_iff : ∀ a b : K, Sc.eq a b = true ↔ a = b

theorem scExact_ofField {K : Type} [Field K] [LinearOrder K] [IsStrictOrderedRing K] (F : FieldFns K) :
    @ScExact K _ (scOfField F) :=
  @ScExact.mk K _ (scOfField F) (fun _ => rfl) (fun a b => by simp)

section
variable {K : Type} [Field K] [Sc K] (hS : ScExact K)
include hS

theorem h0 : (Sc.ofInt 0 : K) = 0 := by rw [hS.ofInt]; simp
theorem zero_eq : (Lin.zero : K) = 0 := by simp [Lin.zero, h0 hS]
theorem one_eq : (Lin.one : K) = 1 := by simp [Lin.one, hS.ofInt]

/-- a model vector read as a function on `Fin n` (only the first `n` entries matter) -/
def toFn (n : ℕ) (x : Vec K) : Fin n → K := fun i => vget x i
/-- a row-major array read as a square matrix -/
def matOf (n : ℕ) (a : Array K) : Matrix (Fin n) (Fin n) K := fun i j => a.getD (i.val * n + j.val) 0

/-- the harness' product loop is `Matrix.mulVec` -/
theorem rowMajorOp_toFn (n : ℕ) (a : Array K) (x : Vec K) :
    toFn n (Arnoldi.rowMajorOp n a x) = matOf n a *ᵥ toFn n x := by
  ext i
  simp only [toFn, mulVec, dotProduct, matOf]
  rw [C07R.rowMajorOp_eq (h0 hS) n a x i.val i.isLt, Finset.sum_range]

/-- the transposed loop is `mulVec` with the transpose -/
theorem rowMajorTOp_toFn (n : ℕ) (a : Array K) (x : Vec K) :
    toFn n (rowMajorTOp n a x) = (matOf n a)ᵀ *ᵥ toFn n x := by
  ext i
  simp only [toFn, mulVec, dotProduct, matOf, transpose_apply]
  unfold rowMajorTOp
  rw [ListFold.vget_vofFn _ _ _ i.isLt, C07R.sum0_eq (h0 hS), Finset.sum_range, zero_eq hS]

omit hS in
theorem toFn_vofFn (n : ℕ) (f : ℕ → K) : toFn n (vofFn n f) = fun i : Fin n => f i.val := by
  ext i; simp only [toFn]; exact ListFold.vget_vofFn _ _ _ i.isLt

/-! ### the pencil's matrices -/
def Amat (P : Pencil K) : Matrix (Fin P.n) (Fin P.n) K := matOf P.n P.A
def Bmat (P : Pencil K) : Matrix (Fin P.n) (Fin P.n) K := matOf P.n P.B
def Xmat (P : Pencil K) : Matrix (Fin P.n) (Fin P.n) K := matOf P.n P.aux

theorem opA_toFn (P : Pencil K) (x : Vec K) : toFn P.n (opA P x) = Amat P *ᵥ toFn P.n x := rowMajorOp_toFn hS _ _ _
theorem opB_toFn (P : Pencil K) (x : Vec K) : toFn P.n (opB P x) = Bmat P *ᵥ toFn P.n x := rowMajorOp_toFn hS _ _ _
theorem opAux_toFn (P : Pencil K) (x : Vec K) : toFn P.n (opAux P x) = Xmat P *ᵥ toFn P.n x := rowMajorOp_toFn hS _ _ _
theorem opAuxT_toFn (P : Pencil K) (x : Vec K) : toFn P.n (opAuxT P x) = (Xmat P)ᵀ *ᵥ toFn P.n x := rowMajorTOp_toFn hS _ _ _

/-- the matrix of the composite operator each mode hands to the Lanczos factorization -/
def opMat (m : Mode) (P : Pencil K) : Matrix (Fin P.n) (Fin P.n) K :=
  match m with
  | .cholesky => Xmat P * Amat P * (Xmat P)ᵀ
  | .regularInverse => Xmat P * Amat P
  | .shiftInvert => Xmat P * Bmat P
  | .buckling => Xmat P * Amat P
  | .cayley => 1 + (2 * P.sigma) • (Xmat P * Bmat P)

theorem cayley_toFn (P : Pencil K) (x : Vec K) :
    toFn P.n (cayleyPerformOp P x) = toFn P.n x + (2 * P.sigma) • (Xmat P *ᵥ (Bmat P *ᵥ toFn P.n x)) := by
  unfold cayleyPerformOp Ops.cayleyOp
  show toFn P.n (vofFn P.n (fun i => vget x i + vget (vofFn P.n (fun i => (Sc.ofInt 2 * P.sigma) * vget (opAux P (opB P x)) i)) i)) = _
  rw [toFn_vofFn]
  ext i
  rw [ListFold.vget_vofFn _ _ _ i.isLt, hS.ofInt]
  have h1 := congrFun (opAux_toFn hS P (opB P x)) i
  rw [opB_toFn hS] at h1
  simp only [toFn] at h1
  simp only [Pi.add_apply, Pi.smul_apply, smul_eq_mul, toFn, h1]
  norm_num

/-- **the model's composite operator is the documented matrix**, all five modes -/
theorem performOp_toFn (m : Mode) (P : Pencil K) (x : Vec K) :
    toFn P.n (performOp m P x) = opMat m P *ᵥ toFn P.n x := by
  cases m <;>
    simp only [performOp, Ops.choleskyOp, Ops.regInvOp, Ops.shiftInvertOp, Ops.bucklingOp, opAux_toFn hS, opA_toFn hS,
      opB_toFn hS, opAuxT_toFn hS, cayley_toFn hS, opMat, mulVec_mulVec, Matrix.mul_assoc, add_mulVec, one_mulVec, smul_mulVec]

/-! ### the inner product of the model's `ArnoldiOp` -/

/-- matrix of the inner product: identity in Cholesky mode, `K` (= `P.A`) in buckling mode, `B` otherwise -/
def ipMat (m : Mode) (P : Pencil K) : Matrix (Fin P.n) (Fin P.n) K :=
  match m with
  | .cholesky => 1
  | .buckling => Amat P
  | _ => Bmat P

omit hS in
theorem size_rowMajorOp (n : ℕ) (a : Array K) (x : Vec K) : (Arnoldi.rowMajorOp n a x).size = n :=
  Array.size_ofFn

theorem dot_toFn (n : ℕ) (x y : Vec K) (hx : x.size = n) : Lin.dot x y = toFn n x ⬝ᵥ toFn n y := by
  rw [LinField.dot_eq (h0 hS), hx, Finset.sum_range]; rfl

/-- `ArnoldiOp::inner_product(x, y)` of the model is `xᵀ G y` with `G = ipMat` -/
theorem inner_toFn (m : Mode) (P : Pencil K) (x y : Vec K) (hx : x.size = P.n) :
    (arnoldiOp m P).inner x y = toFn P.n x ⬝ᵥ (ipMat m P *ᵥ toFn P.n y) := by
  cases m <;>
    simp only [Arnoldi.Op.inner, arnoldiOp, innerOp, dot_toFn hS _ _ _ hx, opA_toFn hS, opB_toFn hS, ipMat, one_mulVec]

/-- `m_fac.matrix_V() * y` of the model is `V *ᵥ y`; for a family of coordinate vectors `ys`, as columns of one matrix: `V Y` -/
theorem assemble_mat {ι : Type} (n ncv : ℕ) (s : Arnoldi.State K) (hrows : s.V.rows = n) (ys : ι → Vec K) :
    (Matrix.of fun i c => toFn n (HermSolver.assemble ncv s (ys c)) i) =
      (Matrix.of fun (i : Fin n) (j : Fin ncv) => s.V.get i.val j.val) * (Matrix.of fun (j : Fin ncv) (c : ι) => vget (ys c) j.val) := by
  ext i c
  simp only [Matrix.of_apply, Matrix.mul_apply, toFn, HermSolver.assemble]
  rw [C07R.mulVecK0_eq (h0 hS) s.V ncv (ys c) i.val (by rw [hrows]; exact i.isLt), Finset.sum_range]

/-- Cholesky mode's `eigenvectors()` post-processing is multiplication by `L⁻ᵀ` (the other modes return the Ritz vector itself):
    it hands back the columns of `L⁻ᵀ Y` -/
theorem vecBack_cholesky_mat {ι : Type} (P : Pencil K) (ys : ι → Vec K) :
    (Matrix.of fun i c => toFn P.n (vecBack .cholesky P (ys c)) i) = (Xmat P)ᵀ * Matrix.of fun i c => toFn P.n (ys c) i :=
  Matrix.ext fun i c => congrFun (opAuxT_toFn hS P (ys c)) i

/-- the shift guard at an exact field: it throws exactly for a zero shift in buckling or Cayley mode -/
theorem sigma_guard_spec (m : Mode) (σ : K) :
    ((m = .buckling ∨ m = .cayley) ∧ σ = 0 → Gen.Guard.sigma_guard m.code σ = Res.throw "std::invalid_argument") ∧
    (¬((m = .buckling ∨ m = .cayley) ∧ σ = 0) → Gen.Guard.sigma_guard m.code σ = Res.ok ()) := by
  have hz : Sc.eq σ (Sc.ofInt 0) = true ↔ σ = 0 := by rw [hS.eq_iff, h0 hS]
  cases m <;> simp [Gen.Guard.sigma_guard, Mode.code, hz]

/-! ### back-transformations -/
theorem back_shiftInvert (sigma nu : K) : back Mode.shiftInvert sigma nu = sigma + nu⁻¹ := by
  show Lin.one / nu + sigma = _
  rw [one_eq hS]; ring
theorem back_buckling (sigma nu : K) : back Mode.buckling sigma nu = sigma * nu / (nu - 1) := by
  show sigma * nu / (nu - Lin.one) = _
  rw [one_eq hS]
theorem back_cayley (sigma nu : K) : back Mode.cayley sigma nu = sigma * (nu + 1) / (nu - 1) := by
  show sigma * (nu + Lin.one) / (nu - Lin.one) = _
  rw [one_eq hS]

end

/-! ### pure matrix algebra -/
section alg
variable {n m ι : Type} [Fintype n] [Fintype m] {K : Type} [Field K]

/-- `Vᵀ G V = I`, `Yᵀ Y = I`  ⇒  `(V Y)ᵀ G (V Y) = I` -/
theorem gram_of_orth [DecidableEq m] [DecidableEq ι] (G : Matrix n n K) (V : Matrix n m K) (Y : Matrix m ι K)
    (hV : Vᵀ * G * V = 1) (hY : Yᵀ * Y = 1) : (V * Y)ᵀ * G * (V * Y) = 1 := by
  rw [transpose_mul, Matrix.mul_assoc Yᵀ, Matrix.mul_assoc Yᵀ, ← Matrix.mul_assoc (Vᵀ * G), hV, Matrix.one_mul, hY]

theorem solve_mulVec [DecidableEq n] (M X N : Matrix n n K) (hM : M * X = 1) (v : n → K) : M *ᵥ ((X * N) *ᵥ v) = N *ᵥ v := by
  rw [mulVec_mulVec, ← Matrix.mul_assoc, hM, Matrix.one_mul]

theorem transpose_inv_mul [DecidableEq n] (L Linv : Matrix n n K) (hL : L * Linv = 1) : Lᵀ * Linvᵀ = 1 := by
  rw [← transpose_mul, mul_eq_one_comm.mp hL, transpose_one]

end alg
end C03L
