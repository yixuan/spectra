/-
  C09, whole-run similarity of UpperHessenbergSchur: one Francis sweep (`perform_francis_qr_step`) carries the invariant
  `Uᵀ H U = L + S + E`, `L` = logical `T`, `S` = shift matrix, `E` = accumulated drop with budget.
-/
import SpectraVerif.Proofs.C09SchurArr
import SpectraVerif.Proofs.C09OrthU

set_option linter.unusedSectionVars false

namespace C09SS
open Lin EigenPrims HessSchur C09Mat C09Step C09Sim C09OrthU C09Orth
open scoped Matrix

section field
variable {K : Type} [Field K] [LinearOrder K] [IsStrictOrderedRing K] (F : FieldFns K)

/-- ghost: what one trip of the reflector loop drops (`ℓ¹` norm of the spike `P x − (b, 0, 0)ᵀ` in column `k − 1`).
    Applied reflector, not the first of the sweep, non-degenerate `makeHouseholder`: `0` (`francisDrop_nonfirst`).
    Applied, first of the sweep: `|T(k,k−1)|·(|1 − τ ∓ 1| + |τ v1| + |τ v2|)` (the column `k − 1` is not transformed).
    Skipped (`|β| ≤ near_0`), or degenerate `makeHouseholder` (`τ = 0`): the two bulge entries `|T(k+1,k−1)| + |T(k+2,k−1)|`. -/
def francisDrop (il im : ℕ) (near0 : K) (fv : K × K × K) (s : TU K) (k : ℕ) : K :=
  letI : Sc K := scOfField F
  if k = 0 then 0 else
  let x0 := s.t.get k (k - 1)
  let x1 := s.t.get (k + 1) (k - 1)
  let x2 := s.t.get (k + 2) (k - 1)
  let v : K × K × K := if k = im then fv else (x0, x1, x2)
  let h := makeHouseholder v.1 v.2.1 v.2.2
  if Sc.gt (Sc.abs h.beta) near0 then
    let b := if k = im then (if il < k then -x0 else x0) else h.beta
    let r := hhKernel h.v1 h.v2 h.tau x0 x1 x2
    |r.1 - b| + |r.2.1| + |r.2.2|
  else |x1| + |x2|

/-- the write of `β` (resp. the negation of `T(k, k−1)`) in front of the reflector application -/
theorem T0_spec (n : ℕ) (t : Mat K) (hw : @WF K t) (hr : t.rows = n) (hc : t.cols = n) (k il im : ℕ) (beta : K) (hik : im ≤ k) (hk : k < n) :
    Arr F n (if (decide (k = im) && decide (il < k)) = true then @Mat.set K t k (k - 1) (-@Mat.get K (scOfField F) t k (k - 1))
        else if (!decide (k = im)) = true then @Mat.set K t k (k - 1) beta else t)
      (fun i j => if i = k ∧ j + 1 = k then (if k = im then (if il < k then -gf F t k (k - 1) else gf F t k (k - 1)) else beta)
        else gf F t i j) := by
  let _ : Sc K := scOfField F
  by_cases hf : k = im
  · by_cases hl : il < k
    · rw [if_pos (by rw [decide_eq_true hf, decide_eq_true hl]; rfl)]
      simp only [if_pos hf, if_pos hl]
      exact (Arr.self F hw hr hc).setSub F k hk (by omega) _
    · rw [if_neg (by rw [decide_eq_false hl, Bool.and_false]; exact Bool.false_ne_true),
        if_neg (by rw [decide_eq_true hf]; exact Bool.false_ne_true)]
      simp only [if_pos hf, if_neg hl]
      refine ⟨hw, hr, hc, fun i j _ _ => ?_⟩
      dsimp only
      split
      · rename_i h; rw [h.1, show k - 1 = j by omega]
      · rfl
  · rw [if_neg (by rw [decide_eq_false hf, Bool.false_and]; exact Bool.false_ne_true), if_pos (by rw [decide_eq_false hf]; rfl)]
    simp only [if_neg hf]
    exact (Arr.self F hw hr hc).setSub F k hk (by omega) _

/-- one trip of the reflector loop, function level: `v1 v2 tau` is the reflector applied (`0 0 0` when the trip is skipped), `d0 d1 d2` the
    spike it leaves in column `k − 1` (the part of `P x` the code overwrites by `β` or drops), whose `ℓ¹` norm is `francisDrop` -/
theorem francisBody_fn (hh : IdealHH F) (n il im iu : ℕ) (near0 : K) (fv : K × K × K) (s : TU K) (k : ℕ)
    (hik : im ≤ k) (hk2 : k + 2 ≤ iu) (hiu : iu < n) (hw : @WF K s.t) (hr : s.t.rows = n) (hc : s.t.cols = n)
    (orth : ColsOrth F n s.u) (hP : Pat n im iu k (live im k (gf F s.t))) :
    ∃ v1 v2 tau d0 d1 d2 : K, tau * (tau * (1 + v1 * v1 + v2 * v2) - 2) = 0 ∧
      (∀ i j, i < n → j < n →
        gf F (@francisBody K _ _ _ _ _ (scOfField F) n il im iu near0 fv s k).u i j = rmul (opP k v1 v2 tau) (gf F s.u) i j) ∧
      (∀ i j, i < n → j < n → live im (k + 1) (gf F (@francisBody K _ _ _ _ _ (scOfField F) n il im iu near0 fv s k).t) i j =
        rmul (opP k v1 v2 tau) (lmul (opP k v1 v2 tau) (live im k (gf F s.t))) i j - spike k d0 d1 d2 i j) ∧
      Pat n im iu (k + 1) (live im (k + 1) (gf F (@francisBody K _ _ _ _ _ (scOfField F) n il im iu near0 fv s k).t)) ∧
      francisDrop F il im near0 fv s k = if k = 0 then 0 else |d0| + |d1| + |d2| := by
  let _ : Sc K := scOfField F
  simp only [francisBody, francisDrop]
  generalize hv : (if k = im then fv else (s.t.get k (k - 1), s.t.get (k + 1) (k - 1), s.t.get (k + 2) (k - 1))) = v
  have hideal := hh v.1 v.2.1 v.2.2
  generalize hq : makeHouseholder v.1 v.2.1 v.2.2 = q at hideal ⊢
  have a0 := T0_spec F n s.t hw hr hc k il im q.beta hik (by omega)
  generalize (if (decide (k = im) && decide (il < k)) = true then s.t.set k (k - 1) (-s.t.get k (k - 1))
      else if (!decide (k = im)) = true then s.t.set k (k - 1) q.beta else s.t) = T0 at a0 ⊢
  clear hr hc
  have hX : ∀ a, 0 < k → gf F s.t a (k - 1) = live im k (gf F s.t) a (k - 1) := fun a h => (live_right im k _ a (k - 1) (by omega)).symm
  by_cases happ : Sc.gt (Sc.abs q.beta) near0 = true
  · simp only [if_pos happ]
    have a1 := (a0.hhLeft F k k (n - k) (by omega) (by omega) q.v1 q.v2 q.tau).hhRight F k (min iu (k + 3) + 1) (by omega) (by omega)
      q.v1 q.v2 q.tau
    have hT := (winP k q.v1 q.v2 q.tau).pat_step n im iu _ (by omega) (by omega) hiu (Or.inl (le_refl 3)) (by omega)
      (gf F s.t) _ _ _ hP (fun _ _ _ _ => rfl) a1.2.2.2
    refine ⟨q.v1, q.v2, q.tau, _, _, _, hideal, ((Arr.self F orth.1 orth.2.1 orth.2.2.1).hhRight_full F k (by omega) _ _ _).2.2.2,
      fun i j hi hj => by rw [hT i j hi hj, wspike_P], pat_refl n im iu k hik hk2 hiu _ _ _ _ _ _ _ hP hX hT, ?_⟩
    simp only [hhKernel]; rfl
  · simp only [if_neg happ]
    have hT := (winP k (0 : K) 0 0).pat_step n im iu (iu + 1) (by omega) (by omega) hiu (Or.inl (le_refl 3)) (by omega)
      (gf F s.t) (gf F s.t) (gf F s.t) (gf F s.t k (k - 1)) hP (fun i j _ _ => self_write _ k i j)
      (fun i j _ _ => by rw [opP_tau0, wlr_id])
    refine ⟨0, 0, 0, _, _, _, by ring, fun i j _ _ => by rw [opP_tau0]; rfl, fun i j hi hj => by rw [hT i j hi hj, wspike_P],
      pat_refl n im iu k hik hk2 hiu _ _ _ _ _ _ _ hP hX hT, ?_⟩
    by_cases hk0 : k = 0
    · simp only [if_pos hk0]
    · simp only [if_neg hk0, gf]; simp

/-- **sweep invariant** in front of the reflector `k` of a Francis sweep on the window `im .. iu`: `Uᵀ H U = L + S + E` where `L` is the
    logical `T` (stale bulge entries of the chased columns regarded as `0`), `S = ex·diag(1 on rows ≤ iu)`, and `E` has budget `b` -/
structure SInv (n im iu k : ℕ) (H : Matrix (Fin n) (Fin n) K) (ex : K) (s : TU K) (b : K) : Prop where
  wf : @WF K s.t
  rows : s.t.rows = n
  cols : s.t.cols = n
  orth : ColsOrth F n s.u
  pat : Pat n im iu k (live im k (gf F s.t))
  sim : ∃ E : Matrix (Fin n) (Fin n) K, Bnd E b ∧
    (mat n (gf F s.u))ᵀ * H * mat n (gf F s.u) = mat n (live im k (gf F s.t)) + Sm n (iu + 1) ex + E

/-- **one trip of the reflector loop keeps the invariant**, the budget grows by `francisDrop` -/
theorem francisBody_sinv (hh : IdealHH F) (n il im iu : ℕ) (near0 : K) (fv : K × K × K) (H : Matrix (Fin n) (Fin n) K) (ex : K)
    (s : TU K) (k : ℕ) (b : K) (hik : im ≤ k) (hk2 : k + 2 ≤ iu) (hiu : iu < n) (h : SInv F n im iu k H ex s b) :
    SInv F n im iu (k + 1) H ex (@francisBody K _ _ _ _ _ (scOfField F) n il im iu near0 fv s k)
      (b + francisDrop F il im near0 fv s k) := by
  let _ : Sc K := scOfField F
  obtain ⟨v1, v2, tau, d0, d1, d2, ht, hU, hT, hpat, hdrop⟩ :=
    francisBody_fn F hh n il im iu near0 fv s k hik hk2 hiu h.wf h.rows h.cols h.orth h.pat
  have hp := C09Schur.pres_francisBody n n il im iu near0 fv s h.wf k (by omega) (by omega)
  obtain ⟨E, hE, sim⟩ := h.sim
  refine ⟨hp.1, by rw [hp.2.1, h.rows], by rw [hp.2.2.1, h.cols],
    francisBody_orth F hh n il im iu near0 fv s k (by omega) h.orth, hpat, ?_⟩
  rw [hdrop]
  exact (winQ_P n k (by omega) v1 v2 tau ht).sim (iu + 1) (Or.inl (by omega)) H ex _ _ _ _ _ E b _ hE
    (fun _ _ hE' => bnd_add_spike hE' k d0 d1 d2) sim hU hT

/-- the reflector loop with its ghost budget -/
def sweepPair (n il im iu : ℕ) (near0 : K) (fv : K × K × K) (s : TU K) (j : ℕ) : TU K × K :=
  (List.range j).foldl (fun acc kk => (@francisBody K _ _ _ _ _ (scOfField F) n il im iu near0 fv acc.1 (im + kk),
    acc.2 + francisDrop F il im near0 fv acc.1 (im + kk))) (s, 0)

theorem sweepPair_succ (n il im iu : ℕ) (near0 : K) (fv : K × K × K) (s : TU K) (j : ℕ) :
    sweepPair F n il im iu near0 fv s (j + 1) =
      (@francisBody K _ _ _ _ _ (scOfField F) n il im iu near0 fv (sweepPair F n il im iu near0 fv s j).1 (im + j),
        (sweepPair F n il im iu near0 fv s j).2 + francisDrop F il im near0 fv (sweepPair F n il im iu near0 fv s j).1 (im + j)) := by
  simp only [sweepPair, List.range_succ, List.foldl_append, List.foldl_cons, List.foldl_nil]

theorem sweepPair_fst (n il im iu : ℕ) (near0 : K) (fv : K × K × K) (s : TU K) (j : ℕ) :
    (sweepPair F n il im iu near0 fv s j).1 =
      (List.range j).foldl (fun acc kk => @francisBody K _ _ _ _ _ (scOfField F) n il im iu near0 fv acc (im + kk)) s := by
  induction j with
  | zero => rfl
  | succ j ih => rw [sweepPair_succ, ih, List.range_succ, List.foldl_append]; rfl

theorem francisDrop_nonneg (il im : ℕ) (near0 : K) (fv : K × K × K) (s : TU K) (k : ℕ) :
    0 ≤ francisDrop F il im near0 fv s k := by
  unfold francisDrop
  exact ite_nonneg le_rfl (ite_nonneg (add_nonneg (add_nonneg (abs_nonneg _) (abs_nonneg _)) (abs_nonneg _))
    (add_nonneg (abs_nonneg _) (abs_nonneg _)))

theorem sweepPair_nonneg (n il im iu : ℕ) (near0 : K) (fv : K × K × K) (s : TU K) (j : ℕ) :
    0 ≤ (sweepPair F n il im iu near0 fv s j).2 := by
  induction j with
  | zero => exact le_refl _
  | succ j ih => rw [sweepPair_succ]; exact add_nonneg ih (francisDrop_nonneg F il im near0 fv _ _)

theorem sweep_sinv (hh : IdealHH F) (n il im iu : ℕ) (near0 : K) (fv : K × K × K) (H : Matrix (Fin n) (Fin n) K) (ex : K)
    (s : TU K) (b : K) (hiu : iu < n) (h : SInv F n im iu im H ex s b) (j : ℕ) (hj : im + j + 1 ≤ iu) :
    SInv F n im iu (im + j) H ex (sweepPair F n il im iu near0 fv s j).1 (b + (sweepPair F n il im iu near0 fv s j).2) := by
  induction j with
  | zero => show SInv F n im iu im H ex s (b + 0); rw [add_zero]; exact h
  | succ j ih =>
    simp only [sweepPair_succ, ← add_assoc]
    exact francisBody_sinv F hh n il im iu near0 fv H ex _ (im + j) _ (by omega) (by omega) hiu (ih (by omega))

end field
end C09SS
