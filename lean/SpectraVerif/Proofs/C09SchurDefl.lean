/-
  C09, whole-run similarity of UpperHessenbergSchur: the three non-sweep branches of the main loop —
  1x1 deflation, `split_off_two_rows` (2x2 standardisation), `compute_shift` — carry `Uᵀ H U = T + S + E`.
-/
import SpectraVerif.Proofs.C09SchurFrancis
import SpectraVerif.Proofs.C09SimU

set_option linter.unusedSectionVars false

namespace C09SS
open Lin EigenPrims HessSchur C09Mat C09Step C09Sim C09OrthU C09Orth
open scoped Matrix

section ring
variable {R : Type} [CommRing R]

/-- **`split_off_two_rows` at the function level.**  `A` is upper Hessenberg with `A(p+2, p+1) = 0`, `T2` is `A` with `ex` added to the
    two diagonal entries of the block, `T'` is `T2` after the windowed rotation with `(p+1, p)` and `(p, p−1)` overwritten by `0`.  If the
    rotation annihilates the `(2,1)` entry of the shifted block, `T'` is `Gᵀ M G` for `M` = `T2` without its entry `x` at `(p, p−1)`:
    left of the block the rows `p, p+1` of `M` vanish and below it the columns `p, p+1` do, so the window loses nothing. -/
theorem split_fn (n p : ℕ) (hp : p + 1 < n) (A T2 T' : ℕ → ℕ → R) (ex c s x : R)
    (hA : ∀ i j, j + 2 ≤ i → i < n → A i j = 0) (hz : p + 1 + 1 < n → A (p + 1 + 1) (p + 1) = 0)
    (hx : x = if 0 < p then A p (p - 1) else 0)
    (g2 : ∀ i j, i < n → j < n → T2 i j = A i j + sgl (p + 1) (p + 1) ex i j + sgl p p ex i j)
    (hstd : c * (s * (A p p + ex) + c * A (p + 1) p) - s * (s * A p (p + 1) + c * (A (p + 1) (p + 1) + ex)) = 0)
    (gT : ∀ i j, i < n → j < n → T' i j =
      if i = p ∧ j + 1 = p then 0 else if i = p + 1 ∧ j = p then 0 else wr (opG p c s) (p + 1 + 1) (wl (opG p c s) p T2) i j) :
    ∀ i j, i < n → j < n → T' i j = rmul (opG p c s) (lmul (opG p c s) fun i j => T2 i j - sgl p (p - 1) x i j) i j := by
  have W := winG p c s
  have hsx : ∀ i j, p ≤ j → sgl p (p - 1) x i j = 0 := by
    intro i j hj
    simp only [sgl]
    by_cases h0 : 0 < p
    · rw [if_neg (by omega)]
    · rw [hx, if_neg h0, ite_self]
  have e2 : ∀ i j, i < n → j < n → i ≠ j → T2 i j = A i j := by
    intro i j hi hj hij
    rw [g2 i j hi hj]; simp only [sgl]; rw [if_neg (by omega), if_neg (by omega), add_zero, add_zero]
  -- `M = T2 − x e_p e_{p−1}ᵀ` vanishes in the rows `p, p+1` left of the block and in the columns `p, p+1` below it
  have hzr : ∀ a j, p ≤ a → a < p + 2 → j < n → j < p → T2 a j - sgl p (p - 1) x a j = 0 := by
    intro a j h1 h2 hj hjp
    rw [e2 a j (by omega) hj (by omega)]; simp only [sgl]
    by_cases hc : a = p ∧ j = p - 1
    · rw [if_pos hc, hc.1, hc.2, hx, if_pos (by omega), sub_self]
    · rw [if_neg hc, hA a j (by omega) (by omega), sub_zero]
  have hzc : ∀ i a, p + 1 + 1 ≤ i → i < n → p ≤ a → a < p + 2 → T2 i a - sgl p (p - 1) x i a = 0 := by
    intro i a h1 h2 ha1 ha2
    rw [hsx i a ha1, sub_zero, e2 i a h2 (by omega) (by omega)]
    by_cases hi2 : i = p + 1 + 1 ∧ a = p + 1
    · rw [hi2.1, hi2.2]; exact hz (by omega)
    · exact hA i a (by omega) h2
  intro i j hi hj
  rw [gT i j hi hj]
  by_cases hpj : p ≤ j
  · by_cases hcnd : i = p + 1 ∧ j = p
    · have t00 : T2 p p = A p p + ex := by
        rw [g2 p p (by omega) (by omega)]; simp only [sgl]; rw [if_neg (by omega), if_pos ⟨trivial, trivial⟩, add_zero]
      have t11 : T2 (p + 1) (p + 1) = A (p + 1) (p + 1) + ex := by
        rw [g2 (p + 1) (p + 1) hp hp]; simp only [sgl]; rw [if_pos ⟨trivial, trivial⟩, if_neg (by omega), add_zero]
      rw [if_neg (show ¬ (i = p ∧ j + 1 = p) by omega), if_pos hcnd, hcnd.1, hcnd.2]
      simp only [rmul, lmul, opG, if_true, if_neg (show ¬ p + 1 = p by omega), hsx _ _ (le_refl p), hsx _ _ (Nat.le_succ p),
        sub_zero, t00, t11, e2 (p + 1) p hp (by omega) (by omega), e2 p (p + 1) (by omega) hp (by omega)]
      exact hstd.symm
    · rw [if_neg (show ¬ (i = p ∧ j + 1 = p) by omega), if_neg hcnd]
      exact W.wlr_right n _ (by omega) (by omega) T2 (fun i j => T2 i j - sgl p (p - 1) x i j)
        (fun i j _ _ hj' => by simp only [hsx i j hj', sub_zero]) hzc i j hi hj hpj
  · rw [W.conj_left_col _ i j (by omega) (fun a h1 h2 => hzr a j h1 h2 hj (by omega))]
    by_cases hcnd : i = p ∧ j + 1 = p
    · rw [if_pos hcnd, hcnd.1]; exact (hzr p j (le_refl p) (by omega) hj (by omega)).symm
    · rw [if_neg hcnd, if_neg (show ¬ (i = p + 1 ∧ j = p) by omega), W.wlr_left _ _ i j (by omega)]
      simp only [sgl]; rw [if_neg (by omega), sub_zero]

end ring

section field
variable {K : Type} [Field K] [LinearOrder K] [IsStrictOrderedRing K] (F : FieldFns K)

/-- **1x1 deflation**: `T(iu,iu) += ex`, `T(iu,iu−1) = 0`; the window shrinks by one row; the dropped entry goes to `E` -/
theorem defl1_sim (n iu : ℕ) (H : Matrix (Fin n) (Fin n) K) (ex : K) (t : Mat K) (U : ℕ → ℕ → K) (b : K) (hiu : iu < n)
    (hw : @WF K t) (hr : t.rows = n) (hc : t.cols = n) (E : Matrix (Fin n) (Fin n) K) (hE : Bnd E b)
    (sim : (mat n U)ᵀ * H * mat n U = mat n (gf F t) + Sm n (iu + 1) ex + E) :
    let _ : Sc K := scOfField F
    ∃ E' : Matrix (Fin n) (Fin n) K, Bnd E' (b + (if 0 < iu then |t.get iu (iu - 1)| else 0)) ∧
      (mat n U)ᵀ * H * mat n U =
        mat n (gf F (if 0 < iu then (t.set iu iu (t.get iu iu + ex)).set iu (iu - 1) zero else t.set iu iu (t.get iu iu + ex))) +
          Sm n iu ex + E' := by
  intro _
  have a1 := (Arr.self F hw hr hc).add F iu iu hiu hiu ex
  by_cases h0 : 0 < iu
  · simp only [if_pos h0]
    have a2 := (a1.set F iu (iu - 1) hiu (by omega) zero).congr F (B := fun i j =>
        gf F t i j + sgl iu iu ex i j - sgl iu (iu - 1) (t.get iu (iu - 1)) i j) fun i j _ _ => by
      simp only [sgl]
      by_cases hcnd : i = iu ∧ j = iu - 1
      · rw [if_pos hcnd, if_neg (by omega), if_pos hcnd, hcnd.1, hcnd.2, zero_eq, add_zero]; exact (sub_self _).symm
      · rw [if_neg hcnd, if_neg hcnd, sub_zero]
    refine ⟨E + mat n (sgl iu (iu - 1) (t.get iu (iu - 1))), bnd_add_sgl hE _ _ _, ?_⟩
    rw [sim, Sm_split1, a2.mat F, mat_sub, mat_add]; abel
  · simp only [if_neg h0]
    refine ⟨E, by rw [add_zero]; exact hE, ?_⟩
    rw [sim, Sm_split1, a1.mat F, mat_add]; abel

/-- **`compute_shift` keeps `T + ex·D`** as matrices -/
theorem shift_sim (n iu iter : ℕ) (ex : K) (t : Mat K) (hw : @WF K t) (hr : t.rows = n) (hc : t.cols = n) (hiu : iu < n) :
    mat n (gf F (@computeShift K _ _ _ _ _ (scOfField F) iu iter ex t).1) +
      Sm n (iu + 1) (@computeShift K _ _ _ _ _ (scOfField F) iu iter ex t).2.1 = mat n (gf F t) + Sm n (iu + 1) ex := by
  obtain ⟨_, _, _, g⟩ := C09SimU.computeShift_shifted F t hw iu iter ex (by rw [hr]; exact hiu) (by rw [hc]; exact hiu)
  ext i j
  have := g i.val j.val (by rw [hr]; exact i.isLt)
  simp only [Matrix.add_apply, mat, Matrix.of_apply, Sm, Matrix.diagonal_apply, gf, Fin.ext_iff]
  by_cases hij : i.val = j.val
  · by_cases hle : i.val ≤ iu
    · simp only [if_pos (And.intro hij hle)] at this
      simp only [if_pos hij, if_pos (show i.val < iu + 1 by omega)]; exact this
    · simp only [if_neg (show ¬ (i.val = j.val ∧ i.val ≤ iu) by omega)] at this
      simp only [if_pos hij, if_neg (show ¬ i.val < iu + 1 by omega)]; exact this
  · simp only [if_neg (show ¬ (i.val = j.val ∧ i.val ≤ iu) by omega)] at this
    simp only [if_neg hij]; exact this

/-- the standardisation rotation annihilates the `(2,1)` entry of the shifted block (model form of `C09SimU.standardise_zero`) -/
theorem standardise_model (hs : ∀ x : K, 0 ≤ x → F.sqrt x * F.sqrt x = x) (hs0 : ∀ x : K, 0 ≤ F.sqrt x) (a b y d ex : K)
    (hq : @Sc.ge K (scOfField F) ((@TridiagEigen.half K (scOfField F)) * (a - d) * ((@TridiagEigen.half K (scOfField F)) * (a - d)) + y * b)
      (@zero K (scOfField F)) = true) :
    let _ : Sc K := scOfField F
    let pp : K := TridiagEigen.half * (a - d)
    let rot := makeGivens (if Sc.ge pp zero = true then pp + Sc.sqrt (Sc.abs (pp * pp + y * b)) else pp - Sc.sqrt (Sc.abs (pp * pp + y * b))) y
    rot.c * (rot.s * (a + ex) + rot.c * y) - rot.s * (rot.s * b + rot.c * (d + ex)) = 0 := by
  intro _ pp rot
  have ep : (1 / 2 : K) * ((a + ex) - (d + ex)) = pp := by
    show _ = TridiagEigen.half * (a - d); rw [C09SimU.half_eq]; ring
  have hq' : 0 ≤ (1 / 2 * ((a + ex) - (d + ex))) * (1 / 2 * ((a + ex) - (d + ex))) + y * b := by
    rw [ep]
    simpa [zero] using hq
  have := C09SimU.standardise_zero F hs hs0 (a + ex) b y (d + ex) hq'
  simp only [ep] at this
  have er : rot = makeGivens (if 0 ≤ pp then pp + F.sqrt |pp * pp + y * b| else pp - F.sqrt |pp * pp + y * b|) y := by
    show makeGivens _ y = _
    congr 1
    simp [zero]
  rw [er]; exact this

/-- **`split_off_two_rows`** (window rows `p, p+1`, `iu = p + 1`): both diagonal entries take the accumulated shift, the block is
    rotated to upper triangular form when its eigenvalues are real (the `(2,1)` entry overwritten by `0` IS `0`), the window shrinks
    by two rows, and the sub-diagonal entry `T(iu−1, iu−2)` in front of the block is dropped into `E` -/
theorem split_sim (hs : ∀ x : K, 0 ≤ x → F.sqrt x * F.sqrt x = x) (hs0 : ∀ x : K, 0 ≤ F.sqrt x) (n p : ℕ)
    (H : Matrix (Fin n) (Fin n) K) (ex : K) (s : TU K) (b : K) (hiu : p + 1 < n)
    (hw : @WF K s.t) (hr : s.t.rows = n) (hc : s.t.cols = n) (hH : @C09Hess.Hess K (scOfField F) n s.t)
    (hz : p + 1 + 1 < n → @Mat.get K (scOfField F) s.t (p + 1 + 1) (p + 1) = 0) (orth : ColsOrth F n s.u)
    (E : Matrix (Fin n) (Fin n) K) (hE : Bnd E b)
    (sim : (mat n (gf F s.u))ᵀ * H * mat n (gf F s.u) = mat n (gf F s.t) + Sm n (p + 1 + 1) ex + E) :
    ∃ E' : Matrix (Fin n) (Fin n) K, Bnd E' (b + (if 1 < p + 1 then |@Mat.get K (scOfField F) s.t p (p - 1)| else 0)) ∧
      (mat n (gf F (@splitOffTwoRows K _ _ _ _ _ (scOfField F) n (p + 1) ex s).u))ᵀ * H *
          mat n (gf F (@splitOffTwoRows K _ _ _ _ _ (scOfField F) n (p + 1) ex s).u) =
        mat n (gf F (@splitOffTwoRows K _ _ _ _ _ (scOfField F) n (p + 1) ex s).t) + Sm n p ex + E' := by
  let _ : Sc K := scOfField F
  have hA : ∀ i j, j + 2 ≤ i → i < n → gf F s.t i j = 0 := fun i j h1 h2 => (hH i j h1 h2).trans (zero_eq F)
  -- the two shifted diagonal entries
  have a2 := ((Arr.self F hw hr hc).add F (p + 1) (p + 1) hiu hiu ex).add F p p (by omega) (by omega) ex
  generalize ht2 : (s.t.set (p + 1) (p + 1) (s.t.get (p + 1) (p + 1) + ex)).set p p
      ((s.t.set (p + 1) (p + 1) (s.t.get (p + 1) (p + 1) + ex)).get p p + ex) = t2 at a2
  clear hr hc
  -- the dropped entry and the matrix that is actually rotated
  generalize hx : (if 0 < p then gf F s.t p (p - 1) else 0) = x
  have sim0 : (mat n (gf F s.u))ᵀ * H * mat n (gf F s.u) =
      mat n (fun i j => (gf F s.t i j + sgl (p + 1) (p + 1) ex i j + sgl p p ex i j) - sgl p (p - 1) x i j) + Sm n p ex +
        (E + mat n (sgl p (p - 1) x)) := by
    rw [sim, Sm_split1, Sm_split1, mat_sub, mat_add, mat_add]; abel
  have hE0 : Bnd (E + mat n (sgl p (p - 1) x)) (b + (if 1 < p + 1 then |s.t.get p (p - 1)| else 0)) := by
    refine bnd_mono (bnd_add_sgl hE p (p - 1) x) ?_
    rw [← hx]
    by_cases h0 : 0 < p
    · rw [if_pos h0, if_pos (by omega)]; exact le_refl _
    · rw [if_neg h0, if_neg (by omega), abs_zero]
  simp only [splitOffTwoRows, Nat.add_sub_cancel, show p + 1 - 2 = p - 1 from rfl]
  rw [ht2]
  have ey : t2.get (p + 1) p = s.t.get (p + 1) p := by
    refine (a2.2.2.2 (p + 1) p hiu (by omega)).trans ?_
    simp only [sgl]
    rw [if_neg (by omega), if_neg (by omega), add_zero, add_zero]; rfl
  rw [ey]
  by_cases hq : Sc.ge (TridiagEigen.half * (s.t.get p p - s.t.get (p + 1) (p + 1)) * (TridiagEigen.half * (s.t.get p p - s.t.get (p + 1) (p + 1))) +
      s.t.get (p + 1) p * s.t.get p (p + 1)) (zero : K) = true
  · simp only [if_pos hq]
    have hstd := standardise_model F hs hs0 (s.t.get p p) (s.t.get p (p + 1)) (s.t.get (p + 1) p) (s.t.get (p + 1) (p + 1)) ex hq
    simp only at hstd
    generalize hrot : makeGivens _ (s.t.get (p + 1) p) = rot at hstd ⊢
    have W := winQ_G n p hiu rot.c rot.s (by rw [← hrot]; exact makeGivens_unit F hs _ _)
    have a5 := ((((a2.rotLeft F p p (n - (p + 1) + 1) hiu (by omega) rot.c rot.s).rotRight F p (p + 1 + 1) hiu (by omega) rot.c rot.s).set F
      (p + 1) p hiu (by omega) zero).drop F p (by omega) (1 < p + 1) (by omega))
    have eU := ((Arr.self F orth.1 orth.2.1 orth.2.2.1).rotRight_full F p hiu rot.c rot.s).mat F
    rw [tu_ite]
    refine ⟨_, bnd_conj W.orth hE0, ?_⟩
    rw [eU, W.rmat, sim_step _ H _ _ _ _ sim0 (W.conj_Sm p (Or.inr (le_refl p)) ex), ← W.lmat, ← W.rmat]; congr 2
    refine (mat_congr _ _ _ (split_fn n p hiu (gf F s.t) _ _ ex rot.c rot.s x hA hz hx.symm (fun _ _ _ _ => rfl) hstd
      (fun i j hi hj => ?_))).symm
    rw [a5.2.2.2 i j hi hj, zero_eq F]
  · simp only [if_neg hq]
    rw [tu_ite]
    have a5 := a2.drop F p (by omega) (1 < p + 1) (by omega)
    refine ⟨_, hE0, ?_⟩
    rw [sim0, a5.mat F]; congr 2
    refine (mat_congr _ _ _ (fun i j hi hj => ?_))
    by_cases hcnd : i = p ∧ j + 1 = p
    · have e1 : ¬ (i = p + 1 ∧ j = p + 1) := by omega
      have e2 : ¬ (i = p ∧ j = p) := by omega
      have e3 : i = p ∧ j = p - 1 := by omega
      simp only [sgl, if_pos hcnd, if_neg e1, if_neg e2, if_pos e3, add_zero]
      rw [← hx, if_pos (by omega), e3.1, e3.2, sub_self]
    · rw [if_neg hcnd]
      simp only [sgl]
      by_cases e : i = p ∧ j = p - 1
      · rw [if_pos e, ← hx, if_neg (show ¬ 0 < p by omega), sub_zero]
      · rw [if_neg e, sub_zero]

end field
end C09SS
