/- helper lemmas for C09 (field-instance facts: `smax`, `RealScalar(0.5)`, the shapes `ConjBlocks` / `ConjBlocksAt` / `kinds` of the emitted
   eigenvalue list, and what `block2` emits for an unsplit block) -/
import Mathlib.Tactic.Ring
import SpectraVerif.Proofs.ScField
import SpectraVerif.Proofs.C09Loop

set_option linter.unusedSectionVars false

namespace C09Lemmas

open Lin EigenPrims
variable {K : Type} [Field K] [LinearOrder K] [IsStrictOrderedRing K] (F : FieldFns K)

/-- the shape of the emitted eigenvalue list: `(t, 0)` for a 1x1 block, `(x, z), (x, −z)` with `z > 0` for a 2x2 block -/
inductive ConjBlocks : List (K × K) → Prop
  | nil : ConjBlocks []
  | real (t : K) (l : List (K × K)) : ConjBlocks l → ConjBlocks ((t, 0) :: l)
  | pair (x z : K) (l : List (K × K)) : 0 < z → ConjBlocks l → ConjBlocks ((x, z) :: (x, -z) :: l)

/-- `RealScalar(0.5)` is one half in the field instance -/
theorem _root_.C09SimU.half_eq : (@TridiagEigen.half K (scOfField F)) = 1 / 2 := by
  simp only [TridiagEigen.half, ScF.lit]; norm_num

theorem smax_ge_left (a b : K) : a ≤ @HessEigen.smax K (scOfField F) a b := by
  simp only [HessEigen.smax, ScF.lt]
  split
  · rename_i h; simp only [decide_eq_true_eq] at h; exact le_of_lt h
  · exact le_refl _

theorem smax_ge_right (a b : K) : b ≤ @HessEigen.smax K (scOfField F) a b := by
  simp only [HessEigen.smax, ScF.lt]
  split
  · exact le_refl _
  · rename_i h; simp only [decide_eq_true_eq, not_lt] at h; exact h

/-- **an unsplit block is emitted as an exact conjugate pair with STRICTLY positive imaginary part first**: for a sub-diagonal
    entry `c ≠ 0` and `eps > 0`, whatever `sqrt` returns (the guard `if (!(z > 0)) z = maxval * eps` decides) -/
theorem block2_pos (heps : 0 < F.eps) (a b c d : K) (hc : c ≠ 0) :
    ∃ x z : K, 0 < z ∧ @HessEigen.block2 K _ _ _ _ _ (scOfField F) a b c d = ((x, z), (x, -z)) := by
  simp only [HessEigen.block2]
  refine ⟨_, _, ?_, rfl⟩
  split
  · rename_i h; simpa [Sc.gt, zero] using h
  · apply mul_pos _ heps
    have h1 : |c| ≤ @HessEigen.smax K (scOfField F) (|c|) (|d|) := smax_ge_left F _ _
    have h2 := smax_ge_right F (|(@TridiagEigen.half K (scOfField F)) * (a - b)|) (@HessEigen.smax K (scOfField F) (|c|) (|d|))
    exact lt_of_lt_of_le (abs_pos.mpr hc) (le_trans h1 h2)

theorem extract_cond {n i : Nat} {x : K} (h : ¬ (decide (i + 1 = n) || @Sc.eq K (scOfField F) x (@zero K (scOfField F))) = true) :
    i + 1 ≠ n ∧ x ≠ 0 := by
  simp only [ScF.eq, zero, ScF.ofInt, Int.cast_zero, Bool.or_eq_true, decide_eq_true_eq, not_or] at h
  exact h

/-- the emitted list, tied to the block structure of `T` from row `i` on: a row whose sub-diagonal entry below it is `0` (or the
    last row) emits `(T(i,i), 0)`; an UNSPLIT block (`T(i+1,i) ≠ 0`) emits `(x, z), (x, −z)` with `z > 0` -/
inductive ConjBlocksAt (n : Nat) (t : Mat K) : Nat → List (K × K) → Prop
  | nil (i : Nat) : n ≤ i → ConjBlocksAt n t i []
  | real (i : Nat) (l : List (K × K)) : i < n → (i + 1 = n ∨ @Mat.get K (scOfField F) t (i + 1) i = 0) →
      ConjBlocksAt n t (i + 1) l → ConjBlocksAt n t i ((@Mat.get K (scOfField F) t i i, 0) :: l)
  | pair (i : Nat) (x z : K) (l : List (K × K)) : i + 1 < n → @Mat.get K (scOfField F) t (i + 1) i ≠ 0 → 0 < z →
      ConjBlocksAt n t (i + 2) l → ConjBlocksAt n t i ((x, z) :: (x, -z) :: l)

/-- row kinds read off the block structure of `T` alone -/
inductive RowKind where
  | real | first | second
  deriving DecidableEq, Repr

/-- the row kinds from row `i` on, by the same walk as `extract` (structure of `T` only) -/
def kinds (n : Nat) (t : Mat K) : Nat → Nat → List RowKind
  | 0, _ => []
  | f + 1, i =>
    if n ≤ i then []
    else if i + 1 = n ∨ @Mat.get K (scOfField F) t (i + 1) i = 0 then RowKind.real :: kinds n t f (i + 1)
    else RowKind.first :: RowKind.second :: kinds n t f (i + 2)

/-- what a row kind means for the emitted value -/
def kindSign : RowKind → K × K → Prop
  | .real, w => w.2 = 0
  | .first, w => 0 < w.2
  | .second, w => w.2 < 0

theorem cmulReal_field (z : K × K) (s : K) : @HessEigen.cmulReal K _ _ _ (scOfField F) z s = (z.1 * s, z.2 * s) := by
  simp [HessEigen.cmulReal, zero]

theorem conj_replicate (n : Nat) : ConjBlocks (List.replicate n ((0 : K), (0 : K))) := by
  induction n with
  | zero => exact ConjBlocks.nil
  | succ n ih => rw [List.replicate_succ]; exact ConjBlocks.real 0 _ ih

theorem maxAbs1_nonneg (v : Vec K) : 0 ≤ @TridiagEigen.maxAbs1 K (scOfField F) v := by
  simp only [TridiagEigen.maxAbs1]
  refine ListFold.foldl_range_inv (fun _ m => 0 ≤ m) _ _ _ (abs_nonneg _) (fun i m _ hm => ?_)
  split
  · exact abs_nonneg _
  · exact hm

end C09Lemmas
