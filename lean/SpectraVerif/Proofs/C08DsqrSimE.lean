/-
  C08 — DoubleShiftQR similarity, part E: the whole-matrix theorem for `compute`.

  `dsqr_similarity`: with `Q = P₀ ⋯ P_{n−2}` (`C08DsqrMatrix.Qdof`, the matrix `apply_YQ` / `apply_QtY` multiply by), `Hm` the upper
  Hessenberg part of the input, `D₁` the subdiagonal entries the first pass of `compute` drops, `B = Qᵀ (Hm − D₁) Q` and `D₂` the
  subdiagonal entries of `B` the last pass drops:  `QᵀQ = QQᵀ = 1`,  `matrix_QtHQ = B − D₂`,  `B` and `matrix_QtHQ` upper Hessenberg.
-/
import SpectraVerif.Proofs.C08DsqrSimD

set_option linter.unusedSectionVars false

namespace C08DsqrSim
open Lin C08DsqrQ C08DsqrMatrix
open QRModel.DoubleShiftQR
open Matrix
open C08HessMatrix (toM)

variable {K : Type} [Field K] [LinearOrder K] [IsStrictOrderedRing K] (F : FieldFns K)

instance (e h d0 d1 : K) : Decidable (Negl F e h d0 d1) := by unfold Negl; infer_instance

/-- the upper Hessenberg part of the input (what `compute` keeps of its argument) -/
def hessPart (mat : Mat K) : Matrix (Fin mat.rows) (Fin mat.rows) K :=
  fun i j => if i.val ≤ j.val + 1 then mget F mat i.val j.val else 0

/-- the subdiagonal entries of `M` that pass the deflation test of `compute` (`|h| ≤ eps_abs ∨ |h| ≤ eps (|d0| + |d1|)`) -/
def dropOf {n : Nat} (e : K) (M : Matrix (Fin n) (Fin n) K) : Matrix (Fin n) (Fin n) K :=
  fun i j => if i.val = j.val + 1 ∧ Negl F e (M i j) (M j j) (M i i) then M i j else 0

theorem dropOf_apply {n : Nat} (e : K) (M : Matrix (Fin n) (Fin n) K) (i j : Fin n) :
    dropOf F e M i j = if i.val = j.val + 1 ∧ Negl F e (M i j) (M j j) (M i i) then M i j else 0 := rfl

/-- nothing is dropped if no subdiagonal entry passes the deflation test -/
theorem dropOf_eq_zero {n : Nat} (e : K) (M : Matrix (Fin n) (Fin n) K)
    (h : ∀ i j : Fin n, i.val = j.val + 1 → ¬ (|M i j| ≤ e ∨ |M i j| ≤ F.eps * (|M j j| + |M i i|))) : dropOf F e M = 0 := by
  ext i j
  rw [dropOf_apply, Matrix.zero_apply]
  by_cases hij : i.val = j.val + 1
  · rw [if_neg (fun hh => h i j hij hh.2)]
  · rw [if_neg (fun hh => hij hh.1)]

/-- the state the block loop of `compute` ends in -/
abbrev lastSt (mat : Mat K) (s t : K) : St K := blockSt F mat s t ((C08Nr.zeroInd F mat).size - 1)

/-- the first-pass matrix is the Hessenberg part of the input minus the dropped entries -/
theorem st0_eq (mat : Mat K) (hn : 1 ≤ mat.rows) :
    toM F mat.rows mat.rows (C08Nr.st0 F mat).1 = hessPart F mat - dropOf F (epsA F mat) (hessPart F mat) := by
  obtain ⟨q1, q2, _, q4, _⟩ := st0_H_spec F mat hn
  ext i j
  have hi := i.isLt
  have hj := j.isLt
  rw [Matrix.sub_apply, toM_get, dropOf_apply]
  by_cases h2 : j.val + 2 ≤ i.val
  · rw [q1 i.val j.val hi hj h2, if_neg (by omega)]
    unfold hessPart
    rw [if_neg (by omega)]; ring
  · by_cases h1 : i.val ≤ j.val
    · rw [q2 i.val j.val hi hj h1, if_neg (by omega)]
      unfold hessPart
      rw [if_pos (by omega)]; ring
    · have hij : i.val = j.val + 1 := by omega
      have hH : ∀ a b : Fin mat.rows, a.val ≤ b.val + 1 → hessPart F mat a b = mget F mat a.val b.val := by
        intro a b hab; unfold hessPart; rw [if_pos hab]
      rw [hH i j (by omega), hH j j (by omega), hH i i (by omega), hij, q4 j.val (by omega)]
      have hd := dfl_iff F (epsA F mat) mat j.val
      by_cases dd : dfl F (epsA F mat) mat j.val = true
      · rw [if_pos dd, if_pos ⟨rfl, hd.mp dd⟩]; ring
      · rw [if_neg dd, if_neg (fun hh => dd (hd.mpr hh.2))]; ring

theorem dsqr_similarity (hsq : ∀ x : K, 0 ≤ x → F.sqrt x * F.sqrt x = x ∧ 0 ≤ F.sqrt x) (hcut : C08Refl.cutoff F ≤ 0)
    (hmin : 0 < F.minPos) (mat : Mat K) (s t : K) (hn : 1 ≤ mat.rows) (hex : RunExact F mat s t)
    (Q B : Matrix (Fin mat.rows) (Fin mat.rows) K) (hQ : Q = Qdof F (comp F mat s t))
    (hB : B = Qᵀ * (hessPart F mat - dropOf F (epsA F mat) (hessPart F mat)) * Q) :
    (Qᵀ * Q = 1 ∧ Q * Qᵀ = 1) ∧
    toM F mat.rows mat.rows (comp F mat s t).H = B - dropOf F (epsA F mat) B ∧
    (∀ i j : Fin mat.rows, j.val + 1 < i.val → B i j = 0) ∧
    (∀ i j : Fin mat.rows, j.val + 1 < i.val → toM F mat.rows mat.rows (comp F mat s t).H i j = 0) := by
  obtain ⟨z1, z2, z3, z4, z5⟩ := C08Nr.zeroInd_spec F mat hn
  have hinv := blocks_inv F hsq hcut hmin mat s t hn hex ((C08Nr.zeroInd F mat).size - 1) (by omega)
  rw [z3, st0_eq F mat hn] at hinv
  obtain ⟨hg, hsim, hHes, hrefl⟩ := hinv
  obtain ⟨eH, eu, enr, en⟩ := comp_eq F mat s t
  -- the last stored count is 1, so `Qd n = Qd (n − 1) = Q`
  have hlast : (lastSt F mat s t).2.2.getD (mat.rows - 1) 0 = 1 := by
    have h := (hrefl (mat.rows - 1) (by omega)).1
    unfold Live at h
    unfold lastSt
    omega
  have hQd : Qd F mat.rows (lastSt F mat s t).2.1 (lastSt F mat s t).2.2 mat.rows = Q := by
    have e : mat.rows = mat.rows - 1 + 1 := by omega
    have e2 : Qd F mat.rows (lastSt F mat s t).2.1 (lastSt F mat s t).2.2 mat.rows =
        Qd F mat.rows (lastSt F mat s t).2.1 (lastSt F mat s t).2.2 (mat.rows - 1 + 1) :=
      congrArg (Qd F mat.rows (lastSt F mat s t).2.1 (lastSt F mat s t).2.2) e
    rw [e2, Qd_succ, Pm_one F _ _ _ _ hlast, Matrix.mul_one, hQ]
    rfl
  rw [hQd, ← hB] at hsim
  -- orthogonality
  have horth : Qᵀ * Q = 1 ∧ Q * Qᵀ = 1 := by
    have h := Qd_orth_of_invol F mat.rows (lastSt F mat s t).2.1 (lastSt F mat s t).2.2 mat.rows (fun k hk => (hrefl k hk).2)
    rw [hQd] at h
    exact h
  -- shape of `B`
  have hBhes : ∀ i j : Fin mat.rows, j.val + 1 < i.val → B i j = 0 := by
    intro i j hij
    rw [← hsim]
    exact hHes i j (Or.inl (by omega))
  -- the last pass
  obtain ⟨_, _, _, gf⟩ := finalPass_spec F mat.rows (epsA F mat) hg.wH hg.rH hg.cH (mat.rows - 1) (by omega)
  have hT : ∀ i j : Fin mat.rows, toM F mat.rows mat.rows (comp F mat s t).H i j =
      B i j - dropOf F (epsA F mat) B i j := by
    intro i j
    have hi := i.isLt
    have hj := j.isLt
    have hBe : ∀ a b : Fin mat.rows, B a b = mget F (lastSt F mat s t).1 a.val b.val := by
      intro a b; rw [← hsim, toM_get]
    rw [toM_get, eH, gf i.val j.val hi hj, dropOf_apply]
    by_cases hij : i.val = j.val + 1
    · have hd := dfl_iff F (epsA F mat) (lastSt F mat s t).1 j.val
      have e1 : B i j = mget F (lastSt F mat s t).1 (j.val + 1) j.val := by rw [hBe, hij]
      have e2 : B j j = mget F (lastSt F mat s t).1 j.val j.val := hBe j j
      have e3 : B i i = mget F (lastSt F mat s t).1 (j.val + 1) (j.val + 1) := by rw [hBe, hij]
      by_cases dd : dfl F (epsA F mat) (lastSt F mat s t).1 j.val = true
      · rw [if_pos ⟨hij, by omega, dd⟩, if_pos ⟨hij, by rw [e1, e2, e3]; exact hd.mp dd⟩]; ring
      · rw [if_neg (fun hh => dd hh.2.2), if_neg (fun hh => dd (hd.mpr (by rw [← e1, ← e2, ← e3]; exact hh.2))), hBe]; ring
    · rw [if_neg (fun hh => hij hh.1), if_neg (fun hh => hij hh.1), hBe]; ring
  refine ⟨horth, ?_, hBhes, ?_⟩
  · ext i j
    rw [hT i j, Matrix.sub_apply]
  · intro i j hij
    rw [hT i j, hBhes i j hij, dropOf_apply, if_neg (by omega)]; ring

/-- if nothing is dropped, the result is the exact orthogonal similarity transform of the Hessenberg part of the input -/
theorem dsqr_similarity_nodrop (hsq : ∀ x : K, 0 ≤ x → F.sqrt x * F.sqrt x = x ∧ 0 ≤ F.sqrt x) (hcut : C08Refl.cutoff F ≤ 0)
    (hmin : 0 < F.minPos) (mat : Mat K) (s t : K) (hn : 1 ≤ mat.rows) (hex : RunExact F mat s t)
    (Q : Matrix (Fin mat.rows) (Fin mat.rows) K) (hQ : Q = Qdof F (comp F mat s t))
    (h1 : dropOf F (epsA F mat) (hessPart F mat) = 0)
    (h2 : dropOf F (epsA F mat) (Qᵀ * hessPart F mat * Q) = 0) :
    toM F mat.rows mat.rows (comp F mat s t).H = Qᵀ * hessPart F mat * Q := by
  have h := (dsqr_similarity F hsq hcut hmin mat s t hn hex Q _ hQ rfl).2.1
  rw [h1, sub_zero] at h
  rw [h, h2, sub_zero]

end C08DsqrSim
