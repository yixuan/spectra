/-
  C09, UpperHessenbergEigen on top of the Schur similarity: the trips of `cplxInner` cut into pieces (as `realInner` is in C09EigReal),
  what the back-substitution writes (a trip for a real value only its own column, a trip for a complex pair only its two columns),
  the part `BInv` of the invariant of the outer loop `backSub` that speaks of the columns of REAL eigenvalues (the loop theorem
  `backSub_invC` is in C09EigCplx), and the back transformation `eivec.col(j) = eivec.leftCols(j+1) * matT.col(j).head(j+1)` is `U y`.
-/
import SpectraVerif.Proofs.C09EigReal


namespace C09Eig
open Lin EigenPrims HessEigen C09Mat Finset C09Hess

section gen
variable {α : Type} [Add α] [Sub α] [Mul α] [Div α] [Neg α] [Sc α]

theorem presK_divColTail (Keep : Nat → Nat → Prop) (m : Mat α) (hw : WF m) (c i size : ℕ) (tt : α) (hk : ∀ a, ¬ Keep a c) :
    PresK Keep m (divColTail m c i size tt) := by
  simp only [divColTail]
  exact presK_foldl Keep _ _ (fun acc k _ hwa => presK_set Keep acc hwa _ _ _ (hk _)) m hw

/-- the positions outside the two columns `n − 1`, `n` -/
def KeepC (n : ℕ) (_ b : ℕ) : Prop := b ≠ n - 1 ∧ b ≠ n

theorem keepC_l (n a : ℕ) : ¬ KeepC n a (n - 1) := fun h => h.1 rfl
theorem keepC_r (n a : ℕ) : ¬ KeepC n a n := fun h => h.2 rfl

/-- the overflow rescaling that ends a trip of `cplxInner`: both columns of the pair are divided, from row `i` down, by the larger
    magnitude in row `i` -/
def rescale2 (size n i : ℕ) (t : Mat α) : Mat α :=
  let tt := smax (Sc.abs (t.get i (n - 1))) (Sc.abs (t.get i n))
  if Sc.gt ((Sc.eps * tt) * tt) one then divColTail (divColTail t (n - 1) i size tt) n i size tt else t

/-- row `i` of `cplxInner` on a 1x1 block: one complex division by `w + iq` -/
def cplxRow (n i : ℕ) (q ra sa w : α) (t : Mat α) : Mat α :=
  let cc := cdiv (-ra) (-sa) w q
  (t.set i (n - 1) cc.1).set i n cc.2

/-- rows `i`, `i + 1` of `cplxInner` on a 2x2 block (`evi` its first eigenvalue, `lastra`, `lastsa`, `lastw` remembered from row `i + 1`) -/
def cplxBlock (n i : ℕ) (p q norm : α) (evi : α × α) (lastra lastsa lastw ra sa w : α) (t : Mat α) : Mat α :=
  let x := t.get i (i + 1)
  let y := t.get (i + 1) i
  let vr := (evi.1 - p) * (evi.1 - p) + evi.2 * evi.2 - q * q
  let vi := (evi.1 - p) * Sc.ofInt 2 * q
  let vr := if Sc.eq vr zero && Sc.eq vi zero then
              Sc.eps * norm * (Sc.abs w + Sc.abs q + Sc.abs x + Sc.abs y + Sc.abs lastw) else vr
  let cc := cdiv (x * lastra - lastw * ra + q * sa) (x * lastsa - lastw * sa - q * ra) vr vi
  let t := (t.set i (n - 1) cc.1).set i n cc.2
  if Sc.gt (Sc.abs x) (Sc.abs lastw + Sc.abs q) then
    let a := ((-ra) - w * t.get i (n - 1) + q * t.get i n) / x
    let t := t.set (i + 1) (n - 1) a
    t.set (i + 1) n (((-sa) - w * t.get i n - q * t.get i (n - 1)) / x)
  else
    let cc := cdiv ((-lastra) - y * t.get i (n - 1)) ((-lastsa) - y * t.get i n) lastw q
    (t.set (i + 1) (n - 1) cc.1).set (i + 1) n cc.2

/-- one trip of `cplxInner` (row `i`): the second row of a block only remembers its two dot products and `w` -/
def cplxStep (size n : ℕ) (p q norm : α) (ev : Vec (α × α)) (i : ℕ) (st : CplxSt α) : CplxSt α :=
  let ra := rowColDot st.t i (n - 1) st.l (n - st.l + 1)
  let sa := rowColDot st.t i n st.l (n - st.l + 1)
  let w := st.t.get i i - p
  if Sc.lt (evGet ev i).2 zero then ⟨ra, sa, w, st.l, st.t⟩
  else ⟨st.lastra, st.lastsa, st.lastw, i, rescale2 size n i
    (if Sc.eq (evGet ev i).2 zero then cplxRow n i q ra sa w st.t
      else cplxBlock n i p q norm (evGet ev i) st.lastra st.lastsa st.lastw ra sa w st.t)⟩

theorem cplxInner_succ (size n : ℕ) (p q norm : α) (ev : Vec (α × α)) (i : ℕ) (st : CplxSt α) :
    cplxInner size n p q norm ev (i + 1) st = cplxInner size n p q norm ev i (cplxStep size n p q norm ev i st) := by
  simp only [cplxInner, cplxStep, rescale2, cplxRow, cplxBlock]

/-- a trip of the complex-pair back-substitution only writes the two columns of the pair -/
theorem cplxStep_pres (size n : ℕ) (p q norm : α) (ev : Vec (α × α)) (i : ℕ) (st : CplxSt α) (hw : WF st.t) :
    PresK (KeepC n) st.t (cplxStep size n p q norm ev i st).t := by
  unfold cplxStep
  extract_lets ra sa w
  split
  · exact presK_refl _ _ hw
  · have h1 : PresK (KeepC n) st.t (if Sc.eq (evGet ev i).2 zero then cplxRow n i q ra sa w st.t
        else cplxBlock n i p q norm (evGet ev i) st.lastra st.lastsa st.lastw ra sa w st.t) := by
      split
      · exact presK_set2 _ _ hw _ _ _ _ _ _ (keepC_l n _) (keepC_r n _)
      · unfold cplxBlock
        extract_lets x y vr vi vr' cc t
        split
        · exact presK_set4 _ _ hw _ _ _ _ _ _ _ _ _ _ _ _ (keepC_l n _) (keepC_r n _) (keepC_l n _) (keepC_r n _)
        · exact presK_set4 _ _ hw _ _ _ _ _ _ _ _ _ _ _ _ (keepC_l n _) (keepC_r n _) (keepC_l n _) (keepC_r n _)
    unfold rescale2
    extract_lets tt
    split
    · have p1 := presK_divColTail (KeepC n) _ h1.1 (n - 1) i size tt (keepC_l n)
      exact presK_trans h1 (presK_trans p1 (presK_divColTail (KeepC n) _ p1.1 n i size tt (keepC_r n)))
    · exact h1

theorem cplxInner_pres (size n : ℕ) (p q norm : α) (ev : Vec (α × α)) (k : ℕ) (st : CplxSt α) (hw : WF st.t) :
    PresK (KeepC n) st.t (cplxInner size n p q norm ev k st).t :=
  C09Loop.countdown (cplxInner size n p q norm ev) _ (fun _ => rfl) (cplxInner_succ size n p q norm ev) (fun _ st' => PresK (KeepC n) st.t st'.t)
    (fun i st' h => presK_trans h (cplxStep_pres size n p q norm ev i st' h.1)) k st (presK_refl _ _ hw)

/-- a trip of the real back-substitution only writes column `c` -/
theorem realStep_pres (size c : ℕ) (p norm : α) (ev : Vec (α × α)) (i : ℕ) (st : RealSt α) (hw : WF st.t) :
    PresK (fun _ b => b ≠ c) st.t (realStep size c p norm ev i st).t := by
  have hk : ∀ a, ¬ (fun (_ : ℕ) b => b ≠ c) a c := fun a h => h rfl
  unfold realStep
  extract_lets r w
  split
  · exact presK_refl _ _ hw
  · have h1 : PresK (fun _ b => b ≠ c) st.t (if Sc.eq (evGet ev i).2 zero then realRow c i norm r w st.t
        else realBlock c i p (evGet ev i) st.lastr st.lastw r w st.t) := by
      split
      · unfold realRow
        split <;> exact presK_set _ _ hw _ _ _ (hk 0)
      · unfold realBlock
        extract_lets x y denom tt t
        split <;> exact presK_set2 _ _ hw _ _ _ _ _ _ (hk 0) (hk 0)
    unfold rescale1
    extract_lets tt
    split
    · exact presK_trans h1 (presK_divColTail _ _ h1.1 c i size tt hk)
    · exact h1

theorem realInner_pres (size c : ℕ) (p norm : α) (ev : Vec (α × α)) (k : ℕ) (st : RealSt α) (hw : WF st.t) :
    PresK (fun _ b => b ≠ c) st.t (realInner size c p norm ev k st).t :=
  C09Loop.countdown (realInner size c p norm ev) _ (fun _ => rfl) (realInner_succ size c p norm ev) (fun _ st' => PresK (fun _ b => b ≠ c) st.t st'.t)
    (fun i st' h => presK_trans h (realStep_pres size c p norm ev i st' h.1)) k st (presK_refl _ _ hw)

end gen

section field
variable {K : Type} [Field K] [LinearOrder K] [IsStrictOrderedRing K] (F : FieldFns K)

/-- column `c` of `t`, cut off below row `c`, is an exact non-zero eigenvector of `T` for the value `ev_c.re` -/
def EqCol (n c : ℕ) (T t : Mat K) (ev : Vec (K × K)) : Prop :=
  (∀ a, a < n → ∑ b ∈ range n, @Mat.get K (scOfField F) T a b * (if b ≤ c then @Mat.get K (scOfField F) t b c else 0) =
    (@evGet K (scOfField F) ev c).1 * (if a ≤ c then @Mat.get K (scOfField F) t a c else 0)) ∧
  @Mat.get K (scOfField F) t c c ≠ 0

/-- the real eigenvalues whose column is solved EXACTLY: imaginary part `0` and the value is not repeated on the diagonal of a 1x1
    block above (no `w == 0` fallback) -/
def Good (T : Mat K) (ev : Vec (K × K)) (c : ℕ) : Prop :=
  (@evGet K (scOfField F) ev c).2 = 0 ∧
    ∀ i, i < c → (@evGet K (scOfField F) ev i).2 = 0 → @Mat.get K (scOfField F) T i i ≠ (@evGet K (scOfField F) ev c).1

theorem eqCol_congr (n c : ℕ) (T t t' : Mat K) (ev : Vec (K × K)) (hc : c < n)
    (h : ∀ a, a < n → @Mat.get K (scOfField F) t' a c = @Mat.get K (scOfField F) t a c) (he : EqCol F n c T t ev) :
    EqCol F n c T t' ev := by
  obtain ⟨h1, h2⟩ := he
  refine ⟨?_, by rw [h c hc]; exact h2⟩
  intro a ha
  rw [Finset.sum_congr rfl (fun b hb => by rw [h b (Finset.mem_range.mp hb)]), h a ha]
  exact h1 a ha

/-- invariant of the back-substitution loop in front of index `m − 1`: the columns `< m` are still `T`, every Good column `≥ m` holds
    an exact eigenvector -/
structure BInv (n m : ℕ) (T t : Mat K) (ev : Vec (K × K)) : Prop extends @Sq K n t where
  low : ∀ a b, a < n → b < m → @Mat.get K (scOfField F) t a b = @Mat.get K (scOfField F) T a b
  done : ∀ c, m ≤ c → c < n → Good F T ev c → EqCol F n c T t ev

/-- a step of the loop from `m` down to `m'` that keeps the columns outside `m'..m−1`: the finished columns stay finished -/
theorem binv_pres {n m m' : ℕ} {T t t' : Mat K} {ev : Vec (K × K)} (Keep : ℕ → ℕ → Prop) (h : BInv F n m T t ev)
    (hp : @PresK K (scOfField F) Keep t t') (hm : m' ≤ m) (hk1 : ∀ a b, b < m' → Keep a b) (hk2 : ∀ a b, m ≤ b → Keep a b)
    (hmid : ∀ c, m' ≤ c → c < m → Good F T ev c → EqCol F n c T t' ev) : BInv F n m' T t' ev := by
  obtain ⟨w, r, c', g⟩ := hp
  refine ⟨⟨w, by rw [r, h.rows], by rw [c', h.cols]⟩, ?_, ?_⟩
  · intro a b ha hb
    rw [g a b (hk1 a b hb) (by rw [h.rows]; exact ha)]
    exact h.low a b ha (by omega)
  · intro c hc1 hc2 hg
    by_cases hcm : m ≤ c
    · exact eqCol_congr F n c T t t' ev hc2 (fun a ha => g a c (hk2 a c hcm) (by rw [h.rows]; exact ha)) (h.done c hcm hc2 hg)
    · exact hmid c hc1 (by omega) hg

/-- entries of `M.col(j) = v` -/
theorem setCol_spec {n : ℕ} (m : Mat K) (h : @Sq K n m) (j : ℕ) (v : Vec K) (hj : j < n) :
    @Sq K n (@Mat.setCol K (scOfField F) m j v) ∧
    ∀ a b, a < n → @Mat.get K (scOfField F) (@Mat.setCol K (scOfField F) m j v) a b =
      if b = j then @vget K (scOfField F) v a else @Mat.get K (scOfField F) m a b := by
  let _ : Sc K := scOfField F
  obtain ⟨sq, g⟩ := ListFold.foldl_range_inv (fun k acc => Sq n acc ∧ ∀ a b, a < n → acc.get a b = if b = j ∧ a < k then vget v a else m.get a b)
    (fun acc i => acc.set i j (vget v i)) n m ⟨h, fun a b _ => by rw [if_neg (by omega)]⟩
    (fun k acc hk ⟨sq, g⟩ => ⟨sq.set _ _ _, fun a b ha => by
      rw [sq.get_set k j a b _ hk hj ha, g a b ha]
      by_cases h1 : a = k ∧ b = j
      · rw [if_pos h1, if_pos ⟨h1.2, by omega⟩, h1.1]
      · rw [if_neg h1]
        by_cases h2 : b = j ∧ a < k
        · rw [if_pos h2, if_pos ⟨h2.1, by omega⟩]
        · rw [if_neg h2, if_neg (by omega)]⟩)
  refine ⟨by rw [Mat.setCol, h.rows]; exact sq, fun a b ha => ?_⟩
  rw [Mat.setCol, h.rows, g a b ha]
  by_cases hb : b = j
  · rw [if_pos ⟨hb, ha⟩, if_pos hb]
  · rw [if_neg (fun hh => hb hh.1), if_neg hb]

/-- **the back transformation is `U y`**: column `j` of the result is `Σ_{k ≤ j} U(:,k) · t(k,j)` -/
theorem backTransform_spec (n : ℕ) (u t : Mat K) (hw : @WF K u) (hr : u.rows = n) (hc : u.cols = n) :
    ∀ a j, a < n → j < n → @Mat.get K (scOfField F) (@backTransform K _ _ (scOfField F) n u t) a j =
      ∑ k ∈ range (j + 1), @Mat.get K (scOfField F) u a k * @Mat.get K (scOfField F) t k j := by
  let _ : Sc K := scOfField F
  -- after `s` trips the columns `n − s … n − 1` are final; a trip reads only the columns to the left of the one it writes
  obtain ⟨_, g⟩ := ListFold.foldl_range_inv
    (fun s acc => Sq n acc ∧ ∀ a b, a < n → b < n →
      acc.get a b = if n - s ≤ b then ∑ k ∈ range (b + 1), u.get a k * t.get k b else u.get a b)
    (fun acc jj => acc.setCol (n - 1 - jj) (vofFn n (fun i => sumFrom0 (n - 1 - jj + 1) (fun k => acc.get i k * t.get k (n - 1 - jj)))))
    n u ⟨⟨hw, hr, hc⟩, fun a b _ hb => by rw [if_neg (by omega)]⟩
    (fun s acc hs ⟨sq, g⟩ => by
      obtain ⟨sq', g'⟩ := setCol_spec F acc sq (n - 1 - s)
        (vofFn n (fun i => sumFrom0 (n - 1 - s + 1) (fun k => acc.get i k * t.get k (n - 1 - s)))) (by omega)
      refine ⟨sq', fun a b ha hb => ?_⟩
      rw [g' a b ha]
      by_cases hbj : b = n - 1 - s
      · rw [if_pos hbj, if_pos (by omega), ListFold.vget_vofFn n _ a ha, SumFold.sumFrom0_scOfField F, hbj]
        exact Finset.sum_congr rfl fun k hk => by
          rw [g a k ha (by have := Finset.mem_range.mp hk; omega), if_neg (by have := Finset.mem_range.mp hk; omega)]
      · rw [if_neg hbj, g a b ha hb]
        by_cases h2 : n - s ≤ b
        · rw [if_pos h2, if_pos (by omega)]
        · rw [if_neg h2, if_neg (by omega)])
  intro a j ha hj
  rw [backTransform, g a j ha hj, if_pos (by omega)]

end field
end C09Eig
