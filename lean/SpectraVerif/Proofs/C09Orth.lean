/-
  C09 helper lemmas: orthonormality of the accumulated rotations of the TridiagEigen model (whole run), for ideal rotations.
-/
import SpectraVerif.Proofs.C09SimBand
import SpectraVerif.Proofs.LinField

namespace C09Orth
open Lin EigenPrims C09Mat Finset TridiagEigen

section ring
variable {R : Type} [CommRing R]

theorem gram_rot_lt (n k : Nat) (Q : Nat → Nat → R) (c s : R) (hcs : c * c + s * s = 1) (hk : k + 1 < n)
    (horth : ∀ a b, a < n → b < n → ∑ i ∈ range n, Q i a * Q i b = if a = b then 1 else 0) (a b : Nat) (ha : a < n) (hb : b < n) :
    ∑ i ∈ range n, C09Step.mulG Q k c s i a * C09Step.mulG Q k c s i b = if a = b then 1 else 0 :=
  (C09Sim.gram_mat n _).mp (by
    rw [C09Sim.mat_mulG n k hk]; exact C09Sim.orth_mul ((C09Sim.gram_mat n Q).mpr horth) (C09Sim.Gm_orth n k hk c s hcs)) a b ha hb

end ring

section field
variable {K : Type} [Field K] [LinearOrder K] [IsStrictOrderedRing K] (F : FieldFns K)

theorem ne_of_sq (t u : K) (h : u * u = 1 + t * t) : u ≠ 0 := by
  rintro rfl; rw [mul_zero] at h; exact absurd h (ne_of_lt (add_pos_of_pos_of_nonneg one_pos (mul_self_nonneg t)))

theorem unit_of_sq (t u : K) (h : u * u = 1 + t * t) : (1 / u) * (1 / u) + (-t * (1 / u)) * (-t * (1 / u)) = 1 := by
  linear_combination (-(1 / u) * (1 / u)) * h + (u * (1 / u) + 1) * mul_one_div_cancel (ne_of_sq t u h)

/-- with `b = t·a` and `u² = 1 + t²`: `(a + t·b)/u = a·u` -/
theorem rot_r_alg (a b t u : K) (hb : t * a = b) (hu : u * u = 1 + t * t) : (a + t * b) * (1 / u) = a * u := by
  have e : 1 / u * u = 1 := one_div_mul_cancel (ne_of_sq t u hu)
  linear_combination (-(t * (1 / u))) * hb - (1 / u * a) * hu + (a * u) * e

/-- `makeGivens(p, q)`, all four exits: it annihilates `q` against `p` whatever `sqrt` returns (`s·p + c·q = 0`), and with an
    exact square root it is a unit rotation (`c² + s² = 1`) that turns the pair into `(r, 0)` (`c·p − s·q = r`) -/
theorem makeGivens_rot (p q : K) :
    let _ : Sc K := scOfField F
    (makeGivens p q).s * p + (makeGivens p q).c * q = 0 ∧
    ((∀ x : K, 0 ≤ x → F.sqrt x * F.sqrt x = x) →
      (makeGivens p q).c * (makeGivens p q).c + (makeGivens p q).s * (makeGivens p q).s = 1 ∧
      (makeGivens p q).c * p - (makeGivens p q).s * q = (makeGivens p q).r) := by
  intro _
  have hu : ∀ (b : Prop) [Decidable b] (t : K), (∀ x : K, 0 ≤ x → F.sqrt x * F.sqrt x = x) →
      (if b then -F.sqrt (1 + t * t) else F.sqrt (1 + t * t)) * (if b then -F.sqrt (1 + t * t) else F.sqrt (1 + t * t)) = 1 + t * t := by
    intro b _ t hs
    split
    · rw [neg_mul_neg]; exact hs _ (add_nonneg zero_le_one (mul_self_nonneg t))
    · exact hs _ (add_nonneg zero_le_one (mul_self_nonneg t))
  generalize hr : makeGivens p q = r
  simp only [makeGivens, ScF.eq, ScF.lt, Sc.gt, zero, one, ScF.ofInt, Int.cast_zero, Int.cast_one, ScF.sqrt, ScF.abs,
    decide_eq_true_eq] at hr
  by_cases hq : q = 0
  · rw [if_pos hq] at hr; subst hq hr
    refine ⟨by simp, fun _ => ⟨?_, ?_⟩⟩ <;> dsimp only
    · split <;> simp
    · rw [mul_zero, sub_zero]
      split
      · rename_i hp; rw [abs_of_neg hp, neg_one_mul]
      · rename_i hp; rw [abs_of_nonneg (not_lt.mp hp), one_mul]
  · rw [if_neg hq] at hr
    by_cases hp : p = 0
    · rw [if_pos hp] at hr; subst hp hr
      refine ⟨by simp, fun _ => ⟨?_, ?_⟩⟩ <;> dsimp only
      · split <;> simp
      · rw [mul_zero, zero_sub]
        split
        · rename_i hq'; rw [abs_of_neg hq', one_mul]
        · rename_i hq'; rw [abs_of_nonneg (not_lt.mp hq'), neg_one_mul, neg_neg]
    · rw [if_neg hp] at hr
      by_cases hpq : |q| < |p|
      · rw [if_pos hpq] at hr
        have e : q / p * p = q := div_mul_cancel₀ q hp
        have h2 := hu (p < 0) (q / p)
        generalize (if p < 0 then -F.sqrt _ else F.sqrt _) = u at h2 hr
        subst hr
        exact ⟨by linear_combination (-(1 / u)) * e, fun hs => ⟨unit_of_sq (q / p) u (h2 hs),
          by linear_combination rot_r_alg p q (q / p) u e (h2 hs)⟩⟩
      · rw [if_neg hpq] at hr
        have e : p / q * q = p := div_mul_cancel₀ p hq
        have h2 := hu (q < 0) (p / q)
        generalize (if q < 0 then -F.sqrt _ else F.sqrt _) = u at h2 hr
        subst hr
        exact ⟨by linear_combination (1 / u) * e, fun hs => ⟨by linear_combination unit_of_sq (p / q) u (h2 hs),
          by linear_combination rot_r_alg q p (p / q) u e (h2 hs)⟩⟩

/-- `makeGivens(p, q)` annihilates the second component: `s·p + c·q = 0` (any `sqrt`, all four branches) -/
theorem _root_.C09Sim.makeGivens_annih (p q : K) :
    let _ : Sc K := scOfField F
    (makeGivens p q).s * p + (makeGivens p q).c * q = 0 :=
  (makeGivens_rot F p q).1

/-- an ideal rotation: with an exact square root, `makeGivens` returns `c² + s² = 1` in all four branches -/
theorem makeGivens_unit (hs : ∀ x : K, 0 ≤ x → F.sqrt x * F.sqrt x = x) (p q : K) :
    let _ : Sc K := scOfField F
    (makeGivens p q).c * (makeGivens p q).c + (makeGivens p q).s * (makeGivens p q).s = 1 :=
  ((makeGivens_rot F p q).2 hs).1


/-- the first `n` columns of `q` (an `n × n` well-formed matrix) are orthonormal: `QᵀQ = I` -/
def ColsOrth (n : Nat) (q : Mat K) : Prop :=
  WF q ∧ q.rows = n ∧ q.cols = n ∧
    ∀ a b, a < n → b < n → ∑ i ∈ range n, @Mat.get K (scOfField F) q i a * @Mat.get K (scOfField F) q i b = if a = b then 1 else 0

/-- on an `n × n` matrix, `applyOnTheRight(k, k+1, rot)` over all `n` rows is `Q G` entrywise -/
theorem applyOnTheRight_mulG (n k : Nat) (q : Mat K) (c s : K) (hw : @WF K q) (hr : q.rows = n) (hc : q.cols = n) (hk : k + 1 < n)
    (i j : Nat) (hi : i < n) :
    @Mat.get K (scOfField F) (@applyOnTheRight K _ _ _ (scOfField F) q n k (k + 1) c s) i j =
      C09Step.mulG (fun i j => @Mat.get K (scOfField F) q i j) k c s i j := by
  have := applyOnTheRight_get F q hw n k (k + 1) c s (by omega) (by rw [hc]; omega) (by rw [hc]; omega) (by rw [hr]) i j (by rw [hr]; exact hi)
  simp only at this
  rw [this, if_pos hi]
  simp only [C09Step.mulG]

/-- on an `n × n` array, `applyOnTheRight(k, k+1, rot)` over all rows is right-multiplication by `G` -/
theorem mat_applyOnTheRight (n k : Nat) (q : Mat K) (c s : K) (h : ColsOrth F n q) (hk : k + 1 < n) :
    C09Sim.mat n (fun i j => @Mat.get K (scOfField F) (@applyOnTheRight K _ _ _ (scOfField F) q n k (k + 1) c s) i j) =
      C09Sim.mat n (fun i j => @Mat.get K (scOfField F) q i j) * C09Sim.Gm n k c s := by
  rw [← C09Sim.mat_mulG n k hk]
  exact C09Sim.mat_congr _ _ _ fun i j hi _ => applyOnTheRight_mulG F n k q c s h.1 h.2.1 h.2.2.1 hk i j hi

/-- `U ← U W` with `W` orthogonal keeps the columns orthonormal -/
theorem colsOrth_mul (n : Nat) (q q' : Mat K) (W : Matrix (Fin n) (Fin n) K) (h : ColsOrth F n q)
    (hs : @WF K q' ∧ q'.rows = q.rows ∧ q'.cols = q.cols)
    (hq : C09Sim.mat n (fun i j => @Mat.get K (scOfField F) q' i j) = C09Sim.mat n (fun i j => @Mat.get K (scOfField F) q i j) * W)
    (hW : W.transpose * W = 1) : ColsOrth F n q' := by
  obtain ⟨_, hr, hc, ho⟩ := h
  refine ⟨hs.1, hs.2.1.trans hr, hs.2.2.trans hc, (C09Sim.gram_mat n _).mp ?_⟩
  rw [hq]; exact C09Sim.orth_mul ((C09Sim.gram_mat n _).mpr ho) hW

theorem colsOrth_rot (n k : Nat) (q : Mat K) (c s : K) (hcs : c * c + s * s = 1) (hk : k + 1 < n) (h : ColsOrth F n q) :
    ColsOrth F n (@applyOnTheRight K _ _ _ (scOfField F) q n k (k + 1) c s) :=
  let _ : Sc K := scOfField F
  colsOrth_mul F n q _ _ h (applyOnTheRight_shape q h.1 n k (k + 1) c s) (mat_applyOnTheRight F n k q c s h hk)
    (C09Sim.Gm_orth n k hk c s hcs)

theorem _root_.C09Sim.mat_identity (n : Nat) :
    C09Sim.mat n (fun i j => @Mat.get K (scOfField F) (@Mat.identity K (scOfField F) n) i j) = 1 := by
  rw [← C09Sim.mat_one n]
  exact C09Sim.mat_congr _ _ _ fun i j hi hj => by
    rw [@C08Mat.get_identity K (scOfField F) n _ _ hi hj, ScF.one, ScF.zero]

theorem colsOrth_identity (n : Nat) : ColsOrth F n (@Mat.identity K (scOfField F) n) :=
  ⟨@C08Mat.identity_WF K (scOfField F) n, rfl, rfl,
    (C09Sim.gram_mat n _).mp (by rw [C09Sim.mat_identity, Matrix.transpose_one, Matrix.one_mul])⟩

/-- every rotation `makeGivens` produces is a unit rotation (what an exact square root gives, see `makeGivens_unit`) -/
def UnitRot : Prop := ∀ p q : K, (@makeGivens K _ _ _ _ (scOfField F) p q).c * (@makeGivens K _ _ _ _ (scOfField F) p q).c +
    (@makeGivens K _ _ _ _ (scOfField F) p q).s * (@makeGivens K _ _ _ _ (scOfField F) p q).s = 1

theorem qrLoop_orth (hu : UnitRot F) (n start end_ : Nat) (hend : end_ < n) (f k : Nat) (st : QRSt K) (h : ColsOrth F n st.q) :
    ColsOrth F n (@qrLoop K _ _ _ _ _ (scOfField F) n start end_ f k st).q := by
  let _ : Sc K := scOfField F
  fun_induction qrLoop n start end_ f k st with
  | case1 => exact h
  | case2 f k st hc ih =>
    have hk : k < end_ := by simp only [Bool.and_eq_true, decide_eq_true_eq] at hc; exact hc.1
    exact ih (colsOrth_rot F n k st.q _ _ (hu st.x st.z) (by omega) h)
  | case3 => exact h

theorem mainLoop_orth (hu : UnitRot F) (n : Nat) (caz pinv : K) (f end_ start iter : Nat) (d s : Vec K) (q : Mat K)
    (hend : end_ < n) (h : ColsOrth F n q) :
    ColsOrth F n (@mainLoop K _ _ _ _ _ (scOfField F) n caz pinv f end_ start iter d s q).q := by
  let _ : Sc K := scOfField F
  fun_induction mainLoop n caz pinv f end_ start iter d s q with
  | case1 => exact h
  | case2 => exact h
  | case3 => exact h
  | case4 => exact h
  | case5 f end_ start iter d s q he s' end' he2 iter' hcap start' st ih =>
    have hle := C09Loop.shrinkEnd_le s' end_
    exact ih (by omega) (qrLoop_orth F hu n _ _ (by omega) _ _ _ h)

/-- **`ZᵀZ = I` for the whole run of the TridiagEigen model, for ideal rotations**: every input, every size `n ≥ 1`, every outcome of
    every deflation / shift comparison -/
theorem compute_orth (hu : UnitRot F) (n : Nat) (hn : 0 < n) (d e : Vec K) (r : Decomp K)
    (hok : @compute K _ _ _ _ _ (scOfField F) n d e = Res.ok r) : ColsOrth F n r.evecs := by
  let _ : Sc K := scOfField F
  simp only [compute] at hok
  split at hok
  · cases hok; exact colsOrth_identity F n
  · split at hok
    · cases hok
      simp only [core]
      exact mainLoop_orth F hu n _ _ _ _ _ _ _ _ _ (by omega) (colsOrth_identity F n)
    · cases hok

end field
end C09Orth
