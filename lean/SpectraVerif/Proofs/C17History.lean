/-
  Histories on one `LOBPCGSolver` object (`Lobpcg.Obj`): what `compute()` reads.

  `compute()` resets `m_info` first and overwrites `m_residuals` on every path, so neither of them is an input.  `m_evalues` /
  `m_evectors` are overwritten as soon as the dense eigen-solver of the first projection succeeds; only if that solver FAILS do the
  values of an earlier call survive (and are then used for the final residuals).  Everything else the call reads is `X` and the
  operators the object holds at the time of the call.
-/
import SpectraVerif.Model.LOBPCG
import SpectraVerif.Proofs.ListFold

set_option linter.unusedSectionVars false

namespace Lobpcg

section agree
variable {α V : Type} [Add V] [Sub V] [SMul α V] (K : Kern α V) (c : Cfg)

/-- two object states that differ at most in `m_residuals` -/
def Agree (s s' : St α V) : Prop := s.X = s'.X ∧ s.evals = s'.evals ∧ s.evecs = s'.evecs ∧ s.info = s'.info

theorem Agree.rfl' (s : St α V) : Agree s s := ⟨rfl, rfl, rfl, rfl⟩

theorem Agree.eq_with {s s' : St α V} (h : Agree s s') : s' = { s with resid := s'.resid } := by
  obtain ⟨h1, h2, h3, h4⟩ := h
  cases s; cases s'
  simp only at h1 h2 h3 h4
  subst h1 h2 h3 h4
  rfl

theorem Agree.eq_of_resid {s s' : St α V} (h : Agree s s') (hr : s.resid = s'.resid) : s = s' := by
  obtain ⟨h1, h2, h3, h4⟩ := h
  cases s; cases s'
  simp only at h1 h2 h3 h4 hr
  subst h1 h2 h3 h4 hr
  rfl

/-- one pass through the loop body never reads `m_residuals` (it is assigned before it is used) -/
theorem step_resid (t : α) (iter : Nat) (s : St α V) (r : List V) (l : Loc V) :
    step K c t iter { s with resid := r } l = step K c t iter s l := by
  cases s
  rfl

theorem step_agree (t : α) (iter : Nat) (s s' : St α V) (l : Loc V) (h : Agree s s') :
    step K c t iter s' l = step K c t iter s l := by
  rw [h.eq_with]; exact step_resid K c t iter s _ l

/-- the loop on two states that differ only in `m_residuals`: same locals, same exit, states still differ at most in
    `m_residuals`, and are EQUAL unless the loop body never ran (`exhausted` with no iteration) -/
theorem loop_agree (t : α) (fuel iter : Nat) (s s' : St α V) (l : Loc V) (h : Agree s s') :
    Agree (loop K c t fuel iter s l).1 (loop K c t fuel iter s' l).1 ∧
    (loop K c t fuel iter s l).2 = (loop K c t fuel iter s' l).2 ∧
    ((loop K c t fuel iter s l).2.2 ≠ .exhausted → (loop K c t fuel iter s l).1 = (loop K c t fuel iter s' l).1) := by
  cases fuel with
  | zero => exact ⟨h, rfl, fun hne => absurd rfl hne⟩
  | succ fuel =>
    have e : loop K c t (fuel + 1) iter s' l = loop K c t (fuel + 1) iter s l := by
      simp only [loop, step_agree K c t iter s s' l h]
    rw [e]
    exact ⟨Agree.rfl' _, rfl, fun _ => rfl⟩

/-- the code after the loop overwrites `m_residuals` and reads `X`, `m_evalues` and the locals only -/
theorem finalize_agree (t : α) (s s' : St α V) (l : Loc V) (h : Agree s s') :
    finalize K c t s' l = finalize K c t s l := by
  rw [h.eq_with]
  cases s
  rfl

/-- the part before the loop: `m_residuals` is carried along untouched, nothing else of the difference is visible -/
theorem initPhase_resid (s : St α V) (r : List V) :
    initPhase K { s with resid := r } =
      ({ (initPhase K s).1 with resid := r }, (initPhase K s).2.1, (initPhase K s).2.2) := by
  cases s with
  | mk X r0 ev el i =>
  simp only [initPhase]
  cases K.orth Stage.initX X (List.map K.applyB X) with
  | none =>
    simp only []
    cases K.eig0 X (List.map K.applyA X) with
    | none => rfl
    | some p => rfl
  | some X1 =>
    simp only []
    cases K.eig0 X1 (List.map K.applyA X1) with
    | none => rfl
    | some p => rfl

theorem initPhase_agree (s s' : St α V) (h : Agree s s') :
    Agree (initPhase K s).1 (initPhase K s').1 ∧ (initPhase K s).2 = (initPhase K s').2 := by
  have e := initPhase_resid K s s'.resid
  rw [← h.eq_with] at e
  rw [e]
  exact ⟨⟨rfl, rfl, rfl, rfl⟩, rfl⟩

/-- if the dense eigen-solver of the first projection succeeds, `m_evalues` and `m_evectors` of an earlier call are overwritten
    before anything reads them: the initial phase sees `X` (and `m_info`, just reset) only -/
theorem initPhase_X_only (hE : ∀ X AX, (K.eig0 X AX).isSome) (s s' : St α V) (hX : s.X = s'.X) (hi : s.info = s'.info) :
    Agree (initPhase K s).1 (initPhase K s').1 ∧ (initPhase K s).2 = (initPhase K s').2 := by
  cases s with
  | mk X r ev el i =>
  cases s' with
  | mk X' r' ev' el' i' =>
  simp only at hX hi
  subst hX hi
  simp only [initPhase]
  cases K.orth Stage.initX X (List.map K.applyB X) with
  | none =>
    simp only []
    have := hE X (List.map K.applyA X)
    cases h2 : K.eig0 X (List.map K.applyA X) with
    | none => rw [h2] at this; cases this
    | some p => exact ⟨⟨rfl, rfl, rfl, rfl⟩, rfl⟩
  | some X1 =>
    simp only []
    have := hE X1 (List.map K.applyA X1)
    cases h2 : K.eig0 X1 (List.map K.applyA X1) with
    | none => rw [h2] at this; cases this
    | some p => exact ⟨⟨rfl, rfl, rfl, rfl⟩, rfl⟩

/-- from two initial-phase results that differ at most in `m_residuals` the rest of `compute()` gives the same `Out` -/
theorem compute_tail (maxit : Int) (tol : α) (s0 s0' : St α V)
    (h : Agree (initPhase K (reset s0)).1 (initPhase K (reset s0')).1 ∧ (initPhase K (reset s0)).2 = (initPhase K (reset s0')).2) :
    compute K c maxit tol s0 = compute K c maxit tol s0' := by
  obtain ⟨ha, hl⟩ := h
  unfold compute
  generalize hp : initPhase K (reset s0) = p at ha hl
  generalize hp' : initPhase K (reset s0') = p' at ha hl
  obtain ⟨s1, l1, ok⟩ := p
  obtain ⟨s1', l1', ok'⟩ := p'
  simp only [Prod.mk.injEq] at hl
  obtain ⟨hl1, hok⟩ := hl
  subst hl1 hok
  simp only at ha
  simp only []
  obtain ⟨hA, hL, hS⟩ := loop_agree K c (K.tolL2 tol c.n) (if ok = true then min c.n maxit.toNat else 0) 0 s1 s1' l1 ha
  generalize hq : loop K c (K.tolL2 tol c.n) (if ok = true then min c.n maxit.toNat else 0) 0 s1 l1 = q at hA hL hS
  generalize hq' : loop K c (K.tolL2 tol c.n) (if ok = true then min c.n maxit.toNat else 0) 0 s1' l1 = q' at hA hL hS
  obtain ⟨s2, l2, e⟩ := q
  obtain ⟨s2', l2', e'⟩ := q'
  simp only [Prod.mk.injEq] at hL
  obtain ⟨hl2, he⟩ := hL
  subst hl2 he
  simp only at hA hS
  cases e with
  | rrThrew i => have := hS (by intro h; cases h); subst this; rfl
  | _ => simp only [finalize_agree K c _ s2 s2' l2 hA]

theorem reset_agree (s0 s0' : St α V) (hX : s0.X = s0'.X) (hv : s0.evals = s0'.evals) (hc : s0.evecs = s0'.evecs) :
    Agree (reset s0) (reset s0') := ⟨hX, hv, hc, rfl⟩

end agree

/-! ### the object -/
section obj
variable {α V : Type} [Add V] [Sub V] [SMul α V] (c : Cfg)

theorem Obj.apply_A (o : Obj α V) (op : Op α V) : (Obj.apply c o op).A = o.A := by cases op <;> rfl

theorem Obj.run_A (o : Obj α V) (ops : List (Op α V)) : (Obj.run c o ops).A = o.A :=
  ListFold.foldl_fix (·.A) (Obj.apply c) ops o (Obj.apply_A c)

theorem Obj.run_B (o : Obj α V) (ops : List (Op α V)) : (Obj.run c o ops).B = lastB o.B ops := by
  induction ops generalizing o with
  | nil => rfl
  | cons op ops ih =>
    simp only [Obj.run, List.foldl_cons] at ih ⊢
    rw [ih]
    cases op <;> rfl

theorem Obj.run_T (o : Obj α V) (ops : List (Op α V)) : (Obj.run c o ops).T = lastT o.T ops := by
  induction ops generalizing o with
  | nil => rfl
  | cons op ops ih =>
    simp only [Obj.run, List.foldl_cons] at ih ⊢
    rw [ih]
    cases op <;> rfl

/-- the kernel record of a call depends on the object through its three operators only -/
theorem Obj.kern_congr (N : Kern α V) (o o' : Obj α V) (hA : o.A = o'.A) (hB : o.B = o'.B) (hT : o.T = o'.T) :
    o.kern N = o'.kern N := by
  unfold Obj.kern; rw [hA, hB, hT]

end obj

end Lobpcg
