/-
  C09 helper lemmas: the UpperHessenbergSchur model keeps `T` upper Hessenberg (every step but the Francis sweep leaves the positions
  below the sub-diagonal alone; the sweep pollutes exactly what its clean-up loop zeroes), hence returns a quasi-upper-triangular `T`.
  Arbitrary scalar type, arbitrary `Sc` instance.
-/
import SpectraVerif.Proofs.C09Schur

set_option linter.unusedSectionVars false
namespace C09Hess
open Lin EigenPrims HessSchur C09Mat C09Schur
open C08Mat hiding WF
variable {α : Type} [Add α] [Sub α] [Mul α] [Div α] [Neg α] [Sc α]

/-- writing zeros keeps a zero entry zero -/
theorem zero_set_zero (t : Mat α) (h : WF t) (i j i0 j0 : Nat) (hi : i < t.rows) (hz : t.get i j = (zero : α)) :
    (t.set i0 j0 zero).get i j = (zero : α) := by
  by_cases hb : i0 < t.rows ∧ j0 < t.cols
  · rw [get_set h _ hb.1 hb.2 hi]; split
    · rfl
    · exact hz
  · simp only [Mat.set, if_neg hb]; exact hz

theorem cleanStep_wf (im : Nat) (acc : Mat α) (ii : Nat) (h : WF acc) : WF (cleanStep im acc ii) := by
  simp only [cleanStep]; split
  · exact set_WF (set_WF h _ _ _) _ _ _
  · exact set_WF h _ _ _
theorem cleanStep_rows (im : Nat) (acc : Mat α) (ii : Nat) : (cleanStep im acc ii).rows = acc.rows := by
  simp only [cleanStep]; split
  · rw [set_rows, set_rows]
  · rw [set_rows]

theorem cleanStep_keeps_zero (im : Nat) (acc : Mat α) (ii : Nat) (h : WF acc) (i j : Nat) (hi : i < acc.rows)
    (hz : acc.get i j = (zero : α)) : (cleanStep im acc ii).get i j = (zero : α) := by
  simp only [cleanStep]; split
  · exact zero_set_zero _ (set_WF h _ _ _) _ _ _ _ (by rw [set_rows]; exact hi) (zero_set_zero _ h _ _ _ _ hi hz)
  · exact zero_set_zero _ h _ _ _ _ hi hz

theorem clean_keeps_zero (im : Nat) (l : List Nat) (t : Mat α) (h : WF t) (i j : Nat) (hi : i < t.rows)
    (hz : t.get i j = (zero : α)) : (l.foldl (cleanStep im) t).get i j = (zero : α) := by
  induction l generalizing t with
  | nil => exact hz
  | cons x l ih =>
    simp only [List.foldl_cons]
    exact ih _ (cleanStep_wf im t x h) (by rw [cleanStep_rows]; exact hi) (cleanStep_keeps_zero im t x h i j hi hz)

theorem cleanStep_sets (im : Nat) (acc : Mat α) (ii : Nat) (h : WF acc) (j : Nat) (hi : im + 2 + ii < acc.rows) (hc : acc.cols = acc.rows)
    (hj : j + 2 = im + 2 + ii ∨ (im + 2 < im + 2 + ii ∧ j + 3 = im + 2 + ii)) : (cleanStep im acc ii).get (im + 2 + ii) j = (zero : α) := by
  simp only [cleanStep]
  rcases hj with hj | ⟨hlt, hj⟩
  · have e : j = im + 2 + ii - 2 := by omega
    split
    · apply zero_set_zero _ (set_WF h _ _ _) _ _ _ _ (by rw [set_rows]; exact hi)
      rw [e]; exact get_set_self h _ hi (by omega)
    · rw [e]; exact get_set_self h _ hi (by omega)
  · have e : j = im + 2 + ii - 3 := by omega
    rw [if_pos hlt, e]
    exact get_set_self (set_WF h _ _ _) _ (by rw [set_rows]; exact hi) (by rw [set_cols]; omega)

theorem clean_sets (im : Nat) (l : List Nat) (t : Mat α) (h : WF t) (ii0 j : Nat) (hmem : ii0 ∈ l) (hi : im + 2 + ii0 < t.rows)
    (hc : t.cols = t.rows)
    (hj : j + 2 = im + 2 + ii0 ∨ (im + 2 < im + 2 + ii0 ∧ j + 3 = im + 2 + ii0)) :
    (l.foldl (cleanStep im) t).get (im + 2 + ii0) j = (zero : α) := by
  induction l generalizing t with
  | nil => cases hmem
  | cons x l ih =>
    simp only [List.foldl_cons]
    by_cases hx : x = ii0
    · subst hx
      exact clean_keeps_zero im l _ (cleanStep_wf im t x h) _ _ (by rw [cleanStep_rows]; exact hi) (cleanStep_sets im t x h j hi hc hj)
    · have hmem' : ii0 ∈ l := by
        cases hmem with
        | head => exact absurd rfl hx
        | tail _ h' => exact h'
      have hc' : (cleanStep im t x).cols = (cleanStep im t x).rows := by
        simp only [cleanStep]; split
        · rw [set_cols, set_cols, set_rows, set_rows]; exact hc
        · rw [set_cols, set_rows]; exact hc
      exact ih _ (cleanStep_wf im t x h) hmem' (by rw [cleanStep_rows]; exact hi) hc'

/-- upper Hessenberg shape: every entry strictly below the sub-diagonal is exactly the constant `0` -/
def Hess (n : Nat) (t : Mat α) : Prop := ∀ i j, j + 2 ≤ i → i < n → t.get i j = (zero : α)

/-- invariant: well-formed `n × n`, upper Hessenberg -/
structure HInv (n m : Nat) (t : Mat α) : Prop where
  wf : WF t
  rows : t.rows = n
  cols : t.cols = n
  le : m ≤ n
  hess : Hess n t

theorem hinv_keepM {n m m' iu : Nat} {t t' : Mat α} (hI : HInv n m t) (hp : PresK (KeepM iu) t t') (hm : m' ≤ m) : HInv n m' t' :=
  ⟨hp.1, by rw [hp.2.1, hI.rows], by rw [hp.2.2.1, hI.cols], Nat.le_trans hm hI.le, fun i j hb hi => by
    rw [hp.2.2.2 i j (Or.inr hb) (by rw [hI.rows]; exact hi)]; exact hI.hess i j hb hi⟩

/-- the sweep pollutes `Poll` only, and the clean-up loop zeroes `Poll` -/
theorem hinv_performFrancis {n iu : Nat} {s : TU α} (hI : HInv n (iu + 1) s.t) (il im : Nat) (near0 : α) (fv : α × α × α) :
    HInv n (iu + 1) (performFrancis n il im iu near0 fv s).t := by
  have hiu := hI.le
  have hp := presK_performFrancis n il im iu near0 fv s hI.wf
  refine ⟨hp.1, by rw [hp.2.1, hI.rows], by rw [hp.2.2.1, hI.cols], hiu, ?_⟩
  have h1 := presK_chase n il im iu near0 fv s hI.wf
  rw [performFrancis_eq]
  generalize chase n il im iu near0 fv s = s2 at h1 ⊢
  have hr2 : s2.t.rows = n := by rw [h1.2.1, hI.rows]
  have hc2 : s2.t.cols = n := by rw [h1.2.2.1, hI.cols]
  intro i j hb hi
  by_cases hp : Poll im iu i j
  · obtain ⟨p1, p2, p3⟩ := hp
    have ei : i = im + 2 + (i - im - 2) := by omega
    rw [ei]
    exact clean_sets im _ s2.t h1.1 (i - im - 2) j (List.mem_range.mpr (by omega)) (by rw [hr2]; omega) (by rw [hr2, hc2]) (by omega)
  · apply clean_keeps_zero im _ s2.t h1.1 i j (by rw [hr2]; exact hi)
    rw [h1.2.2.2 i j (Or.inr ⟨hb, hp⟩) (by rw [hI.rows]; exact hi)]
    exact hI.hess i j hb hi

/-- **the Schur main loop keeps `T` upper Hessenberg**, whatever the comparisons decide -/
theorem mainLoop_hess (n : Nat) (near0 : α) (f m iter total : Nat) (ex : α) (s : TU α) (hI : HInv n m s.t)
    (hd : (mainLoop n near0 f m iter total ex s).exit = Exit.done) : Hess n (mainLoop n near0 f m iter total ex s).t := by
  obtain ⟨_, h0⟩ := mainLoop_rule n near0 (fun m _ s => HInv n m s.t)
    (fun iu ex s h => hinv_keepM h (presK_deflate s.t h.wf iu ex) (Nat.le_succ _))
    (fun iu ex s h => hinv_keepM h (presK_split n (iu + 1) ex s h.wf).1 (Nat.le_add_right _ 2))
    (fun il im iu iter ex s fv h _ => hinv_performFrancis (s := ⟨_, s.u⟩)
      (hinv_keepM h (presK_computeShift (KeepM iu) s.t h.wf iu iter ex (by intro i _; unfold KeepM; omega)) (Nat.le_refl _)) il im near0 fv)
    f m iter total ex s hI hd
  exact h0.hess

/-- **`UpperHessenbergSchur::compute` returns a quasi-upper-triangular `T`** (model, every scalar type, every comparison outcome):
    for an upper Hessenberg input every entry strictly below the sub-diagonal of the returned `T` is exactly `0`, and
    (unless `norm == 0`) no two consecutive sub-diagonal entries are non-zero. -/
theorem compute_quasi (n : Nat) (h : Mat α) (hw : WF h) (hr : h.rows = n) (hc : h.cols = n) (hH : Hess n h) (r : Decomp α)
    (hok : compute n h = Res.ok r) :
    Hess n r.t ∧
    ((Sc.ne (l1norm n h) (zero : α) = false ∧ r.t = h) ∨
     (∀ i, 0 < i → i + 1 < n → r.t.get i (i - 1) = (zero : α) ∨ r.t.get (i + 1) i = (zero : α))) := by
  refine ⟨?_, C09Schur.compute_struct n h hw hr hc r hok⟩
  obtain ⟨_, rfl⟩ | ⟨_, hd, rfl⟩ := compute_ok_cases n h r hok
  · exact hH
  · exact mainLoop_hess n _ _ n 0 0 zero ⟨h, Mat.identity n⟩ ⟨hw, hr, hc, Nat.le_refl _, hH⟩ hd

end C09Hess
