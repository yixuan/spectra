/-
  C06 — read/write footprint of the numeric kernel record of the GENERAL family (`GenSolver.genKern`: GenEigsSolver,
  GenEigsRealShiftSolver; and `GenSolver.computeCS`: GenEigsComplexShiftSolver).

  * `gen_respects`: every kernel of `genKernC` (= `genKern` with the object's `const` members pinned in `facInit`, the same
    construction as `hermKernC`) reads only the live part of the factorization object: `restartFac` (the single/double-shift loop
    with `UpperHessenbergQR` / `DoubleShiftQR`, `compress_H`, `compress_V`, `Arnoldi.factorize_from`), `eig` (`HessEigen` on `H`),
    `convTest` (`beta`), `assemble` (`V`), `factorize`, `facDim`; `facInit` rebuilds the live part from ANY old object.
  * `gen_run_wf`: the constants survive every history; `gen_init_bridge`: on objects carrying the constructor's constants
    `Orch.init (genKernC …)` is `Orch.init (genKern …)`.
  * complex-shift class: `computeWith_sim` (the noninterference step for `GenSolver.computeWith` with a state-dependent prologue
    that preserves similarity), `csPre_sim` (the prologue of `GenEigsComplexShiftSolver::sort_ritzpair` reads `V`, the Ritz vectors
    and the Ritz values only).
-/
import SpectraVerif.Model.GenSolver
import SpectraVerif.Proofs.C06Footprint

namespace C06Footprint
open Lin Arnoldi Orch

section
variable {α : Type} [Add α] [Sub α] [Mul α] [Div α] [Neg α] [Sc α]
set_option linter.unusedSectionVars false

/-! ### the shift loop of `GenEigsBase::restart` -/

/-- one pass (single or double shift) reads `H` and the accumulated `Q`, writes `H`, `k` and `Q` -/
theorem gen_shiftStep_erase (ritz : Int → GenSolver.Cx α) (p : Nat × Bool) {x y : State α × Mat α} (h : eraseP x = eraseP y) :
    eraseP (GenSolver.shiftStep ritz x p) = eraseP (GenSolver.shiftStep ritz y p) := by
  obtain ⟨x1, x2⟩ := x
  obtain ⟨y1, y2⟩ := y
  simp only [eraseP, Prod.mk.injEq] at h
  obtain ⟨h1, h2⟩ := h
  subst h2
  have hH : x1.H = y1.H := erase_H h1
  unfold GenSolver.shiftStep
  dsimp only
  split
  · simp only [eraseP, hH, Prod.mk.injEq, and_true]
    exact compress_H_erase _ 2 h1
  · simp only [eraseP, hH, Prod.mk.injEq, and_true]
    exact compress_H_erase _ 1 h1

theorem gen_shiftStep_consts (ritz : Int → GenSolver.Cx α) (p : Nat × Bool) (x : State α × Mat α) :
    consts (GenSolver.shiftStep ritz x p).1 = consts x.1 := by
  unfold GenSolver.shiftStep
  dsimp only
  split <;> rfl

theorem gen_shiftStep_ops (ritz : Int → GenSolver.Cx α) (p : Nat × Bool) (x : State α × Mat α) :
    (GenSolver.shiftStep ritz x p).1.ops = x.1.ops := by
  unfold GenSolver.shiftStep
  dsimp only
  split <;> rfl

/-- the shift loop of `GenEigsBase::restart` (QR sweeps + `compress_H`, `Q` accumulated from the identity) -/
def genShiftLoop (ncv k : Nat) (ritzVal : List (GenSolver.Cx α)) (s : State α) : State α × Mat α :=
  (GenSolver.shiftPasses (GenSolver.clistFn ritzVal) ncv (ncv - k) k).foldl (GenSolver.shiftStep (GenSolver.clistFn ritzVal))
    (s, Mat.identity ncv)

theorem genShiftLoop_erase (ncv k : Nat) (ritzVal : List (GenSolver.Cx α)) {s t : State α} (h : erase s = erase t) :
    eraseP (genShiftLoop ncv k ritzVal s) = eraseP (genShiftLoop ncv k ritzVal t) := by
  unfold genShiftLoop
  apply ListFold.foldl_rel (fun x y : State α × Mat α => eraseP x = eraseP y)
  · simp only [eraseP, h]
  · intro x y p _ hxy
    exact gen_shiftStep_erase _ p hxy

theorem genShiftLoop_consts (ncv k : Nat) (ritzVal : List (GenSolver.Cx α)) (s : State α) :
    consts (genShiftLoop ncv k ritzVal s).1 = consts s := by
  unfold genShiftLoop
  exact ListFold.foldl_fix (σ := State α × Mat α) (fun p => consts p.1) _ _ (s, Mat.identity ncv) (fun x p => gen_shiftStep_consts _ p x)

theorem genShiftLoop_ops (ncv k : Nat) (ritzVal : List (GenSolver.Cx α)) (s : State α) :
    (genShiftLoop ncv k ritzVal s).1.ops = s.ops := by
  unfold genShiftLoop
  exact ListFold.foldl_fix (σ := State α × Mat α) (fun p => p.1.ops) _ _ (s, Mat.identity ncv) (fun x p => gen_shiftStep_ops _ p x)

theorem gen_restartFac_eq (op : Arnoldi.Op α) (ncv k : Nat) (ritzVal : List (GenSolver.Cx α)) (s : State α) :
    GenSolver.restartFac op ncv k ritzVal s =
      (match Arnoldi.factorize_from op (compress_V op (genShiftLoop ncv k ritzVal s).1 (genShiftLoop ncv k ritzVal s).2) k ncv with
       | some s3 => ⟨s3, s3.ops - s.ops, none⟩
       | none => ⟨compress_V op (genShiftLoop ncv k ritzVal s).1 (genShiftLoop ncv k ritzVal s).2, 0,
          some (.invalidArgument "Arnoldi: from_k is larger than the current subspace dimension")⟩) := rfl

/-! ### the kernel record of the general family -/

/-- `genKern` with the constants of the factorization object pinned in `facInit` (what the C++ gets from `const` members), and a
    canonical object in the rejected-start-vector case -/
def genKernC (op : Arnoldi.Op α) (c : Orch.Cfg) (eps23 : α) (back : GenSolver.Cx α → GenSolver.Cx α) (near0 eps : α) :
    Orch.Kern (Arnoldi.State α) (GenSolver.Cx α) (GenSolver.Cx α) (Vec (GenSolver.Cx α)) (Vec α) α (Vec (GenSolver.Cx α)) :=
  withFacInit (GenSolver.genKern op c eps23 back) (fun v0 s =>
      match Arnoldi.init op { s with n := c.n, m := c.ncv, near0 := near0, eps := eps, ops := 0 } v0 with
      | some s' => ⟨s', s'.ops, none⟩
      | none => ⟨State.mk0 c.n c.ncv near0 eps, 0, some (.invalidArgument "initial residual vector cannot be zero")⟩)

/-- **the obligation, general family**: every numeric kernel of `GenEigsSolver` / `GenEigsRealShiftSolver` reads only the live
    part of the factorization object, and `facInit` rebuilds the live part from ANY old object -/
theorem gen_respects (op : Arnoldi.Op α) (c : Orch.Cfg) (eps23 : α) (back : GenSolver.Cx α → GenSolver.Cx α) (near0 eps : α) :
    Orch.Respects (genKernC op c eps23 back near0 eps) (Live c.n c.ncv near0 eps) where
  facInit := pinnedInit_live op c near0 eps
  factorize := fun k m a b hab =>
    facResOf_live _ hab (erase_ops hab.2.2) (arnoldi_factorize_erase op k m hab.2.2)
      (fun s' h => (arnoldi_factorize_consts op k m a s' h).trans hab.1)
      (fun s' h => (arnoldi_factorize_consts op k m b s' h).trans hab.2.1)
  facDim := fun a b hab => erase_k hab.2.2
  eig := by
    intro a b hab
    simp only [genKernC, withFacInit, GenSolver.genKern, GenSolver.eigH, erase_H hab.2.2]
  convTest := by
    intro t a b x y hab
    simp only [genKernC, withFacInit, GenSolver.genKern, GenSolver.convTest, erase_beta hab.2.2]
  restartFac := fun k vals a b hab => by
    have hL := Live.compress_V op (genShiftLoop_erase c.ncv k vals hab.2.2)
      ((genShiftLoop_consts _ _ _ a).trans hab.1) ((genShiftLoop_consts _ _ _ b).trans hab.2.1)
    exact facResOf_live _ hL (erase_ops hab.2.2) (arnoldi_factorize_erase op k c.ncv hL.2.2)
      (fun s' h => (arnoldi_factorize_consts op k c.ncv _ s' h).trans hL.1)
      (fun s' h => (arnoldi_factorize_consts op k c.ncv _ s' h).trans hL.2.1)
  assemble := by
    intro a b x hab
    show GenSolver.assemble c.ncv a x = GenSolver.assemble c.ncv b x
    unfold GenSolver.assemble
    rw [erase_V hab.2.2]

/-! ### histories -/

variable (op : Arnoldi.Op α) (c : Orch.Cfg) (eps23 : α) (back : GenSolver.Cx α → GenSolver.Cx α) (near0 eps : α)

/-- state of a solver object of the general family -/
abbrev GSt (α : Type) := St (State α) (GenSolver.Cx α) (GenSolver.Cx α) (Vec (GenSolver.Cx α))

/-- the object carries the constants its constructor installed -/
def WfG (s : GSt α) : Prop := consts s.fac = (c.n, c.ncv, near0, eps)

theorem gen_construct_wf : WfG c near0 eps (construct (State.mk0 c.n c.ncv near0 eps) : GSt α) := rfl

theorem gen_run_wf (hist : List (Call (Vec α) α)) {s : GSt α} (h : WfG c near0 eps s) :
    WfG c near0 eps (run (GenSolver.genKern op c eps23 back) c s hist) :=
  run_consts_of (GenSolver.genKern op c eps23 back) op c near0 eps (gen_respects op c eps23 back near0 eps) rfl hist h

theorem gen_init_bridge (v0 : Vec α) {s : GSt α} (h : WfG c near0 eps s) :
    (init (genKernC op c eps23 back near0 eps) c v0 s).2 = (init (GenSolver.genKern op c eps23 back) c v0 s).2 ∧
    ((init (GenSolver.genKern op c eps23 back) c v0 s).2 = none →
      (init (genKernC op c eps23 back near0 eps) c v0 s).1 = (init (GenSolver.genKern op c eps23 back) c v0 s).1) :=
  init_bridge_of (GenSolver.genKern op c eps23 back) op c near0 eps rfl v0 h

end

/-! ### `computeWith`: `Orch.compute` with a state-dependent prologue of `sort_ritzpair` (complex-shift class) -/

section cw
variable {φ ρ ε κ β τ ω : Type} (K : Kern φ ρ ε κ β τ ω) (c : Cfg) {R : φ → φ → Prop}

/-- `computeWith` maps similar states to similar states with identical outcome, provided the prologue does -/
theorem computeWith_sim (hK : Respects K R) (pre : St φ ρ ε κ → St φ ρ ε κ)
    (hpre : ∀ s1 s2, SimSt R s1 s2 → SimSt R (pre s1) (pre s2))
    (sel : Int) (maxit : Nat) (tol : τ) (sorting : Int) (s1 s2 : St φ ρ ε κ) (h : SimSt R s1 s2) :
    SimSt R (GenSolver.computeWith K c pre sel maxit tol sorting s1).st (GenSolver.computeWith K c pre sel maxit tol sorting s2).st ∧
    (GenSolver.computeWith K c pre sel maxit tol sorting s1).out = (GenSolver.computeWith K c pre sel maxit tol sorting s2).out ∧
    (∀ r, (GenSolver.computeWith K c pre sel maxit tol sorting s2).out = .ok r →
      (GenSolver.computeWith K c pre sel maxit tol sorting s1).st.info = (GenSolver.computeWith K c pre sel maxit tol sorting s2).st.info) :=
  have ⟨q1, q2, _, _, q5⟩ := Orch.computeWith_sim K c hK pre hpre sel maxit tol sorting s1 s2 h
  ⟨q1, q2, q5⟩

end cw

section cs
variable {α : Type} [Add α] [Sub α] [Mul α] [Div α] [Neg α] [Sc α]

/-- the prologue of `GenEigsComplexShiftSolver::sort_ritzpair` as a state transformer -/
def csPre (probe : Vec α → Vec α) (c : Cfg) (sigmar sigmai : α) (st : GSt α) : GSt α :=
  { st with ritzVal := GenSolver.csBack probe c sigmar sigmai st }

theorem computeCS_eq (op : Arnoldi.Op α) (probe : Vec α → Vec α) (c : Cfg) (eps23 sigmar sigmai : α)
    (sel : Int) (maxit : Nat) (tol : α) (sorting : Int) (s : GSt α) :
    GenSolver.computeCS op probe c eps23 sigmar sigmai sel maxit tol sorting s =
      GenSolver.computeWith (GenSolver.genKern op c eps23 id) c (csPre probe c sigmar sigmai) sel maxit tol sorting s := rfl

/-- the prologue reads `V` (live), the Ritz vectors and the Ritz values, and writes the Ritz values -/
theorem csPre_sim (probe : Vec α → Vec α) (c : Cfg) (sigmar sigmai near0 eps : α) (s1 s2 : GSt α)
    (h : SimSt (Live c.n c.ncv near0 eps) s1 s2) :
    SimSt (Live c.n c.ncv near0 eps) (csPre probe c sigmar sigmai s1) (csPre probe c sigmar sigmai s2) := by
  obtain ⟨hfac, e1, e2, e3, e4, e5, e6⟩ := h
  refine ⟨hfac, ?_, e2, e3, e4, e5, e6⟩
  show GenSolver.csBack probe c sigmar sigmai s1 = GenSolver.csBack probe c sigmar sigmai s2
  unfold GenSolver.csBack
  rw [erase_V hfac.2.2, e1, e2]

/-! ### histories of a `GenEigsComplexShiftSolver` object -/

variable (op : Arnoldi.Op α) (probe : Vec α → Vec α) (c : Cfg) (eps23 sigmar sigmai near0 eps : α)

/-- one public call on a complex-shift solver (`compute` = `GenSolver.computeCS`) -/
def stepCS (s : GSt α) : Call (Vec α) α → GSt α
  | .init v0 => (init (GenSolver.genKern op c eps23 id) c v0 s).1
  | .compute sel maxit tol sorting => (GenSolver.computeCS op probe c eps23 sigmar sigmai sel maxit tol sorting s).st

def runCS (s : GSt α) (h : List (Call (Vec α) α)) : GSt α := h.foldl (stepCS op probe c eps23 sigmar sigmai) s

/-- `computeCS` on two similar objects -/
theorem computeCS_rel (sel : Int) (maxit : Nat) (tol : α) (sorting : Int) (s1 s2 : GSt α)
    (h : SimSt (Live c.n c.ncv near0 eps) s1 s2) :
    CompRel (SimSt (Live c.n c.ncv near0 eps)) (fun _ => False)
      (GenSolver.computeCS op probe c eps23 sigmar sigmai sel maxit tol sorting s1)
      (GenSolver.computeCS op probe c eps23 sigmar sigmai sel maxit tol sorting s2) :=
  compute_rel (Lockstep.wfi c ((gen_respects op c eps23 id near0 eps).lockstep _ c)) _ _ (csPre_sim probe c sigmar sigmai near0 eps)
    sel maxit tol sorting s1 s2 h

/-- `computeCS` on two similar objects: similar objects, same outcome, same `info` on return -/
theorem computeCS_sim (sel : Int) (maxit : Nat) (tol : α) (sorting : Int) (s1 s2 : GSt α)
    (h : SimSt (Live c.n c.ncv near0 eps) s1 s2) :
    SimSt (Live c.n c.ncv near0 eps) (GenSolver.computeCS op probe c eps23 sigmar sigmai sel maxit tol sorting s1).st
      (GenSolver.computeCS op probe c eps23 sigmar sigmai sel maxit tol sorting s2).st ∧
    (GenSolver.computeCS op probe c eps23 sigmar sigmai sel maxit tol sorting s1).out =
      (GenSolver.computeCS op probe c eps23 sigmar sigmai sel maxit tol sorting s2).out ∧
    (∀ r, (GenSolver.computeCS op probe c eps23 sigmar sigmai sel maxit tol sorting s2).out = .ok r →
      (GenSolver.computeCS op probe c eps23 sigmar sigmai sel maxit tol sorting s1).st.info =
      (GenSolver.computeCS op probe c eps23 sigmar sigmai sel maxit tol sorting s2).st.info) :=
  have ⟨q1, q2, _, _, q5⟩ := (computeCS_rel op probe c eps23 sigmar sigmai near0 eps sel maxit tol sorting s1 s2 h).sim
  ⟨q1, q2, q5⟩

theorem runCS_wf (hist : List (Call (Vec α) α)) {s : GSt α} (h : WfG c near0 eps s) :
    WfG c near0 eps (runCS op probe c eps23 sigmar sigmai s hist) := by
  refine ListFold.foldl_inv (WfG c near0 eps) (stepCS op probe c eps23 sigmar sigmai) hist s h ?_
  intro s call _ hs
  cases call with
  | init v0 => exact init_consts_of (GenSolver.genKern op c eps23 id) op c near0 eps rfl v0 hs
  | compute sel maxit tol sorting =>
    exact (computeCS_sim op probe c eps23 sigmar sigmai near0 eps sel maxit tol sorting s s
      ⟨Live.refl hs, rfl, rfl, rfl, rfl, rfl, rfl⟩).1.fac.1

end cs
end C06Footprint
