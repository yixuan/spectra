/-
  C10 — index safety of the COMPLEX Hermitian BKLDLT model (Model/BKLDLTC.lean), routine by routine: helper lemmas.
  Same invariant `BKLDLT.Inv n a z s` as for the real model (the state type, the access primitives and the routines without
  conj/real/abs are shared); the routines re-written with conjugations are re-proved here; `copy_data`, the pivot loop and the
  tail of `compute` are instances of the shapes of Proofs/C10Index.lean.  For every real scalar type `β`, every `Sc β` instance and
  all data: every pivot-decision sequence.  Then the status of the pivot loop and the Lower/Upper equality of the packed copy.
-/
import Mathlib.Tactic.Ring
import SpectraVerif.Model.BKLDLTC
import SpectraVerif.Proofs.C10Solve
open Gen.BK


namespace BKLDLTC
open BKLDLT (St NotComputed srcIdx initSt Inv perm2x2 copyFast copyGen copyFast_inv copyGen_inv Successful NumericalIssue ge1_status_cases
  ge2_status_h_cases copyGen_congr copyGen_eq_copyFast)
section
variable {β : Type} [Add β] [Sub β] [Mul β] [Div β] [Neg β] [Sc β]

theorem pivoting_1x1_inv {n : Int} {a : Array Int} {z : Nat} {s : St (Cx β)} {k r : Int} (h : Inv n a z s) (hk : 0 ≤ k) (hkr : k ≤ r)
    (hr : r < n) : Inv n (a.setIfInBounds k.toNat r) z (pivoting_1x1 s k r) := by
  unfold pivoting_1x1
  have h1 := h.setPerm (v := r) ⟨hk, by omega⟩
  split
  · exact h1
  · have h2 := h1.swap (i1 := k) (j1 := k) (i2 := r) (j2 := r) ⟨hk, le_refl _, by omega⟩ ⟨by omega, le_refl _, hr⟩
    refine (Inv.get ?_ ⟨hk, by omega, hr⟩).wr ⟨hk, by omega, hr⟩
    apply ListFold.foldl_inv (Inv n _ z)
    · rw [h2.n]
      apply ListFold.foldl_inv (Inv n _ z) _ _ _ h2
      intro s i hi hs
      have := mem_intRange.1 hi
      exact hs.swap ⟨hk, by omega, by omega⟩ ⟨by omega, by omega, by omega⟩
    · intro s j hj hs
      have := mem_intRange.1 hj
      exact (((hs.get ⟨hk, by omega, by omega⟩).get ⟨by omega, by omega, by omega⟩).wr ⟨hk, by omega, by omega⟩).wr
        ⟨by omega, by omega, by omega⟩

theorem find_lambda_inv {n : Int} {a : Array Int} {z : Nat} {s : St (Cx β)} {k : Int} (h : Inv n a z s) (hk : 0 ≤ k) (hk1 : k + 1 < n) :
    Inv n a z (find_lambda s k).2.2 ∧ k + 1 ≤ (find_lambda s k).2.1 ∧ (find_lambda s k).2.1 < n := by
  unfold find_lambda
  have h1 := h.get (i := k + 1) (j := k) ⟨hk, by omega, hk1⟩
  simp only []
  apply ListFold.foldl_inv (fun (acc : β × Int × St (Cx β)) => Inv n a z acc.2.2 ∧ k + 1 ≤ acc.2.1 ∧ acc.2.1 < n)
  · exact ⟨h1, le_refl _, hk1⟩
  · rintro ⟨lam, r, s'⟩ i hi ⟨hs, hr1, hr2⟩
    have hi' := mem_intRange.1 hi
    have hn : (s.get (k + 1) k).2.n = n := h1.n
    rw [hn] at hi'
    have hg := hs.get (i := i) (j := k) ⟨hk, by omega, hi'.2⟩
    simp only []
    split
    · exact ⟨hg, by dsimp only; omega, by dsimp only; omega⟩
    · exact ⟨hg, hr1, hr2⟩


theorem find_sigma_inv {n : Int} {a : Array Int} {z : Nat} {s : St (Cx β)} {k r p : Int} (h : Inv n a z s) (hk : 0 ≤ k) (hkr : k < r) (hr : r < n)
    (hp1 : k ≤ p) (hp2 : p < n) :
    Inv n a z (find_sigma s k r p).2.2 ∧ k ≤ (find_sigma s k r p).2.1 ∧ (find_sigma s k r p).2.1 < n := by
  unfold find_sigma
  have h0 : (fun acc : β × Int × St (Cx β) => Inv n a z acc.2.2 ∧ k ≤ acc.2.1 ∧ acc.2.1 < n)
      (if r < s.n - 1 then find_lambda s r else ((Sc.ofInt (-1) : β), p, s)) := by
    by_cases hlt : r < s.n - 1
    · rw [if_pos hlt]
      rw [h.n] at hlt
      have := find_lambda_inv (k := r) h (by omega) (by omega)
      exact ⟨this.1, by omega, this.2.2⟩
    · rw [if_neg hlt]
      exact ⟨h, hp1, hp2⟩
  generalize (if r < s.n - 1 then find_lambda s r else ((Sc.ofInt (-1) : β), p, s)) = init at h0 ⊢
  refine ListFold.foldl_inv (fun acc : β × Int × St (Cx β) => Inv n a z acc.2.2 ∧ k ≤ acc.2.1 ∧ acc.2.1 < n) _ _ _ h0 ?_
  rintro ⟨sg2, p2, s2⟩ j hj ⟨hs, hq1, hq2⟩
  have hj' := mem_intRange.1 hj
  have hg := hs.get (i := r) (j := j) ⟨by omega, by omega, hr⟩
  dsimp only
  split
  · exact ⟨hg, by dsimp only; omega, by dsimp only; omega⟩
  · exact ⟨hg, hq1, hq2⟩

theorem pivoting_2x2_inv {n : Int} {a : Array Int} {z : Nat} {s : St (Cx β)} {k r p : Int} (h : Inv n a z s) (hk : 0 ≤ k) (hp1 : k ≤ p)
    (hp2 : p < n) (hr1 : k + 1 ≤ r) (hr2 : r < n) : Inv n (perm2x2 a k r p) z (pivoting_2x2 s k r p) := by
  unfold pivoting_2x2
  have h1 := pivoting_1x1_inv h hk hp1 hp2
  have h2 := pivoting_1x1_inv (k := k + 1) h1 (by omega) hr1 hr2
  have h3 := h2.swap (i1 := k + 1) (j1 := k) (i2 := r) (j2 := k) ⟨hk, by omega, by omega⟩ ⟨hk, by omega, hr2⟩
  have hk0 : 0 ≤ k ∧ k < n := ⟨hk, by omega⟩
  have hk1 : 0 ≤ k + 1 ∧ k + 1 < n := ⟨by omega, by omega⟩
  dsimp only
  refine ((((h3.getPerm hk0).setPerm hk0).getPerm hk1).setPerm hk1).cast ?_
  simp only [St.getPerm, St.setPerm, h3.perm]
  rfl


theorem ge1_update_inv {n : Int} {a : Array Int} {z : Nat} {s : St (Cx β)} {k ldim : Int} {akk : Cx β} (h : Inv n a z s) (hk : 0 ≤ k)
    (hl : k + 1 + ldim ≤ n) : Inv n a z (ge1_update s k akk ldim) := by
  unfold ge1_update
  apply ListFold.foldl_inv (Inv n a z) _ _ _ h
  intro s j hj hs
  have hj' := mem_intRange.1 hj
  apply ListFold.foldl_inv (Inv n a z) _ _ _ (hs.get ⟨hk, by omega, by omega⟩)
  intro s t ht hs
  have ht' := mem_intRange.1 ht
  exact ((hs.get ⟨hk, by omega, by omega⟩).get ⟨by omega, by omega, by omega⟩).wr ⟨by omega, by omega, by omega⟩


theorem ge1_inv {n : Int} {a : Array Int} {z : Nat} {s : St (Cx β)} {k : Int} (h : Inv n a z s) (hk : 0 ≤ k) (hk1 : k < n) :
    Inv n a z (gaussian_elimination_1x1 s k).2 := by
  unfold gaussian_elimination_1x1
  have hkk : 0 ≤ k ∧ k ≤ k ∧ k < n := ⟨hk, le_refl _, hk1⟩
  have h1 := (h.get hkk).wr (v := realC (s.get k k).1) hkk
  simp only []
  split
  · exact h1
  · rw [h1.n]
    -- `ge1_scale` contains no `conj`/`real`/`abs`: word for word the routine of the real model at `Cx β`
    exact BKLDLT.ge1_scale_inv (ge1_update_inv h1 hk (by omega)) hk (by omega)


theorem ge2_X_inv {n : Int} {a : Array Int} {z : Nat} {s : St (Cx β)} {k ldim : Int} {e11 e21 e22 : Cx β} (h : Inv n a z s) (hk : 0 ≤ k)
    (hl : k + 2 + ldim ≤ n) : Inv n a z (ge2_X s k e11 e21 e22 ldim).2.2 := by
  unfold ge2_X
  apply ListFold.foldl_inv (fun (acc : Array (Cx β) × Array (Cx β) × St (Cx β)) => Inv n a z acc.2.2) _ _ _ h
  rintro ⟨x0, x1, s'⟩ t ht hs
  have ht' := mem_intRange.1 ht
  exact (hs.get ⟨hk, by omega, by omega⟩).get ⟨by omega, by omega, by omega⟩


theorem ge2_update_inv {n : Int} {a : Array Int} {z : Nat} {s : St (Cx β)} {k ldim : Int} {x0 x1 : Array (Cx β)} (h : Inv n a z s) (hk : 0 ≤ k)
    (hl : k + 2 + ldim ≤ n) : Inv n a z (ge2_update s k ldim x0 x1) := by
  unfold ge2_update
  apply ListFold.foldl_inv (Inv n a z) _ _ _ h
  intro s j hj hs
  have hj' := mem_intRange.1 hj
  apply ListFold.foldl_inv (Inv n a z) _ _ _ ((hs.get ⟨hk, by omega, by omega⟩).get ⟨by omega, by omega, by omega⟩)
  intro s t ht hs
  have ht' := mem_intRange.1 ht
  exact (hs.get ⟨by omega, by omega, by omega⟩).wr ⟨by omega, by omega, by omega⟩


theorem ge2_inv {n : Int} {a : Array Int} {z : Nat} {s : St (Cx β)} {k : Int} (h : Inv n a z s) (hk : 0 ≤ k) (hk1 : k + 1 < n) :
    Inv n a z (gaussian_elimination_2x2 s k).2 := by
  unfold gaussian_elimination_2x2
  have hkk : 0 ≤ k ∧ k ≤ k ∧ k < n := ⟨hk, le_refl _, by omega⟩
  have hk2 : 0 ≤ k + 1 ∧ k + 1 ≤ k + 1 ∧ k + 1 < n := ⟨by omega, le_refl _, hk1⟩
  have hk3 : 0 ≤ k ∧ k ≤ k + 1 ∧ k + 1 < n := ⟨hk, by omega, hk1⟩
  have h1 := ((((h.get hkk).get hk2).wr (v := realC (s.get k k).1) hkk).wr (v := realC ((s.get k k).2.get (k + 1) (k + 1)).1) hk2).get hk3
  simp only []
  split
  · exact h1
  · rw [h1.n]
    -- likewise `ge2_store`
    exact BKLDLT.ge2_store_inv (ge2_update_inv (ge2_X_inv h1 hk (by omega)) hk (by omega)) hk (by omega)


theorem computeLoop_eq (alpha : β) (fuel : Nat) (k info : Int) (s : St (Cx β)) (tags : List Nat) :
    computeLoop alpha fuel k info s tags =
      BKLDLT.Skel.pivotLoop (fun s k => permutate_mat s k alpha) gaussian_elimination_1x1 gaussian_elimination_2x2 fuel k info s tags := by
  induction fuel generalizing k info s tags with
  | zero => rfl
  | succ fuel ih => unfold computeLoop BKLDLT.Skel.pivotLoop; simp only [ih]

theorem copy_data_shape (s : St (Cx β)) (src : Array (Cx β)) (rm : Bool) (uplo : Int) (shift : β) :
    copy_data s src rm uplo shift =
      if (!rm) && decide (uplo = 1) then copyFast s.n (fun j t => src.getD (srcIdx rm s.n j j + t).toNat czero) (ofReal shift) s
      else copyGen s.n (fun j i => if decide (uplo = 1) then srcCoeff src rm s.n i j else conjC (srcCoeff src rm s.n j i)) (ofReal shift) s := rfl

theorem copy_data_inv {n : Int} {a : Array Int} {z : Nat} {s : St (Cx β)} {src : Array (Cx β)} {rm : Bool} {uplo : Int} {shift : β}
    (h : Inv n a z s) : Inv n a z (copy_data s src rm uplo shift) := by
  rw [copy_data_shape, h.n]
  split
  · exact copyFast_inv h
  · exact copyGen_inv h

theorem compute_eq (src : Array (Cx β)) (rm : Bool) (n uplo : Int) (shift alpha : β) :
    compute src rm n uplo shift alpha = BKLDLT.Skel.finish realC n
      (computeLoop alpha n.toNat 0 (compute_init_info NotComputed) (copy_data (initSt n) src rm uplo shift) []) := rfl

/-! ### status -/
theorem ge1_fst (s : St (Cx β)) (k : Int) : (gaussian_elimination_1x1 s k).1 = Successful ∨ (gaussian_elimination_1x1 s k).1 = NumericalIssue := by
  unfold gaussian_elimination_1x1
  simp only []
  split <;> exact ge1_status_cases _

theorem ge2_fst (s : St (Cx β)) (k : Int) : (gaussian_elimination_2x2 s k).1 = Successful ∨ (gaussian_elimination_2x2 s k).1 = NumericalIssue := by
  unfold gaussian_elimination_2x2
  simp only []
  split <;> exact ge2_status_h_cases conjC realC _ _ _


theorem loop_status (alpha : β) (fuel : Nat) (k : Int) (s : St (Cx β)) (tags : List Nat) :
    (computeLoop alpha fuel k Successful s tags).2.1 = Successful ∨ (computeLoop alpha fuel k Successful s tags).2.1 = NumericalIssue := by
  rw [computeLoop_eq]
  obtain ⟨-, -, h⟩ := BKLDLT.Skel.pivotLoop_inv (fun _ info _ => info = Successful ∨ info = NumericalIssue) (fun _ _ _ _ _ _ => ge1_fst _ _)
    (fun _ _ _ _ _ _ => ge2_fst _ _) fuel k _ s tags (Or.inl rfl)
  exact h

/-- after `compute`, `info()` is `Successful` or `NumericalIssue` — never `NotComputed` — for every size (incl. 1), input and scalar type -/
theorem compute_info_total (src : Array (Cx β)) (rm : Bool) (n uplo : Int) (shift alpha : β) :
    (compute src rm n uplo shift alpha).info = Successful ∨ (compute src rm n uplo shift alpha).info = NumericalIssue := by
  rw [compute_eq]
  rcases BKLDLT.Skel.finish_info (α := Cx β) realC n _ with h | h
  · rw [h]; exact loop_status alpha _ _ _ _
  · exact Or.inr h

/-! ### Lower / Upper -/
/-- the branch condition of `copy_data` TRANSLATED from the header is the one the models use: the `std::copy` path is taken for
    column-major + Lower only (in particular never for Upper, which needs the conjugation of the element loop) -/
theorem copy_fast_path_spec (rm : Bool) (uplo : Int) : copy_fast_path rm uplo = ((!rm) && decide (uplo = 1)) := by
  cases rm <;> simp [copy_fast_path]
theorem fast_upper (rm : Bool) : ((!rm) && decide ((2 : Int) = 1)) = false := by cases rm <;> decide
theorem fast_lower_colmajor : ((!false) && decide ((1 : Int) = 1)) = true := by decide
theorem fast_lower_rowmajor : ((!true) && decide ((1 : Int) = 1)) = false := by decide

theorem uplo_equal_complex (src : Array (Cx β)) (rm : Bool) (n : Int) (shift : β)
    (hherm : ∀ i j, 0 ≤ j → j ≤ i → i < n → conjC (srcCoeff src rm n j i) = srcCoeff src rm n i j) :
    copy_data (initSt n) src rm 2 shift = copy_data (initSt n) src rm 1 shift := by
  have hn0 : (initSt (α := Cx β) n).n = n := rfl
  rw [copy_data_shape, copy_data_shape, hn0, fast_upper, if_neg Bool.false_ne_true]
  -- Upper: the element loop, by the hypothesis with the values of the lower triangle
  rw [copyGen_congr (g' := fun j i => srcCoeff src rm n i j) _ _ fun j i hj hji hin => by
    rw [show decide ((2 : Int) = 1) = false by decide, if_neg Bool.false_ne_true]; exact hherm i j hj hji hin]
  cases rm
  · -- column-major: Lower is the `std::copy` path, whose value for row `j + t` is the memory cell `t` after `coeff(j,j)`
    rw [if_pos (by decide), ← copyGen_eq_copyFast _ _ _ hn0]
    refine copyGen_congr _ _ fun j i _ _ _ => ?_
    unfold srcCoeff srcIdx
    rw [if_neg Bool.false_ne_true, if_neg Bool.false_ne_true]
    congr 2; ring
  · rw [if_neg (by decide)]
    exact copyGen_congr _ _ fun j i _ _ _ => by rw [show decide ((1 : Int) = 1) = true by decide, if_pos rfl]

end
end BKLDLTC
