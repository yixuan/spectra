/-
  Reuse of one decomposition object (`Model/C09Object.lean`): what a later `compute` leaves of the earlier ones.
  Any scalar type, any `Sc` instance (every floating comparison an arbitrary boolean), any earlier state of the object.
  Core Lean only.
-/
import SpectraVerif.Model.C09Object

namespace C09Reuse
open Lin C09Obj
variable {α : Type} [Add α] [Sub α] [Mul α] [Div α] [Neg α] [Sc α]

/-! ### what a `compute` leaves of the object's past

  `TridiagEigen::compute` and `UpperHessenbergSchur::compute` write every member in every branch: the object after the call, and the
  exception if there is one, do not depend on the object before the call at all.  `UpperHessenbergEigen::compute` keeps `m_eivalues`
  and `m_eivec` when the inner Schur decomposition fails, so only the outcome is independent of the past, and the whole object is
  after a `compute` that returns.  (For `Eig`: explicit case distinction on the two tests of `compute`, so that the proofs do not
  depend on which fields a branch copies from the old object.) -/

theorem tri_compute_indep (o : Tri α) (n : Nat) (d e : Vec α) : o.compute n d e = (Tri.fresh : Tri α).compute n d e := rfl

theorem sch_compute_indep (o : Sch α) (n : Nat) (h : Mat α) : o.compute n h = (Sch.fresh : Sch α).compute n h := rfl

theorem eig_throw_indep (o : Eig α) (n : Nat) (h : Mat α) :
    (o.compute n h).2 = ((Eig.fresh : Eig α).compute n h).2 := by
  unfold Eig.compute
  dsimp only
  by_cases hs : Sc.eq (TridiagEigen.maxAbs1 h.d) (zero : α) = true
  · simp only [if_pos hs]
  · by_cases hd : (HessSchur.core n ⟨h.rows, h.cols, vdivs h.d (TridiagEigen.maxAbs1 h.d)⟩).exit = HessSchur.Exit.done
    · simp only [if_neg hs, if_pos hd]
    · simp only [if_neg hs, if_neg hd]

theorem eig_reuse (o : Eig α) (n : Nat) (h : Mat α) (hok : (o.compute n h).2 = none) :
    (o.compute n h).1 = ((Eig.fresh : Eig α).compute n h).1 := by
  unfold Eig.compute at hok ⊢
  dsimp only at hok ⊢
  by_cases hs : Sc.eq (TridiagEigen.maxAbs1 h.d) (zero : α) = true
  · simp only [if_pos hs]
  · by_cases hd : (HessSchur.core n ⟨h.rows, h.cols, vdivs h.d (TridiagEigen.maxAbs1 h.d)⟩).exit = HessSchur.Exit.done
    · simp only [if_neg hs, if_pos hd]
    · simp only [if_neg hs, if_neg hd] at hok; cases hok

/-! ### … and its accessors return the results of the one-shot models the C09 theorems are about -/

theorem tri_accessors (o : Tri α) (n : Nat) (d e : Vec α) (r : TridiagEigen.Decomp α)
    (hr : TridiagEigen.compute n d e = Res.ok r) :
    (o.compute n d e).2 = none ∧ (o.compute n d e).1.eigenvalues = Res.ok (TridiagEigen.eigenvalues r)
      ∧ (o.compute n d e).1.eigenvectors = Res.ok (TridiagEigen.eigenvectors r) := by
  unfold TridiagEigen.compute at hr; unfold Tri.compute; simp only [] at hr ⊢
  by_cases hs : Sc.lt (TridiagEigen.scaleOf d e) (Sc.minPos * Sc.ofInt 10 : α) = true
  · rw [if_pos hs] at hr; cases hr; rw [if_pos hs]
    exact ⟨rfl, rfl, rfl⟩
  · by_cases hd : (TridiagEigen.core n d e).exit = TridiagEigen.Exit.done
    · rw [if_neg hs, if_pos hd] at hr; cases hr; rw [if_neg hs, if_pos hd]
      exact ⟨rfl, rfl, rfl⟩
    · rw [if_neg hs, if_neg hd] at hr; cases hr

theorem sch_accessors (o : Sch α) (n : Nat) (h : Mat α) (r : HessSchur.Decomp α)
    (hr : HessSchur.compute n h = Res.ok r) :
    (o.compute n h).2 = none ∧ (o.compute n h).1.matrix_T = Res.ok (HessSchur.matrix_T r)
      ∧ (o.compute n h).1.matrix_U = Res.ok (HessSchur.matrix_U r) := by
  unfold HessSchur.compute at hr; unfold Sch.compute; simp only [] at hr ⊢
  by_cases hd : (HessSchur.core n h).exit = HessSchur.Exit.done
  · rw [if_pos hd] at hr; cases hr; rw [if_pos hd]
    exact ⟨rfl, rfl, rfl⟩
  · rw [if_neg hd] at hr; cases hr

theorem eig_accessors (o : Eig α) (n : Nat) (h : Mat α) (r : HessEigen.Decomp α)
    (hr : HessEigen.compute n h = Res.ok r) :
    (o.compute n h).2 = none ∧ (o.compute n h).1.eigenvalues = Res.ok (HessEigen.eigenvalues r)
      ∧ (o.compute n h).1.eivec = r.eivec ∧ (o.compute n h).1.computed = true := by
  unfold HessEigen.compute HessSchur.compute at hr; unfold Eig.compute; simp only [] at hr ⊢
  by_cases hs : Sc.eq (TridiagEigen.maxAbs1 h.d) (zero : α) = true
  · rw [if_pos hs] at hr; cases hr; rw [if_pos hs]
    exact ⟨rfl, rfl, rfl, rfl⟩
  · by_cases hd : (HessSchur.core n ⟨h.rows, h.cols, vdivs h.d (TridiagEigen.maxAbs1 h.d)⟩).exit = HessSchur.Exit.done
    · rw [if_neg hs, if_pos hd] at hr; cases hr; rw [if_neg hs, if_pos hd]
      exact ⟨rfl, rfl, rfl, rfl⟩
    · rw [if_neg hs, if_neg hd] at hr; cases hr

/-! ### whole histories -/

/-- the state-changing member calls of the three classes (accessors are pure functions of the state) -/
inductive TriOp (α : Type) where
  | compute (n : Nat) (d e : Vec α)
  | nonSquare (rows : Nat)
inductive SchOp (α : Type) where
  | compute (n : Nat) (h : Mat α)
  | nonSquare
  | swapT (other : Mat α)
  | swapU (other : Mat α)
inductive EigOp (α : Type) where
  | compute (n : Nat) (h : Mat α)
  | nonSquare

def Tri.step (o : Tri α) : TriOp α → Tri α
  | .compute n d e => (o.compute n d e).1
  | .nonSquare rows => (o.computeNonSquare rows).1
def Sch.step (o : Sch α) : SchOp α → Sch α
  | .compute n h => (o.compute n h).1
  | .nonSquare => o.computeNonSquare.1
  | .swapT x => (o.swap_T x).1
  | .swapU x => (o.swap_U x).1
def Eig.step (o : Eig α) : EigOp α → Eig α
  | .compute n h => (o.compute n h).1
  | .nonSquare => o.computeNonSquare.1

theorem eig_history (hs : List (EigOp α)) (n : Nat) (h : Mat α)
    (hok : ((Eig.fresh : Eig α).compute n h).2 = none) :
    ((hs.foldl Eig.step (Eig.fresh : Eig α)).compute n h) = (Eig.fresh : Eig α).compute n h := by
  have h2 := eig_throw_indep (hs.foldl Eig.step (Eig.fresh : Eig α)) n h
  have h1 := eig_reuse (hs.foldl Eig.step (Eig.fresh : Eig α)) n h (h2.trans hok)
  exact Prod.ext h1 h2

/-- after a `compute` that threw `std::runtime_error` (iteration limit) the object is "not computed", whatever it had computed before -/
theorem tri_failed_not_computed (o : Tri α) (n : Nat) (d e : Vec α) (hne : (o.compute n d e).2 ≠ none) :
    (o.compute n d e).1.computed = false := by
  unfold Tri.compute at hne ⊢; simp only [] at hne ⊢
  by_cases hs : Sc.lt (TridiagEigen.scaleOf d e) (Sc.minPos * Sc.ofInt 10 : α) = true
  · simp only [if_pos hs] at hne; exact absurd rfl hne
  · by_cases hd : (TridiagEigen.core n d e).exit = TridiagEigen.Exit.done
    · simp only [if_neg hs, if_pos hd] at hne; exact absurd rfl hne
    · simp only [if_neg hs, if_neg hd]

theorem sch_failed_not_computed (o : Sch α) (n : Nat) (h : Mat α) (hne : (o.compute n h).2 ≠ none) :
    (o.compute n h).1.computed = false := by
  unfold Sch.compute at hne ⊢; simp only [] at hne ⊢
  by_cases hd : (HessSchur.core n h).exit = HessSchur.Exit.done
  · simp only [if_pos hd] at hne; exact absurd rfl hne
  · simp only [if_neg hd]

theorem eig_failed_not_computed (o : Eig α) (n : Nat) (h : Mat α) (hne : (o.compute n h).2 ≠ none) :
    (o.compute n h).1.computed = false := by
  unfold Eig.compute at hne ⊢; simp only [] at hne ⊢
  by_cases hs : Sc.eq (TridiagEigen.maxAbs1 h.d) (zero : α) = true
  · simp only [if_pos hs] at hne; exact absurd rfl hne
  · by_cases hd : (HessSchur.core n ⟨h.rows, h.cols, vdivs h.d (TridiagEigen.maxAbs1 h.d)⟩).exit = HessSchur.Exit.done
    · simp only [if_neg hs, if_pos hd] at hne; exact absurd rfl hne
    · simp only [if_neg hs, if_neg hd]

end C09Reuse
