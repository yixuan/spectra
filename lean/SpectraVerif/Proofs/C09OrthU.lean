/-
  C09 helper lemmas: orthonormality of the accumulated `U` of the UpperHessenbergSchur model (whole run), for ideal reflectors and rotations.
-/
import Mathlib.Tactic.FieldSimp
import Mathlib.Tactic.Linarith
import SpectraVerif.Proofs.C09Orth
import SpectraVerif.Proofs.C09Schur
import SpectraVerif.Proofs.C09House

namespace C09OrthU
open Lin EigenPrims C09Mat Finset HessSchur

section ring
variable {R : Type} [CommRing R]

/-- a reflector with `τ (τ vᵀv − 2) = 0` (ideal: `τ = 0` or `τ vᵀv = 2`) preserves orthonormality of the first `n` columns -/
theorem gram_refl_lt (n k : Nat) (Q : Nat → Nat → R) (v1 v2 tau : R) (ht : tau * (tau * (1 + v1 * v1 + v2 * v2) - 2) = 0) (hk : k + 2 < n)
    (horth : ∀ a b, a < n → b < n → ∑ i ∈ range n, Q i a * Q i b = if a = b then 1 else 0) (a b : Nat) (ha : a < n) (hb : b < n) :
    ∑ i ∈ range n, mulP Q k v1 v2 tau i a * mulP Q k v1 v2 tau i b = if a = b then 1 else 0 := by
  -- with `w = Q v`: `Qᵀw = v` and `wᵀw = vᵀv`, so the Gram matrix moves by `(τ² vᵀv − 2τ) v vᵀ = 0`
  obtain ⟨w, hwd⟩ : ∃ w : Nat → R, ∀ i, w i = Q i k + v1 * Q i (k + 1) + v2 * Q i (k + 2) := ⟨_, fun _ => rfl⟩
  have hw : ∀ x, x < n → ∑ i ∈ range n, Q i x * w i = hv k v1 v2 x := by
    intro x hx
    simp only [hwd, mul_add, Finset.sum_add_distrib, mul_left_comm _ v1, mul_left_comm _ v2, ← Finset.mul_sum,
      horth x _ hx (show k < n by omega), horth x _ hx (show k + 1 < n by omega), horth x _ hx hk, hv]
    split_ifs <;> first | omega | ring
  have hww : ∑ i ∈ range n, w i * w i = 1 + v1 * v1 + v2 * v2 := by
    simp only [hwd, add_mul, mul_assoc, Finset.sum_add_distrib, ← Finset.mul_sum]
    simp only [← hwd, hw k (by omega), hw (k + 1) (by omega), hw (k + 2) hk]
    simp [hv]
  have key : ∀ i, mulP Q k v1 v2 tau i a * mulP Q k v1 v2 tau i b =
      Q i a * Q i b - tau * hv k v1 v2 b * (Q i a * w i) - tau * hv k v1 v2 a * (Q i b * w i)
        + tau * tau * hv k v1 v2 a * hv k v1 v2 b * (w i * w i) := by
    intro i; rw [mulP_eq, mulP_eq, ← hwd]; ring
  simp only [key, Finset.sum_add_distrib, Finset.sum_sub_distrib, ← Finset.mul_sum, horth a b ha hb, hw a ha, hw b hb, hww]
  linear_combination (hv k v1 v2 a * hv k v1 v2 b) * ht
end ring
section field
variable {K : Type} [Field K] [LinearOrder K] [IsStrictOrderedRing K] (F : FieldFns K)
open C09Orth

/-- the two exits of `makeHouseholder(c0, t1, t2)` with an exact non-negative square root and `minPos ≥ 0`: the degenerate one
    (`t1² + t2² ≤ min`), or `β = ∓√(c0² + t1² + t2²)` of the sign opposite to `c0` (so `β ≠ 0`, `c0 − β ≠ 0`),
    `v = (t1, t2)/(c0 − β)`, `τ = (β − c0)/β` -/
theorem makeHouseholder_cases (hs : ∀ x : K, 0 ≤ x → F.sqrt x * F.sqrt x = x) (hs0 : ∀ x : K, 0 ≤ F.sqrt x) (hmin : 0 ≤ F.minPos)
    (c0 t1 t2 : K) :
    let _ : Sc K := scOfField F
    (t1 * t1 + t2 * t2 ≤ F.minPos ∧ makeHouseholder c0 t1 t2 = ⟨0, 0, 0, c0⟩) ∨
    ∃ β : K, β * β = c0 * c0 + (t1 * t1 + t2 * t2) ∧ β ≠ 0 ∧ c0 - β ≠ 0 ∧
      makeHouseholder c0 t1 t2 = ⟨t1 / (c0 - β), t2 / (c0 - β), (β - c0) / β, β⟩ := by
  intro _
  simp only [makeHouseholder, ScF.le, ScF.minPos, Sc.ge, zero, ScF.ofInt, Int.cast_zero, ScF.sqrt, decide_eq_true_eq]
  by_cases hle : t1 * t1 + t2 * t2 ≤ F.minPos
  · left; rw [if_pos hle]; exact ⟨hle, rfl⟩
  · right; rw [if_neg hle]
    have ht : 0 < t1 * t1 + t2 * t2 := lt_of_le_of_lt hmin (not_le.mp hle)
    have hsq := hs _ (add_nonneg (mul_self_nonneg c0) ht.le)
    have hpos : 0 < F.sqrt (c0 * c0 + (t1 * t1 + t2 * t2)) := by
      refine lt_of_le_of_ne (hs0 _) (fun h => ?_)
      rw [← h, mul_zero] at hsq
      exact absurd hsq (ne_of_lt (add_pos_of_nonneg_of_pos (mul_self_nonneg c0) ht))
    generalize F.sqrt (c0 * c0 + (t1 * t1 + t2 * t2)) = r at hsq hpos
    by_cases hc : 0 ≤ c0
    · rw [if_pos hc]
      exact ⟨-r, by rw [neg_mul_neg]; exact hsq, neg_ne_zero.mpr hpos.ne', by intro h; linarith, rfl⟩
    · rw [if_neg hc]
      exact ⟨r, hsq, hpos.ne', by intro h; linarith, rfl⟩

/-- an ideal reflector: with an exact non-negative square root and `minPos ≥ 0`, Eigen's `makeHouseholder` returns `τ = 0` or
    `τ (1 + v1² + v2²) = 2`, i.e. `τ (τ vᵀv − 2) = 0`: `P = I − τ v vᵀ` is orthogonal -/
theorem makeHouseholder_ideal (hs : ∀ x : K, 0 ≤ x → F.sqrt x * F.sqrt x = x) (hs0 : ∀ x : K, 0 ≤ F.sqrt x) (hmin : 0 ≤ F.minPos)
    (c0 t1 t2 : K) :
    let _ : Sc K := scOfField F
    (makeHouseholder c0 t1 t2).tau * ((makeHouseholder c0 t1 t2).tau *
      (1 + (makeHouseholder c0 t1 t2).v1 * (makeHouseholder c0 t1 t2).v1 + (makeHouseholder c0 t1 t2).v2 * (makeHouseholder c0 t1 t2).v2) - 2) = 0 := by
  intro _
  rcases makeHouseholder_cases F hs hs0 hmin c0 t1 t2 with ⟨_, h⟩ | ⟨β, hb, hb0, hcb, h⟩
  · rw [h]; exact zero_mul _
  · rw [h]; dsimp only
    have hv : (β - c0) / β * (1 + t1 / (c0 - β) * (t1 / (c0 - β)) + t2 / (c0 - β) * (t2 / (c0 - β))) = 2 := by
      field_simp
      linear_combination (c0 - β) * hb
    rw [hv, sub_self, mul_zero]

theorem colsOrth_rot' (n p q : Nat) (u : Mat K) (c s : K) (hcs : c * c + s * s = 1) (hq : q = p + 1) (hqn : q < n) (h : ColsOrth F n u) :
    ColsOrth F n (@applyOnTheRight K _ _ _ (scOfField F) u n p q c s) := by
  subst hq; exact colsOrth_rot F n p u c s hcs hqn h

theorem colsOrth_refl (n k : Nat) (u : Mat K) (v1 v2 tau : K) (ht : tau * (tau * (1 + v1 * v1 + v2 * v2) - 2) = 0) (hk : k + 2 < n)
    (h : ColsOrth F n u) : ColsOrth F n (@applyHouseholderRight K _ _ _ (scOfField F) u v1 v2 tau k n) := by
  let _ : Sc K := scOfField F
  obtain ⟨hw, hr, hc, ho⟩ := h
  have hp := C09Schur.pres_hhRight n u hw v1 v2 tau k n (Nat.le_refl _)
  refine ⟨hp.1, by rw [hp.2.1, hr], by rw [hp.2.2.1, hc], ?_⟩
  intro a b ha hb
  have e : ∀ i, i ∈ range n → ∀ j, (applyHouseholderRight u v1 v2 tau k n).get i j = mulP (fun i j => u.get i j) k v1 v2 tau i j := by
    intro i hi j
    have hi' : i < n := Finset.mem_range.mp hi
    rw [C09HH.applyHouseholderRight_get u hw v1 v2 tau k n (by rw [hc]; exact hk) (by rw [hr]) i j (by rw [hr]; exact hi'), if_pos hi']
    simp only [mulP]
  rw [Finset.sum_congr rfl (fun i hi => by rw [e i hi a, e i hi b])]
  exact gram_refl_lt n k (fun i j => u.get i j) v1 v2 tau ht hk ho a b ha hb

/-- every reflector `makeHouseholder` produces is ideal -/
def IdealHH : Prop := ∀ c0 t1 t2 : K,
  (@makeHouseholder K _ _ _ _ _ (scOfField F) c0 t1 t2).tau * ((@makeHouseholder K _ _ _ _ _ (scOfField F) c0 t1 t2).tau *
    (1 + (@makeHouseholder K _ _ _ _ _ (scOfField F) c0 t1 t2).v1 * (@makeHouseholder K _ _ _ _ _ (scOfField F) c0 t1 t2).v1 +
      (@makeHouseholder K _ _ _ _ _ (scOfField F) c0 t1 t2).v2 * (@makeHouseholder K _ _ _ _ _ (scOfField F) c0 t1 t2).v2) - 2) = 0

theorem francisBody_orth (hh : IdealHH F) (n il im iu : Nat) (near0 : K) (fv : K × K × K) (s : TU K) (k : Nat) (hk : k + 2 < n)
    (h : ColsOrth F n s.u) : ColsOrth F n (@francisBody K _ _ _ _ _ (scOfField F) n il im iu near0 fv s k).u := by
  let _ : Sc K := scOfField F
  simp only [francisBody]
  generalize (if k = im then fv else (s.t.get k (k - 1), s.t.get (k + 1) (k - 1), s.t.get (k + 2) (k - 1))) = v
  split
  · exact colsOrth_refl F n k s.u _ _ _ (hh _ _ _) hk h
  · exact h

theorem performFrancis_orth (hu : UnitRot F) (hh : IdealHH F) (n il im iu : Nat) (near0 : K) (fv : K × K × K) (s : TU K)
    (h1 : 1 ≤ iu) (hiu : iu < n) (h : ColsOrth F n s.u) :
    ColsOrth F n (@performFrancis K _ _ _ _ _ (scOfField F) n il im iu near0 fv s).u := by
  let _ : Sc K := scOfField F
  simp only [performFrancis]
  have hs1 : ColsOrth F n ((List.range (iu - 1 - im)).foldl (fun acc kk => francisBody n il im iu near0 fv acc (im + kk)) s).u :=
    ListFold.foldl_range_inv (fun _ acc => ColsOrth F n acc.u) _ _ s h
      (fun kk acc hkk h0 => francisBody_orth F hh n il im iu near0 fv acc (im + kk) (by omega) h0)
  split
  · exact colsOrth_rot' F n (iu - 1) iu _ _ _ (hu _ _) (by omega) hiu hs1
  · exact hs1

theorem split_orth (hu : UnitRot F) (n iu : Nat) (ex : K) (s : TU K) (h1 : 1 ≤ iu) (hiu : iu < n) (h : ColsOrth F n s.u) :
    ColsOrth F n (@splitOffTwoRows K _ _ _ _ _ (scOfField F) n iu ex s).u := by
  let _ : Sc K := scOfField F
  simp only [splitOffTwoRows]
  -- the final `T(iu−1, iu−2) = 0` store does not touch `U`
  rw [show ∀ (c : Prop) [Decidable c] (S : TU K) (t' : Mat K), (if c then (⟨t', S.u⟩ : TU K) else S).u = S.u from
    fun c _ S t' => by split <;> rfl, apply_ite TU.u]
  split
  · exact colsOrth_rot' F n (iu - 1) iu s.u _ _ (hu _ _) (by omega) hiu h
  · exact h

/-- **`UᵀU = I` for the whole run of the Schur model, ideal reflectors and rotations** -/
theorem mainLoop_orthU (hu : UnitRot F) (hh : IdealHH F) (n : Nat) (near0 : K) (f m iter total : Nat) (ex : K) (s : TU K)
    (hm : m ≤ n) (h : ColsOrth F n s.u) :
    ColsOrth F n (@mainLoop K _ _ _ _ _ (scOfField F) n near0 f m iter total ex s).u := by
  let _ : Sc K := scOfField F
  fun_induction mainLoop n near0 f m iter total ex s with
  | case1 => exact h
  | case2 => exact h
  | case3 => rename_i ih; exact ih (by omega) h
  | case4 f m iter total ex s hm0 iu il h1 h2 ih =>
    have hiu : iu = m - 1 := rfl
    exact ih (by omega) (split_orth F hu n (m - 1) ex s (by omega) (by omega) h)
  | case5 => exact h
  | case6 f m iter total ex s hm0 iu il h1 h2 t ex' sh hcs iter' total' hcap im v0 v1 v2 hfr ih =>
    have hle : il ≤ iu := C09Schur.findSmallSubdiag_le s.t near0 iu
    have hiu : iu = m - 1 := rfl
    exact ih hm (performFrancis_orth F hu hh n _ im (m - 1) near0 (v0, v1, v2) ⟨t, s.u⟩ (by omega) (by omega) h)

theorem compute_orthU (hu : UnitRot F) (hh : IdealHH F) (n : Nat) (h : Mat K) (r : Decomp K)
    (hok : @compute K _ _ _ _ _ (scOfField F) n h = Res.ok r) : ColsOrth F n r.u := by
  let _ : Sc K := scOfField F
  simp only [compute] at hok
  split at hok
  · cases hok
    simp only [core]
    split
    · exact mainLoop_orthU F hu hh n _ _ n 0 0 zero ⟨h, Mat.identity n⟩ (Nat.le_refl _) (colsOrth_identity F n)
    · exact colsOrth_identity F n
  · cases hok

end field
end C09OrthU
