/-
  C08 — DoubleShiftQR similarity, part B: ONE reflector step of `update_block`
  (`compute_reflector` at index `k`, `apply_PX` on the rows `k …` from column `c`, `apply_XP` on the columns `k …` down to the
  bottom of the bulge) is the similarity `H ↦ Pₖ H Pₖ`, moves the bulge window one step down, stores a unit reflector and
  touches no other column of the reflector tables — provided the arguments of `compute_reflector` are not in the underflow
  window (`ExactIn`: an argument with `|x| < m_near_0` that the code treats as zero IS zero).
  `cRef_facts` says what `compute_reflector` stores, `Pm_annih` that it annihilates the bulge column, `sim_step` that for ANY such
  table the two truncated kernel calls are `H ↦ Pₖ H Pₖ` and move the bulge window; `rstep_spec` puts them together.
-/
import SpectraVerif.Proofs.C08DsqrSimA

namespace C08DsqrSim
open Lin C08Mat C08DsqrQ C08DsqrMatrix
open QRModel.DoubleShiftQR
open C08HessMatrix (toM)

variable {K : Type} [Field K] [LinearOrder K] [IsStrictOrderedRing K] (F : FieldFns K)

/-- the arguments `(x2, x3)` of a `compute_reflector` call are not in the underflow window: whatever the code treats as zero
    (`|x| < m_near_0`) is exactly zero -/
def ExactIn (x2 x3 : K) : Prop :=
  (|x3| < C08Refl.nz F → x3 = 0) ∧ (|x2| < C08Refl.nz F → |x3| < C08Refl.nz F → x2 = 0)

/-- shapes of a state `(m_mat_H, m_ref_u, m_ref_nr)` -/
structure Good (n : Nat) (st : St K) : Prop where
  wH : WF st.1
  rH : st.1.rows = n
  cH : st.1.cols = n
  wu : WF st.2.1
  ru : st.2.1.rows = 3
  cu : st.2.1.cols = n
  snr : st.2.2.size = n

/-- the reflector stored at index `j` has its live rows at or before `iu` and is an involution of `n`-vectors -/
def ReflOK (n iu : Nat) (u : Mat K) (nr : Array Nat) (j : Nat) : Prop :=
  Live (iu + 1) nr j ∧ Pm F n u nr j * Pm F n u nr j = 1

theorem ReflOK.congr {n iu : Nat} {u u' : Mat K} {nr nr' : Array Nat} {j : Nat} (h : ReflOK F n iu u nr j)
    (he : ColEq F u nr u' nr' j) : ReflOK F n iu u' nr' j := by
  unfold ReflOK Live
  rw [he.1, Pm_congr F n he h.1.2.1]
  exact h

/-! ### what `compute_reflector` stores -/

theorem cRef_facts (hsq : ∀ x : K, 0 ≤ x → F.sqrt x * F.sqrt x = x ∧ 0 ≤ F.sqrt x) (hcut : C08Refl.cutoff F ≤ 0)
    (hmin : 0 < F.minPos) (n : Nat) (u : Mat K) (nr : Array Nat) (hw : WF u) (hr : u.rows = 3) (hc : u.cols = n)
    (hs : nr.size = n) (x1 x2 x3 : K) (k : Nat) (hk : k < n) (hex : ExactIn F x2 x3)
    (ref : Mat K × Array Nat) (href : ref = C08Refl.cRef F u nr x1 x2 x3 k) :
    WF ref.1 ∧ ref.1.rows = 3 ∧ ref.1.cols = n ∧ ref.2.size = n ∧
    (∀ j, j < n → j ≠ k → ColEq F u nr ref.1 ref.2 j) ∧
    (ref.2.getD k 0 = 1 ∨ ref.2.getD k 0 = 2 ∨ ref.2.getD k 0 = 3) ∧
    (x3 = 0 → ref.2.getD k 0 ≠ 3) ∧
    (ref.2.getD k 0 = 1 → x2 = 0 ∧ x3 = 0) ∧
    (ref.2.getD k 0 ≠ 1 →
      mget F ref.1 0 k * mget F ref.1 0 k + mget F ref.1 1 k * mget F ref.1 1 k + mget F ref.1 2 k * mget F ref.1 2 k = 1 ∧
      (ref.2.getD k 0 = 2 → mget F ref.1 2 k = 0 ∧ x3 = 0) ∧
      x2 - 2 * (mget F ref.1 0 k * x1 + mget F ref.1 1 k * x2 + mget F ref.1 2 k * x3) * mget F ref.1 1 k = 0 ∧
      x3 - 2 * (mget F ref.1 0 k * x1 + mget F ref.1 1 k * x2 + mget F ref.1 2 k * x3) * mget F ref.1 2 k = 0) := by
  obtain ⟨d1, d2, d3, d4⟩ := cRef_dims F hw nr x1 x2 x3 k
  have hks : k < nr.size := by omega
  have hz := C08Refl.nz_pos F hmin
  subst href
  refine ⟨d1, by rw [d2, hr], by rw [d3, hc], by rw [d4, hs], fun j hj hjk => ?_, ?_⟩
  · obtain ⟨e1, e2⟩ := cRef_other F hw hr nr x1 x2 x3 hjk
    exact ⟨e1, e2 0 (by omega), e2 1 (by omega), e2 2 (by omega)⟩
  by_cases hnid : |x2| < C08Refl.nz F ∧ |x3| < C08Refl.nz F
  · have e : C08Refl.cRef F u nr x1 x2 x3 k = (u, nr.setIfInBounds k 1) := by rw [C08Refl.cRef_eq, if_pos hnid]
    rw [e]
    have hv : (nr.setIfInBounds k 1).getD k 0 = 1 := by rw [C08Mat.getD_set, if_pos ⟨rfl, hks⟩]
    exact ⟨Or.inl hv, fun _ => by rw [hv]; omega, fun _ => ⟨hex.2 hnid.1 hnid.2, hex.1 hnid.2⟩, fun h => absurd hv h⟩
  · have e : C08Refl.cRef F u nr x1 x2 x3 k =
        (((u.set 0 k (C08Refl.reflVec F x1 x2 x3).1).set 1 k (C08Refl.reflVec F x1 x2 x3).2.1).set 2 k
            (C08Refl.reflVec F x1 x2 x3).2.2,
          nr.setIfInBounds k (if |x3| < C08Refl.nz F then 2 else 3)) := by rw [C08Refl.cRef_eq, if_neg hnid]
    rw [e]
    obtain ⟨g0, g1, g2⟩ := C08Refl.get_set3 F u k hr (by omega) (by rw [hw, hr]) (C08Refl.reflVec F x1 x2 x3).1
      (C08Refl.reflVec F x1 x2 x3).2.1 (C08Refl.reflVec F x1 x2 x3).2.2
    obtain ⟨N, hN0, hN, uu, a0, a1, a2, a3⟩ := C08Refl.reflVec_spec F hsq hcut hmin x1 x2 x3 hnid hex.1
      (C08Refl.reflVec F x1 x2 x3).1 (C08Refl.reflVec F x1 x2 x3).2.1 (C08Refl.reflVec F x1 x2 x3).2.2 rfl
    have hv : (nr.setIfInBounds k (if |x3| < C08Refl.nz F then 2 else 3)).getD k 0 =
        if |x3| < C08Refl.nz F then 2 else 3 := by rw [C08Mat.getD_set, if_pos ⟨rfl, hks⟩]
    simp only []
    rw [hv]
    refine ⟨?_, ?_, ?_, ?_⟩
    · split <;> simp
    · intro h0
      rw [if_pos (by rw [h0, abs_zero]; exact hz)]; omega
    · intro h1; split at h1 <;> omega
    · intro _
      unfold C08Refl.mget at g0 g1 g2
      unfold C08DsqrQ.mget
      rw [g0, g1, g2]
      refine ⟨uu, ?_, a1, a2⟩
      intro h2
      have hx3 : |x3| < C08Refl.nz F := by
        by_contra hh; rw [if_neg hh] at h2; omega
      exact ⟨a3 (hex.1 hx3), hex.1 hx3⟩

/-! ### exact annihilation of the bulge column -/

/-- the reflector `compute_reflector(x1, x2, x3, k)` stored (`h1`, `hn1`: what `cRef_facts` says of it) annihilates rows `k+1`, `k+2` of a
    column of `H` that holds `(x1, x2, x3)` in rows `k … k+2` -/
theorem Pm_annih (n : Nat) (u : Mat K) (nr : Array Nat) (k c : Nat) (H : Mat K) (x1 x2 x3 : K)
    (hl : Live n nr k) (hcn : c < n)
    (m1 : mget F H k c = x1) (m2 : mget F H (k + 1) c = x2) (m3 : k + 2 < n → mget F H (k + 2) c = x3)
    (h1 : nr.getD k 0 = 1 → x2 = 0 ∧ x3 = 0)
    (hn1 : nr.getD k 0 ≠ 1 →
      (nr.getD k 0 = 2 → mget F u 2 k = 0 ∧ x3 = 0) ∧
      x2 - 2 * (mget F u 0 k * x1 + mget F u 1 k * x2 + mget F u 2 k * x3) * mget F u 1 k = 0 ∧
      x3 - 2 * (mget F u 0 k * x1 + mget F u 1 k * x2 + mget F u 2 k * x3) * mget F u 2 k = 0)
    (a : Fin n) (ha1 : k + 1 ≤ a.val) (ha2 : a.val ≤ k + 2) : (Pm F n u nr k * toM F n n H) a ⟨c, hcn⟩ = 0 := by
  have han := a.isLt
  have hlive := hl.2.2
  have hav : a.val = k + 1 ∨ a.val = k + 2 := by omega
  by_cases c1 : nr.getD k 0 = 1
  · rw [Pm_one F n u nr k c1, Matrix.one_mul, toM_get]
    obtain ⟨z2, z3⟩ := h1 c1
    rcases hav with e | e
    · rw [e, m2, z2]
    · rw [e, m3 (by omega), z3]
  · obtain ⟨q2, q3a, q3b⟩ := hn1 c1
    rw [Pm_mul_toM F u hl c1]
    rcases hl.two_or_three c1 with c2 | c3
    · obtain ⟨z2, z3⟩ := q2 c2
      rw [z2, z3] at q3a
      rw [c2]
      simp only [wdot, Nat.add_zero]
      rw [m1, m2]
      rcases hav with e | e
      · rw [e, wvec_in _ _ (by omega : 1 < 2), m2]
        linear_combination q3a
      · rw [e, m3 (by omega), z3, wvec, if_neg (by omega)]; ring
    · rw [c3]
      simp only [wdot, Nat.add_zero]
      rw [m1, m2, m3 (by omega)]
      rcases hav with e | e
      · rw [e, wvec_in _ _ (by omega : 1 < 3), m2]
        linear_combination q3a
      · rw [e, wvec_in _ _ (by omega : 2 < 3), m3 (by omega)]
        linear_combination q3b

/-! ### one similarity step `H ↦ Pₖ H Pₖ` by the two truncated kernels -/

/-- rows at or below the end `nrowX` of the block `apply_XP` works on are below the bulge or below the block -/
theorem bulge_rows {iu k n nrowX : Nat} (a : Nat) (h : nrowX = min iu (k + 3) + 1) (hiu : iu < n) :
    nrowX ≤ n ∧ (nrowX ≤ a → iu < a ∨ k + 3 < a) := by omega

/-- for ANY table whose reflector `k` has its live rows inside the block, takes the loops the two calls take, and (when the bulge
    column `c = k − 1` is still there) annihilates it: the two calls are the similarity `H ↦ Pₖ H Pₖ` and the bulge window moves
    from `(c, k)` to `(k, k + 1)` -/
theorem sim_step (Zb : Nat → Prop) (il iu n : Nat) {H : Mat K} (wH : WF H) (rH : H.rows = n) (cH : H.cols = n)
    (u : Mat K) (nr : Array Nat) (k c nrowP ncolP nrowX ncolX : Nat) (hk : k + 1 ≤ iu) (hiu : iu < n) (hilc : il ≤ c)
    (hck : c ≤ k) (hZiu : Zb (iu + 1)) (hZin : ∀ z, Zb z → z ≤ il ∨ iu < z)
    (hl : Live (iu + 1) nr k)
    (h3P : nr.getD k 0 = 3 → nrowP ≠ 2) (h3X : nr.getD k 0 = 3 → ncolX ≠ 2)
    (hcol : c + ncolP = n) (hrowX : nrowX = min iu (k + 3) + 1)
    (hlow : ∀ b l, b < c → k ≤ l → Low Zb l b) (hsh : Sh Zb iu c k (toM F n n H))
    (hann : c < k → c + 1 = k ∧ ∀ a b : Fin n, b.val = c → k + 1 ≤ a.val → a.val ≤ k + 2 →
      (Pm F n u nr k * toM F n n H) a b = 0) :
    WF (aXP F (aPX F H u nr k c nrowP ncolP k) u nr 0 k nrowX ncolX k) ∧
    (aXP F (aPX F H u nr k c nrowP ncolP k) u nr 0 k nrowX ncolX k).rows = n ∧
    (aXP F (aPX F H u nr k c nrowP ncolP k) u nr 0 k nrowX ncolX k).cols = n ∧
    toM F n n (aXP F (aPX F H u nr k c nrowP ncolP k) u nr 0 k nrowX ncolX k) =
      Pm F n u nr k * toM F n n H * Pm F n u nr k ∧
    Sh Zb iu k (k + 1) (toM F n n (aXP F (aPX F H u nr k c nrowP ncolP k) u nr 0 k nrowX ncolX k)) := by
  have hrowXn := (bulge_rows 0 hrowX hiu).1
  have hfar : ∀ a, nrowX ≤ a → iu < a ∨ k + 3 < a := fun a => (bulge_rows a hrowX hiu).2
  clear hrowX
  obtain ⟨hnr1, hnr3, hlive⟩ := id hl
  have hln : Live n nr k := hl.mono hiu
  have hsupp : ∀ l : Fin n, (l.val < k ∨ k + 2 < l.val ∨ iu < l.val) → wv F n u nr k l = 0 :=
    fun l hl => wv_supp F n u nr k l (by omega)
  -- the left multiplication; the skipped columns `< c` are zero in the live rows
  have eP := PX_toM F u nr wH rH cH k c nrowP ncolP hcol hln h3P (fun d b hb hd => by
    have h := hsh ⟨k + d, by omega⟩ ⟨b, by omega⟩ (hlow b (k + d) hb (by omega)) (by simp only []; omega)
    rwa [toM_get] at h)
  obtain ⟨wP, rP, cP⟩ := PXdims F wH u nr k c nrowP ncolP k
  rw [rH] at rP
  rw [cH] at cP
  generalize aPX F H u nr k c nrowP ncolP k = H1 at eP wP rP cP ⊢
  have shP : Sh Zb iu c k (toM F n n H1) := by
    rw [eP]; exact Sh_left Zb iu c k _ _ hsupp hlow hsh
  -- exact annihilation empties column `c` of the window
  have shP' : Sh Zb iu k k (toM F n n H1) := by
    rcases Nat.lt_or_ge c k with hlt | hge
    · obtain ⟨ec, hz⟩ := hann hlt
      have ht := Sh_tighten Zb iu c k _ shP (fun a b hb hL ha1 ha2 => by
        rw [eP]
        refine hz a b hb ?_ ha1
        rcases hL with hL | ⟨z, hz', z1, z2⟩
        · omega
        · rcases hZin z hz' with h3 | h3 <;> omega)
      rwa [ec] at ht
    · have : c = k := by omega
      subst this; exact shP
  -- the right multiplication; below row `nrowX` the live columns are zero
  have eX := XP_toM F u nr wP rP cP k nrowX ncolX hrowXn hln h3X (fun a d ha1 ha2 hd => by
    have hfar := hfar a ha1
    have hL : Low Zb a (k + d) := by
      rcases hfar with h | h
      · exact Or.inr ⟨iu + 1, hZiu, by omega, by omega⟩
      · exact Or.inl (by omega)
    have h := shP' ⟨a, ha2⟩ ⟨k + d, by omega⟩ hL (by simp only []; omega)
    rwa [toM_get] at h)
  obtain ⟨wX, rX, cX⟩ := XPdims F wP u nr 0 k nrowX ncolX k
  refine ⟨wX, rX.trans rP, cX.trans cP, by rw [eX, eP], ?_⟩
  rw [eX]
  exact Sh_right Zb iu k _ _ hsupp hZiu shP'

/-! ### one reflector step -/

/-- `compute_reflector(x1, x2, x3, k)`; `apply_PX(H.block(k, c0, nrowP, ncolP), k)`; `apply_XP(H.block(0, k, nrowX, ncolX), k)` -/
def rstep (st : St K) (x1 x2 x3 : K) (k c0 nrowP ncolP nrowX ncolX : Nat) : St K :=
  (aXP F (aPX F st.1 (C08Refl.cRef F st.2.1 st.2.2 x1 x2 x3 k).1 (C08Refl.cRef F st.2.1 st.2.2 x1 x2 x3 k).2
        k c0 nrowP ncolP k)
      (C08Refl.cRef F st.2.1 st.2.2 x1 x2 x3 k).1 (C08Refl.cRef F st.2.1 st.2.2 x1 x2 x3 k).2 0 k nrowX ncolX k,
   (C08Refl.cRef F st.2.1 st.2.2 x1 x2 x3 k).1, (C08Refl.cRef F st.2.1 st.2.2 x1 x2 x3 k).2)

theorem rstep_spec (hsq : ∀ x : K, 0 ≤ x → F.sqrt x * F.sqrt x = x ∧ 0 ≤ F.sqrt x) (hcut : C08Refl.cutoff F ≤ 0)
    (hmin : 0 < F.minPos) (Zb : Nat → Prop) (il iu n : Nat) (st : St K) (hg : Good n st) (x1 x2 x3 : K)
    (k c nrowP ncolP nrowX ncolX : Nat) (hk : k + 1 ≤ iu) (hiu : iu < n) (hilc : il ≤ c) (hck : c ≤ k)
    (hZiu : Zb (iu + 1)) (hZin : ∀ z, Zb z → z ≤ il ∨ iu < z)
    (hex : ExactIn F x2 x3)
    (hm : x3 ≠ 0 → nrowP = 3 ∧ ncolX = 3 ∧ k + 2 ≤ iu)
    (hcol : c + ncolP = n) (hrowX : nrowX = min iu (k + 3) + 1)
    (hlow : ∀ b l, b < c → k ≤ l → Low Zb l b)
    (hsh : Sh Zb iu c k (toM F n n st.1))
    (hx : c < k → c + 1 = k ∧ mget F st.1 k c = x1 ∧ mget F st.1 (k + 1) c = x2 ∧
      (k + 2 < n → mget F st.1 (k + 2) c = x3))
    (st' : St K) (hst' : st' = rstep F st x1 x2 x3 k c nrowP ncolP nrowX ncolX) :
    Good n st' ∧ (∀ j, j < n → j ≠ k → ColEq F st.2.1 st.2.2 st'.2.1 st'.2.2 j) ∧ ReflOK F n iu st'.2.1 st'.2.2 k ∧
    toM F n n st'.1 = Pm F n st'.2.1 st'.2.2 k * toM F n n st.1 * Pm F n st'.2.1 st'.2.2 k ∧
    Sh Zb iu k (k + 1) (toM F n n st'.1) := by
  obtain ⟨wH, rH, cH, wu, ru, cu, snr⟩ := hg
  obtain ⟨r1, r2, r3, r4, r5, r6, r7, r8, r9⟩ := cRef_facts F hsq hcut hmin n st.2.1 st.2.2 wu ru cu snr x1 x2 x3 k
    (by omega) hex _ rfl
  subst hst'
  unfold rstep
  generalize C08Refl.cRef F st.2.1 st.2.2 x1 x2 x3 k = ref at *
  obtain ⟨u', nr'⟩ := ref
  simp only [] at r1 r2 r3 r4 r5 r6 r7 r8 r9 ⊢
  -- a 3-row reflector is stored only for `x3 ≠ 0`, and then the code takes the 3-row loops
  have h3 : nr'.getD k 0 = 3 → nrowP = 3 ∧ ncolX = 3 ∧ k + 2 ≤ iu := fun h => hm (fun h0 => r7 h0 h)
  have hl : Live (iu + 1) nr' k := by
    unfold Live
    rcases r6 with h | h | h
    · omega
    · omega
    · have := (h3 h).2.2; omega
  have hrefl : ReflOK F n iu u' nr' k := by
    refine ⟨hl, Pm_invol F (hl.mono hiu) (fun h2 => ?_) (fun h3 => (r9 (by omega)).1)⟩
    obtain ⟨uu, q2, _, _⟩ := r9 (by omega)
    rw [(q2 h2).1] at uu
    linear_combination uu
  obtain ⟨wX, rX, cX, eS, shS⟩ := sim_step F Zb il iu n wH rH cH u' nr' k c nrowP ncolP nrowX ncolX hk hiu hilc hck hZiu
    hZin hl (fun h => by rw [(h3 h).1]; decide) (fun h => by rw [(h3 h).2.1]; decide) hcol hrowX hlow hsh
    (fun hlt => ⟨(hx hlt).1, fun a b hb ha1 ha2 => by
      obtain ⟨_, m1, m2, m3⟩ := hx hlt
      have hcn : c < n := Nat.lt_of_le_of_lt hck (Nat.lt_trans hk hiu)
      have hbe : b = ⟨c, hcn⟩ := Fin.ext hb
      rw [hbe]
      exact Pm_annih F n u' nr' k c st.1 x1 x2 x3 (hl.mono hiu) hcn m1 m2 m3 r8 (fun h => (r9 h).2) a ha1 ha2⟩)
  exact ⟨⟨wX, rX, cX, r1, r2, r3, r4⟩, r5, hrefl, eS, shS⟩

end C08DsqrSim
