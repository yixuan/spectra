/-
  C09, UpperHessenbergEigen on top of the Schur similarity: assembly.  For the Schur result of an upper Hessenberg matrix the
  emitted eigenvalue vector is compatible with the block structure of `T` (`EvOK`), hence every Good real eigenvalue gets an exact
  eigenvector `y` of `T`, the returned column is `x = U y`, and `H x = λ x + (U E) y` with `E` the Schur error term.
-/
import SpectraVerif.Proofs.C09EigCplx
import SpectraVerif.Proofs.C09SchurMain
import SpectraVerif.Proofs.C09SimT


namespace C09Eig
open Lin EigenPrims HessEigen C09Mat Finset C09Hess
open scoped Matrix

section field
variable {K : Type} [Field K] [LinearOrder K] [IsStrictOrderedRing K] (F : FieldFns K)

/-- what `EigBlocksAt` says position by position (`g k` the value emitted for row `k`) -/
theorem blocks_pos (n : ℕ) (T : Mat K) (i : ℕ) (l : List (K × K)) (h : EigBlocksAt F n T i l) :
    ∀ g : ℕ → K × K, (∀ k, i ≤ k → g k = l.getD (k - i) (0, 0)) → ∀ k, i ≤ k → k < n →
      ((g k).2 = 0 → (g k).1 = @Mat.get K (scOfField F) T k k ∧ (k + 1 < n → @Mat.get K (scOfField F) T (k + 1) k = 0)) ∧
      (0 < (g k).2 → k + 1 < n ∧ g (k + 1) = ((g k).1, -(g k).2) ∧ @Mat.get K (scOfField F) T (k + 1) k ≠ 0 ∧
        2 * (g k).1 = @Mat.get K (scOfField F) T k k + @Mat.get K (scOfField F) T (k + 1) (k + 1) ∧
        (g k).2 * (g k).2 = -disc F T k) ∧
      ((g k).2 < 0 → i + 1 ≤ k ∧ 0 < (g (k - 1)).2) := by
  induction h with
  | nil i hi => intro g hg k h1 h2; omega
  | real i l hi hz _ ih =>
    intro g hg k h1 h2
    rcases Nat.eq_or_lt_of_le h1 with rfl | hlt
    · rw [hg i le_rfl, Nat.sub_self, List.getD_cons_zero]
      exact ⟨fun _ => ⟨rfl, fun hlt => hz.resolve_left (by omega)⟩, fun h => absurd h (lt_irrefl _), fun h => absurd h (lt_irrefl _)⟩
    · obtain ⟨a1, a2, a3⟩ := ih g (fun k hk => by
        rw [hg k (by omega), show k - i = (k - (i + 1)) + 1 by omega, List.getD_cons_succ]) k hlt h2
      exact ⟨a1, a2, fun h => ⟨by omega, (a3 h).2⟩⟩
  | pair i x z l hi hnz hz hx hzz _ ih =>
    intro g hg k h1 h2
    have g0 : g i = (x, z) := by rw [hg i le_rfl, Nat.sub_self, List.getD_cons_zero]
    have g1 : g (i + 1) = (x, -z) := by
      rw [hg (i + 1) (by omega), show i + 1 - i = 0 + 1 by omega, List.getD_cons_succ, List.getD_cons_zero]
    by_cases hk : k = i
    · subst hk
      rw [g0, g1]
      exact ⟨fun h => absurd h (ne_of_gt hz), fun _ => ⟨hi, rfl, hnz, hx, hzz⟩, fun h => absurd h (not_lt.mpr (le_of_lt hz))⟩
    · by_cases hk1 : k = i + 1
      · subst hk1
        rw [g1, Nat.add_sub_cancel, g0]
        exact ⟨fun h => absurd (neg_eq_zero.mp h) (ne_of_gt hz), fun h => absurd h (not_lt.mpr (le_of_lt (neg_neg_of_pos hz))),
          fun _ => ⟨le_refl _, hz⟩⟩
      · obtain ⟨a1, a2, a3⟩ := ih g (fun k hk => by
          rw [hg k (by omega), show k - i = (k - (i + 2)) + 1 + 1 by omega, List.getD_cons_succ, List.getD_cons_succ]) k (by omega) h2
        exact ⟨a1, a2, fun h => ⟨by omega, (a3 h).2⟩⟩

/-- **the emitted eigenvalues are compatible with the block structure** of a quasi-triangular `T` (upper Hessenberg, no two consecutive
    non-zero sub-diagonal entries, negative discriminant on every unsplit block) -/
theorem evOK_of_blocks (n : ℕ) (T : Mat K) (hH : @Hess K (scOfField F) n T)
    (hpairs : ∀ i, 0 < i → i + 1 < n → @Mat.get K (scOfField F) T i (i - 1) = 0 ∨ @Mat.get K (scOfField F) T (i + 1) i = 0)
    (l : List (K × K)) (hB : EigBlocksAt F n T 0 l) : EvOK F n T l.toArray := by
  let _ : Sc K := scOfField F
  have hpos := fun i hi => blocks_pos F n T 0 l hB (evGet l.toArray)
    (fun k _ => by simp [evGet, zero, List.getD_eq_getElem?_getD]) i (Nat.zero_le _) hi
  refine ⟨fun a b h1 h2 => by rw [hH a b h1 h2]; simp [zero], fun i hi h0 => (hpos i hi).1 h0, fun i hi h0 => ?_,
    fun i hi h0 => ⟨by have := ((hpos i hi).2.2 h0).1; omega, ((hpos i hi).2.2 h0).2⟩, fun i hi h0 => ?_⟩
  · obtain ⟨b1, b2, b3, b4, b5⟩ := (hpos i hi).2.1 h0
    refine ⟨b1, by rw [b2]; exact neg_neg_of_pos h0, fun hlt => ?_, b4, ?_⟩
    · rcases hpairs (i + 1) (by omega) hlt with h | h
      · rw [Nat.add_sub_cancel] at h; exact absurd h b3
      · exact h
    · simp only [disc] at b5
      rw [C09SimU.half_eq F] at b5
      -- `x² + z² = ad − bc` from `2x = a + d` and `z² = −disc`
      linear_combination (1 / 2 : K) * ((evGet l.toArray i).1 + (T.get i i + T.get (i + 1) (i + 1)) / 2) * b4 + b5
  · rw [((hpos i hi).2.1 h0).2.1]; exact ⟨rfl, rfl⟩

/-- the eigenvalue vector extracted from the Schur result is compatible with its block structure -/
theorem compute_evOK (hs : ∀ x : K, 0 ≤ x → F.sqrt x * F.sqrt x = x) (hs0 : ∀ x : K, 0 ≤ F.sqrt x)
    (n : ℕ) (h : Mat K) (hw : @WF K h) (hr : h.rows = n) (hc : h.cols = n) (hH : @Hess K (scOfField F) n h)
    (r : HessSchur.Decomp K) (hok : @HessSchur.compute K _ _ _ _ _ (scOfField F) n h = Res.ok r) :
    EvOK F n r.t (@evalsOf K _ _ _ _ _ (scOfField F) n r.t) := by
  let _ : Sc K := scOfField F
  obtain ⟨hHt, hstr⟩ := C09Hess.compute_quasi n h hw hr hc hH r hok
  have hpairs : ∀ i, 0 < i → i + 1 < n → r.t.get i (i - 1) = 0 ∨ r.t.get (i + 1) i = 0 := by
    rcases hstr with ⟨hn, ht⟩ | hp
    · intro i _ hi
      right
      have h0 : HessSchur.l1norm n h = 0 := by simpa [zero] using hn
      rw [ht]; exact l1norm_zero_sub F n h h0 i hi
    · intro i h1 h2
      have := hp i h1 h2
      simpa [zero] using this
  have hN := (compute_negDisc F n h hw hr hc r hok).2
  exact evOK_of_blocks F n r.t hHt hpairs _ (extract_eigAt F hs hs0 n r.t hN n 0 (by omega))

/-- entries of the pre-scaled matrix `mat / scale` -/
theorem scaled_get (h : Mat K) (sc : K) (i j : ℕ) :
    @Mat.get K (scOfField F) ⟨h.rows, h.cols, vdivs h.d sc⟩ i j = @Mat.get K (scOfField F) h i j / sc := by
  simp only [Mat.get]
  exact ScF.vget_vdivs F h.d sc (i + j * h.rows)

open C09Sim C09SS in
theorem scaled_input (n : ℕ) (h : Mat K) (hw : @WF K h) (hH : @Hess K (scOfField F) n h) (sc : K) (hsc0 : sc ≠ 0) :
    @WF K ⟨h.rows, h.cols, vdivs h.d sc⟩ ∧ @Hess K (scOfField F) n ⟨h.rows, h.cols, vdivs h.d sc⟩ ∧
    mat n (gf F h) = sc • mat n (gf F (⟨h.rows, h.cols, vdivs h.d sc⟩ : Mat K)) := by
  refine ⟨by simp only [WF, vdivs, Array.size_map]; exact hw, fun i j h1 h2 => ?_, ?_⟩
  · rw [scaled_get, hH i j h1 h2]; simp [zero]
  · ext i j
    simp only [mat, Matrix.of_apply, Matrix.smul_apply, smul_eq_mul, gf, scaled_get]
    rw [mul_div_cancel₀ _ hsc0]

theorem evGet_map_scale (ev : Vec (K × K)) (sc : K) (c : ℕ) :
    @evGet K (scOfField F) (Array.map (fun z => @cmulReal K _ _ _ (scOfField F) z sc) ev) c =
      ((@evGet K (scOfField F) ev c).1 * sc, (@evGet K (scOfField F) ev c).2 * sc) := by
  let _ : Sc K := scOfField F
  have hlen : c < ev.size ∨ ev.size ≤ c := lt_or_ge _ _
  simp only [evGet, Array.getD_eq_getD_getElem?, Array.getElem?_map]
  rcases hlen with hl | hl
  · simp only [Array.getElem?_eq_getElem hl, Option.map_some, Option.getD_some]
    rw [C09Lemmas.cmulReal_field]
  · simp only [Array.getElem?_eq_none hl, Option.map_none, Option.getD_none]
    simp [zero]

open C09Sim C09SS in
/-- what both kinds of eigenpairs of `UpperHessenbergEigen::compute` start from, for a non-zero input `H = scale • Hs`: the Schur result
    `(T, U)` of `Hs` (`Uᵀ Hs U = T + E`) in the form `H U = scale • U (T + E)`, the extracted eigenvalue vector compatible with the blocks
    of `T`, the returned values (scaled back), the finished back-substitution loop, and every returned column as `U` times the column of
    the back-substituted work matrix cut off below the diagonal -/
theorem compute_core (hs : ∀ x : K, 0 ≤ x → F.sqrt x * F.sqrt x = x) (hs0 : ∀ x : K, 0 ≤ F.sqrt x) (hmin : 0 ≤ F.minPos)
    (n : ℕ) (h : Mat K) (hw : @WF K h) (hr : h.rows = n) (hc : h.cols = n) (hH : @Hess K (scOfField F) n h) (r : HessEigen.Decomp K)
    (hok : @HessEigen.compute K _ _ _ _ _ (scOfField F) n h = Res.ok r)
    (hsc : @Sc.eq K (scOfField F) (@TridiagEigen.maxAbs1 K (scOfField F) h.d) (@zero K (scOfField F)) = false) :
    let _ : Sc K := scOfField F
    ∃ (s : HessSchur.Decomp K) (E : Matrix (Fin n) (Fin n) K),
      HessSchur.compute n ⟨h.rows, h.cols, vdivs h.d (TridiagEigen.maxAbs1 h.d)⟩ = Res.ok s ∧
      Bnd E (schurDrop F n ⟨h.rows, h.cols, vdivs h.d (TridiagEigen.maxAbs1 h.d)⟩) ∧
      mat n (gf F h) * mat n (gf F s.u) = TridiagEigen.maxAbs1 h.d • (mat n (gf F s.u) * (mat n (gf F s.t) + E)) ∧
      EvOK F n s.t (evalsOf n s.t) ∧
      (∀ c, evGet r.evals c =
        ((evGet (evalsOf n s.t) c).1 * TridiagEigen.maxAbs1 h.d, (evGet (evalsOf n s.t) c).2 * TridiagEigen.maxAbs1 h.d)) ∧
      (Sc.eq (tnorm n s.t) (zero : K) = false →
        CBInv F n 0 s.t (backSub n (tnorm n s.t) (evalsOf n s.t) n n s.t) (evalsOf n s.t) ∧
        ∀ j, j < n → (fun a : Fin n => r.eivec.get a.val j) =
          mat n (gf F s.u) *ᵥ fun b : Fin n => if b.val ≤ j then (backSub n (tnorm n s.t) (evalsOf n s.t) n n s.t).get b.val j else 0) := by
  intro _
  simp only [HessEigen.compute, hsc, Bool.false_eq_true, ↓reduceIte] at hok
  generalize TridiagEigen.maxAbs1 h.d = sc at hok hsc ⊢
  split at hok
  · cases hok
  · rename_i s hsok
    cases hok
    obtain ⟨hws, hHs, hmat⟩ := scaled_input F n h hw hH sc (by simpa [zero] using hsc)
    obtain ⟨E, hE, sim, _, o2⟩ := compute_sim F hs hs0 hmin n _ hws hr hc hHs s hsok
    have hev := compute_evOK F hs hs0 n _ hws hr hc hHs s hsok
    have hU := C09OrthU.compute_orthU F (C09Orth.makeGivens_unit F hs) (C09OrthU.makeHouseholder_ideal F hs hs0 hmin) n _ s hsok
    refine ⟨s, E, hsok, hE, ?_, hev, evGet_map_scale F _ sc, fun hnorm => ⟨?_, fun j hj => ?_⟩⟩
    · rw [hmat, Matrix.smul_mul, ← sim, ← Matrix.mul_assoc, ← Matrix.mul_assoc, o2, Matrix.one_mul]
    · exact backSub_invC F n (tnorm n s.t) s.t _ hev n n s.t le_rfl le_rfl
        ⟨⟨(compute_negDisc F n _ hws hr hc s hsok).1, fun _ _ _ _ => rfl, fun c h1 h2 _ => by omega⟩, fun _ c h1 h2 _ => by omega,
          fun c h1 hpos => by have := (hev.first c (by omega) hpos).1; omega⟩
    · funext a
      simp only [doComputeEigenvectors, hnorm, Bool.false_eq_true, ↓reduceIte, Matrix.mulVec, dotProduct, mat, Matrix.of_apply, gf]
      rw [backTransform_spec F n s.u _ hU.1 hU.2.1 hU.2.2.1 a.val j a.isLt hj,
        Fin.sum_univ_eq_sum_range (fun k => s.u.get a.val k * (if k ≤ j then (backSub n (tnorm n s.t) (evalsOf n s.t) n n s.t).get k j else 0)) n,
        sum_cut hj]


end field
end C09Eig
