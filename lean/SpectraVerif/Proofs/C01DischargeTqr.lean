/-
  C01 (discharge of the TridiagQR hypotheses of the restart step) -- the `(H, Q)` part of the shift loop of
  `HermSolver.restartFac` (Model/HermSolver.lean) at the exact-arithmetic scalar instance `scOfField F`, on top of C08.

  For a symmetric tridiagonal `m × m` array matrix `H` and any list of shifts, with `F.eps = 0`, ideal rotations
  (`cutoff ≤ 0`) and an exact `sqrt`, the loop
      `(H, Q) ↦ (matrix_QtHQ (compute H μ), apply_YQ (compute H μ) Q)`     started at `(H, identity m)`
  returns `(H⁺, Q)` with: `H⁺` symmetric tridiagonal, `Q` well formed `m × m`, `H Q = Q H⁺`, `QᵀQ = 1`, and `Q` has lower
  bandwidth `shifts.length` (`Q a b = 0` for `a > b + shifts.length`).

  `mget` below is this file's own abbreviation `C01DT.mget F A i j := @Lin.Mat.get K (scOfField F) A i j`; it is reducibly the
  same term as `C08.mget` / `C08Hess.mget`.
-/
import Mathlib.Data.Matrix.Basic
import Mathlib.Data.Matrix.Mul
import Mathlib.Data.Fintype.BigOperators
import Mathlib.Algebra.BigOperators.Fin
import Mathlib.Tactic.Ring
import SpectraVerif.Proofs.C08TridiagMatrix
import SpectraVerif.Proofs.C07Krylov

set_option linter.unusedSectionVars false


namespace C01DT
open Lin QRModel C08Mat C08HessMatrix C08TridiagMatrix
open Matrix

variable {K : Type} [Field K] [LinearOrder K] [IsStrictOrderedRing K] (F : FieldFns K)

/-- `A(i, j)` of an array matrix at the exact-arithmetic instance (same term as `C08.mget`, `C08Hess.mget`) -/
abbrev mget (A : Lin.Mat K) (i j : ℕ) : K := @Lin.Mat.get K (scOfField F) A i j

/-! ### the rotation product is upper Hessenberg -/

/-- `G₀ ⋯ G_{k-1}` is upper Hessenberg, and its columns beyond `k` are columns of the identity -/
theorem Qm_hessenberg (n : ℕ) (cs sn : Vec K) (k : ℕ) (hk : k ≤ n - 1) :
    (∀ a b : Fin n, b.val + 1 < a.val → Qm F n cs sn k a b = 0) ∧
    (∀ a b : Fin n, k < b.val → a ≠ b → Qm F n cs sn k a b = 0) := by
  induction k with
  | zero =>
    rw [Qm_zero]
    refine ⟨fun a b h => ?_, fun a b _ h => ?_⟩
    · rw [Matrix.one_apply, if_neg]; intro e; rw [e] at h; omega
    · rw [Matrix.one_apply, if_neg h]
  | succ k ih =>
    obtain ⟨h1, h2⟩ := ih (by omega)
    have hk' : k + 1 < n := by omega
    -- right multiplication by `G_k` only mixes columns `k` and `k + 1`
    rw [Qm_succ]
    refine ⟨fun a b h => ?_, fun a b hb hab => ?_⟩
    · rw [mul_Gm_apply F _ _ _ k hk']
      by_cases c1 : b.val = k
      · rw [if_pos c1, h1 a ⟨k, by omega⟩ (by simp only; omega),
          h2 a ⟨k + 1, hk'⟩ (by simp only; omega) (by intro e; rw [e] at h; simp only at h; omega)]
        ring
      · rw [if_neg c1]
        by_cases c2 : b.val = k + 1
        · rw [if_pos c2, h1 a ⟨k, by omega⟩ (by simp only; omega),
            h2 a ⟨k + 1, hk'⟩ (by simp only; omega) (by intro e; rw [e] at h; simp only at h; omega)]
          ring
        · rw [if_neg c2]; exact h1 a b h
    · rw [mul_Gm_apply F _ _ _ k hk', if_neg (by omega), if_neg (by omega)]
      exact h2 a b (by omega) hab

/-- the orthogonal factor `Q = G₀ ⋯ G_{n-2}` of every `TridiagQR` object is upper Hessenberg -/
theorem TQ_hessenberg (q : TridiagQR K) (a b : Fin q.n) (h : b.val + 1 < a.val) : TQ F q a b = 0 := by
  rw [TQ_eq_Qm]
  exact (Qm_hessenberg F q.n q.cos q.sin (q.n - 1) (le_refl _)).1 a b h

/-! ### one shift -/

/-- `m × m` array matrix, well-formed, symmetric tridiagonal -/
def SymTri (H : Lin.Mat K) (m : ℕ) : Prop :=
  C08Mat.WF H ∧ H.rows = m ∧ H.cols = m ∧
  (∀ i j, i < m → j < m → (i + 1 < j ∨ j + 1 < i) → mget F H i j = 0) ∧
  (∀ i j, i < m → j < m → mget F H i j = mget F H j i)

/-- with `eps = 0` the final deflation pass of `matrix_QtHQ` drops only exact zeros -/
theorem dropMat_zero (heps : F.eps = 0) (q : TridiagQR K) : dropMat F q = 0 := by
  ext i j
  unfold dropMat
  rw [Matrix.zero_apply]
  by_cases c : (i.val = j.val + 1 ∨ j.val = i.val + 1) ∧
      negl F (C08Tridiag.qthqRaw F q).1 (C08Tridiag.qthqRaw F q).2 (min i.val j.val)
  · rw [if_pos c]
    have h := c.2
    unfold negl at h
    rw [heps, zero_mul] at h
    exact abs_nonpos_iff.mp h
  · rw [if_neg c]

/-- with `eps = 0` the bands that `compute` stores are the bands of its argument, so for a symmetric tridiagonal
    argument the matrix `Tm` of `C08.c08_tqr_matrix_partial` is the argument itself -/
theorem toM_symTri_compute (heps : F.eps = 0) (H : Lin.Mat K) (hH : SymTri F H H.rows) (μ : K) :
    toM F H.rows H.rows (symTri F H.rows (tqr F H μ).T_diag (tqr F H μ).T_subd) = toM F H.rows H.rows H := by
  obtain ⟨_, _, _, hz, hs⟩ := hH
  obtain ⟨_, hd, he, _⟩ := C08Tridiag.tqr_compute_T F H μ
  have he' : ∀ i, i < H.rows - 1 → C08Hess.vgt F (tqr F H μ).T_subd i = mget F H (i + 1) i := by
    intro i hi
    refine (he i hi).trans ?_
    rw [heps, zero_mul]
    by_cases c : |mget F H (i + 1) i| ≤ 0
    · rw [if_pos c]; exact (abs_nonpos_iff.mp c).symm
    · rw [if_neg c]
  ext i j
  rw [toM_apply, toM_apply, symTri_get F _ _ _ _ _ i.isLt j.isLt]
  have hi := i.isLt
  have hj := j.isLt
  by_cases c1 : i.val = j.val
  · rw [if_pos c1, ← c1]; exact hd _ i.isLt
  · rw [if_neg c1]
    by_cases c2 : i.val = j.val + 1
    · rw [if_pos c2, he' _ (by omega), c2]
    · rw [if_neg c2]
      by_cases c3 : j.val = i.val + 1
      · rw [if_pos c3, he' _ (by omega), c3]
        exact hs _ _ (by omega) (by omega)
      · rw [if_neg c3]
        exact (hz _ _ hi hj (by omega)).symm

/-- `matrix_QtHQ` is again a well-formed symmetric tridiagonal `q.n × q.n` array matrix -/
theorem SymTri_QtHQ (q : TridiagQR K) : SymTri F (TQtHQ F q) q.n :=
  ⟨ofFn_WF _ _ _, rfl, rfl,
    fun i j hi hj h => C08Tridiag.tqr_qthq_tridiagonal F q i j hi hj h,
    fun i j hi hj => C08Tridiag.tqr_qthq_symmetric F q i j hi hj⟩

/-- `apply_YQ` keeps well-formedness and the dimensions -/
theorem apply_YQ_dims (q : TridiagQR K) {Y : Lin.Mat K} (hw : WF Y) (hc : Y.cols = q.n) :
    WF (@TridiagQR.apply_YQ K _ _ _ (scOfField F) q Y) ∧
    (@TridiagQR.apply_YQ K _ _ _ (scOfField F) q Y).rows = Y.rows ∧
    (@TridiagQR.apply_YQ K _ _ _ (scOfField F) q Y).cols = Y.cols :=
  @yqkg_dims K _ (scOfField F) q.cos q.sin Y hw (q.n - 1) (by rw [hc])

/-- One shift: for a symmetric tridiagonal `H` and `q = compute H μ` there is an orthogonal upper Hessenberg `Qμ`
    (the product of the stored rotations) with `H Qμ = Qμ · matrix_QtHQ q`, `matrix_QtHQ q` symmetric tridiagonal, and
    `apply_YQ q Y = Y Qμ` for every well-formed `m × m` array `Y` -/
theorem shift_step_spec
    (hsqrt : ∀ x : K, 0 ≤ x → F.sqrt x * F.sqrt x = x ∧ 0 ≤ F.sqrt x) (hcut : C08Givens.cutoff F ≤ 0) (heps : F.eps = 0)
    (m : ℕ) (H : Lin.Mat K) (hH : SymTri F H m) (μ : K) :
    ∃ Qμ : Matrix (Fin m) (Fin m) K,
      Qμᵀ * Qμ = 1 ∧ Qμ * Qμᵀ = 1 ∧ (∀ a b : Fin m, b.val + 1 < a.val → Qμ a b = 0) ∧
      SymTri F (TQtHQ F (tqr F H μ)) m ∧
      toM F m m H * Qμ =
        Qμ * toM F m m (TQtHQ F (tqr F H μ)) ∧
      ∀ Y : Lin.Mat K, WF Y → Y.rows = m → Y.cols = m →
        WF (@TridiagQR.apply_YQ K _ _ _ (scOfField F) (tqr F H μ) Y) ∧
        (@TridiagQR.apply_YQ K _ _ _ (scOfField F) (tqr F H μ) Y).rows = m ∧
        (@TridiagQR.apply_YQ K _ _ _ (scOfField F) (tqr F H μ) Y).cols = m ∧
        toM F m m (@TridiagQR.apply_YQ K _ _ _ (scOfField F) (tqr F H μ) Y) =
          toM F m m Y * Qμ := by
  have hH' := hH
  obtain ⟨hw, rfl, hc, hz, hs⟩ := hH
  have hT := tqr_QtHQ_matrix_sub F hsqrt hcut H μ _ rfl
  rw [dropMat_zero F heps, sub_zero] at hT
  have hTm := toM_symTri_compute F heps H hH' μ
  let Qμ : Matrix (Fin H.rows) (Fin H.rows) K := TQ F (tqr F H μ)
  have o1 : Qμᵀ * Qμ = 1 := (tqr_Q_orth F hsqrt hcut H μ _ rfl).1
  have o2 : Qμ * Qμᵀ = 1 := (tqr_Q_orth F hsqrt hcut H μ _ rfl).2
  have e : toM F H.rows H.rows (TQtHQ F (tqr F H μ)) = Qμᵀ * toM F H.rows H.rows H * Qμ := by
    rw [← hTm]; exact hT
  refine ⟨Qμ, o1, o2, fun a b h => TQ_hessenberg F (tqr F H μ) a b h, SymTri_QtHQ F (tqr F H μ), ?_, ?_⟩
  · show toM F H.rows H.rows H * Qμ = Qμ * toM F H.rows H.rows (TQtHQ F (tqr F H μ))
    rw [e, ← Matrix.mul_assoc, ← Matrix.mul_assoc, o2, Matrix.one_mul]
  · intro Y hwY hrY hcY
    obtain ⟨d1, d2, d3⟩ := apply_YQ_dims F (tqr F H μ) hwY hcY
    exact ⟨d1, d2.trans hrY, d3.trans hcY, tqr_apply_YQ F (tqr F H μ) hwY hrY hcY⟩

/-! ### the loop -/

/-- the (H, Q) part of the shift loop of `HermSolver.restartFac` -/
def shiftLoop (shifts : List K) (H Q : Lin.Mat K) : Lin.Mat K × Lin.Mat K :=
  shifts.foldl (fun acc mu =>
    let d := @QRModel.TridiagQR.compute K _ _ _ _ _ (scOfField F) acc.1 mu
    (@QRModel.TridiagQR.matrix_QtHQ K _ _ _ _ (scOfField F) d,
      @QRModel.TridiagQR.apply_YQ K _ _ _ (scOfField F) d acc.2)) (H, Q)

theorem shiftLoop_nil (H Q : Lin.Mat K) : shiftLoop F [] H Q = (H, Q) := rfl

theorem shiftLoop_cons (mu : K) (l : List K) (H Q : Lin.Mat K) :
    shiftLoop F (mu :: l) H Q =
      shiftLoop F l (TQtHQ F (tqr F H mu))
        (@TridiagQR.apply_YQ K _ _ _ (scOfField F) (tqr F H mu) Q) := rfl

/-- the loop invariant: after some shifts the pair is `(Hc, Qc)`, `Qc` has lower bandwidth `p` -/
def LoopInv (m : ℕ) (H0 Hc Qc : Lin.Mat K) (p : ℕ) : Prop :=
  SymTri F Hc m ∧ WF Qc ∧ Qc.rows = m ∧ Qc.cols = m ∧
  toM F m m H0 * toM F m m Qc = toM F m m Qc * toM F m m Hc ∧
  (toM F m m Qc)ᵀ * toM F m m Qc = 1 ∧
  (∀ a b : Fin m, b.val + p < a.val → toM F m m Qc a b = 0)

theorem LoopInv_step
    (hsqrt : ∀ x : K, 0 ≤ x → F.sqrt x * F.sqrt x = x ∧ 0 ≤ F.sqrt x) (hcut : C08Givens.cutoff F ≤ 0) (heps : F.eps = 0)
    (m : ℕ) (H0 Hc Qc : Lin.Mat K) (p : ℕ) (h : LoopInv F m H0 Hc Qc p) (mu : K) :
    LoopInv F m H0
      (TQtHQ F (tqr F Hc mu))
      (@TridiagQR.apply_YQ K _ _ _ (scOfField F) (tqr F Hc mu) Qc) (p + 1) := by
  obtain ⟨hS, hw, hr, hc, hcomm, horth, hband⟩ := h
  obtain ⟨Qμ, o1, o2, hb, hS', hcomm', hY⟩ := shift_step_spec F hsqrt hcut heps m Hc hS mu
  obtain ⟨d1, d2, d3, d4⟩ := hY Qc hw hr hc
  refine ⟨hS', d1, d2, d3, ?_, ?_, ?_⟩
  · rw [d4, ← Matrix.mul_assoc, hcomm, Matrix.mul_assoc, hcomm', ← Matrix.mul_assoc]
  · rw [d4, Matrix.transpose_mul, Matrix.mul_assoc, ← Matrix.mul_assoc (toM F m m Qc)ᵀ, horth, Matrix.one_mul, o1]
  · rw [d4]
    exact fun a b hab => (Matrix.mul_apply ..).trans (C07.band_mul Finset.univ Fin.val _ _ (hband a) (fun c => hb c b) hab)

theorem shiftLoop_inv
    (hsqrt : ∀ x : K, 0 ≤ x → F.sqrt x * F.sqrt x = x ∧ 0 ≤ F.sqrt x) (hcut : C08Givens.cutoff F ≤ 0) (heps : F.eps = 0)
    (m : ℕ) (H0 : Lin.Mat K) (shifts : List K) :
    ∀ (Hc Qc : Lin.Mat K) (p : ℕ), LoopInv F m H0 Hc Qc p →
      LoopInv F m H0 (shiftLoop F shifts Hc Qc).1 (shiftLoop F shifts Hc Qc).2 (p + shifts.length) := by
  induction shifts with
  | nil => intro Hc Qc p h; exact h
  | cons mu l ih =>
    intro Hc Qc p h
    rw [shiftLoop_cons, List.length_cons, show p + (l.length + 1) = (p + 1) + l.length by omega]
    exact ih _ _ _ (LoopInv_step F hsqrt hcut heps m H0 Hc Qc p h mu)

theorem toM_identity (m : ℕ) : toM F m m (@Lin.Mat.identity K (scOfField F) m) = 1 := by
  ext i j
  rw [toM_apply, Matrix.one_apply]
  unfold Lin.Mat.identity
  refine (@get_ofFn K (scOfField F) _ _ _ _ _ i.isLt j.isLt).trans ?_
  by_cases h : i = j
  · rw [if_pos h, if_pos (congrArg Fin.val h)]; simp [Lin.one]
  · rw [if_neg h, if_neg (fun e => h (Fin.ext e))]; simp [Lin.zero]

theorem LoopInv_init (m : ℕ) (H : Lin.Mat K) (hH : SymTri F H m) :
    LoopInv F m H H (@Lin.Mat.identity K (scOfField F) m) 0 := by
  refine ⟨hH, ofFn_WF _ _ _, rfl, rfl, ?_, ?_, ?_⟩
  · rw [toM_identity, Matrix.mul_one, Matrix.one_mul]
  · rw [toM_identity, Matrix.transpose_one, Matrix.one_mul]
  · intro a b h
    rw [toM_identity, Matrix.one_apply, if_neg]
    intro e; rw [e] at h; omega

/-- the `(H, Q)` part of the shift loop of `HermSolver.restartFac`, started at `(H, identity m)` -/
theorem shiftLoop_spec
    (hsqrt : ∀ x : K, 0 ≤ x → F.sqrt x * F.sqrt x = x ∧ 0 ≤ F.sqrt x) (hcut : C08Givens.cutoff F ≤ 0) (heps : F.eps = 0)
    (m : ℕ) (H : Lin.Mat K) (hH : SymTri F H m) (shifts : List K) :
    let Hp := (shiftLoop F shifts H (@Lin.Mat.identity K (scOfField F) m)).1
    let Q  := (shiftLoop F shifts H (@Lin.Mat.identity K (scOfField F) m)).2
    SymTri F Hp m ∧ C08Mat.WF Q ∧ Q.rows = m ∧ Q.cols = m ∧
    (∀ i j, i < m → j < m →
      ∑ a ∈ Finset.range m, mget F H i a * mget F Q a j = ∑ b ∈ Finset.range m, mget F Q i b * mget F Hp b j) ∧
    (∀ i j, i < m → j < m → ∑ a ∈ Finset.range m, mget F Q a i * mget F Q a j = if i = j then 1 else 0) ∧
    (∀ a b, a < m → b < m → b + shifts.length < a → mget F Q a b = 0) := by
  intro Hp Q
  obtain ⟨hS, hw, hr, hc, hcomm, horth, hband⟩ :=
    shiftLoop_inv F hsqrt hcut heps m H shifts H _ 0 (LoopInv_init F m H hH)
  refine ⟨hS, hw, hr, hc, ?_, ?_, ?_⟩
  · intro i j hi hj
    have := congrFun (congrFun hcomm ⟨i, hi⟩) ⟨j, hj⟩
    rw [Matrix.mul_apply, Matrix.mul_apply] at this
    rw [← Fin.sum_univ_eq_sum_range (fun a => mget F H i a * mget F Q a j) m,
      ← Fin.sum_univ_eq_sum_range (fun b => mget F Q i b * mget F Hp b j) m]
    exact this
  · intro i j hi hj
    have := congrFun (congrFun horth ⟨i, hi⟩) ⟨j, hj⟩
    rw [Matrix.mul_apply, Matrix.one_apply] at this
    rw [← Fin.sum_univ_eq_sum_range (fun a => mget F Q a i * mget F Q a j) m]
    simp only [Fin.mk.injEq] at this
    exact this
  · intro a b ha hb h
    exact hband ⟨a, ha⟩ ⟨b, hb⟩ (by rw [Nat.zero_add]; exact h)

end C01DT
