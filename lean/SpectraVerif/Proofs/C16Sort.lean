/-
  C16: the `SortDesc` hypothesis of `c16_order` is a THEOREM for the library's own final sort: `SVD.argsortIdx` is the
  source-translated `argsort` (Gen/Sort.lean, regenerated from Util/SelectionRule.h on every run) wrapped into the index-list shape
  the orchestration model uses; at exact arithmetic (any linearly ordered field) rule LargestAlge lists the values in non-increasing
  order — from C18's `c18_argsort_value`, `c18_perm_base`, `c18_sorted`.
-/
import SpectraVerif.Proofs.C15Order
import SpectraVerif.Proofs.C16Order

namespace SVD
open Gen.Sort

section
variable {K : Type} [Field K] [LinearOrder K] [IsStrictOrderedRing K] (F : FieldFns K)

theorem argsortIdx_desc (vals : List K) (n : Nat) :
    ∃ ind, @argsortIdx K _ _ _ _ _ (scOfField F) LARGEST_ALGE vals n = .ok ind ∧ ind.length = n ∧
      ∀ i j, i < j → j < n → vals.getD (ind.getD j 0) 0 ≤ vals.getD (ind.getD i 0) 0 := by
  let values : Int → K := @listFn K (scOfField F) vals
  obtain ⟨f, hf, hmap⟩ := C15L.argsort_indices F 3 values n (by decide) (by decide)
  have hperm := C18.c18_perm_base F 3 values n
  have hsorted := C18.c18_sorted F 3 values n
  have hlen := C15L.baseOrder_length F 3 values n
  refine ⟨(C18.baseOrder F 3 values n).map Int.toNat, ?_, by rw [List.length_map, hlen], ?_⟩
  · unfold argsortIdx
    show (match @argsort K _ _ _ _ _ (scOfField F) 3 values (n : Int) with
          | .ok f => Except.ok ((List.range n).map (fun (i : Nat) => (f (i : Int)).toNat))
          | .throw _ => Except.error (Orch.Exn.invalidArgument "unsupported selection rule")) = _
    rw [hf]; exact congrArg Except.ok hmap
  · -- the value at position `i` of the index list is the value the base order reads at its `i`-th entry (an index in `[0, n)`)
    have key : ∀ i (hi : i < n), vals.getD (((C18.baseOrder F 3 values n).map Int.toNat).getD i 0) 0 =
        values ((C18.baseOrder F 3 values n)[i]'(by omega)) := by
      intro i hi
      have hi' : i < (C18.baseOrder F 3 values n).length := by omega
      have hb := (mem_intRange.mp (hperm.subset (List.getElem_mem hi'))).1
      have e : ((C18.baseOrder F 3 values n).map Int.toNat).getD i 0 = ((C18.baseOrder F 3 values n)[i]'(by omega)).toNat := by
        simp [List.getD_eq_getElem?_getD, hlen, hi]
      rw [e]
      show _ = @listFn K (scOfField F) vals _
      unfold listFn
      simp [not_lt.mpr hb, Lin.zero]
    intro i j hij hj
    rw [key i (by omega), key j hj]
    exact ((List.pairwise_iff_getElem.mp hsorted) i j (by omega) (by omega) hij).2.1 (Or.inl rfl)

end
end SVD
