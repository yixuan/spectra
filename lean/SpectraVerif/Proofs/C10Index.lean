/-
  C10 — index safety of the BKLDLT model (Model/BKLDLT.lean): helper lemmas.
  `Good n s` = the state still has size `n` and no illegal access has been recorded; `Inv n a z s` adds what else no routine
  changes whatever the values are: `m_perm = a` and the length `z` of `m_data`.  Every routine of the factorization keeps `Inv`
  under its (index) precondition (`X_inv`, one walk over the routine), for EVERY scalar type, `Sc` instance and data (so for
  every pivot decision).
  What the real and the complex model share is stated once here, with the model's own routines as parameters: the two shapes of
  `copy_data` (`copyFast`, `copyGen`), the pivot loop (`Skel.pivotLoop`, one induction `Skel.pivotLoop_inv`) and the tail of
  `compute` (`Skel.finish`); the models are instances (`copy_data_shape`, `computeLoop_eq`, `compute_eq`).
-/
import Mathlib.Tactic.Ring
import Mathlib.Algebra.Ring.Int.Parity
import Mathlib.Tactic.NormNum
import SpectraVerif.Model.BKLDLT
import SpectraVerif.Proofs.ListFold
open Gen.BK

set_option linter.unusedSectionVars false
namespace BKLDLT
section
variable {α : Type} [Add α] [Sub α] [Mul α] [Div α] [Neg α] [Sc α]

/-- the state has size `n` and no illegal access has happened so far -/
def Good (n : Int) (s : St α) : Prop := s.n = n ∧ s.ok = true

theorem inb_iff {n i j : Int} : inb n i j = true ↔ 0 ≤ j ∧ j ≤ i ∧ i < n := by
  simp [inb, and_assoc]
theorem inr_iff {n i : Int} : inr n i = true ↔ 0 ≤ i ∧ i < n := by simp [inr]

/-- size `n`, no illegal access so far, `m_perm = a`, `m_data` has `z` entries: what every routine of the factorization keeps besides
    the values (`pivoting_1x1` and `pivoting_2x2` change `a`, by their writes to `m_perm`) -/
structure Inv (n : Int) (a : Array Int) (z : Nat) (s : St α) : Prop where
  n : s.n = n
  ok : s.ok = true
  perm : s.perm = a
  size : s.data.size = z

namespace Inv
variable {n : Int} {a : Array Int} {z : Nat} {s : St α}

theorem good (h : Inv n a z s) : Good n s := ⟨h.n, h.ok⟩
theorem of_good (h : Good n s) : Inv n s.perm s.data.size s := ⟨h.1, h.2, rfl, rfl⟩

theorem cast {a' : Array Int} (h : Inv n a z s) (e : a = a') : Inv n a' z s := e ▸ h
theorem self (h : Inv n a z s) : Inv n s.perm z s := h.cast h.perm.symm

theorem chk {i j : Int} (h : Inv n a z s) (hi : 0 ≤ j ∧ j ≤ i ∧ i < n) : Inv n a z (s.chk i j) :=
  ⟨h.n, by simp only [St.chk, h.ok, Bool.true_and, h.n]; exact inb_iff.2 hi, h.perm, h.size⟩
theorem get {i j : Int} (h : Inv n a z s) (hi : 0 ≤ j ∧ j ≤ i ∧ i < n) : Inv n a z (s.get i j).2 := h.chk hi
theorem wr {i j : Int} {v : α} (h : Inv n a z s) (hi : 0 ≤ j ∧ j ≤ i ∧ i < n) : Inv n a z (s.wr i j v) :=
  ⟨h.n, by simp only [St.wr, h.ok, Bool.true_and, h.n]; exact inb_iff.2 hi, h.perm, (Array.size_setIfInBounds ..).trans h.size⟩
theorem wrAt {d i j : Int} {v : α} (h : Inv n a z s) (hi : 0 ≤ j ∧ j ≤ i ∧ i < n) (hd : d = off n i j) : Inv n a z (s.wrAt d i j v) :=
  ⟨h.n, by simp only [St.wrAt, h.ok, Bool.true_and, h.n, Bool.and_eq_true, decide_eq_true_eq]; exact ⟨inb_iff.2 hi, hd⟩, h.perm,
    (Array.size_setIfInBounds ..).trans h.size⟩
theorem swap {i1 j1 i2 j2 : Int} (h : Inv n a z s) (h1 : 0 ≤ j1 ∧ j1 ≤ i1 ∧ i1 < n) (h2 : 0 ≤ j2 ∧ j2 ≤ i2 ∧ i2 < n) :
    Inv n a z (s.swap i1 j1 i2 j2) := (((h.get h1).get h2).wr h1).wr h2
theorem setPerm {i v : Int} (h : Inv n a z s) (hi : 0 ≤ i ∧ i < n) : Inv n (a.setIfInBounds i.toNat v) z (s.setPerm i v) :=
  ⟨h.n, by simp only [St.setPerm, h.ok, Bool.true_and, h.n]; exact inr_iff.2 hi, by rw [← h.perm]; rfl, h.size⟩
theorem getPerm {i : Int} (h : Inv n a z s) (hi : 0 ≤ i ∧ i < n) : Inv n a z (s.getPerm i).2 :=
  ⟨h.n, by simp only [St.getPerm, h.ok, Bool.true_and, h.n]; exact inr_iff.2 hi, h.perm, h.size⟩

end Inv

theorem pivoting_1x1_inv {n : Int} {a : Array Int} {z : Nat} {s : St α} {k r : Int} (h : Inv n a z s) (hk : 0 ≤ k) (hkr : k ≤ r) (hr : r < n) :
    Inv n (a.setIfInBounds k.toNat r) z (pivoting_1x1 s k r) := by
  unfold pivoting_1x1
  have h1 := h.setPerm (v := r) ⟨hk, by omega⟩
  split
  · exact h1
  · have h2 := h1.swap (i1 := k) (j1 := k) (i2 := r) (j2 := r) ⟨hk, le_refl _, by omega⟩ ⟨by omega, le_refl _, hr⟩
    apply ListFold.foldl_inv (Inv n _ z)
    · rw [h2.n]
      apply ListFold.foldl_inv (Inv n _ z)
      · exact h2
      · intro s i hi hs
        have := mem_intRange.1 hi
        exact hs.swap ⟨hk, by omega, by omega⟩ ⟨by omega, by omega, by omega⟩
    · intro s j hj hs
      have := mem_intRange.1 hj
      exact hs.swap ⟨hk, by omega, by omega⟩ ⟨by omega, by omega, by omega⟩

theorem interchange_rows_inv {n : Int} {a : Array Int} {z : Nat} {s : St α} {r1 r2 c1 c2 : Int} (h : Inv n a z s) (hc : 0 ≤ c1) (h1 : c2 < r1)
    (h2 : r1 ≤ r2) (h3 : r2 < n) : Inv n a z (interchange_rows s r1 r2 c1 c2) := by
  unfold interchange_rows
  split
  · exact h
  · apply ListFold.foldl_inv (Inv n a z) _ _ _ h
    intro s j hj hs
    have := mem_intRange.1 hj
    exact hs.swap ⟨by omega, by omega, by omega⟩ ⟨by omega, by omega, by omega⟩

theorem find_lambda_inv {n : Int} {a : Array Int} {z : Nat} {s : St α} {k : Int} (h : Inv n a z s) (hk : 0 ≤ k) (hk1 : k + 1 < n) :
    Inv n a z (find_lambda s k).2.2 ∧ k + 1 ≤ (find_lambda s k).2.1 ∧ (find_lambda s k).2.1 < n := by
  unfold find_lambda
  have h1 := h.get (i := k + 1) (j := k) ⟨hk, by omega, hk1⟩
  simp only []
  apply ListFold.foldl_inv (fun (acc : α × Int × St α) => Inv n a z acc.2.2 ∧ k + 1 ≤ acc.2.1 ∧ acc.2.1 < n)
  · exact ⟨h1, le_refl _, hk1⟩
  · rintro ⟨lam, r, s'⟩ i hi ⟨hs, hr1, hr2⟩
    have hi' := mem_intRange.1 hi
    have hn : (s.get (k + 1) k).2.n = n := h1.n
    rw [hn] at hi'
    have hg := hs.get (i := i) (j := k) ⟨hk, by omega, hi'.2⟩
    simp only []
    split
    · exact ⟨hg, by dsimp only; omega, by dsimp only; omega⟩
    · exact ⟨hg, hr1, hr2⟩

theorem find_sigma_inv {n : Int} {a : Array Int} {z : Nat} {s : St α} {k r p : Int} (h : Inv n a z s) (hk : 0 ≤ k) (hkr : k < r) (hr : r < n)
    (hp1 : k ≤ p) (hp2 : p < n) :
    Inv n a z (find_sigma s k r p).2.2 ∧ k ≤ (find_sigma s k r p).2.1 ∧ (find_sigma s k r p).2.1 < n := by
  unfold find_sigma
  have h0 : Inv n a z ((if r < s.n - 1 then find_lambda s r else ((Sc.ofInt (-1) : α), p, s)) : α × Int × St α).2.2 ∧
      k ≤ ((if r < s.n - 1 then find_lambda s r else ((Sc.ofInt (-1) : α), p, s)) : α × Int × St α).2.1 ∧
      ((if r < s.n - 1 then find_lambda s r else ((Sc.ofInt (-1) : α), p, s)) : α × Int × St α).2.1 < n := by
    split
    · rename_i hlt
      rw [h.n] at hlt
      have := find_lambda_inv (k := r) h (by omega) (by omega)
      exact ⟨this.1, by omega, this.2.2⟩
    · exact ⟨h, hp1, hp2⟩
  generalize ((if r < s.n - 1 then find_lambda s r else ((Sc.ofInt (-1) : α), p, s)) : α × Int × St α) = init at h0
  obtain ⟨sg, p', s'⟩ := init
  simp only []
  apply ListFold.foldl_inv (fun (acc : α × Int × St α) => Inv n a z acc.2.2 ∧ k ≤ acc.2.1 ∧ acc.2.1 < n)
  · exact h0
  · rintro ⟨sg2, p2, s2⟩ j hj ⟨hs, hq1, hq2⟩
    have hj' := mem_intRange.1 hj
    have hg := hs.get (i := r) (j := j) ⟨by omega, by omega, hr⟩
    simp only []
    split
    · exact ⟨hg, by dsimp only; omega, by dsimp only; omega⟩
    · exact ⟨hg, hq1, hq2⟩

/-- `m_perm` after `pivoting_2x2(k, r, p)`: entries `k`, `k+1` are set to `p`, `r` and then encoded as `-x-1` -/
def perm2x2 (a : Array Int) (k r p : Int) : Array Int :=
  let a := (a.setIfInBounds k.toNat p).setIfInBounds (k + 1).toNat r
  let a := a.setIfInBounds k.toNat (-(a.getD k.toNat 0) - 1)
  a.setIfInBounds (k + 1).toNat (-(a.getD (k + 1).toNat 0) - 1)

theorem pivoting_2x2_inv {n : Int} {a : Array Int} {z : Nat} {s : St α} {k r p : Int} (h : Inv n a z s) (hk : 0 ≤ k) (hp1 : k ≤ p) (hp2 : p < n)
    (hr1 : k + 1 ≤ r) (hr2 : r < n) : Inv n (perm2x2 a k r p) z (pivoting_2x2 s k r p) := by
  unfold pivoting_2x2
  have h1 := pivoting_1x1_inv h hk hp1 hp2
  have h2 := pivoting_1x1_inv (k := k + 1) h1 (by omega) hr1 hr2
  have h3 := h2.swap (i1 := k + 1) (j1 := k) (i2 := r) (j2 := k) ⟨hk, by omega, by omega⟩ ⟨hk, by omega, hr2⟩
  have hk0 : 0 ≤ k ∧ k < n := ⟨hk, by omega⟩
  have hk1 : 0 ≤ k + 1 ∧ k + 1 < n := ⟨by omega, by omega⟩
  dsimp only
  refine ((((h3.getPerm hk0).setPerm hk0).getPerm hk1).setPerm hk1).cast ?_
  simp only [St.getPerm, St.setPerm, h3.perm]
  rfl

/-- same packed array, size and `m_perm` (only the access flag may differ) -/
def Same (s' s : St α) : Prop := s'.data = s.data ∧ s'.n = s.n ∧ s'.perm = s.perm

theorem Same.refl (s : St α) : Same s s := ⟨rfl, rfl, rfl⟩
theorem Same.trans {s'' s' s : St α} (h : Same s'' s') (h' : Same s' s) : Same s'' s :=
  ⟨h.1.trans h'.1, h.2.1.trans h'.2.1, h.2.2.trans h'.2.2⟩
theorem find_lambda_same (s : St α) (k : Int) : Same (find_lambda s k).2.2 s := by
  unfold find_lambda
  simp only []
  apply ListFold.foldl_inv (fun (acc : α × Int × St α) => Same acc.2.2 s)
  · exact Same.refl s
  · rintro ⟨a, r, s'⟩ i hi h
    simp only [] at h ⊢
    split <;> exact h

theorem find_sigma_same (s : St α) (k r p : Int) : Same (find_sigma s k r p).2.2 s := by
  unfold find_sigma
  have h0 : Same ((if r < s.n - 1 then find_lambda s r else ((Sc.ofInt (-1) : α), p, s)) : α × Int × St α).2.2 s := by
    split
    · exact find_lambda_same s r
    · exact Same.refl s
  generalize ((if r < s.n - 1 then find_lambda s r else ((Sc.ofInt (-1) : α), p, s)) : α × Int × St α) = init at h0
  obtain ⟨sg, p', s'⟩ := init
  simp only [] at h0 ⊢
  apply ListFold.foldl_inv (fun (acc : α × Int × St α) => Same acc.2.2 s)
  · exact h0
  · rintro ⟨a, r', s''⟩ i hi h
    simp only [] at h ⊢
    split <;> exact h

/-- what `permutate_mat` can return: nothing moved (only reads), or the 1x1 interchange `k ↔ r`, or the 2x2 interchange `k+1 ↔ r`,
    each on a state that differs from `s` in the access flag only -/
def PivCase (n k : Int) (s : St α) (res : Bool × Nat × St α) : Prop :=
  (∃ tag s', res = (true, tag, s') ∧ Good n s' ∧ Same s' s) ∨
  ∃ r s2, k + 1 ≤ r ∧ r < n ∧ Good n s2 ∧ Same s2 s ∧
    (res = (true, 3, interchange_rows (pivoting_1x1 s2 k r) k r 0 (k - 1)) ∨
     res = (false, 4, interchange_rows (interchange_rows (pivoting_2x2 s2 k r k) k k 0 (k - 1)) (k + 1) r 0 (k - 1)))

theorem permutate_mat_cases {n : Int} {s : St α} {k : Int} {alpha : α} (h : Good n s) (hk : 0 ≤ k) (hk1 : k + 1 < n) :
    PivCase n k s (permutate_mat s k alpha) := by
  unfold permutate_mat
  obtain ⟨hl, hr1, hr2⟩ := find_lambda_inv (Inv.of_good h) hk hk1
  have hls := find_lambda_same s k
  generalize find_lambda s k = fl at hl hr1 hr2 hls
  obtain ⟨lam, r, s1⟩ := fl
  dsimp only at hl hr1 hr2 hls ⊢
  -- the four tests of `permutate_mat`, in its order
  by_cases c1 : Sc.gt lam (zero : α) = true
  · rw [if_pos c1]
    have hg := hl.get (i := k) (j := k) ⟨hk, le_refl _, by omega⟩
    by_cases c2 : Sc.lt (Sc.abs (s1.get k k).1) (alpha * lam) = true
    · rw [if_pos c2]
      obtain ⟨hs, hp1, hp2⟩ := find_sigma_inv (p := k) hg hk (by omega) hr2 (le_refl _) (by omega)
      have hss := find_sigma_same (s1.get k k).2 k r k
      generalize find_sigma (s1.get k k).2 k r k = fs at hs hp1 hp2 hss
      obtain ⟨sg, p, s2⟩ := fs
      dsimp only at hs hp1 hp2 hss ⊢
      have e2 : Same s2 s := hss.trans hls
      by_cases c3 : Sc.lt (sg * Sc.abs (s1.get k k).1) (alpha * lam * lam) = true
      · rw [if_pos c3]
        have hg2 := (hs.get (i := r) (j := r) ⟨by omega, le_refl _, hr2⟩).good
        by_cases c4 : Sc.ge (Sc.abs (s2.get r r).1) (alpha * sg) = true
        · rw [if_pos c4]
          exact Or.inr ⟨r, (s2.get r r).2, hr1, hr2, hg2, e2, Or.inl rfl⟩
        · rw [if_neg c4]
          exact Or.inr ⟨r, (s2.get r r).2, hr1, hr2, hg2, e2, Or.inr rfl⟩
      · rw [if_neg c3]
        exact Or.inl ⟨2, s2, rfl, hs.good, e2⟩
    · rw [if_neg c2]
      exact Or.inl ⟨1, (s1.get k k).2, rfl, hg.good, hls⟩
  · rw [if_neg c1]
    exact Or.inl ⟨0, s1, rfl, hl.good, hls⟩

theorem Same.inv {n : Int} {a : Array Int} {z : Nat} {s' s : St α} (h : Same s' s) (hg : Good n s') (hs : Inv n a z s) : Inv n a z s' :=
  ⟨hg.1, hg.2, h.2.2.trans hs.perm, (congrArg Array.size h.1).trans hs.size⟩

theorem ge1_update_inv {n : Int} {a : Array Int} {z : Nat} {s : St α} {k ldim : Int} {akk : α} (h : Inv n a z s) (hk : 0 ≤ k)
    (hl : k + 1 + ldim ≤ n) : Inv n a z (ge1_update s k akk ldim) := by
  unfold ge1_update
  apply ListFold.foldl_inv (Inv n a z) _ _ _ h
  intro s j hj hs
  have hj' := mem_intRange.1 hj
  apply ListFold.foldl_inv (Inv n a z) _ _ _ (hs.get ⟨hk, by omega, by omega⟩)
  intro s t ht hs
  have ht' := mem_intRange.1 ht
  exact ((hs.get ⟨hk, by omega, by omega⟩).get ⟨by omega, by omega, by omega⟩).wr ⟨by omega, by omega, by omega⟩

theorem ge1_scale_inv {n : Int} {a : Array Int} {z : Nat} {s : St α} {k ldim : Int} {akk : α} (h : Inv n a z s) (hk : 0 ≤ k)
    (hl : k + 1 + ldim ≤ n) : Inv n a z (ge1_scale s k akk ldim) := by
  unfold ge1_scale
  apply ListFold.foldl_inv (Inv n a z) _ _ _ h
  intro s t ht hs
  have ht' := mem_intRange.1 ht
  exact (hs.get ⟨hk, by omega, by omega⟩).wr ⟨hk, by omega, by omega⟩

theorem ge1_inv {n : Int} {a : Array Int} {z : Nat} {s : St α} {k : Int} (h : Inv n a z s) (hk : 0 ≤ k) (hk1 : k < n) :
    Inv n a z (gaussian_elimination_1x1 s k).2 := by
  unfold gaussian_elimination_1x1
  have hkk : 0 ≤ k ∧ k ≤ k ∧ k < n := ⟨hk, le_refl _, hk1⟩
  have h1 := (h.get hkk).wr (v := scalarop_real (s.get k k).1) hkk
  simp only []
  split
  · exact h1
  · rw [h1.n]
    exact ge1_scale_inv (ge1_update_inv h1 hk (by omega)) hk (by omega)

theorem ge2_X_inv {n : Int} {a : Array Int} {z : Nat} {s : St α} {k ldim : Int} {e11 e21 e22 : α} (h : Inv n a z s) (hk : 0 ≤ k)
    (hl : k + 2 + ldim ≤ n) : Inv n a z (ge2_X s k e11 e21 e22 ldim).2.2 := by
  unfold ge2_X
  apply ListFold.foldl_inv (fun (acc : Array α × Array α × St α) => Inv n a z acc.2.2) _ _ _ h
  rintro ⟨x0, x1, s'⟩ t ht hs
  have ht' := mem_intRange.1 ht
  exact (hs.get ⟨hk, by omega, by omega⟩).get ⟨by omega, by omega, by omega⟩

theorem ge2_update_inv {n : Int} {a : Array Int} {z : Nat} {s : St α} {k ldim : Int} {x0 x1 : Array α} (h : Inv n a z s) (hk : 0 ≤ k)
    (hl : k + 2 + ldim ≤ n) : Inv n a z (ge2_update s k ldim x0 x1) := by
  unfold ge2_update
  apply ListFold.foldl_inv (Inv n a z) _ _ _ h
  intro s j hj hs
  have hj' := mem_intRange.1 hj
  apply ListFold.foldl_inv (Inv n a z) _ _ _ ((hs.get ⟨hk, by omega, by omega⟩).get ⟨by omega, by omega, by omega⟩)
  intro s t ht hs
  have ht' := mem_intRange.1 ht
  exact (hs.get ⟨by omega, by omega, by omega⟩).wr ⟨by omega, by omega, by omega⟩

theorem ge2_store_inv {n : Int} {a : Array Int} {z : Nat} {s : St α} {k ldim : Int} {x0 x1 : Array α} (h : Inv n a z s) (hk : 0 ≤ k)
    (hl : k + 2 + ldim ≤ n) : Inv n a z (ge2_store s k ldim x0 x1) := by
  unfold ge2_store
  apply ListFold.foldl_inv (Inv n a z)
  · apply ListFold.foldl_inv (Inv n a z) _ _ _ h
    intro s t ht hs
    have ht' := mem_intRange.1 ht
    exact hs.wr ⟨by omega, by omega, by omega⟩
  · intro s t ht hs
    have ht' := mem_intRange.1 ht
    exact hs.wr ⟨by omega, by omega, by omega⟩

theorem ge2_inv {n : Int} {a : Array Int} {z : Nat} {s : St α} {k : Int} (h : Inv n a z s) (hk : 0 ≤ k) (hk1 : k + 1 < n) :
    Inv n a z (gaussian_elimination_2x2 s k).2 := by
  unfold gaussian_elimination_2x2
  have hkk : 0 ≤ k ∧ k ≤ k ∧ k < n := ⟨hk, le_refl _, by omega⟩
  have hk2 : 0 ≤ k + 1 ∧ k + 1 ≤ k + 1 ∧ k + 1 < n := ⟨by omega, le_refl _, hk1⟩
  have hk3 : 0 ≤ k ∧ k ≤ k + 1 ∧ k + 1 < n := ⟨hk, by omega, hk1⟩
  have h1 := ((((h.get hkk).get hk2).wr (v := scalarop_real (s.get k k).1) hkk).wr
    (v := scalarop_real ((s.get k k).2.get (k + 1) (k + 1)).1) hk2).get hk3
  simp only []
  split
  · exact h1
  · rw [h1.n]
    exact ge2_store_inv (ge2_update_inv (ge2_X_inv h1 hk (by omega)) hk (by omega)) hk (by omega)

/-! ### packed offsets -/
theorem colptr_succ (n j : Int) : colptr n (j + 1) = colptr n j + (n - j) := by
  unfold colptr
  have e : (j + 1) * (j + 1 - 1) = j * (j - 1) + j * 2 := by ring
  rw [e, Int.add_mul_ediv_right _ _ (by norm_num : (2 : Int) ≠ 0)]; ring

theorem colptr_zero (n : Int) : colptr n 0 = 0 := by simp [colptr]

theorem colptr_n (n : Int) : colptr n n = packedSize n := by
  unfold colptr packedSize
  have e : n * (n + 1) = n * (n - 1) + n * 2 := by ring
  rw [e, Int.add_mul_ediv_right _ _ (by norm_num : (2 : Int) ≠ 0)]
  have h2 : 2 * (n * (n - 1) / 2) = n * (n - 1) := Int.two_mul_ediv_two_of_even (Int.even_mul_pred_self n)
  have : n * n = n * (n - 1) + n := by ring
  omega

theorem colptr_mono (n : Int) (j : Int) (m : Nat) (hm : j + m ≤ n) : colptr n j ≤ colptr n (j + m) := by
  induction m with
  | zero => simp
  | succ m ih =>
    have := ih (by push_cast at hm ⊢; omega)
    have e : j + ((m + 1 : Nat) : Int) = (j + m) + 1 := by push_cast; ring
    rw [e, colptr_succ]; push_cast at hm; omega

/-- the offset arithmetic of `coeff(i,j)` stays inside `m_data` -/
theorem off_bounds {n i j : Int} (h : 0 ≤ j ∧ j ≤ i ∧ i < n) : 0 ≤ off n i j ∧ off n i j < packedSize n := by
  obtain ⟨h0, h1, h2⟩ := h
  unfold off
  have a := colptr_mono n 0 j.toNat (by omega)
  have b := colptr_mono n (j + 1) (n - (j + 1)).toNat (by omega)
  have e1 : (0 : Int) + (j.toNat : Int) = j := by omega
  have e2 : j + 1 + ((n - (j + 1)).toNat : Int) = n := by omega
  rw [e1, colptr_zero] at a
  rw [e2, colptr_n, colptr_succ] at b
  omega

theorem shift_diag_inv {n : Int} {a : Array Int} {z : Nat} {s : St α} {j : Int} {shift : α} (h : Inv n a z s) (hj : 0 ≤ j ∧ j < n) :
    Inv n a z (shift_diag s j shift) := by
  unfold shift_diag
  exact (h.get ⟨hj.1, le_refl _, hj.2⟩).wr ⟨hj.1, le_refl _, hj.2⟩

end

/-! ### the two shapes of `copy_data` -/
section
variable {γ : Type} [Sub γ] [Sc γ]

/-- the `std::copy` path: column `j` is written entry by entry (`g j t` = the value for row `j + t`), then its diagonal is shifted -/
def copyFast (n : Int) (g : Int → Int → γ) (shift : γ) (s : St γ) : St γ :=
  (intRange 0 n).foldl (fun s j => shift_diag ((intRange 0 (n - j)).foldl (fun s t => s.wr (j + t) j (g j t)) s) j shift) s

/-- the element loop with the running `dest` pointer (`g j i` = the value for `coeff(i,j)`); the inner fold is written out for both
    components so that `copy_data_shape` holds by `rfl` against the `let acc := …` of the models -/
def copyGen (n : Int) (g : Int → Int → γ) (shift : γ) (s : St γ) : St γ :=
  ((intRange 0 n).foldl (fun (acc : Int × St γ) j =>
    ((((intRange j n).foldl (fun (acc : Int × St γ) i => (acc.1 + 1, acc.2.wrAt acc.1 i j (g j i))) acc).1,
      shift_diag ((intRange j n).foldl (fun (acc : Int × St γ) i => (acc.1 + 1, acc.2.wrAt acc.1 i j (g j i))) acc).2 j shift))) ((0 : Int), s)).2

theorem copyGen_congr {n : Int} {g g' : Int → Int → γ} (shift : γ) (s : St γ) (h : ∀ j i, 0 ≤ j → j ≤ i → i < n → g j i = g' j i) :
    copyGen n g shift s = copyGen n g' shift s := by
  unfold copyGen
  congr 1
  refine ListFold.foldl_congr_mem _ _ _ _ fun a j hj => ?_
  rw [ListFold.foldl_congr_mem (fun (acc : Int × St γ) i => (acc.1 + 1, acc.2.wrAt acc.1 i j (g j i)))
    (fun (acc : Int × St γ) i => (acc.1 + 1, acc.2.wrAt acc.1 i j (g' j i))) (intRange j n) a
    fun x i hi => by rw [h j i (mem_intRange.1 hj).1 (mem_intRange.1 hi).1 (mem_intRange.1 hi).2]]

/-- the element loop is the `std::copy` path when its values are those of the column read downwards: the running `dest` is the
    packed position of `coeff(i,j)`, at the head of a column the column pointer -/
theorem copyGen_eq_copyFast {n : Int} (g : Int → Int → γ) (shift : γ) (s : St γ) (hs : s.n = n) :
    copyGen n (fun j i => g j (i - j)) shift s = copyFast n g shift s := by
  unfold copyGen copyFast
  by_cases hn : 0 ≤ n
  swap
  · rw [intRange_empty 0 n (by omega)]; rfl
  have := ListFold.foldl_intRange_rel (fun j (a : Int × St γ) (b : St γ) => a = (colptr n j, b) ∧ b.n = n)
    (fun (acc : Int × St γ) j =>
      ((((intRange j n).foldl (fun (acc : Int × St γ) i => (acc.1 + 1, acc.2.wrAt acc.1 i j (g j (i - j)))) acc).1,
        shift_diag ((intRange j n).foldl (fun (acc : Int × St γ) i => (acc.1 + 1, acc.2.wrAt acc.1 i j (g j (i - j)))) acc).2 j shift)))
    (fun (s : St γ) j => shift_diag ((intRange 0 (n - j)).foldl (fun s t => s.wr (j + t) j (g j t)) s) j shift)
    0 n ((0 : Int), s) s hn ⟨by rw [colptr_zero], hs⟩ (fun j a b h1 h2 hp => by
      obtain ⟨rfl, hb⟩ := hp
      rw [ListFold.foldl_intRange_shift]
      have := ListFold.foldl_intRange_rel (fun t (x : Int × St γ) (y : St γ) => x = (colptr n j + t, y) ∧ y.n = n)
        (fun (acc : Int × St γ) t => (acc.1 + 1, acc.2.wrAt acc.1 (j + t) j (g j (j + t - j))))
        (fun (s : St γ) t => s.wr (j + t) j (g j t)) 0 (n - j) (colptr n j, b) b (by omega)
        ⟨by rw [Int.add_zero], hb⟩ (fun t x y _ _ hx => by
          obtain ⟨rfl, hy⟩ := hx
          refine ⟨?_, hy⟩
          dsimp only
          rw [show j + t - j = t by omega, Int.add_assoc]
          congr 1
          unfold St.wrAt St.wr
          rw [hy, show colptr n j + t = off n (j + t) j by unfold off; omega]
          simp)
      rw [this.1, colptr_succ]
      exact ⟨rfl, this.2⟩)
  exact congrArg Prod.snd this.1

end

section
variable {α : Type} [Add α] [Sub α] [Mul α] [Div α] [Neg α] [Sc α]

theorem copy_data_shape (s : St α) (src : Array α) (rm : Bool) (uplo : Int) (shift : α) :
    copy_data s src rm uplo shift =
      if (!rm) && decide (uplo = 1) then copyFast s.n (fun j t => src.getD (srcIdx false s.n j j + t).toNat zero) shift s
      else copyGen s.n (fun j i => if decide (uplo = 1) then srcCoeff src rm s.n i j else scalarop_conj (srcCoeff src rm s.n j i)) shift s := rfl

/-- the running `dest` of the element loop is the column pointer at the head of every column, so `wrAt` finds it at `off n i j` -/
theorem copyGen_inv {n : Int} {a : Array Int} {z : Nat} {g : Int → Int → α} {shift : α} {s : St α} (h : Inv n a z s) :
    Inv n a z (copyGen n g shift s) := by
  unfold copyGen
  by_cases hn : 0 ≤ n
  · refine (ListFold.foldl_intRange_inv (fun j (x : Int × St α) => Inv n a z x.2 ∧ x.1 = colptr n j) _ 0 n ((0 : Int), s) hn
      ⟨h, (colptr_zero n).symm⟩ ?_).1
    intro j x h1 h2 hp
    have := ListFold.foldl_intRange_inv (fun i (y : Int × St α) => Inv n a z y.2 ∧ y.1 = colptr n j + (i - j))
      (fun (acc : Int × St α) i => (acc.1 + 1, acc.2.wrAt acc.1 i j (g j i))) j n x (by omega) ⟨hp.1, by omega⟩
      (fun i y hi1 hi2 hy => ⟨hy.1.wrAt ⟨h1, hi1, hi2⟩ (by rw [hy.2]; rfl), by dsimp only; omega⟩)
    exact ⟨shift_diag_inv this.1 ⟨h1, h2⟩, by rw [colptr_succ]; exact this.2⟩
  · rw [intRange_empty 0 n (by omega)]; exact h

theorem copyFast_inv {n : Int} {a : Array Int} {z : Nat} {g : Int → Int → α} {shift : α} {s : St α} (h : Inv n a z s) :
    Inv n a z (copyFast n g shift s) := by
  rw [← copyGen_eq_copyFast g shift s h.n]
  exact copyGen_inv h

theorem copy_data_inv {n : Int} {a : Array Int} {z : Nat} {s : St α} {src : Array α} {rm : Bool} {uplo : Int} {shift : α} (h : Inv n a z s) :
    Inv n a z (copy_data s src rm uplo shift) := by
  rw [copy_data_shape, h.n]
  split
  · exact copyFast_inv h
  · exact copyGen_inv h

@[simp] theorem wr_n (s : St α) (i j : Int) (v : α) : (s.wr i j v).n = s.n := rfl
@[simp] theorem get_n (s : St α) (i j : Int) : (s.get i j).2.n = s.n := rfl
@[simp] theorem wrAt_n (s : St α) (d i j : Int) (v : α) : (s.wrAt d i j v).n = s.n := rfl

theorem wrAt_eq_wr (s : St α) (d i j : Int) (v : α) (h : d = off s.n i j) : s.wrAt d i j v = s.wr i j v := by
  simp only [St.wrAt, St.wr, h, decide_true, Bool.and_true]

theorem uplo_equal (src : Array α) (rm : Bool) (n : Int) (shift : α)
    (hsym : ∀ i j, 0 ≤ j → j ≤ i → i < n → srcCoeff src rm n i j = srcCoeff src rm n j i) :
    copy_data (initSt n) src rm 2 shift = copy_data (initSt n) src rm 1 shift := by
  have hn0 : (initSt (α := α) n).n = n := rfl
  rw [copy_data_shape, copy_data_shape, hn0, show ((!rm) && decide ((2 : Int) = 1)) = false by cases rm <;> decide,
    if_neg Bool.false_ne_true]
  -- Upper: the element loop, by symmetry with the values of the lower triangle
  rw [copyGen_congr (g' := fun j i => srcCoeff src rm n i j) _ _ fun j i hj hji hin => by
    rw [show decide ((2 : Int) = 1) = false by decide, if_neg Bool.false_ne_true]; exact (hsym i j hj hji hin).symm]
  cases rm
  · -- column-major: Lower is the `std::copy` path, whose value for row `j + t` is the memory cell `t` after `coeff(j,j)`
    rw [if_pos (by decide), ← copyGen_eq_copyFast _ _ _ hn0]
    refine copyGen_congr _ _ fun j i _ _ _ => ?_
    unfold srcCoeff srcIdx
    rw [if_neg Bool.false_ne_true, if_neg Bool.false_ne_true]
    congr 2; ring
  · rw [if_neg (by decide)]
    exact copyGen_congr _ _ fun j i _ _ _ => by rw [show decide ((1 : Int) = 1) = true by decide, if_pos rfl]

theorem initSt_inv (n : Int) : Inv n (initSt (α := α) n).perm (packedSize n).toNat (initSt (α := α) n) := ⟨rfl, rfl, rfl, by simp [initSt]⟩

/-! ### the pivot loop

  `computeLoop` of the real and of the complex model are the same loop around their own `permutate_mat` and eliminations.
  `Skel.pivotLoop` is that loop with the three routines as parameters; an invariant `J pos info state` of the blocks placed so far
  (`pos` = first row not yet in a block) is carried through it by `pivotLoop_inv`, for the invariants that need not know the
  position at exit (`loop_finv` of C10Factor, which relates it to `n`, has an induction of its own). -/
namespace Skel

def pivotLoop (pm : St α → Int → Bool × Nat × St α) (e1 e2 : St α → Int → Int × St α) :
    Nat → Int → Int → St α → List Nat → Int × Int × St α × List Nat
  | 0, k, info, s, tags => (k, info, s, tags)
  | fuel + 1, k, info, s, tags =>
    if k < s.n - 1 then
      let (is1, tag, s) := pm s k
      let (info, k, s) : Int × Int × St α :=
        if is1 then
          let (i, s) := e1 s k
          (i, k, s)
        else
          let (i, s) := e2 s k
          (i, k + 1, s)
      if compute_break info then (k, info, s, tag :: tags) else pivotLoop pm e1 e2 fuel (k + 1) info s (tag :: tags)
    else (k, info, s, tags)

/-- `kb` is the position up to which `J` holds at exit: the returned position, or one more after a `break` (the loop returns
    `k` resp. `k + 1` while the failed block is already counted); the first conjunct says the returned position did not go back. -/
theorem pivotLoop_inv {pm : St α → Int → Bool × Nat × St α} {e1 e2 : St α → Int → Int × St α} (J : Int → Int → St α → Prop)
    (h1 : ∀ k info s, J k info s → k < s.n - 1 → (pm s k).1 = true → J (k + 1) (e1 (pm s k).2.2 k).1 (e1 (pm s k).2.2 k).2)
    (h2 : ∀ k info s, J k info s → k < s.n - 1 → (pm s k).1 = false → J (k + 2) (e2 (pm s k).2.2 k).1 (e2 (pm s k).2.2 k).2)
    (fuel : Nat) (k info : Int) (s : St α) (tags : List Nat) (h : J k info s) :
    k ≤ (pivotLoop pm e1 e2 fuel k info s tags).1 ∧
    ∃ kb, J kb (pivotLoop pm e1 e2 fuel k info s tags).2.1 (pivotLoop pm e1 e2 fuel k info s tags).2.2.1 := by
  induction fuel generalizing k info s tags with
  | zero => exact ⟨le_refl _, k, h⟩
  | succ fuel ih =>
    unfold pivotLoop
    by_cases hlt : k < s.n - 1
    · rw [if_pos hlt]
      have a1 := h1 k info s h hlt
      have a2 := h2 k info s h hlt
      generalize pm s k = r at a1 a2
      obtain ⟨is1, tag, s1⟩ := r
      cases is1
      · have a := a2 rfl
        dsimp only at a
        simp only [Bool.false_eq_true, if_false]
        by_cases hb : compute_break (e2 s1 k).1 = true
        · rw [if_pos hb]
          exact ⟨by omega, k + 2, a⟩
        · rw [if_neg hb]
          have := ih (k + 1 + 1) _ _ (tag :: tags) (by rw [show k + 1 + 1 = k + 2 by ring]; exact a)
          exact ⟨by omega, this.2⟩
      · have a := a1 rfl
        dsimp only at a
        simp only [if_true]
        by_cases hb : compute_break (e1 s1 k).1 = true
        · rw [if_pos hb]
          exact ⟨le_refl _, k + 1, a⟩
        · rw [if_neg hb]
          have := ih (k + 1) _ _ (tag :: tags) a
          exact ⟨by omega, this.2⟩
    · rw [if_neg hlt]
      exact ⟨le_refl _, k, h⟩

end Skel

theorem computeLoop_eq (alpha : α) (fuel : Nat) (k info : Int) (s : St α) (tags : List Nat) :
    computeLoop alpha fuel k info s tags =
      Skel.pivotLoop (fun s k => permutate_mat s k alpha) gaussian_elimination_1x1 gaussian_elimination_2x2 fuel k info s tags := by
  induction fuel generalizing k info s tags with
  | zero => rfl
  | succ fuel ih => unfold computeLoop Skel.pivotLoop; simp only [ih]

/-- what `compute` (and `computeFrom`) does with the result of the pivot loop: `real` of a last 1x1 block, the final status, the
    compressed permutation; `rl` is `ScalarOp::real` of the instantiation -/
def Skel.finish (rl : α → α) (n : Int) (r : Int × Int × St α × List Nat) : Fact α :=
  let (k, info, s, tags) := r
  let (akk, s) : α × St α :=
    if k = n - 1 then
      let (d, s) := s.get k k
      let a := rl d
      (a, s.wr k k a)
    else (zero, s)
  { s := s, info := compute_final_info n k info akk, permc := compress_permutation (fun i => s.perm.getD i.toNat 0) n, tags := tags }

theorem compute_eq (src : Array α) (rm : Bool) (n uplo : Int) (shift alpha : α) :
    compute src rm n uplo shift alpha = Skel.finish scalarop_real n
      (computeLoop alpha n.toNat 0 (compute_init_info NotComputed) (copy_data (initSt n) src rm uplo shift) []) := rfl

theorem Skel.finish_inv {rl : α → α} {n : Int} {a : Array Int} {z : Nat} {r : Int × Int × St α × List Nat} (h : Inv n a z r.2.2.1) (hk : 0 ≤ r.1) :
    Inv n a z (Skel.finish rl n r).s := by
  unfold Skel.finish
  dsimp only
  split
  · rename_i e
    exact (h.get ⟨hk, le_refl _, by omega⟩).wr ⟨hk, le_refl _, by omega⟩
  · exact h

end
end BKLDLT
