/-
  C09, whole-run similarity of UpperHessenbergSchur: function-level window lemmas, for any window operation (`Win`, C09SchurMat).
  The code applies a reflector / rotation only to a WINDOW of the matrix (columns `≥ k` on the left, rows `< nr` on the right);
  given the zero pattern of a Hessenberg matrix with a bulge these windowed applications equal the full products on the columns
  `≥ k`, leave the columns `< k−1` alone, and the column `k−1` is where the code writes `β` instead of transforming.
  `Pat` is the zero pattern carried along a Francis sweep (upper Hessenberg + the 3-entry bulge + the decoupling zero `(iu+1, iu)`).
-/
import SpectraVerif.Proofs.C09SchurMat

set_option linter.unusedSectionVars false

namespace C09SS
open C09Step C09Sim C09OrthU Finset
open scoped Matrix

section fn
variable {R : Type} [CommRing R]

/-- the code's windowed applications: from the left only on the columns `≥ c0`, from the right only on the rows `< nr` -/
def wl (op : (ℕ → R) → ℕ → R) (c0 : ℕ) (M : ℕ → ℕ → R) : ℕ → ℕ → R := fun i j => if c0 ≤ j then lmul op M i j else M i j
def wr (op : (ℕ → R) → ℕ → R) (nr : ℕ) (M : ℕ → ℕ → R) : ℕ → ℕ → R := fun i j => if i < nr then rmul op M i j else M i j

variable {k w : ℕ} {op : (ℕ → R) → ℕ → R}

/-- a column left of the window whose window rows vanish is not changed by `Qᵀ L Q` -/
theorem Win.conj_left_col (W : Win k w op) (L : ℕ → ℕ → R) (i j : ℕ) (hj : j < k) (z : ∀ a, k ≤ a → a < k + w → L a j = 0) :
    rmul op (lmul op L) i j = L i j :=
  (W.out _ j (Or.inl hj)).trans (W.zero _ i z)

/-- on the columns `≥ k` the windowed applications ARE `Qᵀ L Q`, if `L` (which agrees with `A` there) vanishes in the window columns
    from row `nr` on -/
theorem Win.wlr_right (W : Win k w op) (n nr : ℕ) (hk : k + w ≤ n) (hnr : k + w ≤ nr) (A L : ℕ → ℕ → R)
    (hAL : ∀ i j, i < n → j < n → k ≤ j → A i j = L i j)
    (hZ : ∀ i a, nr ≤ i → i < n → k ≤ a → a < k + w → L i a = 0) (i j : ℕ) (hi : i < n) (hj : j < n) (hkj : k ≤ j) :
    wr op nr (wl op k A) i j = rmul op (lmul op L) i j := by
  have X : ∀ i j, i < n → j < n → k ≤ j → wl op k A i j = lmul op L i j := fun i j hi hj hkj => by
    simp only [wl, if_pos hkj, lmul]
    exact W.congr _ _ i (fun a h1 h2 => hAL a j (by omega) hj hkj) (hAL i j hi hj hkj)
  simp only [wr]
  by_cases hlt : i < nr
  · rw [if_pos hlt]
    exact W.congr _ _ j (fun a h1 h2 => X i a hi (by omega) h1) (X i j hi hj hkj)
  · rw [if_neg hlt, X i j hi hj hkj]
    refine (W.zero _ j (fun a h1 h2 => ?_)).symm
    exact (W.out _ i (Or.inr (by omega))).trans (hZ i a (by omega) hi h1 h2)

/-- the columns `< k` are not touched -/
theorem Win.wlr_left (W : Win k w op) (nr : ℕ) (A : ℕ → ℕ → R) (i j : ℕ) (hjk : j < k) : wr op nr (wl op k A) i j = A i j := by
  have e : wl op k A i j = A i j := if_neg (by omega)
  simp only [wr]; split
  · exact (W.out _ j (Or.inl hjk)).trans e
  · exact e

/-- **the window**: the code writes `bval` at `(k, k−1)` and then applies `op` to the columns `≥ k` from the left and to the rows `< nr`
    from the right -/
theorem Win.window (W : Win k w op) (n nr : ℕ) (hk : k + w ≤ n) (hnr : k + w ≤ nr) (A L T0 A' : ℕ → ℕ → R) (bval : R)
    (hAL : ∀ i j, i < n → j < n → k ≤ j → A i j = L i j)
    (hZ : ∀ i a, nr ≤ i → i < n → k ≤ a → a < k + w → L i a = 0)
    (g0 : ∀ i j, i < n → j < n → T0 i j = if i = k ∧ j + 1 = k then bval else A i j)
    (g1 : ∀ i j, i < n → j < n → A' i j = wr op nr (wl op k T0) i j) :
    (∀ i j, i < n → j < n → k ≤ j → A' i j = rmul op (lmul op L) i j) ∧
    (∀ i j, i < n → j < n → j < k → A' i j = if i = k ∧ j + 1 = k then bval else A i j) :=
  ⟨fun i j hi hj hkj => (g1 i j hi hj).trans (W.wlr_right n nr hk hnr T0 L
      (fun i j hi hj hkj => by rw [g0 i j hi hj, if_neg (by omega), hAL i j hi hj hkj]) hZ i j hi hj hkj),
    fun i j hi hj hjk => by rw [g1 i j hi hj, W.wlr_left nr T0 i j hjk, g0 i j hi hj]⟩

/-- the bulge of a Francis sweep (window `im .. iu`) before the reflector `k` is applied -/
def Bulge (im iu k i j : ℕ) : Prop := im < k ∧ i ≤ iu ∧ ((j + 1 = k ∧ (i = k + 1 ∨ i = k + 2)) ∨ (j = k ∧ i = k + 2))

/-- the bulge sits in the rows `k+1, k+2` (not below `iu`) of the columns `k−1, k`, and there is none in front of the first reflector -/
theorem not_bulge {im iu k i j : ℕ} (h : k + 3 ≤ i ∨ iu < i ∨ i ≤ k ∨ k < j ∨ j + 2 ≤ k ∨ k ≤ im) : ¬ Bulge im iu k i j := by
  unfold Bulge; omega

/-- zero pattern along a sweep: upper Hessenberg except for the bulge, and `(iu+1, iu)` is zero -/
def Pat (n im iu k : ℕ) (L : ℕ → ℕ → R) : Prop :=
  ∀ i j, i < n → j < n → (j + 2 ≤ i ∨ (i = iu + 1 ∧ j = iu)) → ¬ Bulge im iu k i j → L i j = 0

set_option linter.unusedVariables false in
/-- pattern after a skipped reflector (only the two bulge entries of column `k−1` are dropped) -/
theorem pat_skip (n im iu k : ℕ) (hik : im ≤ k) (L L' : ℕ → ℕ → R) (hP : Pat n im iu k L)
    (h : ∀ i j, i < n → j < n → L' i j = if j + 1 = k ∧ (i = k + 1 ∨ i = k + 2) then 0 else L i j) :
    Pat n im iu (k + 1) L' := by
  intro i j hi hj hpos hnb
  rw [h i j hi hj]
  split
  · rfl
  · rename_i hne
    apply hP i j hi hj hpos
    intro hb; apply hnb; unfold Bulge at hb ⊢; omega

/-- the spike: three entries in column `k − 1` (nothing when `k = 0`) -/
def spike (k : ℕ) (d0 d1 d2 : R) : ℕ → ℕ → R := fun i j =>
  if j + 1 = k then (if i = k then d0 else if i = k + 1 then d1 else if i = k + 2 then d2 else 0) else 0

theorem spike_sgl (n k : ℕ) (d0 d1 d2 : R) :
    mat n (spike k d0 d1 d2) = mat n (sgl k (k - 1) (if k = 0 then 0 else d0)) + mat n (sgl (k + 1) (k - 1) (if k = 0 then 0 else d1)) +
      mat n (sgl (k + 2) (k - 1) (if k = 0 then 0 else d2)) := by
  ext i j
  simp only [mat, Matrix.of_apply, Matrix.add_apply, spike, sgl]
  by_cases hk : k = 0
  · subst hk; simp
  · simp only [if_neg hk]
    by_cases hj : j.val + 1 = k
    · rw [if_pos hj]
      by_cases h0 : i.val = k
      · rw [if_pos h0, if_pos ⟨h0, by omega⟩, if_neg (by omega), if_neg (by omega)]; ring
      · by_cases h1 : i.val = k + 1
        · rw [if_neg h0, if_pos h1, if_neg (by omega), if_pos ⟨h1, by omega⟩, if_neg (by omega)]; ring
        · by_cases h2 : i.val = k + 2
          · rw [if_neg h0, if_neg h1, if_pos h2, if_neg (by omega), if_neg (by omega), if_pos ⟨h2, by omega⟩]; ring
          · rw [if_neg h0, if_neg h1, if_neg h2, if_neg (by omega), if_neg (by omega), if_neg (by omega)]; ring
    · rw [if_neg hj, if_neg (by omega), if_neg (by omega), if_neg (by omega)]; ring

/-- the logical matrix during a sweep: in the columns `im ≤ j ≤ k − 2` (already chased) everything from row `j + 2` downwards is
    regarded as `0` — the stored values there are the stale bulge entries the clean-up loop zeroes at the end -/
def live (im k : ℕ) (A : ℕ → ℕ → R) : ℕ → ℕ → R := fun i j => if im ≤ j ∧ j + 2 ≤ k ∧ j + 2 ≤ i then 0 else A i j

theorem live_right (im k : ℕ) (A : ℕ → ℕ → R) (i j : ℕ) (h : k ≤ j + 1) : live im k A i j = A i j := by
  simp only [live]; rw [if_neg (by omega)]

/-- left of column `k − 1` the logical matrices before and after step `k` read the same stored entries -/
theorem live_far (im k : ℕ) (A A' : ℕ → ℕ → R) (i j : ℕ) (hjk : j + 1 < k) (eA : A' i j = A i j) :
    live im (k + 1) A' i j = live im k A i j := by
  simp only [live, eA]
  by_cases hd : im ≤ j ∧ j + 2 ≤ k ∧ j + 2 ≤ i
  · rw [if_pos hd, if_pos (by omega)]
  · rw [if_neg hd, if_neg (by omega)]

/-- what the step leaves in column `k − 1` besides `Qᵀ L Q`: the transformed column minus `bval e_k` -/
def wspike (op : (ℕ → R) → ℕ → R) (k w : ℕ) (A : ℕ → ℕ → R) (bval : R) : ℕ → ℕ → R := fun i j =>
  if j + 1 = k ∧ k ≤ i ∧ i < k + w then op (fun a => A a (k - 1)) i - (if i = k then bval else 0) else 0

/-- **one windowed step on the logical matrix**: `A` = stored entries before, `A'` = after.  On the columns `≥ k` the code computed
    `Qᵀ L Q` (`hR`), on the columns `< k` it only wrote `bval` (`hLft`); the zero pattern enters through `za` (window rows vanish left of
    column `k − 1`), `zb` (column `k − 1` vanishes below the window) and `zc` (first step of a sweep: it vanishes below row `k`). -/
theorem Win.step (W : Win k w op) (hw : 0 < w) (n im : ℕ) (A A' : ℕ → ℕ → R) (bval : R)
    (hR : ∀ i j, i < n → j < n → k ≤ j → A' i j = rmul op (lmul op (live im k A)) i j)
    (hLft : ∀ i j, i < n → j < n → j < k → A' i j = if i = k ∧ j + 1 = k then bval else A i j)
    (za : ∀ a j, k ≤ a → a < k + w → j + 1 < k → live im k A a j = 0)
    (zb : ∀ i, k + w ≤ i → i < n → 0 < k → A i (k - 1) = 0)
    (zc : ∀ i, k < i → i < k + w → 0 < k → k ≤ im → A i (k - 1) = 0) :
    ∀ i j, i < n → j < n → live im (k + 1) A' i j = rmul op (lmul op (live im k A)) i j - wspike op k w A bval i j := by
  intro i j hi hj
  by_cases hkj : k ≤ j
  · rw [live_right im (k + 1) A' i j (by omega), hR i j hi hj hkj]; simp only [wspike]; rw [if_neg (by omega), sub_zero]
  · by_cases hjc : j + 1 = k
    · have hc : k - 1 = j := by omega
      have ecol : (fun a => live im k A a j) = fun a => A a j := funext fun a => live_right im k A a j (by omega)
      have eR : rmul op (lmul op (live im k A)) i j = op (fun a => A a j) i :=
        (W.out _ j (Or.inl (by omega))).trans (by simp only [lmul, ecol])
      rw [eR]; simp only [wspike, live]; rw [hc]
      have hsp : (j + 1 = k ∧ k ≤ i ∧ i < k + w) ↔ (k ≤ i ∧ i < k + w) := and_iff_right hjc
      have hlv : (im ≤ j ∧ j + 2 ≤ k + 1 ∧ j + 2 ≤ i) ↔ (im ≤ j ∧ k < i) := by omega
      simp only [hsp, hlv]
      by_cases e0 : i = k
      · rw [if_neg (by omega), if_pos (by omega), if_pos e0, hLft i j hi hj (by omega), if_pos ⟨e0, hjc⟩]; ring
      · rw [show A' i j = A i j by rw [hLft i j hi hj (by omega), if_neg (by omega)]]
        by_cases hin : k ≤ i ∧ i < k + w
        · rw [if_pos hin, if_neg e0, sub_zero, sub_self]
          by_cases hd : im ≤ j ∧ k < i
          · rw [if_pos hd]
          · rw [if_neg hd, ← hc]; exact zc i (by omega) hin.2 (by omega) (by omega)
        · rw [if_neg hin, sub_zero, W.out _ i (by omega)]
          by_cases hd : im ≤ j ∧ k < i
          · rw [if_pos hd, ← hc]; exact (zb i (by omega) hi (by omega)).symm
          · rw [if_neg hd]
    · rw [live_far im k A A' i j (by omega) (by rw [hLft i j hi hj (by omega), if_neg (by omega)]),
        W.conj_left_col _ i j (by omega) (fun a h1 h2 => za a j h1 h2 (by omega))]
      simp only [wspike]; rw [if_neg (by omega), sub_zero]

theorem wspike_P (k : ℕ) (v1 v2 tau bval : R) (A : ℕ → ℕ → R) (i j : ℕ) :
    wspike (opP k v1 v2 tau) k 3 A bval i j =
      spike k (A k (k - 1) - tau * (A k (k - 1) + v1 * A (k + 1) (k - 1) + v2 * A (k + 2) (k - 1)) - bval)
        (A (k + 1) (k - 1) - tau * (A k (k - 1) + v1 * A (k + 1) (k - 1) + v2 * A (k + 2) (k - 1)) * v1)
        (A (k + 2) (k - 1) - tau * (A k (k - 1) + v1 * A (k + 1) (k - 1) + v2 * A (k + 2) (k - 1)) * v2) i j := by
  simp only [wspike, spike, opP, wv]
  by_cases hj : j + 1 = k
  · simp only [hj, true_and, if_true]
    by_cases e0 : i = k
    · rw [if_pos (by omega), if_pos e0, if_pos e0, if_pos e0, mul_one, e0]
    · by_cases e1 : i = k + 1
      · rw [if_pos (by omega), if_neg e0, if_neg e0, if_neg e0, if_pos e1, if_pos e1, sub_zero, e1]
      · by_cases e2 : i = k + 2
        · rw [if_pos (by omega), if_neg e0, if_neg e0, if_neg e0, if_neg e1, if_neg e1, if_pos e2, if_pos e2, sub_zero, e2]
        · rw [if_neg (by omega), if_neg e0, if_neg e1, if_neg e2]
  · rw [if_neg (by omega), if_neg hj]

theorem wspike_G (k : ℕ) (c s bval : R) (A : ℕ → ℕ → R) (i j : ℕ) :
    wspike (opG k c s) k 2 A bval i j =
      spike k (c * A k (k - 1) - s * A (k + 1) (k - 1) - bval) (s * A k (k - 1) + c * A (k + 1) (k - 1)) 0 i j := by
  simp only [wspike, spike, opG]
  by_cases hj : j + 1 = k
  · simp only [hj, true_and, if_true]
    by_cases e0 : i = k
    · rw [if_pos (by omega), if_pos e0, if_pos e0, if_pos e0]
    · by_cases e1 : i = k + 1
      · rw [if_pos (by omega), if_neg e0, if_neg e0, if_neg e0, if_pos e1, if_pos e1, sub_zero]
      · rw [if_neg (by omega), if_neg e0, if_neg e1, ite_self]
  · rw [if_neg (by omega), if_neg hj]

/-- pattern after an applied reflector: the bulge moves one step down -/
theorem pat_refl (n im iu k : ℕ) (hik : im ≤ k) (hk2 : k + 2 ≤ iu) (hiu : iu < n) (L L' X : ℕ → ℕ → R) (v1 v2 tau bval : R)
    (hP : Pat n im iu k L) (hX : ∀ a, 0 < k → X a (k - 1) = L a (k - 1))
    (hT : ∀ i j, i < n → j < n →
      L' i j = rmul (opP k v1 v2 tau) (lmul (opP k v1 v2 tau) L) i j - wspike (opP k v1 v2 tau) k 3 X bval i j) :
    Pat n im iu (k + 1) L' := by
  have W := winP k v1 v2 tau
  intro i j hi hj hpos hnb
  rw [hT i j hi hj]; simp only [wspike, rmul]
  by_cases hjk : k ≤ j
  · rw [if_neg (by omega), sub_zero]
    have hi3 : k + 3 ≤ i := by
      by_contra hcon; apply hnb; unfold Bulge; omega
    have e : lmul (opP k v1 v2 tau) L i = L i := funext fun b => W.out _ i (Or.inr hi3)
    rw [e]
    by_cases hb : i = k + 3 ∧ i ≤ iu
    · exfalso; apply hnb; unfold Bulge; omega
    · rw [W.zero _ j (fun a h1 h2 => hP i a hi (by omega) (by omega) (not_bulge (by omega)))]
      exact hP i j hi hj hpos (not_bulge (by omega))
  · by_cases hjc : j + 1 = k
    · have e : lmul (opP k v1 v2 tau) L i j = opP k v1 v2 tau (fun a => X a (k - 1)) i :=
        congrArg (fun x => opP k v1 v2 tau x i) (funext fun a => by rw [hX a (by omega), show k - 1 = j by omega])
      rw [W.out _ j (Or.inl (by omega)), e]
      by_cases hin : i < k + 3
      · rw [if_pos ⟨hjc, by omega, hin⟩, if_neg (by omega), sub_zero, sub_self]
      · rw [if_neg (by omega), sub_zero, W.out _ i (by omega), hX i (by omega), show k - 1 = j by omega]
        exact hP i j hi hj hpos (not_bulge (by omega))
    · rw [if_neg (by omega), sub_zero, show opP k v1 v2 tau (lmul (opP k v1 v2 tau) L i) j = L i j from
        W.conj_left_col L i j (by omega) (fun a h1 h2 => hP a j (by omega) hj (Or.inl (by omega)) (not_bulge (by omega)))]
      exact hP i j hi hj hpos (not_bulge (by omega))

/-- **one window step of a sweep**: the code writes `bval` at `(k, k−1)` and applies `op` to the columns `≥ k` from the left and to the
    rows `< nr` from the right; on the logical matrix this is `Qᵀ L Q` minus the spike in column `k − 1`.  The window is the 3 rows of a
    reflector (`3 ≤ w`) or ends at `iu` (closing rotation). -/
theorem Win.pat_step (W : Win k w op) (n im iu nr : ℕ) (hw : 2 ≤ w) (hkw : k + w ≤ iu + 1) (hiu : iu < n) (h3 : 3 ≤ w ∨ iu < k + w)
    (hnr : k + w + 1 ≤ nr ∨ (iu < nr ∧ k + w ≤ nr)) (A T0 A' : ℕ → ℕ → R) (bval : R)
    (hP : Pat n im iu k (live im k A))
    (g0 : ∀ i j, i < n → j < n → T0 i j = if i = k ∧ j + 1 = k then bval else A i j)
    (g1 : ∀ i j, i < n → j < n → A' i j = wr op nr (wl op k T0) i j) :
    ∀ i j, i < n → j < n → live im (k + 1) A' i j = rmul op (lmul op (live im k A)) i j - wspike op k w A bval i j := by
  have hc : ∀ i, 0 < k → live im k A i (k - 1) = A i (k - 1) := fun i h => live_right im k A i (k - 1) (by omega)
  obtain ⟨hR, hLft⟩ := W.window n nr (by omega) (by omega) A _ T0 A' bval
    (fun i j _ _ h => (live_right im k A i j (by omega)).symm)
    (fun i a h1 hi h2 h3 => hP i a hi (by omega) (by omega) (not_bulge (by omega))) g0 g1
  exact W.step (by omega) n im A A' bval hR hLft
    (fun a j h1 h2 hj => hP a j (by omega) (by omega) (Or.inl (by omega)) (not_bulge (by omega)))
    (fun i h1 hi h0 => (hc i h0).symm.trans (hP i (k - 1) hi (by omega) (Or.inl (by omega)) (not_bulge (by omega))))
    (fun i h1 h2 h0 hm => (hc i h0).symm.trans (hP i (k - 1) (by omega) (by omega) (Or.inl (by omega)) (not_bulge (by omega))))

/-- nothing applied: the windowed application of the identity -/
theorem wlr_id (nr c0 : ℕ) (M : ℕ → ℕ → R) : wr (fun x => x) nr (wl (fun x => x) c0 M) = M := by
  funext i j; simp only [wr, wl, rmul, lmul, ite_self]

/-- writing back the entry that is there -/
theorem self_write (A : ℕ → ℕ → R) (k i j : ℕ) : A i j = if i = k ∧ j + 1 = k then A k (k - 1) else A i j := by
  split
  · rename_i h; rw [h.1, show k - 1 = j by omega]
  · rfl

end fn

section field
variable {K : Type} [Field K] [LinearOrder K] [IsStrictOrderedRing K]

/-- adding a spike costs at most the sum of the magnitudes of its three entries -/
theorem bnd_add_spike {n : ℕ} {E : Matrix (Fin n) (Fin n) K} {b : K} (h : Bnd E b) (k : ℕ) (d0 d1 d2 : K) :
    Bnd (E + mat n (spike k d0 d1 d2)) (b + (if k = 0 then 0 else |d0| + |d1| + |d2|)) := by
  rw [spike_sgl]
  have h1 := bnd_add_sgl (bnd_add_sgl (bnd_add_sgl h k (k - 1) (if k = 0 then 0 else d0)) (k + 1) (k - 1) (if k = 0 then 0 else d1))
    (k + 2) (k - 1) (if k = 0 then 0 else d2)
  rw [← add_assoc, ← add_assoc]
  refine bnd_mono h1 ?_
  by_cases hk : k = 0
  · simp [hk]
  · simp only [if_neg hk]; linarith

end field
end C09SS
