/-
  C08 — the first stored reflector of `DoubleShiftQR::compute` is the one computed from the first column of `H² − sH + tI`.

  * `Inv0`, `refStep_frame` … `blocks_frame`, `compute_first_reflector`: every later `compute_reflector(…, ind)`, `ind ≠ 0`, writes only
    column `ind` of `m_ref_u` and entry `ind` of `m_ref_nr`, so column 0 and `m_ref_nr[0]` survive the rest of the first block and all
    later blocks.
  * `compute_first_col_parallel'`: `C08DsqrMatrix.dsqr_first_col_parallel` instantiated at `q = compute mat s t`.
-/
import SpectraVerif.Proofs.C08DsqrMatrix
import SpectraVerif.Proofs.C08DsqrPass

namespace C08DsqrMatrix
open Lin QRModel C08Mat C08DsqrQ
open QRModel.DoubleShiftQR
open Matrix
open C08HessMatrix (toM)

section AtField
variable {K : Type} [Field K] [LinearOrder K] [IsStrictOrderedRing K] (F : FieldFns K)

/-- column 0 of `m_ref_u` is `(a, b, c)` and `m_ref_nr[0] = v` (with the shapes that make the reads meaningful) -/
def Inv0 (n : Nat) (a b c : K) (v : Nat) (st : St K) : Prop :=
  WF st.2.1 ∧ st.2.1.rows = 3 ∧ st.2.1.cols = n ∧ st.2.2.size = n ∧ mget F st.2.1 0 0 = a ∧ mget F st.2.1 1 0 = b ∧
    mget F st.2.1 2 0 = c ∧ st.2.2.getD 0 0 = v

/-! the steps of `update_block` (`C08Steps.update_block_steps`) at an index `≠ 0` leave column 0 alone -/

theorem refStep_frame (n : Nat) (a b c : K) (v : Nat) {st : St K} (h : Inv0 F n a b c v st)
    (x1 x2 x3 : K) {ind : Nat} (hind : ind ≠ 0) (a1 a2 a3 a4 b1 b2 b3 b4 : Nat) :
    Inv0 F n a b c v (@C08Steps.refStep K _ _ _ _ _ (scOfField F) st x1 x2 x3 ind a1 a2 a3 a4 b1 b2 b3 b4) := by
  obtain ⟨w, r, cc, sz, g0, g1, g2, gv⟩ := h
  obtain ⟨d1, d2, d3, d4⟩ := cRef_dims F w st.2.2 x1 x2 x3 ind
  obtain ⟨e1, e2⟩ := cRef_other F w r st.2.2 x1 x2 x3 (Ne.symm hind)
  exact ⟨d1, d2.trans r, d3.trans cc, d4.trans sz, (e2 0 (by omega)).trans g0, (e2 1 (by omega)).trans g1,
    (e2 2 (by omega)).trans g2, e1.trans gv⟩

theorem endStep_frame (n : Nat) (a b c : K) (v : Nat) {st : St K} (h : Inv0 F n a b c v st) {ind : Nat} (hind : ind ≠ 0) :
    Inv0 F n a b c v (C08Steps.endStep st ind) := by
  obtain ⟨w0, r, cc, sz, g0, g1, g2, gv⟩ := h
  refine ⟨w0, r, cc, Array.size_setIfInBounds.trans sz, g0, g1, g2, ?_⟩
  show (st.2.2.setIfInBounds ind 1).getD 0 0 = v
  rw [C08Mat.getD_set, if_neg (fun e => hind e.1.symm)]; exact gv

theorem chase_fold_frame (n : Nat) (a b c : K) (v : Nat) (N il iu : Nat) (m : Nat) {st : St K}
    (h : Inv0 F n a b c v st) : Inv0 F n a b c v (@C08Steps.chaseRun K _ _ _ _ _ (scOfField F) N il iu st m) :=
  ListFold.foldl_inv (Inv0 F n a b c v) _ _ st h
    (fun _ k _ hs => refStep_frame F n a b c v hs _ _ _ (Nat.succ_ne_zero (il + k)) _ _ _ _ _ _ _ _)

/-- the first `compute_reflector` call of `update_block(il, iu)` for a block of size ≥ 3 on the state `st`: its arguments are
    `(m00, m10, m20)`, the first column of `H² − sH + tI` on the block, computed from the leading entries of `H = st.1` -/
def firstRef (s t : K) (st : St K) (il : Nat) : Mat K × Array Nat :=
  C08Refl.cRef F st.2.1 st.2.2
    (C08Local.fc0 F (mget F st.1 il il) (mget F st.1 il (il + 1)) (mget F st.1 (il + 1) il) s t)
    (C08Local.fc1 F (mget F st.1 il il) (mget F st.1 (il + 1) il) (mget F st.1 (il + 1) (il + 1)) s)
    (C08Local.fc2 F (mget F st.1 (il + 2) (il + 1)) (mget F st.1 (il + 1) il)) il

theorem firstRef_eq (s t : K) (st : St K) (il : Nat) :
    firstRef F s t st il = C08Refl.cRef F st.2.1 st.2.2
      (C08Local.fc0 F (mget F st.1 il il) (mget F st.1 il (il + 1)) (mget F st.1 (il + 1) il) s t)
      (C08Local.fc1 F (mget F st.1 il il) (mget F st.1 (il + 1) il) (mget F st.1 (il + 1) (il + 1)) s)
      (C08Local.fc2 F (mget F st.1 (il + 2) (il + 1)) (mget F st.1 (il + 1) il)) il := rfl

/-- a block that does not start at 0 leaves column 0 of `m_ref_u` and `m_ref_nr[0]` alone -/
theorem ub_frame (n : Nat) (a b c : K) (v : Nat) (N : Nat) (s t : K) (st : St K) (il iu : Nat)
    (hil : 1 ≤ il) (hle : il ≤ iu) (h : Inv0 F n a b c v st) : Inv0 F n a b c v (C08Nr.ub F N s t st il iu) := by
  unfold C08Nr.ub
  rw [@C08Steps.update_block_steps K _ _ _ _ _ (scOfField F)]
  by_cases h1 : (iu - il + 1 == 1) = true
  · rw [if_pos h1]
    exact endStep_frame F n a b c v h (by omega)
  · rw [if_neg h1]
    have h1' : iu - il + 1 ≠ 1 := fun e => h1 (beq_iff_eq.mpr e)
    by_cases h2 : (iu - il + 1 == 2) = true
    · rw [if_pos h2]
      exact endStep_frame F n a b c v (refStep_frame F n a b c v h _ _ _ (by omega) _ _ _ _ _ _ _ _) (by omega)
    · rw [if_neg h2]
      have h2' : iu - il + 1 ≠ 2 := fun e => h2 (beq_iff_eq.mpr e)
      exact endStep_frame F n a b c v
        (refStep_frame F n a b c v
          (chase_fold_frame F n a b c v N il _ _ (refStep_frame F n a b c v h _ _ _ (by omega) _ _ _ _ _ _ _ _))
          _ _ _ (by omega) _ _ _ _ _ _ _ _) (by omega)

/-- the block starting at 0, of size ≥ 3: column 0 and `m_ref_nr[0]` are those of the first `compute_reflector` call -/
theorem ub_first (n : Nat) (N : Nat) (s t : K) (st : St K) (iu : Nat) (h3 : 3 ≤ iu + 1)
    (hw : WF st.2.1) (hr : st.2.1.rows = 3) (hc : st.2.1.cols = n) (hsz : st.2.2.size = n) :
    Inv0 F n
      (mget F (firstRef F s t st 0).1 0 0)
      (mget F (firstRef F s t st 0).1 1 0)
      (mget F (firstRef F s t st 0).1 2 0)
      ((firstRef F s t st 0).2.getD 0 0)
      (C08Nr.ub F N s t st 0 iu) := by
  obtain ⟨d1, d2, d3, d4⟩ := cRef_dims F hw st.2.2
    (C08Local.fc0 F (mget F st.1 0 0) (mget F st.1 0 (0 + 1)) (mget F st.1 (0 + 1) 0) s t)
    (C08Local.fc1 F (mget F st.1 0 0) (mget F st.1 (0 + 1) 0) (mget F st.1 (0 + 1) (0 + 1)) s)
    (C08Local.fc2 F (mget F st.1 (0 + 2) (0 + 1)) (mget F st.1 (0 + 1) 0)) 0
  unfold C08Nr.ub
  rw [@C08Steps.update_block_steps K _ _ _ _ _ (scOfField F), if_neg (by simp; omega), if_neg (by simp; omega)]
  refine endStep_frame F n _ _ _ _ (refStep_frame F n _ _ _ _ (chase_fold_frame F n _ _ _ _ N 0 _ _ ?_) _ _ _
    (by omega) _ _ _ _ _ _ _ _) (by omega)
  show Inv0 F n _ _ _ _ (_, (firstRef F s t st 0).1, (firstRef F s t st 0).2)
  exact ⟨d1, d2.trans hr, d3.trans hc, d4.trans hsz, rfl, rfl, rfl, rfl⟩

/-- the block loop of `compute`: what column 0 holds after the first block it holds after every later block (they start at `≥ 1`) -/
theorem blocks_frame (n : Nat) (s t : K) (zi : Array Nat) (h0 : zi.getD 0 0 = 0) (h1 : 1 ≤ zi.getD 1 0)
    (hadj : ∀ a, a + 1 < zi.size → zi.getD a 0 < zi.getD (a + 1) 0) (a b c : K) (v : Nat) (st : St K)
    (hfirst : Inv0 F n a b c v (C08Nr.ub F n s t st 0 (zi.getD 1 0 - 1))) (j : Nat) (hj : j + 2 ≤ zi.size) :
    Inv0 F n a b c v
      ((List.range (j + 1)).foldl (fun st i => C08Nr.ub F n s t st (zi.getD i 0) (zi.getD (i + 1) 0 - 1)) st) := by
  induction j with
  | zero =>
    rw [List.range_succ, List.range_zero, List.nil_append, List.foldl_cons, List.foldl_nil, Nat.zero_add, h0]
    exact hfirst
  | succ j ih =>
    rw [ListFold.foldl_range_succ]
    have hm := C08Nr.zi_mono zi hadj 1 (j + 1) (by omega) (by omega)
    have hlt := hadj (j + 1) (by omega)
    exact ub_frame F n a b c v n s t _ _ _ (by omega) (by omega) (ih (by omega))

/-! ### at `compute` -/

/-- `m_ref_u` after `compute` is the result of the block loop over `zero_ind` (companion of `C08Nr.compute_nr_eq`) -/
theorem compute_u_eq (mat : Mat K) (s t : K) :
    (comp F mat s t).u =
      ((List.range ((C08Nr.zeroInd F mat).size - 1)).foldl
        (fun st i => C08Nr.ub F mat.rows s t st ((C08Nr.zeroInd F mat).getD i 0) ((C08Nr.zeroInd F mat).getD (i + 1) 0 - 1))
        (C08Nr.st0 F mat)).2.1 := rfl

/-- if the first block of the deflation pattern has size ≥ 3 (`zero_ind[1] ≥ 3`: neither of the first two subdiagonal
    entries is deflated by the first pass of `compute`), then after `compute` column 0 of `m_ref_u` and `m_ref_nr[0]` are
    exactly what the first `compute_reflector(m00, m10, m20, 0)` call stored, `(m00, m10, m20)` being computed from the
    first-pass matrix `(C08Nr.st0 F mat).1` -/
theorem compute_first_reflector (mat : Mat K) (s t : K) (hn : 1 ≤ mat.rows)
    (hblk : 3 ≤ (C08Nr.zeroInd F mat).getD 1 0) :
    (comp F mat s t).nr.getD 0 0 = (firstRef F s t (C08Nr.st0 F mat) 0).2.getD 0 0 ∧
    mget F (comp F mat s t).u 0 0 = mget F (firstRef F s t (C08Nr.st0 F mat) 0).1 0 0 ∧
    mget F (comp F mat s t).u 1 0 = mget F (firstRef F s t (C08Nr.st0 F mat) 0).1 1 0 ∧
    mget F (comp F mat s t).u 2 0 = mget F (firstRef F s t (C08Nr.st0 F mat) 0).1 2 0 := by
  obtain ⟨z1, z2, z3, z4, z5⟩ := C08Nr.zeroInd_spec F mat hn
  have hfirst := ub_first F mat.rows mat.rows s t (C08Nr.st0 F mat) ((C08Nr.zeroInd F mat).getD 1 0 - 1)
    (by omega) (@zeros_WF K (scOfField F) 3 mat.rows) rfl rfl (by show (Array.replicate _ _).size = _; simp)
  generalize mget F (firstRef F s t (C08Nr.st0 F mat) 0).1 0 0 = a at hfirst ⊢
  generalize mget F (firstRef F s t (C08Nr.st0 F mat) 0).1 1 0 = b at hfirst ⊢
  generalize mget F (firstRef F s t (C08Nr.st0 F mat) 0).1 2 0 = c at hfirst ⊢
  generalize (firstRef F s t (C08Nr.st0 F mat) 0).2.getD 0 0 = v at hfirst ⊢
  obtain ⟨_, _, _, _, g0, g1, g2, gv⟩ := blocks_frame F mat.rows s t (C08Nr.zeroInd F mat) z2 (by omega) z4 a b c v
    (C08Nr.st0 F mat) hfirst ((C08Nr.zeroInd F mat).size - 2) (by omega)
  rw [C08Nr.compute_nr_eq, compute_u_eq, show (C08Nr.zeroInd F mat).size - 1 = ((C08Nr.zeroInd F mat).size - 2) + 1 by omega]
  exact ⟨gv, g0, g1, g2⟩

/-- with everything instantiated: `Hm` is the first-pass matrix of `compute(mat, s, t)` read as a Mathlib matrix.  If the
    first two subdiagonal entries of the input are not deflated and `|m20| ≥ near0` (`m20 = mat₂₁ mat₁₀`), then `Hm` is upper
    Hessenberg, the first stored reflector has three rows, and the first column of `Q` is parallel to the first column of
    `Hm² − s Hm + t I`: `κ · Q e₁ = (Hm² − s Hm + t I) e₁`, `κ ≠ 0`, `κ² = ‖(Hm² − s Hm + t I) e₁‖²` -/
theorem compute_first_col_parallel' (hsq : ∀ x : K, 0 ≤ x → F.sqrt x * F.sqrt x = x ∧ 0 ≤ F.sqrt x)
    (hcut : C08Refl.cutoff F ≤ 0) (hmin : 0 < F.minPos) (mat : Mat K) (s t : K) {n' : Nat} (hrows : mat.rows = n' + 3)
    (hd0 : dfl F (epsA F mat) mat 0 = false) (hd1 : dfl F (epsA F mat) mat 1 = false)
    (hbig : ¬ |C08Local.fc2 F (mget F mat 2 1) (mget F mat 1 0)| < C08Refl.nz F) :
    (∀ i j : Fin (n' + 3), j.val + 1 < i.val → toM F (n' + 3) (n' + 3) (C08Nr.st0 F mat).1 i j = 0) ∧
    (comp F mat s t).nr.getD 0 0 = 3 ∧
    ∃ κ : K, κ ≠ 0 ∧
      κ * κ =
        C08Local.fc0 F (mget F mat 0 0) (mget F mat 0 1) (mget F mat 1 0) s t *
          C08Local.fc0 F (mget F mat 0 0) (mget F mat 0 1) (mget F mat 1 0) s t +
        C08Local.fc1 F (mget F mat 0 0) (mget F mat 1 0) (mget F mat 1 1) s *
          C08Local.fc1 F (mget F mat 0 0) (mget F mat 1 0) (mget F mat 1 1) s +
        C08Local.fc2 F (mget F mat 2 1) (mget F mat 1 0) * C08Local.fc2 F (mget F mat 2 1) (mget F mat 1 0) ∧
      ∀ i : Fin (comp F mat s t).n,
        κ * Qdof F (comp F mat s t) i ⟨0, by show 0 < mat.rows; omega⟩ =
          (toM F (n' + 3) (n' + 3) (C08Nr.st0 F mat).1 * toM F (n' + 3) (n' + 3) (C08Nr.st0 F mat).1 -
            s • toM F (n' + 3) (n' + 3) (C08Nr.st0 F mat).1 +
            t • (1 : Matrix (Fin (n' + 3)) (Fin (n' + 3)) K)) (Fin.cast hrows i) 0 := by
  obtain ⟨q1, q2, q3, _⟩ := st0_H_spec F mat (by omega)
  have v0 : ((0 : Fin (n' + 3)) : Nat) = 0 := rfl
  have v1 : ((1 : Fin (n' + 3)) : Nat) = 1 := by simp
  have v2 : ((2 : Fin (n' + 3)) : Nat) = 2 := Fin.val_two
  have tg : ∀ i j : Fin (n' + 3), toM F (n' + 3) (n' + 3) (C08Nr.st0 F mat).1 i j =
      mget F (C08Nr.st0 F mat).1 i.val j.val := fun _ _ => rfl
  have hH : ∀ i j : Fin (n' + 3), j.val + 1 < i.val → toM F (n' + 3) (n' + 3) (C08Nr.st0 F mat).1 i j = 0 := by
    intro i j hij
    rw [tg]
    exact q1 i.val j.val (by rw [hrows]; exact i.isLt) (by rw [hrows]; exact j.isLt) (by omega)
  have m00 : mget F (C08Nr.st0 F mat).1 0 0 = mget F mat 0 0 := q2 0 0 (by omega) (by omega) (by omega)
  have m01 : mget F (C08Nr.st0 F mat).1 0 1 = mget F mat 0 1 := q2 0 1 (by omega) (by omega) (by omega)
  have m11 : mget F (C08Nr.st0 F mat).1 1 1 = mget F mat 1 1 := q2 1 1 (by omega) (by omega) (by omega)
  have m10 : mget F (C08Nr.st0 F mat).1 1 0 = mget F mat 1 0 := q3 0 (by omega) hd0
  have m21 : mget F (C08Nr.st0 F mat).1 2 1 = mget F mat 2 1 := q3 1 (by omega) hd1
  have e00 : toM F (n' + 3) (n' + 3) (C08Nr.st0 F mat).1 0 0 = mget F (C08Nr.st0 F mat).1 0 0 := by rw [tg, v0]
  have e01 : toM F (n' + 3) (n' + 3) (C08Nr.st0 F mat).1 0 1 = mget F (C08Nr.st0 F mat).1 0 1 := by rw [tg, v0, v1]
  have e10 : toM F (n' + 3) (n' + 3) (C08Nr.st0 F mat).1 1 0 = mget F (C08Nr.st0 F mat).1 1 0 := by rw [tg, v0, v1]
  have e11 : toM F (n' + 3) (n' + 3) (C08Nr.st0 F mat).1 1 1 = mget F (C08Nr.st0 F mat).1 1 1 := by rw [tg, v1]
  have e21 : toM F (n' + 3) (n' + 3) (C08Nr.st0 F mat).1 2 1 = mget F (C08Nr.st0 F mat).1 2 1 := by rw [tg, v1, v2]
  have hblk := zeroInd_first_block F mat (by omega) hd0 hd1
  obtain ⟨gv, g0, g1, g2⟩ := compute_first_reflector F mat s t (by omega) hblk
  have hfr : firstRef F s t (C08Nr.st0 F mat) 0 =
      C08Refl.cRef F (C08Nr.st0 F mat).2.1 (C08Nr.st0 F mat).2.2
        (C08Local.fc0 F (mget F mat 0 0) (mget F mat 0 1) (mget F mat 1 0) s t)
        (C08Local.fc1 F (mget F mat 0 0) (mget F mat 1 0) (mget F mat 1 1) s)
        (C08Local.fc2 F (mget F mat 2 1) (mget F mat 1 0)) 0 := by
    rw [firstRef_eq, m00, m01, m10, m11, m21]
  rw [hfr] at gv g0 g1 g2
  have hd : (C08Nr.st0 F mat).2.1.d.size = 3 * (C08Nr.st0 F mat).2.1.cols := @zeros_WF K (scOfField F) 3 mat.rows
  obtain ⟨r1, ru, rP2, rP3, _, N, hN0, hNN, rP1⟩ := C08Refl.reflector_unit F hsq hcut hmin
    (C08Nr.st0 F mat).2.1 (C08Nr.st0 F mat).2.2 (C08Local.fc0 F (mget F mat 0 0) (mget F mat 0 1) (mget F mat 1 0) s t)
    (C08Local.fc1 F (mget F mat 0 0) (mget F mat 1 0) (mget F mat 1 1) s) (C08Local.fc2 F (mget F mat 2 1) (mget F mat 1 0)) 0
    (by show 0 < (Array.replicate _ _).size; simp; omega) rfl (by show 0 < mat.rows; omega) hd hbig
    (mget F (comp F mat s t).u 0 0) (mget F (comp F mat s t).u 1 0) (mget F (comp F mat s t).u 2 0) g0 g1 g2
  refine ⟨hH, by rw [gv]; exact r1, _,
    kappa_ne_zero (C08Local.fc0 F (mget F mat 0 0) (mget F mat 0 1) (mget F mat 1 0) s t) N hN0, ?_, fun i => ?_⟩
  · rw [← hNN]; split <;> ring
  · exact dsqr_first_col_parallel F (comp F mat s t) hrows _ hH s t _ _ _ _ _ _ _
      (by rw [e00, e01, e10, m00, m01, m10]) (by rw [e00, e10, e11, m00, m10, m11]) (by rw [e21, e10, m21, m10])
      (by rw [gv]; exact r1) rfl rfl rfl ru rP1 rP2 rP3 i

end AtField

end C08DsqrMatrix
