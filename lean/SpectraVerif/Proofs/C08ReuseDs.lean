/-
  C08 helper: `DoubleShiftQR::compute()` called on an object that already holds a factorization (`DoubleShiftQR.recompute` of
  Model/DoubleShiftQR.lean).  Unlike the Givens classes the reflector store is NOT rebuilt completely: `m_ref_u` / `m_ref_nr` keep
  their contents across `resize` of the same size, `update_block` writes `nr[il..iu]` for every block but column `i` of `m_ref_u`
  only when `nr[i] ≥ 2`, so columns with `nr = 1` hold stale reflectors of the earlier factorization.  Proved here, for every
  scalar type and `Sc` instance, every old object and every junk: the relation "same counts, same reflector wherever the count is
  not 1" (`Rel`) is established index by index by `compute_reflector` (`cRef_congr`), is all that `apply_PX / apply_XP /
  apply_PX_vec` read (`apply_*_congr`), hence `update_block` returns the same matrix (`update_block_congr`), the blocks cover
  `0 … n−1` (`blocks_congr` with the `zero_ind` invariant `ZI`), and every query answers as on a fresh object (`dsqr_recompute`).
  Core Lean only (no Mathlib).
-/
import SpectraVerif.Proofs.C08DsqrSteps
import SpectraVerif.Proofs.C08Mat

set_option linter.unusedSectionVars false

namespace C08ReuseDs
open Lin QRModel QRModel.DoubleShiftQR C08Mat C08Steps

variable {α : Type} [Add α] [Sub α] [Mul α] [Div α] [Neg α] [Sc α]

/-- the three entries of column `j` of the reflector store agree -/
def colEq (u u' : Mat α) (j : Nat) : Prop := u.get 0 j = u'.get 0 j ∧ u.get 1 j = u'.get 1 j ∧ u.get 2 j = u'.get 2 j

/-- the two `(m_ref_u, m_ref_nr)` stores agree on the index set `S`: same row counts there, and the same reflector wherever the
    count is not 1 (a column with `nr = 1` is never read) -/
structure Rel (S : Nat → Prop) (u u' : Mat α) (nr nr' : Array Nat) : Prop where
  wf : WF u
  wf' : WF u'
  rows : u.rows = 3
  rows' : u'.rows = 3
  cols : u.cols = nr.size
  cols' : u'.cols = nr'.size
  size : nr.size = nr'.size
  nrEq : ∀ j, S j → nr.getD j 0 = nr'.getD j 0
  uEq : ∀ j, S j → nr.getD j 0 ≠ 1 → colEq u u' j

theorem Rel.mono {S T : Nat → Prop} {u u' : Mat α} {nr nr' : Array Nat} (h : Rel S u u' nr nr') (hst : ∀ j, T j → S j) :
    Rel T u u' nr nr' :=
  ⟨h.wf, h.wf', h.rows, h.rows', h.cols, h.cols', h.size, fun j hj => h.nrEq j (hst j hj), fun j hj => h.uEq j (hst j hj)⟩

/-- `nr[ind] = 1` on both sides -/
theorem Rel.setOne {S : Nat → Prop} {u u' : Mat α} {nr nr' : Array Nat} (h : Rel S u u' nr nr') (ind : Nat) :
    Rel (fun j => S j ∨ j = ind) u u' (nr.setIfInBounds ind 1) (nr'.setIfInBounds ind 1) := by
  refine ⟨h.wf, h.wf', h.rows, h.rows', by simp [h.cols], by simp [h.cols'], by simp [h.size], ?_, ?_⟩
  · intro j hj
    rw [getD_set, getD_set, ← h.size]
    by_cases e : j = ind ∧ ind < nr.size
    · simp [e]
    · rw [if_neg e, if_neg e]
      rcases hj with hj | hj
      · exact h.nrEq j hj
      · subst hj
        have : nr.size ≤ j := by omega
        have h2 : nr'.size ≤ j := by rw [← h.size]; exact this
        rw [getD_of_ge _ _ this, getD_of_ge _ _ h2]
  · intro j hj hne
    rw [getD_set] at hne
    by_cases e : j = ind ∧ ind < nr.size
    · rw [if_pos e] at hne; exact absurd rfl hne
    · rw [if_neg e] at hne
      rcases hj with hj | hj
      · exact h.uEq j hj hne
      · subst hj
        have hc : u.cols ≤ j := by rw [h.cols]; omega
        have hc' : u'.cols ≤ j := by rw [h.cols', ← h.size]; omega
        exact ⟨by rw [get_of_ge h.wf _ hc, get_of_ge h.wf' _ hc'], by rw [get_of_ge h.wf _ hc, get_of_ge h.wf' _ hc'],
               by rw [get_of_ge h.wf _ hc, get_of_ge h.wf' _ hc']⟩

/-- writing the same column into both stores -/
theorem set3 {u : Mat α} (hw : WF u) (hr : u.rows = 3) (ind : Nat) (w1 w2 w3 : α) :
    WF (((u.set 0 ind w1).set 1 ind w2).set 2 ind w3) ∧ (((u.set 0 ind w1).set 1 ind w2).set 2 ind w3).rows = 3 ∧
    (((u.set 0 ind w1).set 1 ind w2).set 2 ind w3).cols = u.cols ∧
    (ind < u.cols → (((u.set 0 ind w1).set 1 ind w2).set 2 ind w3).get 0 ind = w1 ∧
                    (((u.set 0 ind w1).set 1 ind w2).set 2 ind w3).get 1 ind = w2 ∧
                    (((u.set 0 ind w1).set 1 ind w2).set 2 ind w3).get 2 ind = w3) ∧
    (∀ i j, i < 3 → j ≠ ind → (((u.set 0 ind w1).set 1 ind w2).set 2 ind w3).get i j = u.get i j) := by
  have w3' := set_WF (set_WF (set_WF hw 0 ind w1) 1 ind w2) 2 ind w3
  have h0 : 0 < u.rows := by omega
  have h1 : 1 < u.rows := by omega
  have h2 : 2 < u.rows := by omega
  refine ⟨w3', by simp [hr], by simp, ?_, ?_⟩
  · intro hj
    refine ⟨?_, ?_, ?_⟩
    · rw [get_set3 hw _ _ _ h0 hj h1 hj h2 hj h0, if_neg (by omega), if_neg (by omega), if_pos ⟨rfl, rfl⟩]
    · rw [get_set3 hw _ _ _ h0 hj h1 hj h2 hj h1, if_neg (by omega), if_pos ⟨rfl, rfl⟩]
    · rw [get_set3 hw _ _ _ h0 hj h1 hj h2 hj h2, if_pos ⟨rfl, rfl⟩]
  · intro i j hi hne
    by_cases hind : ind < u.cols
    · by_cases hj : j < u.cols
      · rw [get_set3 hw _ _ _ h0 hind h1 hind h2 hind (by omega), if_neg (fun h => hne h.2), if_neg (fun h => hne h.2),
          if_neg (fun h => hne h.2)]
      · rw [get_of_ge w3' _ (by simpa using Nat.le_of_not_lt hj), get_of_ge hw _ (Nat.le_of_not_lt hj)]
    · rw [set_oob _ 2 ind w3 (by simp; omega), set_oob _ 1 ind w2 (by simp; omega), set_oob _ 0 ind w1 (by omega)]

/-! ### `compute_reflector`: what it stores depends on `(x1, x2, x3)` only -/

def refC (x2 x3 : α) : Bool := Sc.lt (Sc.abs x2) (near0 : α) && Sc.lt (Sc.abs x3) (near0 : α)
def refK (x3 : α) : Nat := if Sc.lt (Sc.abs x3) (near0 : α) then 2 else 3
def refW (x1 x2 x3 : α) : α × α × α :=
  let x2m := Sc.abs x2; let x3m := Sc.abs x3
  let x_norm := if Sc.lt x3m near0 then eigenHypot x1 x2 else Gen.Refl.stable_norm3 x1 x2 x3
  let rho : α := if Sc.le x1 zero then one else Sc.ofInt (-1)
  let x1_new := x1 - rho * x_norm
  let x1m := Sc.abs x1_new
  if Sc.ge x1m x2m && Sc.ge x1m x3m then Gen.Refl.stable_scaling x1_new x2 x3
  else if Sc.ge x2m x1m && Sc.ge x2m x3m then
    let r := Gen.Refl.stable_scaling x2 x1_new x3; (r.2.1, r.1, r.2.2)
  else
    let r := Gen.Refl.stable_scaling x3 x1_new x2; (r.2.1, r.2.2, r.1)

theorem computeReflector_eq (u : Mat α) (nr : Array Nat) (x1 x2 x3 : α) (ind : Nat) :
    computeReflector u nr x1 x2 x3 ind =
      if refC x2 x3 then (u, nr.setIfInBounds ind 1)
      else (((u.set 0 ind (refW x1 x2 x3).1).set 1 ind (refW x1 x2 x3).2.1).set 2 ind (refW x1 x2 x3).2.2, nr.setIfInBounds ind (refK x3)) := by
  rfl

theorem refK_ne_one (x3 : α) : refK x3 ≠ 1 := by unfold refK; split <;> omega

theorem cRef_congr {S : Nat → Prop} {u u' : Mat α} {nr nr' : Array Nat} (h : Rel S u u' nr nr') (x1 x2 x3 : α) (ind : Nat) :
    Rel (fun j => S j ∨ j = ind) (computeReflector u nr x1 x2 x3 ind).1 (computeReflector u' nr' x1 x2 x3 ind).1
      (computeReflector u nr x1 x2 x3 ind).2 (computeReflector u' nr' x1 x2 x3 ind).2 := by
  rw [computeReflector_eq, computeReflector_eq]
  by_cases hc : refC x2 x3 = true
  · rw [if_pos hc, if_pos hc]; exact h.setOne ind
  · rw [if_neg hc, if_neg hc]
    generalize (refW x1 x2 x3).1 = w1
    generalize (refW x1 x2 x3).2.1 = w2
    generalize (refW x1 x2 x3).2.2 = w3
    obtain ⟨a1, a2, a3, a4, a5⟩ := set3 h.wf h.rows ind w1 w2 w3
    obtain ⟨b1, b2, b3, b4, b5⟩ := set3 h.wf' h.rows' ind w1 w2 w3
    refine ⟨a1, b1, a2, b2, by simp [h.cols], by simp [h.cols'], by simp [h.size], ?_, ?_⟩
    · intro j hj
      show (nr.setIfInBounds ind _).getD j 0 = (nr'.setIfInBounds ind _).getD j 0
      rw [getD_set, getD_set, ← h.size]
      by_cases e : j = ind ∧ ind < nr.size
      · simp [e]
      · rw [if_neg e, if_neg e]
        rcases hj with hj | hj
        · exact h.nrEq j hj
        · subst hj
          have : nr.size ≤ j := by omega
          have h2 : nr'.size ≤ j := by rw [← h.size]; exact this
          rw [getD_of_ge _ _ this, getD_of_ge _ _ h2]
    · intro j hj hne
      by_cases e : j = ind
      · subst e
        by_cases hin : j < u.cols
        · have hin' : j < u'.cols := by rw [h.cols', ← h.size, ← h.cols]; exact hin
          obtain ⟨p1, p2, p3⟩ := a4 hin
          obtain ⟨q1, q2, q3⟩ := b4 hin'
          exact ⟨by rw [p1, q1], by rw [p2, q2], by rw [p3, q3]⟩
        · have hc1 : u.cols ≤ j := Nat.le_of_not_lt hin
          have hc2 : u'.cols ≤ j := by rw [h.cols', ← h.size, ← h.cols]; exact hc1
          exact ⟨by rw [get_of_ge a1 _ (by rw [a3]; exact hc1), get_of_ge b1 _ (by rw [b3]; exact hc2)],
                 by rw [get_of_ge a1 _ (by rw [a3]; exact hc1), get_of_ge b1 _ (by rw [b3]; exact hc2)],
                 by rw [get_of_ge a1 _ (by rw [a3]; exact hc1), get_of_ge b1 _ (by rw [b3]; exact hc2)]⟩
      · have hS : S j := by rcases hj with hj | hj; exact hj; exact absurd hj e
        have hne' : nr.getD j 0 ≠ 1 := by
          have : (nr.setIfInBounds ind (refK x3)).getD j 0 = nr.getD j 0 := by rw [getD_set, if_neg (fun c => e c.1)]
          rw [← this]; exact hne
        obtain ⟨c1, c2, c3⟩ := h.uEq j hS hne'
        exact ⟨by rw [a5 0 j (by omega) e, b5 0 j (by omega) e]; exact c1, by rw [a5 1 j (by omega) e, b5 1 j (by omega) e]; exact c2,
               by rw [a5 2 j (by omega) e, b5 2 j (by omega) e]; exact c3⟩

/-! ### the three appliers read `nr[ind]` and, unless it is 1, column `ind` of the store — nothing else -/

theorem apply_PX_congr (H u u' : Mat α) (nr nr' : Array Nat) (r0 c0 nrow ncol ind : Nat)
    (h1 : nr.getD ind 0 = nr'.getD ind 0) (h2 : nr.getD ind 0 ≠ 1 → colEq u u' ind) :
    apply_PX H u nr r0 c0 nrow ncol ind = apply_PX H u' nr' r0 c0 nrow ncol ind := by
  unfold apply_PX
  rw [← h1]
  by_cases hk : nr.getD ind 0 = 1
  · simp [hk]
  · obtain ⟨e0, e1, e2⟩ := h2 hk
    rw [e0, e1, e2]

theorem apply_XP_congr (H u u' : Mat α) (nr nr' : Array Nat) (r0 c0 nrow ncol ind : Nat)
    (h1 : nr.getD ind 0 = nr'.getD ind 0) (h2 : nr.getD ind 0 ≠ 1 → colEq u u' ind) :
    apply_XP H u nr r0 c0 nrow ncol ind = apply_XP H u' nr' r0 c0 nrow ncol ind := by
  unfold apply_XP
  rw [← h1]
  by_cases hk : nr.getD ind 0 = 1
  · simp [hk]
  · obtain ⟨e0, e1, e2⟩ := h2 hk
    rw [e0, e1, e2]

theorem apply_PX_vec_congr (u u' : Mat α) (nr nr' : Array Nat) (y : Vec α) (off ind : Nat)
    (h1 : nr.getD ind 0 = nr'.getD ind 0) (h2 : nr.getD ind 0 ≠ 1 → colEq u u' ind) :
    apply_PX_vec u nr y off ind = apply_PX_vec u' nr' y off ind := by
  unfold apply_PX_vec
  rw [← h1]
  by_cases hk : nr.getD ind 0 = 1
  · simp [hk]
  · obtain ⟨e0, e1, e2⟩ := h2 hk
    rw [e0, e1, e2]

/-! ### `update_block`: the matrix it returns does not depend on the stores it starts from; the stores agree on every index written -/

def RelSt (S : Nat → Prop) (st st' : St α) : Prop := st.1 = st'.1 ∧ Rel S st.2.1 st'.2.1 st.2.2 st'.2.2

theorem step_congr {S : Nat → Prop} {u u' : Mat α} {nr nr' : Array Nat} (hR : Rel S u u' nr nr') (H : Mat α) (x1 x2 x3 : α)
    (ind a1 a2 a3 a4 b1 b2 b3 b4 : Nat) :
    apply_XP (apply_PX H (computeReflector u nr x1 x2 x3 ind).1 (computeReflector u nr x1 x2 x3 ind).2 a1 a2 a3 a4 ind)
      (computeReflector u nr x1 x2 x3 ind).1 (computeReflector u nr x1 x2 x3 ind).2 b1 b2 b3 b4 ind =
    apply_XP (apply_PX H (computeReflector u' nr' x1 x2 x3 ind).1 (computeReflector u' nr' x1 x2 x3 ind).2 a1 a2 a3 a4 ind)
      (computeReflector u' nr' x1 x2 x3 ind).1 (computeReflector u' nr' x1 x2 x3 ind).2 b1 b2 b3 b4 ind := by
  have hc := cRef_congr hR x1 x2 x3 ind
  rw [apply_PX_congr _ _ _ _ _ _ _ _ _ _ (hc.nrEq ind (Or.inr rfl)) (hc.uEq ind (Or.inr rfl)),
      apply_XP_congr _ _ _ _ _ _ _ _ _ _ (hc.nrEq ind (Or.inr rfl)) (hc.uEq ind (Or.inr rfl))]

theorem refStep_congr {S : Nat → Prop} {st st' : St α} (h : RelSt S st st') (x1 x2 x3 : α) (ind a1 a2 a3 a4 b1 b2 b3 b4 : Nat) :
    RelSt (fun j => S j ∨ j = ind) (refStep st x1 x2 x3 ind a1 a2 a3 a4 b1 b2 b3 b4) (refStep st' x1 x2 x3 ind a1 a2 a3 a4 b1 b2 b3 b4) := by
  obtain ⟨H, u, nr⟩ := st
  obtain ⟨H', u', nr'⟩ := st'
  obtain ⟨hH, hR⟩ := h
  simp only at hH hR
  subst hH
  exact ⟨step_congr hR H _ _ _ _ _ _ _ _ _ _ _ _, cRef_congr hR _ _ _ _⟩

theorem endStep_congr {S : Nat → Prop} {st st' : St α} (h : RelSt S st st') (ind : Nat) :
    RelSt (fun j => S j ∨ j = ind) (endStep st ind) (endStep st' ind) := ⟨h.1, h.2.setOne ind⟩

theorem RelSt.mono {S T : Nat → Prop} {st st' : St α} (h : RelSt S st st') (hst : ∀ j, T j → S j) : RelSt T st st' :=
  ⟨h.1, h.2.mono hst⟩

theorem run_congr (o : Op α) {S : Nat → Prop} {st st' : St α} (h : RelSt S st st') :
    RelSt (fun j => S j ∨ j = o.idx) (o.run st) (o.run st') := by
  cases o with
  | refl x k c a3 a4 b3 b4 =>
    show RelSt _ (refStep st _ _ _ k k c a3 a4 0 k b3 b4) (refStep st' _ _ _ k k c a3 a4 0 k b3 b4)
    rw [← h.1]
    exact refStep_congr h _ _ _ _ _ _ _ _ _ _ _ _
  | close k => exact endStep_congr h k

theorem update_block_congr {S : Nat → Prop} {st st' : St α} (h : RelSt S st st') (n : Nat) (s t : α) (il iu : Nat) (hle : il ≤ iu) :
    RelSt (fun j => S j ∨ (il ≤ j ∧ j ≤ iu)) (update_block n s t st il iu) (update_block n s t st' il iu) :=
  (update_block_rule (fun _ _ => True) n s t hle (R := fun k st st' => RelSt (fun j => S j ∨ (il ≤ j ∧ j < k)) st st')
    (fun k o st st' ho _ hr => (run_congr o hr).mono (fun j hj => by
      have := ho.idx
      rcases hj with hj | hj
      · exact Or.inl (Or.inl hj)
      · by_cases c : j = k
        · exact Or.inr (by omega)
        · exact Or.inl (Or.inr (by omega))))
    (BlockGuard.trivial ..) (h.mono (fun j hj => hj.elim id (fun c => absurd c.2 (by omega))))).mono
    (fun j hj => hj.elim Or.inl (fun c => Or.inr ⟨c.1, by omega⟩))

/-! ### sizes -/

theorem cRef_size (u : Mat α) (nr : Array Nat) (x1 x2 x3 : α) (ind : Nat) : (computeReflector u nr x1 x2 x3 ind).2.size = nr.size := by
  rw [computeReflector_eq]; split <;> simp

theorem run_size (o : Op α) (st : St α) : (o.run st).2.2.size = st.2.2.size := by
  cases o with
  | refl => exact cRef_size ..
  | close => exact Array.size_setIfInBounds

theorem chaseRun_size (n il iu m : Nat) (st : St α) : (chaseRun n il iu st m).2.2.size = st.2.2.size :=
  ListFold.foldl_fix (fun st : St α => st.2.2.size) _ _ st (fun st _ => run_size _ st)

theorem update_block_size (n : Nat) (s t : α) (st : St α) (il iu : Nat) : (update_block n s t st il iu).2.2.size = st.2.2.size := by
  rw [update_block_steps]
  split
  · exact run_size ..
  · split
    · rw [run_size, run_size]
    · rw [run_size, run_size, chaseRun_size, run_size]

/-! ### the boundary array `zero_ind` -/

theorem getD_push (a : Array Nat) (k v : Nat) :
    (a.push v).getD k 0 = if k < a.size then a.getD k 0 else if k = a.size then v else 0 := by
  simp only [Array.getD_eq_getD_getElem?, Array.getElem?_push]
  by_cases h : k = a.size
  · subst h; simp
  · by_cases h2 : k < a.size
    · simp [h, h2]
    · simp [h, h2]

theorem splitStep_zi (n : Nat) (e : α) (st : Mat α × Array Nat) (i : Nat) :
    (splitStep n e st i).2 = st.2 ∨ (splitStep n e st i).2 = st.2.push (i + 1) := by
  unfold splitStep
  simp only []
  split
  · right; rfl
  · left; rfl

def ZI (zi : Array Nat) (b : Nat) : Prop :=
  0 < zi.size ∧ zi.getD 0 0 = 0 ∧ (∀ a, a + 1 < zi.size → zi.getD a 0 < zi.getD (a + 1) 0) ∧
  (∀ a, a < zi.size → zi.getD a 0 ≤ b)

theorem ZI.push {zi : Array Nat} {b v : Nat} (h : ZI zi b) (hv : b < v) : ZI (zi.push v) v := by
  obtain ⟨h1, h2, h3, h4⟩ := h
  refine ⟨by rw [Array.size_push]; omega, ?_, ?_, ?_⟩
  · rw [getD_push, if_pos h1]; exact h2
  · intro a ha
    rw [Array.size_push] at ha
    rw [getD_push, getD_push, if_pos (by omega)]
    by_cases hl : a + 1 < zi.size
    · rw [if_pos hl]; exact h3 a hl
    · rw [if_neg hl, if_pos (by omega)]
      have := h4 a (by omega); omega
  · intro a ha
    rw [Array.size_push] at ha
    rw [getD_push]
    by_cases hl : a < zi.size
    · rw [if_pos hl]; have := h4 a hl; omega
    · rw [if_neg hl, if_pos (by omega)]; exact Nat.le_refl _

theorem ZI.mono {zi : Array Nat} {b b' : Nat} (h : ZI zi b) (hb : b ≤ b') : ZI zi b' := by
  obtain ⟨h1, h2, h3, h4⟩ := h
  exact ⟨h1, h2, h3, fun a ha => Nat.le_trans (h4 a ha) hb⟩

theorem split_fold_ZI (n : Nat) (e : α) (H0 : Mat α) (m : Nat) :
    ZI ((List.range m).foldl (splitStep n e) (H0, (#[0] : Array Nat))).2 m := by
  refine ListFold.foldl_range_inv (fun m (st : Mat α × Array Nat) => ZI st.2 m) _ m _ ⟨by simp, by simp, ?_, ?_⟩ (fun m st _ ih => ?_)
  · intro a ha; simp at ha
  · intro a ha
    have : a = 0 := by simpa using ha
    subst this; simp
  · rcases splitStep_zi n e st m with h | h
    · rw [h]; exact ih.mono (Nat.le_succ m)
    · rw [h]; exact ih.push (Nat.lt_succ_self m)

/-! ### the block loop -/

theorem blocks_congr (n : Nat) (s t : α) (zi : Array Nat)
    (hadj : ∀ a, a + 1 < zi.size → zi.getD a 0 < zi.getD (a + 1) 0) (h0 : zi.getD 0 0 = 0)
    {st st' : St α} (h : RelSt (fun _ => False) st st') (j : Nat) (hj : j + 1 ≤ zi.size) :
    RelSt (fun k => k < zi.getD j 0)
      ((List.range j).foldl (fun st i => update_block n s t st (zi.getD i 0) (zi.getD (i + 1) 0 - 1)) st)
      ((List.range j).foldl (fun st i => update_block n s t st (zi.getD i 0) (zi.getD (i + 1) 0 - 1)) st') :=
  ListFold.foldl_range_rel (fun j a b => RelSt (fun k => k < zi.getD j 0) a b) _ _ j st st' (h.mono fun k hk => by omega)
    fun i a b hi ih => by
      have hlt := hadj i (by omega)
      exact (update_block_congr ih n s t (zi.getD i 0) (zi.getD (i + 1) 0 - 1) (by omega)).mono fun k hk => by
        by_cases c : k < zi.getD i 0
        · exact Or.inl c
        · exact Or.inr (by omega)

theorem blocks_size (n : Nat) (s t : α) (zi : Array Nat) (st : St α) (j : Nat) :
    ((List.range j).foldl (fun st i => update_block n s t st (zi.getD i 0) (zi.getD (i + 1) 0 - 1)) st).2.2.size = st.2.2.size :=
  ListFold.foldl_fix (fun st : St α => st.2.2.size) _ _ st (fun st _ => update_block_size n s t st _ _)

/-- agreement on every index below the common size is agreement everywhere (beyond it both counts read 0 and both columns 0) -/
theorem Rel.all {u u' : Mat α} {nr nr' : Array Nat} (h : Rel (fun k => k < nr.size) u u' nr nr') :
    (∀ j, nr.getD j 0 = nr'.getD j 0) ∧ (∀ j, nr.getD j 0 ≠ 1 → colEq u u' j) := by
  constructor
  · intro j
    by_cases c : j < nr.size
    · exact h.nrEq j c
    · have h1 : nr.size ≤ j := Nat.le_of_not_lt c
      have h2 : nr'.size ≤ j := by rw [← h.size]; exact h1
      rw [getD_of_ge _ _ h1, getD_of_ge _ _ h2]
  · intro j hne
    by_cases c : j < nr.size
    · exact h.uEq j c hne
    · have hc : u.cols ≤ j := by rw [h.cols]; omega
      have hc' : u'.cols ≤ j := by rw [h.cols', ← h.size]; omega
      exact ⟨by rw [get_of_ge h.wf _ hc, get_of_ge h.wf' _ hc'], by rw [get_of_ge h.wf _ hc, get_of_ge h.wf' _ hc'],
             by rw [get_of_ge h.wf _ hc, get_of_ge h.wf' _ hc']⟩

theorem nr_ext {a b : Array Nat} (hs : a.size = b.size) (h : ∀ j, a.getD j 0 = b.getD j 0) : a = b := by
  apply Array.ext hs
  intro i h1 h2
  have := h i
  simpa [Array.getD_eq_getD_getElem?, Array.getElem?_eq_getElem h1, Array.getElem?_eq_getElem h2] using this

/-- MAIN: `compute` on an object that already holds a factorization (`recompute`) and a fresh `compute` give the same matrix, the
    same shifts, the same reflector row counts, the same reflectors wherever the count is not 1 — and therefore the same answer to
    every query.  Any scalar type, any `Sc` instance, any old object, any junk. -/
theorem dsqr_recompute (old : DoubleShiftQR α) (junk : α) (junkNr : Nat) (mat : Mat α) (s t : α) (hn : 1 ≤ mat.rows) :
    (old.recompute junk junkNr mat s t).n = (DoubleShiftQR.compute mat s t).n ∧
    (old.recompute junk junkNr mat s t).H = (DoubleShiftQR.compute mat s t).H ∧
    (old.recompute junk junkNr mat s t).s = (DoubleShiftQR.compute mat s t).s ∧
    (old.recompute junk junkNr mat s t).t = (DoubleShiftQR.compute mat s t).t ∧
    (old.recompute junk junkNr mat s t).nr = (DoubleShiftQR.compute mat s t).nr ∧
    (∀ j, (DoubleShiftQR.compute mat s t).nr.getD j 0 ≠ 1 → colEq (old.recompute junk junkNr mat s t).u (DoubleShiftQR.compute mat s t).u j) ∧
    (old.recompute junk junkNr mat s t).matrix_QtHQ = (DoubleShiftQR.compute mat s t).matrix_QtHQ ∧
    (∀ y, (old.recompute junk junkNr mat s t).apply_QtY y = (DoubleShiftQR.compute mat s t).apply_QtY y) ∧
    (∀ Y, (old.recompute junk junkNr mat s t).apply_YQ Y = (DoubleShiftQR.compute mat s t).apply_YQ Y) := by
  -- the two initial stores: nothing is known to agree yet, only the shapes
  have hnr0 : (if old.nr.size = mat.rows then old.nr else Array.replicate mat.rows junkNr).size = mat.rows := by
    split <;> simp_all
  have hu0 : Rel (fun _ => False)
      (if old.u.rows = 3 ∧ old.u.cols = mat.rows ∧ old.u.d.size = 3 * mat.rows then old.u
        else ⟨3, mat.rows, Array.replicate (3 * mat.rows) junk⟩)
      (Mat.zeros 3 mat.rows : Mat α)
      (if old.nr.size = mat.rows then old.nr else Array.replicate mat.rows junkNr) (Array.replicate mat.rows 0) := by
    refine ⟨?_, zeros_WF 3 mat.rows, ?_, rfl, ?_, by simp [Mat.zeros], by simp [hnr0], fun j hj => absurd hj id,
      fun j hj => absurd hj id⟩
    · split
      · rename_i c; unfold WF; rw [c.2.2, c.1, c.2.1]
      · unfold WF; simp
    · split
      · rename_i c; exact c.1
      · rfl
    · rw [hnr0]; split
      · rename_i c; exact c.2.1
      · rfl
  unfold DoubleShiftQR.recompute DoubleShiftQR.compute
  simp only []
  generalize (if old.u.rows = 3 ∧ old.u.cols = mat.rows ∧ old.u.d.size = 3 * mat.rows then old.u
    else ⟨3, mat.rows, Array.replicate (3 * mat.rows) junk⟩) = u0 at hu0 ⊢
  generalize (if old.nr.size = mat.rows then old.nr else Array.replicate mat.rows junkNr) = nr0 at hu0 hnr0 ⊢
  generalize hsp : (List.range (mat.rows - 1)).foldl (splitStep mat.rows (near0 * (Sc.ofInt (mat.rows : Int) / Sc.eps)))
    (Mat.ofFn mat.rows mat.rows (fun i j => mat.get i j), (#[0] : Array Nat)) = sp
  obtain ⟨z1, z2, z3, z4⟩ : ZI (sp.2.push mat.rows) mat.rows := by
    rw [← hsp]; exact (split_fold_ZI mat.rows _ _ (mat.rows - 1)).push (by omega)
  have hrel := blocks_congr mat.rows s t (sp.2.push mat.rows) z3 z2 (st := (sp.1, u0, nr0))
    (st' := (sp.1, (Mat.zeros 3 mat.rows : Mat α), Array.replicate mat.rows 0)) ⟨rfl, hu0⟩
    ((sp.2.push mat.rows).size - 1) (by omega)
  have hlast : (sp.2.push mat.rows).getD ((sp.2.push mat.rows).size - 1) 0 = mat.rows := by
    rw [Array.size_push, getD_push, if_neg (by omega), if_pos (by omega)]
  have hsz := blocks_size mat.rows s t (sp.2.push mat.rows) (sp.1, u0, nr0) ((sp.2.push mat.rows).size - 1)
  rw [hlast] at hrel
  generalize (List.range ((sp.2.push mat.rows).size - 1)).foldl
    (fun st i => update_block mat.rows s t st ((sp.2.push mat.rows).getD i 0) ((sp.2.push mat.rows).getD (i + 1) 0 - 1))
    (sp.1, u0, nr0) = A at hrel hsz ⊢
  generalize (List.range ((sp.2.push mat.rows).size - 1)).foldl
    (fun st i => update_block mat.rows s t st ((sp.2.push mat.rows).getD i 0) ((sp.2.push mat.rows).getD (i + 1) 0 - 1))
    (sp.1, (Mat.zeros 3 mat.rows : Mat α), Array.replicate mat.rows 0) = B at hrel ⊢
  obtain ⟨AH, Au, An⟩ := A
  obtain ⟨BH, Bu, Bn⟩ := B
  obtain ⟨hH, hR⟩ := hrel
  simp only at hH hR hsz ⊢
  subst hH
  have hR' : Rel (fun k => k < An.size) Au Bu An Bn := by rw [hsz, hnr0]; exact hR
  obtain ⟨e1, e2⟩ := hR'.all
  have hnr : An = Bn := nr_ext hR.size e1
  subst hnr
  refine ⟨trivial, rfl, trivial, trivial, rfl, e2, rfl, fun y => ?_, fun Y => ?_⟩
  · unfold DoubleShiftQR.apply_QtY
    simp only []
    have : (fun (y : Vec α) i => apply_PX_vec Au An y i i) = (fun y i => apply_PX_vec Bu An y i i) := by
      funext y i; exact apply_PX_vec_congr _ _ _ _ _ _ _ rfl (e2 i)
    rw [this]
  · unfold DoubleShiftQR.apply_YQ
    simp only []
    have : (fun (Z : Mat α) i => apply_XP Z Au An 0 i Y.rows 3 i) = (fun Z i => apply_XP Z Bu An 0 i Y.rows 3 i) := by
      funext Z i; exact apply_XP_congr _ _ _ _ _ _ _ _ _ _ rfl (e2 i)
    rw [this]
    exact apply_XP_congr _ _ _ _ _ _ _ _ _ _ rfl (e2 _)

theorem uLive_congr (q q' : DoubleShiftQR α) (h1 : q'.n = q.n) (h5 : q'.nr = q.nr)
    (h6 : ∀ j, q.nr.getD j 0 ≠ 1 → colEq q'.u q.u j) : q'.uLive = q.uLive := by
  unfold DoubleShiftQR.uLive
  rw [h1, h5]
  refine ext_get (m1 := Mat.ofFn 3 q.n _) (m2 := Mat.ofFn 3 q.n _) (ofFn_WF _ _ _) (ofFn_WF _ _ _) rfl rfl ?_
  intro a b ha hb
  have ha3 : a < 3 := ha
  have hb' : b < q.n := hb
  rw [get_ofFn _ _ _ ha3 hb', get_ofFn _ _ _ ha3 hb']
  by_cases c : q.nr.getD b 0 = 1
  · simp [c]
  · have hne : (q.nr.getD b 0 == 1) = false := by simpa using c
    rw [hne]
    obtain ⟨c0, c1, c2⟩ := h6 b c
    rcases Nat.lt_succ_iff_lt_or_eq.mp ha3 with h | rfl
    · rcases Nat.lt_succ_iff_lt_or_eq.mp h with h | rfl
      · have : a = 0 := by omega
        subst this; simpa using c0
      · simpa using c1
    · simpa using c2

/-- the reflector store as the harness and the driver print it (columns with `nr = 1` cleared) is the same as well -/
theorem dsqr_recompute_uLive (old : DoubleShiftQR α) (junk : α) (junkNr : Nat) (mat : Mat α) (s t : α) (hn : 1 ≤ mat.rows) :
    (old.recompute junk junkNr mat s t).uLive = (DoubleShiftQR.compute mat s t).uLive := by
  obtain ⟨h1, _, _, _, h5, h6, _⟩ := dsqr_recompute old junk junkNr mat s t hn
  exact uLive_congr _ _ h1 h5 h6

end C08ReuseDs
