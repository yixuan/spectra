/-
  `eigenvalues()` of `LOBPCGSolver` stay ascending along the iteration: `sort_epairs` (Proofs/C17Sort.lean) meets the step
  analysis of Proofs/C17Lemmas.lean.
-/
import SpectraVerif.Proofs.C17Lemmas
import SpectraVerif.Proofs.C17Sort

namespace Lobpcg
section asc
variable {α V : Type} [LinearOrder α] [Add V] [Sub V] [SMul α V] (K : Kern α V) (c : Cfg)

theorem step_sorted (hlt : K.lt = ltDec)
    (hrr : ∀ inp θ C, K.rr inp = .ok θ C → θ.Nodup ∧ θ.length = C.length)
    (t : α) (iter : Nat) (s : St α V) (l : Loc V) (h : s.evals.Pairwise (· < ·)) :
    (step K c t iter s l).Sat (fun s' _ => s'.evals.Pairwise (· < ·)) (fun s' _ _ => s'.evals.Pairwise (· < ·)) := by
  refine step_sat K c t iter s l _ rfl (fun _ _ θ0 C0 _ _ _ hr => ?_) (fun _ _ _ _ _ _ => h)
  obtain ⟨h1, h2⟩ := hrr _ _ _ hr
  rw [hlt]; exact (sortEpairs_sorted θ0 C0 h2 h1).1

theorem initPhase_sorted (hlt : K.lt = ltDec)
    (heig : ∀ X AX θ C, K.eig0 X AX = some (θ, C) → θ.Nodup ∧ θ.length = C.length)
    (s0 : St α V) (hok : (initPhase K s0).2.2 = true) : (initPhase K s0).1.evals.Pairwise (· < ·) := by
  obtain ⟨X1, BX, ok, i1, _, ⟨_, e⟩ | ⟨θ0, C0, hg, e⟩⟩ := initPhase_cases K s0 <;> rw [e] at hok ⊢
  · exact absurd hok Bool.false_ne_true
  · obtain ⟨h1, h2⟩ := heig _ _ _ _ hg
    simp only [hlt]
    exact (sortEpairs_sorted _ _ h2 h1).1

end asc
end Lobpcg
