/-
  C10 — the status of the pivot loop and of `compute`, the permutation round trip of `solve_inplace` and the range of the
  compressed permutation, for the real model and, through the shared shapes of Proofs/C10Index.lean, for both.
-/
import SpectraVerif.Proofs.C10Index
open Gen.BK

set_option linter.unusedSectionVars false

namespace BKLDLT

section
variable {α : Type} [Add α] [Sub α] [Mul α] [Div α] [Neg α] [Sc α]

/-! ### status of the pivot loop -/
theorem ge1_status_cases (akk : α) : ge1_status akk = Successful ∨ ge1_status akk = NumericalIssue := by
  unfold ge1_status; split <;> simp [Successful, NumericalIssue]
theorem ge2_status_h_cases (cj rl : α → α) (e11 e21 e22 : α) :
    ge2_status_h cj rl e11 e21 e22 = Successful ∨ ge2_status_h cj rl e11 e21 e22 = NumericalIssue := by
  unfold ge2_status_h; simp only []; split <;> simp [Successful, NumericalIssue]

theorem ge1_fst (s : St α) (k : Int) : (gaussian_elimination_1x1 s k).1 = Successful ∨ (gaussian_elimination_1x1 s k).1 = NumericalIssue := by
  unfold gaussian_elimination_1x1
  simp only []
  split <;> exact ge1_status_cases _
theorem ge2_fst (s : St α) (k : Int) : (gaussian_elimination_2x2 s k).1 = Successful ∨ (gaussian_elimination_2x2 s k).1 = NumericalIssue := by
  unfold gaussian_elimination_2x2
  simp only []
  split <;> exact ge2_status_h_cases scalarop_conj scalarop_real _ _ _


theorem loop_status (alpha : α) (fuel : Nat) (k : Int) (s : St α) (tags : List Nat) :
    (computeLoop alpha fuel k Successful s tags).2.1 = Successful ∨ (computeLoop alpha fuel k Successful s tags).2.1 = NumericalIssue := by
  rw [computeLoop_eq]
  obtain ⟨-, -, h⟩ := Skel.pivotLoop_inv (fun _ info _ => info = Successful ∨ info = NumericalIssue) (fun _ _ _ _ _ _ => ge1_fst _ _)
    (fun _ _ _ _ _ _ => ge2_fst _ _) fuel k _ s tags (Or.inl rfl)
  exact h

/-! ### permutation round trip -/
def swapArr (x : Array α) (a b : Int) : Array α :=
  (x.setIfInBounds a.toNat (x.getD b.toNat zero)).setIfInBounds b.toNat (x.getD a.toNat zero)

theorem xswap_x (v : Sv α) (a b : Int) : (v.xswap a b).x = swapArr v.x a b := rfl

theorem swapArr_size (x : Array α) (a b : Int) : (swapArr x a b).size = x.size := by
  unfold swapArr; rw [Array.size_setIfInBounds, Array.size_setIfInBounds]

theorem swapArr_invol (x : Array α) (a b : Int) (ha : a.toNat < x.size) (hb : b.toNat < x.size) :
    swapArr (swapArr x a b) a b = x := by
  apply Array.ext_getElem?
  intro i
  simp only [swapArr, Array.getElem?_setIfInBounds, Array.size_setIfInBounds, Array.getD_eq_getD_getElem?]
  by_cases h1 : b.toNat = i <;> by_cases h2 : a.toNat = i <;> simp_all
  rw [if_neg (fun h => h2 h.symm)]; simp

theorem applyPermc_x_size (v : Sv α) (pc : List (Int × Int)) : (applyPermc v pc).x.size = v.x.size :=
  ListFold.foldl_fix (·.x.size) _ pc v fun v ab => by rw [xswap_x, swapArr_size]

theorem perm_round_trip (x : Array α) (s : St α) (pc : List (Int × Int))
    (h : ∀ ab ∈ pc, 0 ≤ ab.1 ∧ ab.1 < x.size ∧ 0 ≤ ab.2 ∧ ab.2 < x.size) :
    (applyPermc (applyPermc ⟨x, s⟩ pc) pc.reverse).x = x := by
  induction pc generalizing x s with
  | nil => rfl
  | cons ab pc ih =>
    have hab := h ab List.mem_cons_self
    simp only [applyPermc, List.foldl_cons, List.reverse_cons, List.foldl_append, List.foldl_nil] at ih ⊢
    rw [xswap_x]
    have hsz : (Sv.xswap ⟨x, s⟩ ab.1 ab.2).x.size = x.size := by rw [xswap_x, swapArr_size]
    have := ih (Sv.xswap ⟨x, s⟩ ab.1 ab.2).x (Sv.xswap ⟨x, s⟩ ab.1 ab.2).s (fun cd hcd => by
      have := h cd (List.mem_cons_of_mem _ hcd); rw [hsz]; exact this)
    rw [this, xswap_x]
    exact swapArr_invol x ab.1 ab.2 (by omega) (by omega)

theorem permc_in_range (perm : Int → Int) (n : Int)
    (hp : ∀ i, 0 ≤ i → i < n → (0 ≤ perm i ∧ perm i < n) ∨ (perm i < 0 ∧ -perm i - 1 < n)) :
    ∀ ab ∈ compress_permutation perm n, 0 ≤ ab.1 ∧ ab.1 < n ∧ 0 ≤ ab.2 ∧ ab.2 < n := by
  unfold compress_permutation
  apply ListFold.foldl_inv (fun (l : List (Int × Int)) => ∀ ab ∈ l, 0 ≤ ab.1 ∧ ab.1 < n ∧ 0 ≤ ab.2 ∧ ab.2 < n)
  · intro ab hab; cases hab
  · intro l i hi hl ab hab
    have hi' := mem_intRange.1 hi
    have hpi := hp i hi'.1 hi'.2
    dsimp only at hab
    have key : ∀ X : Int, (0 ≤ X ∧ X < n) → ab ∈ l ++ [(i, X)] → 0 ≤ ab.1 ∧ ab.1 < n ∧ 0 ≤ ab.2 ∧ ab.2 < n := by
      intro X hX h
      rcases List.mem_append.1 h with h | h
      · exact hl ab h
      · simp only [List.mem_singleton] at h
        subst h; exact ⟨hi'.1, hi'.2, hX.1, hX.2⟩
    split_ifs at hab with h1 h2 h3
    · exact key _ (by simp only [ge_iff_le, decide_eq_true_eq] at h1; omega) hab
    · exact hl ab hab
    · exact key _ (by simp only [ge_iff_le, decide_eq_true_eq] at h1; omega) hab
    · exact hl ab hab

/-! ### after the pivot loop -/
theorem compute_final_info_cases (n k info : Int) (akk : α) :
    compute_final_info n k info akk = info ∨ compute_final_info n k info akk = NumericalIssue := by
  unfold compute_final_info
  split
  · simp only []
    split
    · right; rfl
    · left; rfl
  · left; rfl

namespace Skel
variable (rl : α → α) (n : Int) (r : Int × Int × St α × List Nat)

theorem finish_info : (finish rl n r).info = r.2.1 ∨ (finish rl n r).info = NumericalIssue :=
  compute_final_info_cases ..

end Skel

/-- after `compute`, `info()` is `Successful` or `NumericalIssue` — never `NotComputed` — for every size (incl. 1), input and scalar type -/
theorem compute_info_total (src : Array α) (rm : Bool) (n uplo : Int) (shift alpha : α) :
    (compute src rm n uplo shift alpha).info = Successful ∨ (compute src rm n uplo shift alpha).info = NumericalIssue := by
  rw [compute_eq]
  rcases Skel.finish_info (α := α) scalarop_real n _ with h | h
  · rw [h]; exact loop_status alpha _ _ _ _
  · exact Or.inr h

end
end BKLDLT
