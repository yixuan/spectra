/-
  C08 helper lemmas: DISCRETE safety of the reflector row counts `m_ref_nr` of `Spectra::DoubleShiftQR`
  (model: `QRModel.DoubleShiftQR`, `Model/DoubleShiftQR.lean`), for every size `n`, every input matrix (hence every deflation
  pattern) and all shifts, at the exact-arithmetic scalar instance `scOfField F` over an ordered field `K`.

  The only numerical hypothesis is `0 < F.minPos` (so that `|0| < near0 = minPos * 10`); every other `Sc.lt`/`Sc.le` test of the
  model may come out either way, `sqrt`, `pow`, `eps` are arbitrary.

  `update_block(il, iu)` writes `m_ref_nr[il], …, m_ref_nr[iu]` in this order, each a count `1 ≤ v ≤ 3` whose live rows `k … k + v − 1`
  end at or before `iu` (invariant `Filled`): the first reflector of a block of size ≥ 3 and the chase reflectors have three rows
  to spare, the last reflector is computed with the literal `x3 = 0` (count ≤ 2), the last index gets the identity.  `BlockOK` and
  the flat safety facts after `compute` (`compute_nr_blocks`, `compute_nr_safe`) follow because the blocks delimited by `zero_ind`
  (`zeroInd_spec`: first 0, last n, increasing) cover `0 … n − 1`.
-/
import SpectraVerif.Model.DoubleShiftQR
import SpectraVerif.Proofs.ScField
import SpectraVerif.Proofs.C08ReuseDs
import SpectraVerif.Proofs.C08Refl

namespace C08Nr
open QRModel QRModel.DoubleShiftQR Lin
open C08ReuseDs (getD_push)
open C08Mat (getD_set)

variable {K : Type} [Field K] [LinearOrder K] [IsStrictOrderedRing K] (F : FieldFns K)

/-! ### the model's functions at the instance `scOfField F` -/

abbrev cRef (u : Mat K) (nr : Array Nat) (x1 x2 x3 : K) (ind : Nat) : Mat K × Array Nat :=
  @computeReflector K _ _ _ _ _ (scOfField F) u nr x1 x2 x3 ind
abbrev ub (n : Nat) (s t : K) (st : St K) (il iu : Nat) : St K :=
  @update_block K _ _ _ _ _ (scOfField F) n s t st il iu
abbrev cs (n il bsize : Nat) (st : St K) (i : Nat) : St K :=
  @chaseStep K _ _ _ _ _ (scOfField F) n il bsize st i
abbrev aPX (H u : Mat K) (nr : Array Nat) (r0 c0 nrow ncol ind : Nat) : Mat K :=
  @apply_PX K _ _ _ (scOfField F) H u nr r0 c0 nrow ncol ind
abbrev aXP (H u : Mat K) (nr : Array Nat) (r0 c0 nrow ncol ind : Nat) : Mat K :=
  @apply_XP K _ _ _ (scOfField F) H u nr r0 c0 nrow ncol ind
abbrev comp (mat : Mat K) (s t : K) : DoubleShiftQR K :=
  @DoubleShiftQR.compute K _ _ _ _ _ (scOfField F) mat s t
/-- `H(i, j)` -/
abbrev mget (H : Mat K) (i j : Nat) : K := @Mat.get K (scOfField F) H i j
/-- `m_near_0` -/
abbrev nz : K := @near0 K _ (scOfField F)
/-- the literal `Scalar(0)` the model passes as `x3` for 2-row reflectors -/
abbrev z0 : K := @Lin.zero K (scOfField F)

/-! ### 1. `compute_reflector` -/

/-- the exact value `compute_reflector` stores: 1 if both `|x2|` and `|x3|` are below `m_near_0`, else 2 if `|x3|` is, else 3 -/
theorem reflector_nr_eq (u : Mat K) (nr : Array Nat) (x1 x2 x3 : K) (ind : Nat) :
    (cRef F u nr x1 x2 x3 ind).2 = nr.setIfInBounds ind
      (if |x2| < nz F ∧ |x3| < nz F then 1 else if |x3| < nz F then 2 else 3) := by
  rw [show nz F = C08Refl.nz F from C08Refl.nz_eq F]
  exact C08Refl.cRef_nr F u nr x1 x2 x3 ind

theorem near0_pos (hmin : 0 < F.minPos) : (0 : K) < nz F := by
  rw [show nz F = C08Refl.nz F from C08Refl.nz_eq F]
  exact C08Refl.nz_pos F hmin

theorem z0_eq : z0 F = 0 := by
  show ((0 : Int) : K) = 0
  simp

theorem reflector_nr (u : Mat K) (nr : Array Nat) (x1 x2 x3 : K) (ind : Nat) :
    ∃ k, (1 ≤ k ∧ k ≤ 3) ∧ (cRef F u nr x1 x2 x3 ind).2 = nr.setIfInBounds ind k := by
  refine ⟨_, ?_, reflector_nr_eq F u nr x1 x2 x3 ind⟩
  split
  · simp
  · split <;> simp

/-- with `x3 = 0` (what `update_block` passes for the 2-row reflectors) the count is 1 or 2 -/
theorem reflector_nr_zero (hmin : 0 < F.minPos) (u : Mat K) (nr : Array Nat) (x1 x2 x3 : K) (ind : Nat) (h3 : x3 = 0) :
    ∃ k, (1 ≤ k ∧ k ≤ 2) ∧ (cRef F u nr x1 x2 x3 ind).2 = nr.setIfInBounds ind k := by
  refine ⟨_, ?_, reflector_nr_eq F u nr x1 x2 x3 ind⟩
  have h0 : |x3| < nz F := by rw [h3, abs_zero]; exact near0_pos F hmin
  split
  · simp
  · simp

/-- the same for the model's literal `zero` -/
theorem reflector_nr_z0 (hmin : 0 < F.minPos) (u : Mat K) (nr : Array Nat) (x1 x2 : K) (ind : Nat) :
    ∃ k, (1 ≤ k ∧ k ≤ 2) ∧ (cRef F u nr x1 x2 (z0 F) ind).2 = nr.setIfInBounds ind k :=
  reflector_nr_zero F hmin u nr x1 x2 (z0 F) ind (z0_eq F)

/-! ### 2. `apply_PX`, `apply_XP`, `chaseStep` and `m_ref_nr`

`apply_PX`/`apply_XP` return the matrix only (their type has no `Array Nat` component): `m_ref_nr` is an input.  In
`chaseStep` and `update_block` the third component of the state is, by construction, what `computeReflector` returned. -/

/-- `apply_PX` with the identity count is the identity (the only way the `nr` array influences it when `nr[ind] = 1`) -/
theorem apply_PX_nr (H u : Mat K) (nr : Array Nat) (r0 c0 nrow ncol ind : Nat) (h : nr.getD ind 0 = 1) :
    aPX F H u nr r0 c0 nrow ncol ind = H := by
  unfold aPX apply_PX
  simp [h]

theorem apply_XP_nr (H u : Mat K) (nr : Array Nat) (r0 c0 nrow ncol ind : Nat) (h : nr.getD ind 0 = 1) :
    aXP F H u nr r0 c0 nrow ncol ind = H := by
  unfold aXP apply_XP
  simp [h]

/-- the `nr` component of a chase step is the one `compute_reflector` returned for index `il + i` -/
theorem chaseStep_nr_eq (n il bsize : Nat) (st : St K) (i : Nat) :
    (cs F n il bsize st i).2.2 =
      (cRef F st.2.1 st.2.2 (mget F st.1 (il + i) (il + i - 1)) (mget F st.1 (il + i + 1) (il + i - 1))
        (mget F st.1 (il + i + 2) (il + i - 1)) (il + i)).2 := rfl

/-- what a block `[il, iu]` of `m_ref_nr` must look like: counts in `{1,2,3}`, a 3-row (2-row) reflector has its three (two) rows
    inside the block, and the last index of the block carries the identity -/
def BlockOK (nr : Array Nat) (il iu : Nat) : Prop :=
  (∀ k, il ≤ k → k ≤ iu → (nr.getD k 0 = 1 ∨ nr.getD k 0 = 2 ∨ nr.getD k 0 = 3)) ∧
  (∀ k, il ≤ k → k ≤ iu → nr.getD k 0 = 3 → k + 2 ≤ iu) ∧
  (∀ k, il ≤ k → k ≤ iu → nr.getD k 0 = 2 → k + 1 ≤ iu) ∧
  nr.getD iu 0 = 1

theorem BlockOK.congr {nr nr' : Array Nat} {il iu : Nat} (h : BlockOK nr il iu)
    (he : ∀ k, il ≤ k → k ≤ iu → nr'.getD k 0 = nr.getD k 0) (hle : il ≤ iu) : BlockOK nr' il iu := by
  obtain ⟨h1, h2, h3, h4⟩ := h
  refine ⟨?_, ?_, ?_, ?_⟩
  · intro k a b; rw [he k a b]; exact h1 k a b
  · intro k a b; rw [he k a b]; exact h2 k a b
  · intro k a b; rw [he k a b]; exact h3 k a b
  · rw [he iu hle (Nat.le_refl _)]; exact h4

/-- `update_block(il, iu)` writes `m_ref_nr[il], …, m_ref_nr[iu]` in this order; `Filled nr nr' il iu j`: `nr'` is `nr` with the entries
    `il … j − 1` written, each a count `1 ≤ v ≤ 3` whose live rows `k … k + v − 1` end at or before `iu` -/
def Filled (nr nr' : Array Nat) (il iu j : Nat) : Prop :=
  nr'.size = nr.size ∧ (∀ k, (k < il ∨ j ≤ k) → nr'.getD k 0 = nr.getD k 0) ∧
  (∀ k, il ≤ k → k < j → 1 ≤ nr'.getD k 0 ∧ k + nr'.getD k 0 ≤ iu + 1 ∧ nr'.getD k 0 ≤ 3)

theorem Filled.refl (nr : Array Nat) (il iu : Nat) : Filled nr nr il iu il :=
  ⟨rfl, fun _ _ => rfl, fun k a b => by omega⟩

theorem Filled.set {nr nr' : Array Nat} {il iu j : Nat} (h : Filled nr nr' il iu j) (hj : il ≤ j) (hjs : j < nr.size)
    {v : Nat} (hv : 1 ≤ v ∧ j + v ≤ iu + 1 ∧ v ≤ 3) : Filled nr (nr'.setIfInBounds j v) il iu (j + 1) := by
  obtain ⟨h1, h2, h3⟩ := h
  refine ⟨by rw [Array.size_setIfInBounds, h1], fun k hk => ?_, fun k a b => ?_⟩
  · rw [getD_set, if_neg (by omega)]; exact h2 k (by omega)
  · rw [getD_set]
    by_cases e : k = j
    · rw [if_pos ⟨e, by omega⟩, e]; exact hv
    · rw [if_neg (fun c => e c.1)]; exact h3 k a (by omega)

/-- a completely written block is `BlockOK`, and nothing outside it has changed -/
theorem Filled.blockOK {nr nr' : Array Nat} {il iu : Nat} (h : Filled nr nr' il iu (iu + 1)) (hle : il ≤ iu) :
    nr'.size = nr.size ∧ (∀ k, (k < il ∨ iu < k) → nr'.getD k 0 = nr.getD k 0) ∧ BlockOK nr' il iu := by
  obtain ⟨h1, h2, h3⟩ := h
  refine ⟨h1, fun k hk => h2 k (by omega), ?_, ?_, ?_, ?_⟩
  · intro k a b; have := h3 k a (by omega); omega
  · intro k a b c; have := h3 k a (by omega); omega
  · intro k a b c; have := h3 k a (by omega); omega
  · have := h3 iu hle (by omega); omega

/-! ### 3. `update_block`

Each step of `update_block` (`C08Steps.IsStep`) stores one count: a reflector step `refStep` the count `compute_reflector` returns, `endStep`
the identity. -/

theorem Filled.refStep {nr : Array Nat} {st : St K} {il iu j j' : Nat} (h : Filled nr st.2.2 il iu j) (hj : il ≤ j)
    (hjs : j < nr.size) (h3 : j + 3 ≤ iu + 1) (hj' : j' = j + 1) (x1 x2 x3 : K) (a1 a2 a3 a4 b1 b2 b3 b4 : Nat) :
    Filled nr (@C08Steps.refStep K _ _ _ _ _ (scOfField F) st x1 x2 x3 j a1 a2 a3 a4 b1 b2 b3 b4).2.2 il iu j' := by
  obtain ⟨v, hv, he⟩ := reflector_nr F st.2.1 st.2.2 x1 x2 x3 j
  subst hj'
  show Filled nr (cRef F st.2.1 st.2.2 x1 x2 x3 j).2 il iu (j + 1)
  rw [he]
  exact h.set hj hjs ⟨by omega, by omega, by omega⟩

/-- with the literal `x3 = 0` the count is at most 2: two rows suffice -/
theorem Filled.refStep0 (hmin : 0 < F.minPos) {nr : Array Nat} {st : St K} {il iu j j' : Nat} (h : Filled nr st.2.2 il iu j)
    (hj : il ≤ j) (hjs : j < nr.size) (h2 : j + 2 ≤ iu + 1) (hj' : j' = j + 1) (x1 x2 : K) (a1 a2 a3 a4 b1 b2 b3 b4 : Nat) :
    Filled nr (@C08Steps.refStep K _ _ _ _ _ (scOfField F) st x1 x2 (z0 F) j a1 a2 a3 a4 b1 b2 b3 b4).2.2 il iu j' := by
  obtain ⟨v, hv, he⟩ := reflector_nr_z0 F hmin st.2.1 st.2.2 x1 x2 j
  subst hj'
  show Filled nr (cRef F st.2.1 st.2.2 x1 x2 (z0 F) j).2 il iu (j + 1)
  rw [he]
  exact h.set hj hjs ⟨by omega, by omega, by omega⟩

omit [Field K] [LinearOrder K] [IsStrictOrderedRing K] in
theorem Filled.endStep {nr : Array Nat} {st : St K} {il iu j j' : Nat} (h : Filled nr st.2.2 il iu j) (hj : il ≤ j)
    (hjs : j < nr.size) (h1 : j ≤ iu) (hj' : j' = j + 1) : Filled nr (C08Steps.endStep st j).2.2 il iu j' := by
  subst hj'
  exact h.set hj hjs ⟨by omega, by omega, by omega⟩

theorem Filled.step (hmin : 0 < F.minPos) {nr : Array Nat} {n : Nat} {s t : K} {il iu k : Nat} {o : C08Steps.Op K}
    (ho : @C08Steps.IsStep K _ _ _ (scOfField F) n s t il iu k o) (hsz : iu < nr.size) {st : St K} (h : Filled nr st.2.2 il iu k) :
    Filled nr (@C08Steps.Op.run K _ _ _ _ _ (scOfField F) o st).2.2 il iu (k + 1) := by
  cases ho with
  | first2 e => exact h.refStep0 F hmin (Nat.le_refl _) (by omega) (by omega) rfl _ _ _ _ _ _ _ _ _ _
  | first3 h3 => exact h.refStep F (Nat.le_refl _) (by omega) (by omega) rfl _ _ _ _ _ _ _ _ _ _ _
  | chase i h1 h2 => exact h.refStep F (by omega) (by omega) (by omega) rfl _ _ _ _ _ _ _ _ _ _ _
  | last h3 => exact h.refStep0 F hmin (by omega) (by omega) (by omega) (by omega) _ _ _ _ _ _ _ _ _ _
  | close hle => exact h.endStep hle hsz (Nat.le_refl _) rfl

/-- `update_block(il, iu)` writes the whole block, for every block size -/
theorem update_block_filled (hmin : 0 < F.minPos) (n : Nat) (s t : K) (st : St K) (il iu : Nat)
    (hle : il ≤ iu) (hsz : iu < st.2.2.size) : Filled st.2.2 (ub F n s t st il iu).2.2 il iu (iu + 1) :=
  @C08Steps.update_block_rule K _ _ _ _ _ (scOfField F) (fun _ _ => True) n s t il iu hle (fun k st' _ => Filled st.2.2 st'.2.2 il iu k)
    (fun _ _ _ _ ho _ hp => Filled.step F hmin ho hsz hp) st st (@C08Steps.BlockGuard.trivial K _ _ _ _ _ (scOfField F) ..)
    (Filled.refl _ _ _)

/-- general-state form of `update_block_nr` -/
theorem update_block_nr_st (hmin : 0 < F.minPos) (n : Nat) (s t : K) (st : St K) (il iu : Nat)
    (hle : il ≤ iu) (hsz : iu < st.2.2.size) :
    (ub F n s t st il iu).2.2.size = st.2.2.size ∧
    (∀ k, (k < il ∨ iu < k) → (ub F n s t st il iu).2.2.getD k 0 = st.2.2.getD k 0) ∧
    BlockOK (ub F n s t st il iu).2.2 il iu :=
  (update_block_filled F hmin n s t st il iu hle hsz).blockOK hle

/-- `update_block(il, iu)` on the counts, `il ≤ iu < nr.size`:
    (a) the size is unchanged, (b) entries outside `[il, iu]` are untouched, (c) entries inside are 1, 2 or 3,
    (d) a 3-row reflector at `k` has `k + 2 ≤ iu`, (e) a 2-row reflector at `k` has `k + 1 ≤ iu`, (f) the last index is the
    identity.  Covers block sizes 1, 2 and ≥ 3. -/
theorem update_block_nr (hmin : 0 < F.minPos) (n : Nat) (s t : K) (H u : Mat K) (nr : Array Nat) (il iu : Nat)
    (hle : il ≤ iu) (hsz : iu < nr.size) :
    (ub F n s t (H, u, nr) il iu).2.2.size = nr.size ∧
    (∀ k, (k < il ∨ iu < k) → (ub F n s t (H, u, nr) il iu).2.2.getD k 0 = nr.getD k 0) ∧
    (∀ k, il ≤ k → k ≤ iu → ((ub F n s t (H, u, nr) il iu).2.2.getD k 0 = 1 ∨
        (ub F n s t (H, u, nr) il iu).2.2.getD k 0 = 2 ∨ (ub F n s t (H, u, nr) il iu).2.2.getD k 0 = 3)) ∧
    (∀ k, il ≤ k → k ≤ iu → (ub F n s t (H, u, nr) il iu).2.2.getD k 0 = 3 → k + 2 ≤ iu) ∧
    (∀ k, il ≤ k → k ≤ iu → (ub F n s t (H, u, nr) il iu).2.2.getD k 0 = 2 → k + 1 ≤ iu) ∧
    (ub F n s t (H, u, nr) il iu).2.2.getD iu 0 = 1 :=
  update_block_nr_st F hmin n s t (H, u, nr) il iu hle hsz

/-! ### 4. `compute` -/

/-- the array `zero_ind` of `compute` (block starts, with the leading 0 and the trailing n) -/
def zeroInd (mat : Mat K) : Array Nat :=
  ((List.range (mat.rows - 1)).foldl
    (@splitStep K _ _ (scOfField F) mat.rows (nz F * (@Sc.ofInt K (scOfField F) (mat.rows : Int) / F.eps)))
    (@Mat.ofFn K mat.rows mat.rows (fun i j => @Mat.get K (scOfField F) mat i j), (#[0] : Array Nat))).2.push mat.rows

/-- the state `compute` starts the block loop from -/
def st0 (mat : Mat K) : St K :=
  (((List.range (mat.rows - 1)).foldl
    (@splitStep K _ _ (scOfField F) mat.rows (nz F * (@Sc.ofInt K (scOfField F) (mat.rows : Int) / F.eps)))
    (@Mat.ofFn K mat.rows mat.rows (fun i j => @Mat.get K (scOfField F) mat i j), (#[0] : Array Nat))).1,
   @Mat.zeros K (scOfField F) 3 mat.rows, Array.replicate mat.rows 0)

/-- `m_ref_nr` after `compute` is the result of the block loop over `zero_ind` -/
theorem compute_nr_eq (mat : Mat K) (s t : K) :
    (comp F mat s t).nr =
      ((List.range ((zeroInd F mat).size - 1)).foldl
        (fun st i => ub F mat.rows s t st ((zeroInd F mat).getD i 0) ((zeroInd F mat).getD (i + 1) 0 - 1)) (st0 F mat)).2.2 := rfl

theorem compute_n_eq (mat : Mat K) (s t : K) : (comp F mat s t).n = mat.rows := rfl

/-- `zero_ind`: at least two entries, first 0, last n, strictly increasing (adjacent form), all entries `≤ n`  (`1 ≤ n`) -/
theorem zeroInd_spec (mat : Mat K) (hn : 1 ≤ mat.rows) :
    2 ≤ (zeroInd F mat).size ∧ (zeroInd F mat).getD 0 0 = 0 ∧
    (zeroInd F mat).getD ((zeroInd F mat).size - 1) 0 = mat.rows ∧
    (∀ a, a + 1 < (zeroInd F mat).size → (zeroInd F mat).getD a 0 < (zeroInd F mat).getD (a + 1) 0) ∧
    (∀ a, a < (zeroInd F mat).size → (zeroInd F mat).getD a 0 ≤ mat.rows) := by
  have h := (@C08ReuseDs.split_fold_ZI K _ _ _ _ _ (scOfField F) mat.rows (nz F * (@Sc.ofInt K (scOfField F) (mat.rows : Int) / F.eps))
    (@Mat.ofFn K mat.rows mat.rows (fun i j => @Mat.get K (scOfField F) mat i j)) (mat.rows - 1)).push
    (v := mat.rows) (by omega)
  have hsz : 0 < ((List.range (mat.rows - 1)).foldl
      (@splitStep K _ _ (scOfField F) mat.rows (nz F * (@Sc.ofInt K (scOfField F) (mat.rows : Int) / F.eps)))
      (@Mat.ofFn K mat.rows mat.rows (fun i j => @Mat.get K (scOfField F) mat i j), (#[0] : Array Nat))).2.size :=
    (@C08ReuseDs.split_fold_ZI K _ _ _ _ _ (scOfField F) _ _ _ _).1
  obtain ⟨h1, h2, h3, h4⟩ := h
  refine ⟨?_, h2, ?_, h3, h4⟩
  · show 2 ≤ (Array.push _ _).size
    rw [Array.size_push]; omega
  · show (Array.push _ _).getD ((Array.push _ _).size - 1) 0 = _
    rw [Array.size_push, getD_push, if_neg (by omega), if_pos (by omega)]

/-- adjacent-strict implies monotone -/
theorem zi_mono (zi : Array Nat) (hadj : ∀ a, a + 1 < zi.size → zi.getD a 0 < zi.getD (a + 1) 0)
    (a b : Nat) (hab : a ≤ b) (hb : b < zi.size) : zi.getD a 0 ≤ zi.getD b 0 := by
  induction b with
  | zero => have : a = 0 := by omega
            subst this; exact Nat.le_refl _
  | succ b ih =>
    rcases Nat.lt_or_ge a (b + 1) with h | h
    · have := ih (by omega) (by omega)
      have := hadj b hb
      omega
    · have : a = b + 1 := by omega
      subst this; exact Nat.le_refl _

/-- the block loop of `compute` over any increasing boundary array: after `j` blocks every processed block is `BlockOK` -/
theorem blocks_fold (hmin : 0 < F.minPos) (n : Nat) (s t : K) (zi : Array Nat)
    (hadj : ∀ a, a + 1 < zi.size → zi.getD a 0 < zi.getD (a + 1) 0)
    (hbd : ∀ a, a < zi.size → zi.getD a 0 ≤ n) (st : St K) (h0 : st.2.2.size = n)
    (j : Nat) (hj : j + 1 ≤ zi.size) :
    ((List.range j).foldl (fun st i => ub F n s t st (zi.getD i 0) (zi.getD (i + 1) 0 - 1)) st).2.2.size = n ∧
    (∀ i, i < j → BlockOK ((List.range j).foldl
        (fun st i => ub F n s t st (zi.getD i 0) (zi.getD (i + 1) 0 - 1)) st).2.2 (zi.getD i 0) (zi.getD (i + 1) 0 - 1)) := by
  refine ListFold.foldl_range_inv
    (fun j (r : St K) => r.2.2.size = n ∧ ∀ i, i < j → BlockOK r.2.2 (zi.getD i 0) (zi.getD (i + 1) 0 - 1)) _ j st
    ⟨h0, fun i hi => absurd hi (Nat.not_lt_zero i)⟩ (fun m r hm ⟨ih1, ih2⟩ => ?_)
  have hlt := hadj m (by omega)
  have hle := hbd (m + 1) (by omega)
  obtain ⟨u1, u2, u3⟩ := update_block_nr_st F hmin n s t r (zi.getD m 0) (zi.getD (m + 1) 0 - 1)
    (by omega) (by omega)
  refine ⟨by rw [u1, ih1], fun i hi => ?_⟩
  rcases Nat.lt_or_ge i m with h | h
  · have hm' := zi_mono zi hadj (i + 1) m (by omega) (by omega)
    have hlt' := hadj i (by omega)
    exact (ih2 i h).congr (fun k _ hk => u2 k (by omega)) (by omega)
  · have : i = m := by omega
    subst this; exact u3

/-- every index below the `j`-th boundary lies in one of the first `j` blocks -/
theorem block_of (zi : Array Nat) (h0 : zi.getD 0 0 = 0) (j k : Nat) (hk : k < zi.getD j 0) :
    ∃ i, i < j ∧ zi.getD i 0 ≤ k ∧ k ≤ zi.getD (i + 1) 0 - 1 := by
  induction j with
  | zero => omega
  | succ j ih =>
    rcases Nat.lt_or_ge k (zi.getD j 0) with h | h
    · obtain ⟨i, hi, a, b⟩ := ih h
      exact ⟨i, by omega, a, b⟩
    · exact ⟨j, by omega, h, by omega⟩

/-- per-block safety of `m_ref_nr` after `compute`: with `zi = zero_ind` (first 0, last n, strictly increasing), every
    consecutive pair `(zi[i], zi[i+1])` delimits a block `[zi[i], zi[i+1]-1]` whose counts are 1/2/3, whose 3-row (2-row)
    reflectors have their rows inside the block, and whose last index carries the identity -/
theorem compute_nr_blocks (hmin : 0 < F.minPos) (mat : Mat K) (s t : K) (hn : 1 ≤ mat.rows) :
    (comp F mat s t).nr.size = mat.rows ∧
    2 ≤ (zeroInd F mat).size ∧ (zeroInd F mat).getD 0 0 = 0 ∧
    (zeroInd F mat).getD ((zeroInd F mat).size - 1) 0 = mat.rows ∧
    (∀ a, a + 1 < (zeroInd F mat).size → (zeroInd F mat).getD a 0 < (zeroInd F mat).getD (a + 1) 0) ∧
    (∀ i, i + 1 < (zeroInd F mat).size →
      BlockOK (comp F mat s t).nr ((zeroInd F mat).getD i 0) ((zeroInd F mat).getD (i + 1) 0 - 1)) := by
  obtain ⟨z1, z2, z3, z4, z5⟩ := zeroInd_spec F mat hn
  have hst0 : (st0 F mat).2.2.size = mat.rows := by show (Array.replicate _ _).size = _; simp
  obtain ⟨b1, b2⟩ := blocks_fold F hmin mat.rows s t (zeroInd F mat) z4 z5 (st0 F mat) hst0
    ((zeroInd F mat).size - 1) (by omega)
  rw [compute_nr_eq]
  exact ⟨b1, z1, z2, z3, z4, fun i hi => b2 i (by omega)⟩

/-- MAIN THEOREM: flat safety of `m_ref_nr` after `compute`, for every matrix with `n = mat.rows ≥ 1` and all shifts:
    `nr.size = n`; every count is 1, 2 or 3; a 3-row reflector at `k` has `k + 2 ≤ n - 1`; a 2-row reflector at `k` has
    `k + 1 ≤ n - 1`; `nr[n-1] = 1` -/
theorem compute_nr_safe (hmin : 0 < F.minPos) (mat : Mat K) (s t : K) (hn : 1 ≤ mat.rows) :
    (comp F mat s t).nr.size = mat.rows ∧
    (∀ k, k < mat.rows → ((comp F mat s t).nr.getD k 0 = 1 ∨ (comp F mat s t).nr.getD k 0 = 2 ∨
        (comp F mat s t).nr.getD k 0 = 3)) ∧
    (∀ k, k < mat.rows → (comp F mat s t).nr.getD k 0 = 3 → k + 2 ≤ mat.rows - 1) ∧
    (∀ k, k < mat.rows → (comp F mat s t).nr.getD k 0 = 2 → k + 1 ≤ mat.rows - 1) ∧
    (comp F mat s t).nr.getD (mat.rows - 1) 0 = 1 := by
  obtain ⟨c1, z1, z2, z3, z4, cb⟩ := compute_nr_blocks F hmin mat s t hn
  have hbd := (zeroInd_spec F mat hn).2.2.2.2
  have loc : ∀ k, k < mat.rows → ∃ i, i + 1 < (zeroInd F mat).size ∧ (zeroInd F mat).getD i 0 ≤ k ∧
      k ≤ (zeroInd F mat).getD (i + 1) 0 - 1 ∧ (zeroInd F mat).getD (i + 1) 0 ≤ mat.rows := by
    intro k hk
    obtain ⟨i, hi, a, b⟩ := block_of (zeroInd F mat) z2 ((zeroInd F mat).size - 1) k (by rw [z3]; exact hk)
    exact ⟨i, by omega, a, b, hbd (i + 1) (by omega)⟩
  refine ⟨c1, ?_, ?_, ?_, ?_⟩
  · intro k hk
    obtain ⟨i, hi, a, b, _⟩ := loc k hk
    exact (cb i hi).1 k a b
  · intro k hk h3
    obtain ⟨i, hi, a, b, c⟩ := loc k hk
    have := (cb i hi).2.1 k a b h3
    omega
  · intro k hk h2
    obtain ⟨i, hi, a, b, c⟩ := loc k hk
    have := (cb i hi).2.2.1 k a b h2
    omega
  · have := (cb ((zeroInd F mat).size - 2) (by omega)).2.2.2
    have e : (zeroInd F mat).size - 2 + 1 = (zeroInd F mat).size - 1 := by omega
    rw [e, z3] at this
    exact this

/-! ### 5. corollaries for `apply_QtY` / `apply_YQ` -/

/-- `apply_QtY` calls `apply_PX_vec q.u q.nr y i i` for `i < n - 1`; the call reads/writes `y[i], …, y[i + nr[i] - 1]`
    (nothing for `nr[i] = 1`): the highest index is inside the vector of length `n` -/
theorem apply_reads_in_range (hmin : 0 < F.minPos) (mat : Mat K) (s t : K) (hn : 1 ≤ mat.rows) (i : Nat)
    (hi : i < mat.rows - 1) :
    i + (comp F mat s t).nr.getD i 0 - 1 ≤ mat.rows - 1 ∧
    (comp F mat s t).nr.getD i 0 ≤ 3 ∧ 1 ≤ (comp F mat s t).nr.getD i 0 := by
  obtain ⟨_, h1, h2, h3, _⟩ := compute_nr_safe F hmin mat s t hn
  have a := h1 i (by omega)
  have b := h2 i (by omega)
  have c := h3 i (by omega)
  omega

/-- `apply_YQ`: the loop `i < n - 2` calls `apply_XP` with `ncol = 3` on columns `i, i+1, i+2 ≤ n - 1`; the last call
    (`i = n - 2`, `ncol = 2`) has `nr[n-2] ∈ {1, 2}` and, whatever the count, takes the two-column branch, so it touches only
    columns `n - 2` and `n - 1`: column `n` is never touched -/
theorem apply_YQ_last_nr (hmin : 0 < F.minPos) (mat : Mat K) (s t : K) (hn : 2 ≤ mat.rows) :
    ((comp F mat s t).nr.getD (mat.rows - 2) 0 = 1 ∨ (comp F mat s t).nr.getD (mat.rows - 2) 0 = 2) ∧
    (mat.rows - 2) + 1 ≤ mat.rows - 1 ∧
    (∀ i, i < mat.rows - 2 → i + 2 ≤ mat.rows - 1) := by
  obtain ⟨_, h1, h2, _, _⟩ := compute_nr_safe F hmin mat s t (by omega)
  have a := h1 (mat.rows - 2) (by omega)
  have b := h2 (mat.rows - 2) (by omega)
  refine ⟨by omega, by omega, fun i hi => by omega⟩

/-- the two-column branch of `apply_XP` is the one taken when `ncol = 2`, whatever the stored count (`≠ 1`) is -/
theorem apply_XP_ncol2 (H u : Mat K) (nr : Array Nat) (r0 c0 nrow ind : Nat) (h : nr.getD ind 0 ≠ 1) :
    aXP F H u nr r0 c0 nrow 2 ind =
      (List.range nrow).foldl (fun H i =>
        (H.set (r0 + i) c0 (mget F H (r0 + i) c0 -
            ((2 : Int) * mget F u 0 ind * mget F H (r0 + i) c0 +
             (2 : Int) * mget F u 1 ind * mget F H (r0 + i) (c0 + 1)) * mget F u 0 ind)).set (r0 + i) (c0 + 1)
          (mget F H (r0 + i) (c0 + 1) -
            ((2 : Int) * mget F u 0 ind * mget F H (r0 + i) c0 +
             (2 : Int) * mget F u 1 ind * mget F H (r0 + i) (c0 + 1)) * mget F u 1 ind)) H := by
  unfold aXP apply_XP
  have h1 : (nr.getD ind 0 == 1) = false := by simpa using h
  simp only [h1, beq_self_eq_true, Bool.or_true, ↓reduceIte, Bool.false_eq_true]
  rfl

-- #print axioms reflector_nr
-- #print axioms reflector_nr_zero
-- #print axioms update_block_nr
-- #print axioms compute_nr_blocks
-- #print axioms compute_nr_safe
-- #print axioms apply_reads_in_range
-- #print axioms apply_YQ_last_nr

end C08Nr
