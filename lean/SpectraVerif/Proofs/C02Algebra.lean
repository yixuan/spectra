/-
  C02 (general nonsymmetric eigen-solvers: `GenEigsBase`, `GenEigsRealShiftSolver`, `GenEigsComplexShiftSolver`):
  the exact-arithmetic algebra behind "every pair (λ, x) handed back satisfies ‖A x − λ x‖ ≤ tol·scale, ‖x‖ = 1, and λ is in the
  spectrum of the user's A, never in the transformed spectrum".

  The matrices `A` (n×n), `V` (n×m), `H` (m×m) and the residual vector `f` of the Arnoldi relation are REAL (`R`); Ritz values `θ`
  and coefficient vectors `y` are COMPLEX.  The complex numbers are abstracted as a field `K` with a ring homomorphism
  `ι : R →+* K` (and, where conjugation is needed, `[StarRing K]` with `∀ r, star (ι r) = ι r`).
-/
import Mathlib.Data.Matrix.Mul
import Mathlib.LinearAlgebra.Matrix.ConjTranspose
import Mathlib.Algebra.Star.Basic
import Mathlib.Algebra.Field.Basic
import Mathlib.Algebra.Order.Field.Basic
import Mathlib.Tactic.LinearCombination
import Mathlib.Tactic.Ring
import Mathlib.Tactic.NormNum
import Mathlib.Data.Complex.Basic
import SpectraVerif.Proofs.Spectral
import SpectraVerif.Model.Orch
import SpectraVerif.Model.GenSolver
import SpectraVerif.Proofs.SortLemmas
import SpectraVerif.Proofs.OrchLemmas

open Matrix

namespace C02A

/-! ## the residual of a complex Ritz pair of a real Arnoldi factorization -/

section residual
variable {n m : Type} [Fintype n] [Fintype m] [DecidableEq m] {R K : Type} [CommRing R] [Field K]

/-- the real factorization `A V = V H + f e_lastᵀ`, read in `K` through `ι` -/
theorem fac_embedded (ι : R →+* K) (A : Matrix n n R) (V : Matrix n m R) (H : Matrix m m R) (f : n → R) (last : m)
    (hfac : A * V = V * H + vecMulVec f (Pi.single last 1)) :
    A.map ι * V.map ι = V.map ι * H.map ι + vecMulVec (ι ∘ f) (Pi.single last 1) := by
  rw [← Matrix.map_mul, hfac, Matrix.map_add _ ι.map_add, Matrix.map_mul]
  congr 1
  ext i j
  rw [map_apply, vecMulVec_apply, vecMulVec_apply, ι.map_mul, Function.comp_apply,
    Pi.apply_single (fun _ => ι) (fun _ => ι.map_zero), ι.map_one]

end residual

/-! ## unit norm -/

section unitnorm
variable {n m : Type} [Fintype n] [Fintype m] [DecidableEq m] {R K : Type} [CommRing R] [Field K] [StarRing K]

/-- `‖V y‖² = ‖y‖²` for a real `V` with orthonormal columns and complex `y` -/
theorem unit_norm (ι : R →+* K) (hι : ∀ r, star (ι r) = ι r) (V : Matrix n m R) (hV : Vᵀ * V = 1) (y : m → K) :
    star ((V.map ι) *ᵥ y) ⬝ᵥ ((V.map ι) *ᵥ y) = star y ⬝ᵥ y := by
  have hH : (V.map ι)ᴴ = Vᵀ.map ι := by
    ext i j
    exact hι (V j i)
  rw [star_mulVec, ← dotProduct_mulVec, mulVec_mulVec, hH, ← Matrix.map_mul, hV, Matrix.map_one _ ι.map_zero ι.map_one,
    one_mulVec]

end unitnorm

/-! ## the quadratic of the complex-shift solver

  `σ = a + b i`; the transformed value of an eigenvalue `λ` is `ν = ½ (1/(λ − σ) + 1/(λ − σ̄))`, and the code recovers `λ` from `ν`
  as a root of `ν t² − t + ν b² = 0` in `t = λ − a`. -/

section quadratic
variable {K : Type} [Field K]

/-- `(λ − σ)(λ − σ̄) = (λ − a)² + b²` for `σ = a + b i` -/
theorem cs_product (a b i lam : K) (hi : i * i = -1) :
    (lam - (a + b * i)) * (lam - (a - b * i)) = (lam - a) ^ 2 + b ^ 2 := by
  linear_combination (-(b ^ 2)) * hi

/-- `ν = ½ (1/(λ − σ) + 1/(λ − σ̄))` is the code's quadratic `ν t² − t + ν b² = 0` in `t = λ − a` -/
theorem cs_nu_iff (a b i lam ν : K) (hi : i * i = -1) (h2 : (2 : K) ≠ 0)
    (h1 : lam - (a + b * i) ≠ 0) (h1c : lam - (a - b * i) ≠ 0) :
    ν = (1 / 2) * (1 / (lam - (a + b * i)) + 1 / (lam - (a - b * i))) ↔ ν * ((lam - a) ^ 2 + b ^ 2) = lam - a := by
  have hS : lam - (a + b * i) + (lam - (a - b * i)) = 2 * (lam - a) := by ring
  rw [one_div_add_one_div h1 h1c, hS, one_div, ← mul_div_assoc, inv_mul_cancel_left₀ h2, eq_div_iff (mul_ne_zero h1 h1c),
    cs_product a b i lam hi]

/-- a candidate `a + 1/(2ν) + u/(2ν)` of the code, cleared of its denominator -/
theorem cs_candidate_iff (a lam ν u : K) (h : 2 * ν ≠ 0) :
    lam = a + 1 / (2 * ν) + u / (2 * ν) ↔ 2 * ν * (lam - a) - 1 - u = 0 := by
  rw [add_assoc, ← add_div, ← sub_eq_iff_eq_add', eq_div_iff h, sub_sub, sub_eq_zero, mul_comm]

/-- the two solutions of the quadratic are `root_part1 ± root_part2` of the C++:
    `m_sigmar + 0.5/nu ± 0.5 * sqrt(1 − 4 σi² ν²) / nu` -/
theorem cs_roots (a b lam ν s : K) (h2 : (2 : K) ≠ 0) (hν : ν ≠ 0) (hs : s * s = 1 - 4 * b ^ 2 * ν ^ 2) :
    ν * ((lam - a) ^ 2 + b ^ 2) = lam - a ↔
      lam = a + 1 / (2 * ν) + s / (2 * ν) ∨ lam = a + 1 / (2 * ν) - s / (2 * ν) := by
  have h2ν : 2 * ν ≠ 0 := mul_ne_zero h2 hν
  -- `4ν` times the quadratic is a difference of squares, `(2νt − 1)² − s²`
  have key : (2 * ν * (lam - a) - 1 - s) * (2 * ν * (lam - a) - 1 - -s)
      = 2 * ν * (2 * (ν * ((lam - a) ^ 2 + b ^ 2) - (lam - a))) := by
    generalize lam - a = t
    linear_combination (-1 : K) * hs
  rw [sub_eq_add_neg _ (s / _), ← neg_div, cs_candidate_iff a lam ν s h2ν, cs_candidate_iff a lam ν (-s) h2ν, ← mul_eq_zero, key,
    mul_eq_zero, or_iff_right h2ν, mul_eq_zero, or_iff_right h2, sub_eq_zero]

/-- the second root as the code computes it since 0117f45 (product of the roots, no cancellation):
    `m_sigmar + (2 σi²) ν / (1 + sqrt_disc) = root_part1 − root_part2` whenever `1 + s ≠ 0` -/
theorem cs_root2_stable (a b ν s : K) (h2 : (2 : K) ≠ 0) (hν : ν ≠ 0) (hs : s * s = 1 - 4 * b ^ 2 * ν ^ 2)
    (h1s : 1 + s ≠ 0) :
    a + (2 * b * b) * ν / (1 + s) = a + 1 / (2 * ν) - s / (2 * ν) := by
  have key : (2 * b * b) * ν / (1 + s) = (1 - s) / (2 * ν) := by
    rw [div_eq_div_iff h1s (mul_ne_zero h2 hν)]
    linear_combination (1 : K) * hs
  rw [key, add_sub_assoc, ← sub_div]

/-- `ν (t₁ + t₂) = 1` follows from the quadratic and the product when `t₁ ≠ 0` -/
theorem cs_sum (b ν t t' : K) (hq : ν * (t ^ 2 + b ^ 2) = t) (hp : t * t' = b ^ 2) (ht : t ≠ 0) : ν * (t + t') = 1 := by
  have : t * (ν * (t + t')) = t * 1 := by
    linear_combination hq + ν * hp
  exact mul_left_cancel₀ ht this

/-- the polynomial identity behind `cs_residual` (scalar version): with `ν (t₁² + b²) = t₁`, `t₁ t₂ = b²`, `t₁ ≠ 0`
    (`t₁ = λ − a`, `t₂ = λ' − a`):  `ν ((t−a)² + b²) − (t−a) = ν (t − λ)(t − λ')` for all `t` -/
theorem cs_poly (a b lam lam' ν : K) (hq : ν * ((lam - a) ^ 2 + b ^ 2) = lam - a) (hp : (lam - a) * (lam' - a) = b ^ 2)
    (hl : lam - a ≠ 0) (t : K) :
    ν * ((t - a) ^ 2 + b ^ 2) - (t - a) = ν * (t - lam) * (t - lam') := by
  linear_combination (-ν) * hp + (t - a) * cs_sum b ν (lam - a) (lam' - a) hq hp hl

/-- the boundary of F14 in `t = λ − a` -/
theorem cs_boundary_nu (b ν t : K) (hb : b ≠ 0) (hd : t ^ 2 = b ^ 2) (hq : ν * (t ^ 2 + b ^ 2) = t) :
    t ≠ 0 ∧ ν * (2 * t) = 1 := by
  have ht : t ≠ 0 := (pow_ne_zero_iff two_ne_zero).mp (hd ▸ pow_ne_zero 2 hb)
  refine ⟨ht, mul_left_cancel₀ ht ?_⟩
  linear_combination hq + ν * hd

/-- behind finding F14: an eigenvalue at distance `|Im σ|` from `Re σ` on the real line is a DOUBLE root of the quadratic:
    `ν = 1/(2(λ − a))` and the discriminant `1 − 4 b² ν²` vanishes -/
theorem cs_boundary (a b lam ν : K) (h2 : (2 : K) ≠ 0) (hb : b ≠ 0) (hd : (lam - a) ^ 2 = b ^ 2)
    (hq : ν * ((lam - a) ^ 2 + b ^ 2) = lam - a) :
    ν = 1 / (2 * (lam - a)) ∧ 1 - 4 * b ^ 2 * ν ^ 2 = 0 := by
  obtain ⟨ht, hν⟩ := cs_boundary_nu b ν (lam - a) hb hd hq
  refine ⟨eq_div_of_mul_eq (mul_ne_zero h2 ht) hν, ?_⟩
  rw [← hd, sub_eq_zero, ← one_pow 2, ← hν]
  generalize lam - a = t
  ring

/-- `cs_boundary` with `ν` given as the code's operator defines it (`σ = a + b i`); the two denominators are automatically nonzero -/
theorem cs_boundary_i (a b i lam ν : K) (hi : i * i = -1) (h2 : (2 : K) ≠ 0) (hb : b ≠ 0) (hd : (lam - a) ^ 2 = b ^ 2)
    (hν : ν = (1 / 2) * (1 / (lam - (a + b * i)) + 1 / (lam - (a - b * i)))) :
    ν = 1 / (2 * (lam - a)) ∧ 1 - 4 * b ^ 2 * ν ^ 2 = 0 := by
  have hP0 : (lam - (a + b * i)) * (lam - (a - b * i)) ≠ 0 := by
    rw [cs_product a b i lam hi, hd, ← two_mul]
    exact mul_ne_zero h2 (pow_ne_zero 2 hb)
  exact cs_boundary a b lam ν h2 hb hd
    ((cs_nu_iff a b i lam ν hi h2 (left_ne_zero_of_mul hP0) (right_ne_zero_of_mul hP0)).mp hν)

variable {n : Type} [Fintype n] [DecidableEq n]

/-- matrix core of `cs_residual`, in terms of `M = A − a I` and `t = λ − a`, `t' = λ' − a` with `ν (t + t') = 1`, `t t' = b²`:
    by `Spectral.reg_inverse` the right side is `(M² + b²) x − ν⁻¹ M x`, and `ν⁻¹ = t + t'`, `b² = t t'` -/
theorem cs_residual_core (M : Matrix n n K) (b ν t t' : K) (x y r : n → K) (hν : ν ≠ 0)
    (hB : (M * M + (b ^ 2) • (1 : Matrix n n K)) *ᵥ y = M *ᵥ x) (hy : y = ν • x + r)
    (hsum : ν * (t + t') = 1) (hprod : t * t' = b ^ 2) :
    (M - t' • (1 : Matrix n n K)) *ᵥ ((M - t • (1 : Matrix n n K)) *ᵥ x)
      = -ν⁻¹ • ((M * M + (b ^ 2) • (1 : Matrix n n K)) *ᵥ r) := by
  rw [← Spectral.reg_inverse M _ ν x r y hy hB, smul_sub, smul_smul, neg_mul, inv_mul_cancel₀ hν,
    ← eq_inv_of_mul_eq_one_right hsum, ← hprod]
  simp only [add_mulVec, sub_mulVec, smul_mulVec, one_mulVec, mulVec_sub, mulVec_smul, ← mulVec_mulVec]
  ext j
  simp only [Pi.add_apply, Pi.smul_apply, Pi.sub_apply, smul_eq_mul]
  ring

/-- **complex shift, residual**: the operator is `x ↦ y` with `B y = (A − a I) x`, `B = (A − a I)² + b² I`
    (i.e. `y = Re[(A − σI)⁻¹] x` for real `A`, `σ = a + b i`).  If `y = ν x + r` and `λ, λ'` are the two solutions of the quadratic
    (`ν ((λ − a)² + b²) = λ − a`, `(λ − a)(λ' − a) = b²`, `λ ≠ a`), then `(A − λ' I)(A − λ I) x = −(1/ν) B r`. -/
theorem cs_residual (A B : Matrix n n K) (a b ν lam lam' : K) (x y r : n → K) (hν : ν ≠ 0)
    (hBdef : B = (A - a • (1 : Matrix n n K)) * (A - a • (1 : Matrix n n K)) + (b ^ 2) • (1 : Matrix n n K))
    (hB : B *ᵥ y = (A - a • (1 : Matrix n n K)) *ᵥ x) (hy : y = ν • x + r)
    (hq : ν * ((lam - a) ^ 2 + b ^ 2) = lam - a) (hp : (lam - a) * (lam' - a) = b ^ 2) (hl : lam - a ≠ 0) :
    (A - lam' • (1 : Matrix n n K)) *ᵥ ((A - lam • (1 : Matrix n n K)) *ᵥ x) = -ν⁻¹ • (B *ᵥ r) := by
  subst hBdef
  have e : ∀ l : K, A - l • (1 : Matrix n n K) = (A - a • (1 : Matrix n n K)) - (l - a) • (1 : Matrix n n K) := fun l => by
    rw [sub_smul, sub_sub_sub_cancel_right]
  rw [e lam, e lam']
  exact cs_residual_core (A - a • (1 : Matrix n n K)) b ν (lam - a) (lam' - a) x y r hν hB hy
    (cs_sum b ν (lam - a) (lam' - a) hq hp hl) hp

/-- the code's quadratic has REAL coefficients: if `conj` is a ring endomorphism fixing `a` and `b` (complex conjugation on a field
    containing the reals) then `conj λ` is a root for `conj ν` whenever `λ` is a root for `ν`.  This is why the slot that
    holds the conjugate Ritz value `conj ν` may be given `conj λ` (repair of F14: the pair test is made on `ν`). -/
theorem cs_conj (conj : K →+* K) (a b lam ν : K) (ha : conj a = a) (hb : conj b = b)
    (hq : ν * ((lam - a) ^ 2 + b ^ 2) = lam - a) :
    conj ν * ((conj lam - a) ^ 2 + b ^ 2) = conj lam - a := by
  have h := congrArg conj hq
  rwa [conj.map_mul, conj.map_add, conj.map_pow, conj.map_pow, conj.map_sub, ha, hb] at h

end quadratic

section ordered
variable {K : Type} [Field K] [LinearOrder K] [IsStrictOrderedRing K]

/-- behind finding F14: any over-estimate of `|ν|` beyond `1/(2|b|)` makes the discriminant negative, so the computed roots are
    a complex-conjugate pair although `λ` is real -/
theorem cs_boundary_neg (b ν' : K) (hb : b ≠ 0) (h : ν' ^ 2 > 1 / (4 * b ^ 2)) : 1 - 4 * b ^ 2 * ν' ^ 2 < 0 := by
  have hb2 : 0 < 4 * b ^ 2 := mul_pos four_pos (sq_pos_iff.mpr hb)
  rw [gt_iff_lt, div_lt_iff₀ hb2, mul_comm] at h
  exact sub_neg.mpr h

end ordered

/-! ## every value handed back is a back-transformed one (orchestration model, all kernels) -/

section structural
variable {φ ρ ε κ β τ ω : Type}

/-- the first `k` slots after `m_ritz_val.head(k) = back(m_ritz_val.head(k))` -/
theorem mapHead_map_getD (back : ρ → ρ) (k : Nat) (l : List ρ) (d : ρ) (j : Nat) (hj : j < k) (hk : k ≤ l.length) :
    (Orch.mapHead k (List.map back) l).getD j d = back (l.getD j d) := by
  have hjl : j < l.length := Nat.lt_of_lt_of_le hj hk
  have hjt : j < ((List.map back (l.take k)).take k).length := by
    rw [List.length_take, List.length_map, List.length_take]; omega
  rw [Orch.mapHead, List.getD_eq_getElem?_getD, List.getD_eq_getElem?_getD, List.getElem?_append_left hjt,
    List.getElem?_take_of_lt hj, List.getElem?_map, List.getElem?_take_of_lt hj, List.getElem?_eq_getElem hjl]
  rfl

theorem mem_convIdx_lt (c : Orch.Cfg) (s : Orch.St φ ρ ε κ) (i : Nat) (h : i ∈ Orch.convIdx c s) : i < c.nev :=
  List.mem_range.mp (List.mem_filter.mp h).1

end structural

section concrete
variable {α : Type} [Add α] [Sub α] [Mul α] [Div α] [Neg α] [Sc α]

theorem sortEigIdx_lt (r : Int) (vals : List (GenSolver.Cx α)) (n : Nat) (i : Nat) (hi : i < n) :
    (GenSolver.sortEigIdx r vals n).getD i 0 < n := by
  unfold GenSolver.sortEigIdx
  dsimp only
  generalize (fun i j : Int =>
    Sc.lt (Gen.Sort.keyCplx r (GenSolver.clistFn vals i)) (Gen.Sort.keyCplx r (GenSolver.clistFn vals j))) = lt
  have hlen : (sortIdxList lt (n : Int)).length = n := by
    rw [SortLemmas.sortIdxList_length]; simp
  have hil : i < ((sortIdxList lt (n : Int)).map Int.toNat).length := by simp [hlen, hi]
  rw [List.getD_eq_getElem?_getD, List.getElem?_eq_getElem hil]
  simp only [Option.getD_some, List.getElem_map]
  have hmem : (sortIdxList lt (n : Int))[i]'(by omega) ∈ intRange 0 (n : Int) :=
    (SortLemmas.sortIdxList_perm lt n).mem_iff.mp (List.getElem_mem _)
  rw [mem_intRange] at hmem
  omega

theorem sortRuleIdx_lt (rule : Int) (vals : List (GenSolver.Cx α)) (n : Nat) (ind : List Nat)
    (h : GenSolver.sortRuleIdx rule vals n = .ok ind) : ∀ i < n, ind.getD i 0 < n := by
  unfold GenSolver.sortRuleIdx at h
  dsimp only at h
  split at h
  · simp at h
  · simp only [Except.ok.injEq] at h
    subst h
    intro i hi
    exact sortEigIdx_lt _ vals n i hi

end concrete

/-! ## the hypotheses are satisfiable; the intended instantiation `R = ℝ`, `K = ℂ` -/

section examples
open Complex

/-- residual and unit norm at `R = ℝ`, `K = ℂ`, `ι = Complex.ofRealHom`, `star = conj` -/
example {n m : Type} [Fintype n] [Fintype m] [DecidableEq m] (A : Matrix n n ℝ) (V : Matrix n m ℝ) (H : Matrix m m ℝ)
    (f : n → ℝ) (last : m) (θ : ℂ) (y : m → ℂ)
    (hfac : A * V = V * H + vecMulVec f (Pi.single last 1)) (hy : (H.map ofRealHom) *ᵥ y = θ • y) :
    (A.map ofRealHom) *ᵥ ((V.map ofRealHom) *ᵥ y) - θ • ((V.map ofRealHom) *ᵥ y) = y last • (ofRealHom ∘ f) :=
  Ritz.residual _ _ _ _ last θ y (fac_embedded ofRealHom A V H f last hfac) hy

example {n m : Type} [Fintype n] [Fintype m] [DecidableEq m] (V : Matrix n m ℝ) (hV : Vᵀ * V = 1) (y : m → ℂ)
    (hy : star y ⬝ᵥ y = 1) :
    star ((V.map ofRealHom) *ᵥ y) ⬝ᵥ ((V.map ofRealHom) *ᵥ y) = 1 :=
  (unit_norm ofRealHom (fun r => conj_ofReal r) V hV y).trans hy

/-- the hypotheses of the residual identity (`C02.c02_residual`) hold for a concrete factorization (1×1: `A = H = (2)`, `V = (1)`, `f = 0`, `θ = 2`, `y = 1`) -/
example : ∃ (A : Matrix (Fin 1) (Fin 1) ℚ) (V : Matrix (Fin 1) (Fin 1) ℚ) (H : Matrix (Fin 1) (Fin 1) ℚ) (f : Fin 1 → ℚ)
    (θ : ℚ) (y : Fin 1 → ℚ),
    A * V = V * H + vecMulVec f (Pi.single 0 1) ∧ (H.map (RingHom.id ℚ)) *ᵥ y = θ • y ∧ Vᵀ * V = 1 ∧ star y ⬝ᵥ y = 1 := by
  refine ⟨(2 : ℚ) • 1, 1, (2 : ℚ) • 1, 0, 2, fun _ => 1, ?_, ?_, ?_, ?_⟩
  · simp
  · ext i; simp [smul_mulVec, one_mulVec]
  · simp
  · simp [dotProduct]

/-- `i` exists in `ℂ`; `cs_product`, `cs_nu_iff` with `σ = 0 + 1·I`, `λ = 1` -/
example : (1 - ((0 : ℂ) + 1 * I)) * (1 - ((0 : ℂ) - 1 * I)) = (1 - 0) ^ 2 + 1 ^ 2 :=
  cs_product 0 1 I 1 I_mul_I

example : ∃ (a b i lam ν : ℂ), i * i = -1 ∧ (2 : ℂ) ≠ 0 ∧ lam - (a + b * i) ≠ 0 ∧ lam - (a - b * i) ≠ 0 ∧
    ν * ((lam - a) ^ 2 + b ^ 2) = lam - a := by
  refine ⟨0, 1, I, 1, 1 / 2, I_mul_I, two_ne_zero, ?_, ?_, by norm_num⟩
  · intro h
    have := congrArg Complex.re h
    simp at this
  · intro h
    have := congrArg Complex.re h
    simp at this

/-- `cs_roots` with `ν = 1/2`, `b = 0`, `s = 1`: the roots are `a + 2` and `a` -/
example (a lam : ℚ) : (1 / 2 : ℚ) * ((lam - a) ^ 2 + (0 : ℚ) ^ 2) = lam - a ↔
    lam = a + 1 / (2 * (1 / 2)) + 1 / (2 * (1 / 2)) ∨ lam = a + 1 / (2 * (1 / 2)) - 1 / (2 * (1 / 2)) :=
  cs_roots a 0 lam (1 / 2) 1 (by norm_num) (by norm_num) (by norm_num)

/-- `cs_boundary` with `a = 0`, `b = 1`, `λ = 1`, `ν = 1/2` -/
example : (1 / 2 : ℚ) = 1 / (2 * (1 - 0)) ∧ 1 - 4 * (1 : ℚ) ^ 2 * (1 / 2) ^ 2 = 0 :=
  cs_boundary 0 1 1 (1 / 2) (by norm_num) (by norm_num) (by norm_num) (by norm_num)

example : 1 - 4 * (1 : ℚ) ^ 2 * (3 / 5) ^ 2 < 0 := cs_boundary_neg 1 (3 / 5) (by norm_num) (by norm_num)

/-- `cs_residual` with `A = I`, `a = 0`, `b = 1`: `B = 2 I`, `y = x/2`, `ν = 1/2`, `r = 0`, `λ = λ' = 1` -/
example {n : Type} [Fintype n] [DecidableEq n] (x : n → ℚ) :
    ((1 : Matrix n n ℚ) - (1 : ℚ) • (1 : Matrix n n ℚ)) *ᵥ (((1 : Matrix n n ℚ) - (1 : ℚ) • (1 : Matrix n n ℚ)) *ᵥ x)
      = -(1 / 2 : ℚ)⁻¹ • ((((1 : Matrix n n ℚ) - (0 : ℚ) • 1) * ((1 : Matrix n n ℚ) - (0 : ℚ) • 1)
          + ((1 : ℚ) ^ 2) • (1 : Matrix n n ℚ)) *ᵥ (0 : n → ℚ)) := by
  refine cs_residual (1 : Matrix n n ℚ) _ 0 1 (1 / 2) 1 1 x ((1 / 2 : ℚ) • x) 0 (by norm_num) rfl ?_ (add_zero _).symm
    (by norm_num) (by norm_num) (by norm_num)
  rw [zero_smul, sub_zero, mul_one, one_pow, one_smul, add_mulVec, one_mulVec, ← add_smul, add_halves, one_smul, one_mulVec]

end examples

end C02A
