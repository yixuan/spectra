/-
  Lemmas for C15 (Davidson): discrete content of the loop of `compute_with_guess`, for arbitrary scalar / vector types and
  ALL kernels (no algebra needed): status, convergence flags, return value, iteration count, search-space sizes, object reuse;
  at the end the structural fact about the executable orthogonaliser `jwPass`.
-/
import SpectraVerif.Model.Davidson

namespace C15L
open Dav

variable {σ ν : Type} (K : Kern σ ν)

/-- the state the first half of the loop body works on after the optional restart and the operator products -/
def headState (c : Cfg) (s : St σ ν) : St σ ν :=
  updateOperatorBasisProduct K (if s.basis.length > c.maxSize then restart K c.initSize s else s)

/-- the state `compute_eigen_pairs` is called on: `headState` with its width recorded -/
def rrState (c : Cfg) (s : St σ ν) : St σ ν :=
  { headState K c s with sizes := (headState K c s).sizes ++ [(headState K c s).basis.length] }

theorem iterHead_cases (c : Cfg) (sel : Int) (tol : σ) (s : St σ ν) :
    iterHead K c sel tol s = (none, (computeEigenPairs K (rrState K c s)).2) ∨
    iterHead K c sel tol s = (some (checkConvergence K tol c.nev (sortPairs K sel (computeEigenPairs K (rrState K c s)).2)).1,
      (checkConvergence K tol c.nev (sortPairs K sel (computeEigenPairs K (rrState K c s)).2)).2) := by
  have e : iterHead K c sel tol s = if !(computeEigenPairs K (rrState K c s)).1 then (none, _) else (some _, _) := rfl
  rw [e]
  split
  · exact .inl rfl
  · exact .inr rfl

theorem iterHead_fields (c : Cfg) (sel : Int) (tol : σ) (s : St σ ν) (r : Option Bool) (s1 : St σ ν)
    (h : iterHead K c sel tol s = (r, s1)) :
    s1.info = s.info ∧ s1.niter = s.niter ∧ s1.sizes = s.sizes ++ [(headState K c s).basis.length] ∧
    s1.basis = (headState K c s).basis := by
  have h0 : (headState K c s).info = s.info ∧ (headState K c s).niter = s.niter ∧ (headState K c s).sizes = s.sizes := by
    unfold headState; split <;> exact ⟨rfl, rfl, rfl⟩
  have h2 : s1 = (iterHead K c sel tol s).2 := by rw [h]
  subst h2
  -- `computeEigenPairs`, `sortPairs`, `checkConvergence` write `pairs` and `conv` only
  rcases iterHead_cases K c sel tol s with e | e <;> rw [e] <;>
    simp only [checkConvergence, sortPairs, computeEigenPairs, rrState, h0, and_self]

/-- when the small eigenproblem succeeded, the stored pairs are the output of `RitzPairs::sort`, the stored flags are exactly
    `norm(residue) < tol` of these pairs and the returned Boolean is their conjunction over the first `nev` -/
theorem iterHead_conv (c : Cfg) (sel : Int) (tol : σ) (s s1 : St σ ν) (b : Bool)
    (h : iterHead K c sel tol s = (some b, s1)) :
    s1.conv = convFlags K tol s1 ∧ b = (decide (c.nev ≤ s1.conv.length) && (s1.conv.take c.nev).all id) ∧
    ∃ s', s1.pairs = (sortPairs K sel s').pairs := by
  rcases iterHead_cases K c sel tol s with e | e <;> rw [e] at h <;> cases h
  exact ⟨rfl, rfl, _, rfl⟩

/-! ### the loop rule -/

/-- Invariant rule for the loop of `compute_with_guess` (`I f` at the loop head with `f` trips left): the loop runs out of trips,
    leaves through one of the three `break`s, each writing its status into the state `iterHead` left, or goes round. -/
theorem loop_rule (c : Cfg) (corr : List (Pair σ ν) → List ν) (sel : Int) (tol : σ) (maxit : Nat)
    (I : Nat → St σ ν → Prop) (J : St σ ν → Prop) (h0 : ∀ s, I 0 s → J s)
    (hexit : ∀ f s r s1 i, I (f + 1) s → iterHead K c sel tol s = (r, s1) →
      (r = none ∧ i = .numericalIssue ∨ r = some true ∧ i = .successful ∨
        r = some false ∧ s1.niter + 1 = maxit ∧ i = .notConverging) → J { s1 with info := i })
    (hnext : ∀ f s s1, I (f + 1) s → iterHead K c sel tol s = (some false, s1) → s1.niter + 1 ≠ maxit →
      I f { extendBasis K (corr s1.pairs) s1 with niter := s1.niter + 1 }) :
    ∀ fuel s, I fuel s → J (loop K c corr sel tol maxit fuel s) := by
  intro fuel
  induction fuel with
  | zero => exact h0
  | succ f ih =>
    intro s h
    unfold loop
    rcases hh : iterHead K c sel tol s with ⟨r, s1⟩
    match r with
    | none => exact hexit f s _ s1 _ h hh (.inl ⟨rfl, rfl⟩)
    | some true => exact hexit f s _ s1 _ h hh (.inr (.inl ⟨rfl, rfl⟩))
    | some false =>
      dsimp only
      split
      · rename_i he; exact hexit f s _ s1 _ h hh (.inr (.inr ⟨rfl, he, rfl⟩))
      · rename_i hne; exact ih _ (hnext f s s1 h hh hne)

/-- The rule for a call that allows at least one trip and counts them (`niter_ + fuel = maxit`): the last trip leaves through
    `NotConverging`, so the loop never runs out of trips and `J` is only owed at the three `break`s. -/
theorem loop_rule_counted (c : Cfg) (corr : List (Pair σ ν) → List ν) (sel : Int) (tol : σ) (maxit : Nat)
    (I J : St σ ν → Prop)
    (hexit : ∀ s r s1 i, I s → iterHead K c sel tol s = (r, s1) →
      (r = none ∧ i = .numericalIssue ∨ r = some true ∧ i = .successful ∨
        r = some false ∧ s1.niter + 1 = maxit ∧ i = .notConverging) → J { s1 with info := i })
    (hnext : ∀ s s1, I s → iterHead K c sel tol s = (some false, s1) →
      I { extendBasis K (corr s1.pairs) s1 with niter := s1.niter + 1 })
    (fuel : Nat) (s : St σ ν) (h : s.niter + fuel = maxit) (hf : 0 < fuel) (hI : I s) :
    J (loop K c corr sel tol maxit fuel s) := by
  refine loop_rule K c corr sel tol maxit (fun f s => s.niter + f = maxit ∧ 0 < f ∧ I s) J (fun s h => absurd h.2.1 (Nat.lt_irrefl 0))
    (fun f s r s1 i h => hexit s r s1 i h.2.2) (fun f s s1 h hh hne => ?_) fuel s ⟨h, hf, hI⟩
  have hn := (iterHead_fields K c sel tol s _ s1 hh).2.1
  exact ⟨by show s1.niter + 1 + f = maxit; omega, by have := h.1; omega, hnext s s1 h.2.2 hh⟩

/-- post-condition of a `Successful` exit -/
def SuccPost (c : Cfg) (tol : σ) (s : St σ ν) : Prop :=
  s.conv = convFlags K tol s ∧ c.nev ≤ s.conv.length ∧ (s.conv.take c.nev).all id = true

theorem loop_successful (c : Cfg) (corr : List (Pair σ ν) → List ν) (sel : Int) (tol : σ) (maxit fuel : Nat) (s : St σ ν)
    (h0 : s.info ≠ .successful) (h : (loop K c corr sel tol maxit fuel s).info = .successful) :
    SuccPost K c tol (loop K c corr sel tol maxit fuel s) := by
  refine loop_rule K c corr sel tol maxit (fun _ s => s.info ≠ .successful) (fun s => s.info = .successful → SuccPost K c tol s)
    (fun s h0 h => absurd h h0) (fun f s r s1 i _ hh hr hi => ?_)
    (fun f s s1 h0 hh _ => (iterHead_fields K c sel tol s _ s1 hh).1 ▸ h0) fuel s h0 h
  rcases hr with ⟨_, rfl⟩ | ⟨rfl, _⟩ | ⟨_, _, rfl⟩
  · cases hi
  · obtain ⟨h1, h2, _⟩ := iterHead_conv K c sel tol s s1 true hh
    have h2 := h2.symm
    rw [Bool.and_eq_true, decide_eq_true_eq] at h2
    exact ⟨h1, h2.1, h2.2⟩
  · cases hi

/-- the flags of the first `nev` pairs and the return value after a `Successful` exit -/
theorem succPost_consequences (c : Cfg) (tol : σ) (s : St σ ν) (h : SuccPost K c tol s) :
    (∀ p ∈ s.pairs.take c.nev, K.lt (K.norm p.residue) tol = true) ∧ returnValue c s = c.nev ∧ c.nev ≤ s.pairs.length := by
  obtain ⟨h1, hlen, h2⟩ := h
  have hall : ∀ b ∈ s.conv.take c.nev, b = true := by
    intro b hb
    have := List.all_eq_true.mp h2 b hb
    simpa using this
  constructor
  · intro p hp
    apply hall
    rw [h1, convFlags, ← List.map_take]
    exact List.mem_map_of_mem hp
  · unfold returnValue
    have : (s.conv.take c.nev).count true = (s.conv.take c.nev).length := by
      rw [List.count_eq_length]
      intro b hb; exact (hall b hb).symm
    have hl : s.conv.length = s.pairs.length := by rw [h1, convFlags, List.length_map]
    rw [this, List.length_take]
    omega

/-! ### iteration count and sizes -/

/-- one size is recorded per trip and `niter_` only grows (so the truncated difference is the number of trips) -/
theorem loop_niter (c : Cfg) (corr : List (Pair σ ν) → List ν) (sel : Int) (tol : σ) (maxit fuel : Nat) (s : St σ ν)
    (h : s.niter + fuel = maxit) (hf : 0 < fuel) :
    (loop K c corr sel tol maxit fuel s).niter < maxit ∧
    (loop K c corr sel tol maxit fuel s).sizes.length
      = s.sizes.length + ((loop K c corr sel tol maxit fuel s).niter - s.niter) + 1 ∧
    s.niter ≤ (loop K c corr sel tol maxit fuel s).niter := by
  refine loop_rule K c corr sel tol maxit
    (fun f t => t.niter + f = maxit ∧ 0 < f ∧ t.sizes.length = s.sizes.length + (t.niter - s.niter) ∧ s.niter ≤ t.niter)
    (fun t => t.niter < maxit ∧ t.sizes.length = s.sizes.length + (t.niter - s.niter) + 1 ∧ s.niter ≤ t.niter)
    (fun t h => absurd h.2.1 (Nat.lt_irrefl 0)) (fun f t r s1 i h hh _ => ?_) (fun f t s1 h hh hne => ?_) fuel s
    ⟨h, hf, by omega, Nat.le_refl _⟩
  all_goals
    obtain ⟨_, hn, hs, _⟩ := iterHead_fields K c sel tol t _ s1 hh
    simp only [extendBasis, hn, hs, List.length_append, List.length_singleton]
    omega

theorem headState_size_le (c : Cfg) (s : St σ ν) (hc : c.initSize ≤ c.maxSize) : (headState K c s).basis.length ≤ c.maxSize := by
  unfold headState updateOperatorBasisProduct
  simp only
  split
  · simp only [restart, List.length_map, List.length_take]; omega
  · omega

/-- every Rayleigh–Ritz step sees a search space of at most `maxSize` columns -/
theorem loop_sizes (c : Cfg) (corr : List (Pair σ ν) → List ν) (sel : Int) (tol : σ) (maxit fuel : Nat) (s : St σ ν)
    (hc : c.initSize ≤ c.maxSize) (hs : ∀ z ∈ s.sizes, z ≤ c.maxSize) :
    ∀ z ∈ (loop K c corr sel tol maxit fuel s).sizes, z ≤ c.maxSize := by
  have key : ∀ s r s1, (∀ z ∈ s.sizes, z ≤ c.maxSize) → iterHead K c sel tol s = (r, s1) → ∀ z ∈ s1.sizes, z ≤ c.maxSize := by
    intro s r s1 hs hh z hz
    rw [(iterHead_fields K c sel tol s r s1 hh).2.2.1, List.mem_append, List.mem_singleton] at hz
    rcases hz with hz | rfl
    · exact hs z hz
    · exact headState_size_le K c s hc
  exact loop_rule K c corr sel tol maxit (fun _ s => ∀ z ∈ s.sizes, z ≤ c.maxSize) _ (fun _ h => h)
    (fun _ s r s1 _ h hh _ => key s r s1 h hh) (fun _ s s1 h hh _ => key s _ s1 h hh) fuel s hs

theorem loop_exit_size (c : Cfg) (corr : List (Pair σ ν) → List ν) (sel : Int) (tol : σ) (maxit fuel : Nat) (s : St σ ν)
    (hc : c.initSize ≤ c.maxSize) (hf : 0 < fuel) (h : s.niter + fuel = maxit) :
    (loop K c corr sel tol maxit fuel s).basis.length ≤ c.maxSize := by
  refine loop_rule_counted K c corr sel tol maxit (fun _ => True) (fun t => t.basis.length ≤ c.maxSize)
    (fun s r s1 i _ hh _ => ?_) (fun _ _ _ _ => trivial) fuel s h hf trivial
  show s1.basis.length ≤ _
  rw [(iterHead_fields K c sel tol s r s1 hh).2.2.2]; exact headState_size_le K c s hc

/-- every exit of the loop other than `NumericalIssue` leaves the pairs as `RitzPairs::sort` produced them -/
theorem loop_pairs_sorted (P : List (Pair σ ν) → Prop) (c : Cfg) (corr : List (Pair σ ν) → List ν) (sel : Int) (tol : σ)
    (hP : ∀ s', P (sortPairs K sel s').pairs) (maxit fuel : Nat) (s : St σ ν)
    (h : s.niter + fuel = maxit) (hf : 0 < fuel) :
    (loop K c corr sel tol maxit fuel s).info = .numericalIssue ∨ P (loop K c corr sel tol maxit fuel s).pairs := by
  refine loop_rule_counted K c corr sel tol maxit (fun _ => True) (fun t => t.info = .numericalIssue ∨ P t.pairs)
    (fun s r s1 i _ hh hr => ?_) (fun _ _ _ _ => trivial) fuel s h hf trivial
  rcases hr with ⟨_, rfl⟩ | ⟨rfl, _⟩ | ⟨rfl, _, _⟩
  · exact .inl rfl
  all_goals
    obtain ⟨_, _, s', hs'⟩ := iterHead_conv K c sel tol s s1 _ hh
    exact .inr (hs' ▸ hP s')

/-! ### object reuse: what `compute_with_guess` on a USED solver object reads of the state an earlier call
  left behind.  For arbitrary scalar / vector types and ALL kernels.

  Since /repo 6587027 `compute_with_guess` begins with
      m_ritz_pairs = RitzPairs<Scalar>();  m_info = CompInfo::NotComputed;
      m_search_space.initialize_search_space(initial_space);  niter_ = 0;
  i.e. it assigns EVERY non-constant data member of the object before the loop (`Dav.resetResults`, `Dav.initializeSearchSpace`).
  The loop is therefore entered in a state (`start guess`) that is a function of the initial space alone: nothing of the
  previous call — Ritz pairs, flags, status, search space, iteration count — can be read by this one, whatever `maxit`, the
  width of the initial space (a restart in the first trip reads the EMPTY Ritz pairs) or the outcome of the first small
  eigenproblem.  (Before the repair only the search space and `niter_` were reset and the equality below needed `maxit ≥ 1`,
  no restart in the first trip and a first small eigenproblem that succeeds: findings F21, F21b, F21c.) -/
/-- the state in which `compute_with_guess(guess, …)` enters its loop: the search space holds the (copied) initial space and no
    cached product, the Ritz pairs are a default-constructed `RitzPairs` (no pair, no flag), `info() == NotComputed`,
    `num_iterations() == 0` -/
def start (guess : List ν) : St σ ν :=
  { basis := guess, opBasis := [], pairs := [], conv := [], niter := 0, info := .notComputed, sizes := [] }

/-- the prologue of `compute_with_guess` overwrites every member: from ANY state of the object the loop is entered in `start guess` -/
theorem prologue_eq_start (guess : List ν) (s : St σ ν) :
    ({ initializeSearchSpace guess (resetResults s) with niter := 0, sizes := [] } : St σ ν) = start guess := rfl

/-- `compute_with_guess` unfolded: the loop run from `start guess`, and the return expression evaluated on its result -/
theorem computeWithGuess_eq (c : Cfg) (corr : List (Pair σ ν) → List ν) (guess : List ν) (sel : Int) (maxit : Nat) (tol : σ)
    (s : St σ ν) :
    computeWithGuess K c corr guess sel maxit tol s =
      (loop K c corr sel tol maxit maxit (start guess), returnValue c (loop K c corr sel tol maxit maxit (start guess))) := rfl

/-- the start state is the freshly constructed object with the initial space installed -/
theorem start_eq_construct (guess : List ν) : (start guess : St σ ν) = initializeSearchSpace guess construct := rfl

/-- `maxit = 0`: the loop body never runs, the object is left in `start guess` -/
theorem loop_zero (c : Cfg) (corr : List (Pair σ ν) → List ν) (sel : Int) (tol : σ) (maxit : Nat) (s : St σ ν) :
    loop K c corr sel tol maxit 0 s = s := by
  unfold loop; rfl

/-- with at least one iteration allowed every way out of the loop writes `m_info` (the loop cannot run out of fuel while
    `niter + fuel = maxit`: the last trip leaves through `NotConverging`), so the status at exit is never `NotComputed` -/
theorem loop_info_written (c : Cfg) (corr : List (Pair σ ν) → List ν) (sel : Int) (tol : σ) (maxit fuel : Nat) (s : St σ ν)
    (h : s.niter + fuel = maxit) (hf : 0 < fuel) :
    (loop K c corr sel tol maxit fuel s).info ≠ .notComputed := by
  refine loop_rule_counted K c corr sel tol maxit (fun _ => True) (fun t => t.info ≠ .notComputed) (fun s r s1 i _ _ hr => ?_)
    (fun _ _ _ _ => trivial) fuel s h hf trivial
  rcases hr with ⟨_, rfl⟩ | ⟨_, rfl⟩ | ⟨_, _, rfl⟩ <;> exact nofun

/-! ### the executable orthogonaliser meets the structural part of its specification -/
section exec
open Dav.Exec Lin
variable {α : Type} [Add α] [Sub α] [Mul α] [Div α] [Sc α]

theorem take_take_append {β : Type} (l r : List β) (k : Nat) (h : l.drop k = [] → r = []) :
    (l.take k ++ r).take k = l.take k := by
  by_cases hk : k ≤ l.length
  · exact List.take_left' (by simp [hk])
  · have hd : l.drop k = [] := List.drop_eq_nil_of_le (by omega)
    rw [h hd, List.append_nil, List.take_take, Nat.min_self]

theorem jwPass_keepsLeft (cols : List (Vec α)) (skip : Nat) : (jwPass cols skip).take skip = cols.take skip := by
  unfold jwPass
  apply take_take_append
  intro hd
  simp [hd]

end exec

end C15L
