/-
  Orthogonality under compress, the Lanczos three-term coefficients, shape facts, and the composition of steps
  (helper lemmas for Properties/C07.lean; builds on Proofs/C07Krylov.lean).
-/
import SpectraVerif.Proofs.C07Krylov

open Finset

namespace C07

variable {𝕜 : Type*} [Field 𝕜] {E : Type*} [AddCommGroup E] [Module 𝕜 E]

/-- `V⁺ = V Q` -/
def mulQ (V : ℕ → E) (Q : ℕ → ℕ → 𝕜) (m : ℕ) : ℕ → E := fun j => ∑ a ∈ range m, Q a j • V a

theorem compress_kry (A : E →ₗ[𝕜] E) (V : ℕ → E) (H Hp Q : ℕ → ℕ → 𝕜) (f : E) (m k : ℕ)
    (hk : 0 < k) (hkm : k < m) (hK : Kry A V H f m)
    (hHQ : ∀ i, i < m → ∀ j, j < k → ∑ a ∈ range m, H i a * Q a j = ∑ b ∈ range m, Q i b * Hp b j)
    (hHess : ∀ b j, j + 1 < b → j < k → b < m → Hp b j = 0)
    (hband : ∀ j, j + 1 < k → Q (m - 1) j = 0) :
    Kry A (mulQ V Q m) Hp (Q (m - 1) (k - 1) • f + Hp k (k - 1) • mulQ V Q m k) k := by
  have := compress_general A V H Hp Q f m k (fun _ => 0) hk hkm ((kry_iff_kryE A V H f m).mp hK) hHQ hHess hband
  simp only [smul_zero, sum_const_zero] at this
  exact (kry_iff_kryE _ _ _ _ _).mpr this

/-- columns of `Q` orthonormal (`QᴴQ = I` on the first `k1` columns) keep `VᴴBV = I` -/
theorem compress_on (P : IP 𝕜 E) (V : ℕ → E) (Q : ℕ → ℕ → 𝕜) (m k1 : ℕ) (hON : ON P V m)
    (hQ : ∀ i, i < k1 → ∀ j, j < k1 → ∑ a ∈ range m, P.conj (Q a i) * Q a j = if i = j then 1 else 0) :
    ON P (mulQ V Q m) k1 := by
  intro i hi j hj
  simp only [mulQ]
  rw [P.sum_left, ← hQ i hi j hj]
  apply sum_congr rfl
  intro a ha
  rw [P.smul_left, P.sum_right, hON.sum_ip _ (mem_range.mp ha)]

/-- `f⁺ = q f + η v⁺_k` is orthogonal to the first `k` columns of `V⁺` -/
theorem compress_fo (P : IP 𝕜 E) (V : ℕ → E) (Q : ℕ → ℕ → 𝕜) (f : E) (m k : ℕ) (q η : 𝕜)
    (hFO : FO P V f m) (hONp : ON P (mulQ V Q m) (k + 1)) :
    FO P (mulQ V Q m) (q • f + η • mulQ V Q m k) k := by
  intro j hj
  rw [P.add_right, P.smul_right, P.smul_right, hONp j (by omega) k (by omega)]
  have hne : j ≠ k := Nat.ne_of_lt hj
  have : P.ip (mulQ V Q m j) f = 0 := by
    simp only [mulQ]
    rw [P.sum_left]
    apply sum_eq_zero
    intro a ha
    rw [P.smul_left, hFO a (mem_range.mp ha), mul_zero]
  rw [this]; simp [hne]

/-- Lanczos: for a `B`-self-adjoint operator, an orthonormal extended basis and an exact `k`-step relation, the
    projection coefficients of `A v_k` on the old basis are `(0, …, 0, β)`: the three-term recurrence IS full Gram–Schmidt -/
theorem lanczos_coeffs (P : IP 𝕜 E) (A : E →ₗ[𝕜] E) (V : ℕ → E) (H : ℕ → ℕ → 𝕜) (f : E) (k : ℕ) (β : 𝕜)
    (hsa : ∀ x y, P.ip x (A y) = P.ip (A x) y)
    (hβ : β ≠ 0) (hβc : P.conj β = β)
    (hK : Kry A V H f k)
    (hON : ON P (extV V k (β⁻¹ • f)) (k + 1)) :
    ∀ i, i < k → P.ip (extV V k (β⁻¹ • f) i) (A (extV V k (β⁻¹ • f) k)) = if i + 1 = k then β else 0 := by
  intro i hi
  set V' := extV V k (β⁻¹ • f) with hV'
  have hne : i ≠ k := Nat.ne_of_lt hi
  have hVi : V' i = V i := by simp [hV', extV, Function.update_of_ne hne]
  have hVk : V' k = β⁻¹ • f := by simp [hV', extV]
  have hf : f = β • V' k := by rw [hVk, smul_smul, mul_inv_cancel₀ hβ, one_smul]
  rw [hsa, hVi, hK i hi, P.add_left, P.sum_left]
  have hz : ∑ l ∈ range k, P.ip (H l i • V l) (V' k) = 0 := by
    apply sum_eq_zero
    intro l hl
    have hlk : l ≠ k := Nat.ne_of_lt (mem_range.mp hl)
    have hVl : V l = V' l := by simp [hV', extV, Function.update_of_ne hlk]
    rw [P.smul_left, hVl, hON l (by have := mem_range.mp hl; omega) k (by omega)]
    simp [hlk]
  rw [hz, zero_add]
  by_cases hik : i + 1 = k
  · simp only [hik, if_true]
    rw [hf, P.smul_left, hβc, hON k (by omega) k (by omega)]; simp
  · simp [hik, P.zero_left]

/-! ### shape -/

/-- leading `k × k` block upper Hessenberg -/
def Hess (H : ℕ → ℕ → 𝕜) (k : ℕ) : Prop := ∀ i j, i < k → j < k → j + 1 < i → H i j = 0

/-- leading `k × k` block symmetric tridiagonal -/
def TriSym (H : ℕ → ℕ → 𝕜) (k : ℕ) : Prop :=
  (∀ i j, i < k → j < k → (j + 1 < i ∨ i + 1 < j) → H i j = 0) ∧ (∀ i j, i < k → j < k → H i j = H j i)

/-- the coefficient column the Lanczos code writes: `H(k-1,k) = β`, `H(k,k) = α`, nothing else -/
def lanH (k : ℕ) (α β : 𝕜) : ℕ → 𝕜 := fun i => if i = k then α else if i + 1 = k then β else 0

theorem lanH_apply (k : ℕ) (α β : 𝕜) (i : ℕ) : lanH k α β i = if i = k then α else if i + 1 = k then β else 0 := rfl

theorem trisym_ext (H : ℕ → ℕ → 𝕜) (k : ℕ) (α β : 𝕜) (hH : TriSym H k) :
    TriSym (extH H k β (lanH k α β)) (k + 1) := by
  constructor
  · intro i j hi hj hij
    simp only [extH, lanH]
    by_cases hjk : j = k
    · have h1 : i ≠ k := by omega
      have h2 : i + 1 ≠ k := by omega
      simp [hjk, h1, h2]
    · by_cases hik : i = k
      · have : j + 1 ≠ k := by omega
        simp [hjk, hik, this]
      · simp only [hjk, hik, if_false]; exact hH.1 i j (by omega) (by omega) hij
  · intro i j hi hj
    simp only [extH, lanH]
    by_cases hjk : j = k <;> by_cases hik : i = k
    · simp [hjk, hik]
    · subst hjk
      by_cases h1 : i + 1 = j
      · simp [hik, h1]
      · simp [hik, h1]
    · subst hik
      by_cases h1 : j + 1 = i
      · simp [hjk, h1]
      · simp [hjk, h1]
    · simp only [hjk, hik, if_false]; exact hH.2 i j (by omega) (by omega)

theorem trisym_hess (H : ℕ → ℕ → 𝕜) (k : ℕ) (hH : TriSym H k) : Hess H k :=
  fun i j hi hj hij => hH.1 i j hi hj (Or.inl hij)

/-! ### composition over any finite sequence of steps -/

/-- factorization state (the data members of `Arnoldi`) plus the accumulated error columns -/
structure St (𝕜 : Type*) (E : Type*) where
  V : ℕ → E
  H : ℕ → ℕ → 𝕜
  f : E
  k : ℕ
  R : ℕ → E

attribute [ext] St

/-- what the code can do to a factorization between two hand-over points -/
inductive Step (𝕜 : Type*) (E : Type*) where
  /-- regular extension: `v = f/β`, `H(k,k-1) = β`, coefficient column `h` (after all re-orthogonalisation corrections) -/
  | extend (β : 𝕜) (h : ℕ → 𝕜)
  /-- breakdown / local restart: residual discarded, fresh direction `g` (from `expand_basis`), `v = g/γ`, `H(k,k-1) = 0` -/
  | restart (g : E) (γ : 𝕜) (h : ℕ → 𝕜)
  /-- implicit restart: `H ← Hp (= QᴴHQ)`, `V ← VQ`, `f ← Q(m-1,k-1) f + Hp(k,k-1) v⁺_k`, `k ← knew` -/
  | compress (knew : ℕ) (Q Hp : ℕ → ℕ → 𝕜)

def St.step (A : E →ₗ[𝕜] E) (s : St 𝕜 E) : Step 𝕜 E → St 𝕜 E
  | .extend β h =>
      let V' := extV s.V s.k (β⁻¹ • s.f)
      ⟨V', extH s.H s.k β h, resid A V' s.k h, s.k + 1, extR s.R s.k 0⟩
  | .restart g γ h =>
      let V' := extV s.V s.k (γ⁻¹ • g)
      ⟨V', extH s.H s.k 0 h, resid A V' s.k h, s.k + 1, extR s.R s.k s.f⟩
  | .compress knew Q Hp =>
      ⟨mulQ s.V Q s.k, Hp, Q (s.k - 1) (knew - 1) • s.f + Hp knew (knew - 1) • mulQ s.V Q s.k knew, knew,
        fun j => ∑ a ∈ range s.k, Q a j • s.R a⟩

/-- side conditions of a step (what the QR helpers guarantee for `compress`: C08) -/
def Step.ok (s : St 𝕜 E) : Step 𝕜 E → Prop
  | .extend β _ => β ≠ 0
  | .restart _ _ _ => True
  | .compress knew Q Hp =>
      0 < knew ∧ knew < s.k ∧
      (∀ i, i < s.k → ∀ j, j < knew → ∑ a ∈ range s.k, s.H i a * Q a j = ∑ b ∈ range s.k, Q i b * Hp b j) ∧
      (∀ b j, j + 1 < b → j < knew → b < s.k → Hp b j = 0) ∧
      (∀ j, j + 1 < knew → Q (s.k - 1) j = 0)

/-- the step discards nothing -/
def Step.exact (s : St 𝕜 E) : Step 𝕜 E → Prop
  | .restart _ _ _ => s.f = 0
  | _ => True

def run (A : E →ₗ[𝕜] E) (s : St 𝕜 E) (l : List (Step 𝕜 E)) : St 𝕜 E := l.foldl (St.step A) s

def allOk (A : E →ₗ[𝕜] E) : St 𝕜 E → List (Step 𝕜 E) → Prop
  | _, [] => True
  | s, st :: rest => st.ok s ∧ allOk A (s.step A st) rest

def allExact (A : E →ₗ[𝕜] E) : St 𝕜 E → List (Step 𝕜 E) → Prop
  | _, [] => True
  | s, st :: rest => st.exact s ∧ allExact A (s.step A st) rest

theorem step_kryE (A : E →ₗ[𝕜] E) (s : St 𝕜 E) (st : Step 𝕜 E) (hok : st.ok s)
    (hK : KryE A s.V s.H s.f s.k s.R) :
    KryE A (s.step A st).V (s.step A st).H (s.step A st).f (s.step A st).k (s.step A st).R := by
  cases st with
  | extend β h =>
    have := step_general A s.V s.H s.f s.k s.R (β⁻¹ • s.f) β h hK
    rwa [smul_smul, mul_inv_cancel₀ hok, one_smul, sub_self] at this
  | restart g γ h =>
    have := step_general A s.V s.H s.f s.k s.R (γ⁻¹ • g) 0 h hK
    -- `sub = 0`: the defect is the whole discarded residual `f`
    rwa [zero_smul, sub_zero] at this
  | compress knew Q Hp =>
    obtain ⟨h0, hlt, hHQ, hHess, hband⟩ := hok
    exact compress_general A s.V s.H Hp Q s.f s.k knew s.R h0 hlt hK hHQ hHess hband

theorem run_kryE (A : E →ₗ[𝕜] E) (l : List (Step 𝕜 E)) : ∀ (s : St 𝕜 E), allOk A s l →
    KryE A s.V s.H s.f s.k s.R →
    KryE A (run A s l).V (run A s l).H (run A s l).f (run A s l).k (run A s l).R := by
  induction l with
  | nil => intro s _ h; exact h
  | cons st rest ih =>
    intro s hok hK
    exact ih (s.step A st) hok.2 (step_kryE A s st hok.1 hK)

theorem step_R_zero (A : E →ₗ[𝕜] E) (s : St 𝕜 E) (st : Step 𝕜 E) (hex : st.exact s) (hR : s.R = fun _ => 0) :
    (s.step A st).R = fun _ => 0 := by
  cases st with
  | extend β h => simp only [St.step, hR]; exact extR_zero s.k
  | restart g γ h =>
    have hf : s.f = 0 := hex
    simp only [St.step, hR, hf]; exact extR_zero s.k
  | compress knew Q Hp => funext j; simp [St.step, hR]

theorem run_R_zero (A : E →ₗ[𝕜] E) (l : List (Step 𝕜 E)) : ∀ (s : St 𝕜 E), allExact A s l → (s.R = fun _ => 0) →
    (run A s l).R = fun _ => 0 := by
  induction l with
  | nil => intro s _ h; exact h
  | cons st rest ih =>
    intro s hex hR
    exact ih (s.step A st) hex.2 (step_R_zero A s st hex.1 hR)

/-- orthogonality side conditions of a step: the coefficients are the exact projections, `β` is the `B`-norm of `f`,
    the fresh direction is `B`-orthogonal to `V`, the columns of `Q` are orthonormal -/
def Step.orthOk (P : IP 𝕜 E) (A : E →ₗ[𝕜] E) (s : St 𝕜 E) : Step 𝕜 E → Prop
  | .extend β h => β ≠ 0 ∧ P.conj β = β ∧ β * β = P.ip s.f s.f ∧
      ∀ i, i < s.k + 1 → h i = P.ip (extV s.V s.k (β⁻¹ • s.f) i) (A (extV s.V s.k (β⁻¹ • s.f) s.k))
  | .restart g γ h => FO P s.V g s.k ∧ γ ≠ 0 ∧ P.conj γ = γ ∧ γ * γ = P.ip g g ∧
      ∀ i, i < s.k + 1 → h i = P.ip (extV s.V s.k (γ⁻¹ • g) i) (A (extV s.V s.k (γ⁻¹ • g) s.k))
  | .compress knew Q _ => knew < s.k ∧
      ∀ i, i < knew + 1 → ∀ j, j < knew + 1 → ∑ a ∈ range s.k, P.conj (Q a i) * Q a j = if i = j then 1 else 0

def allOrthOk (P : IP 𝕜 E) (A : E →ₗ[𝕜] E) : St 𝕜 E → List (Step 𝕜 E) → Prop
  | _, [] => True
  | s, st :: rest => st.orthOk P A s ∧ allOrthOk P A (s.step A st) rest

theorem on_mono (P : IP 𝕜 E) (V : ℕ → E) (k k' : ℕ) (h : k ≤ k') (hON : ON P V k') : ON P V k :=
  fun i hi j hj => hON i (by omega) j (by omega)

theorem step_orth (P : IP 𝕜 E) (A : E →ₗ[𝕜] E) (s : St 𝕜 E) (st : Step 𝕜 E) (hok : st.orthOk P A s)
    (hON : ON P s.V s.k) (hFO : FO P s.V s.f s.k) :
    ON P (s.step A st).V (s.step A st).k ∧ FO P (s.step A st).V (s.step A st).f (s.step A st).k := by
  cases st with
  | extend β h =>
    obtain ⟨hβ, hβc, hn, hh⟩ := hok
    have hON' := on_extend P s.V s.k s.f β hON hFO hβ hβc hn
    exact ⟨hON', resid_orth P _ (s.k + 1) _ h hON' hh⟩
  | restart g γ h =>
    obtain ⟨hg, hγ, hγc, hn, hh⟩ := hok
    have hON' := on_extend P s.V s.k g γ hON hg hγ hγc hn
    exact ⟨hON', resid_orth P _ (s.k + 1) _ h hON' hh⟩
  | compress knew Q Hp =>
    obtain ⟨hlt, hQ⟩ := hok
    have hON' : ON P (mulQ s.V Q s.k) (knew + 1) := compress_on P s.V Q s.k (knew + 1) hON hQ
    exact ⟨on_mono P _ knew (knew + 1) (by omega) hON', compress_fo P s.V Q s.f s.k knew _ _ hFO hON'⟩

theorem run_orth (P : IP 𝕜 E) (A : E →ₗ[𝕜] E) (l : List (Step 𝕜 E)) : ∀ (s : St 𝕜 E), allOrthOk P A s l →
    ON P s.V s.k → FO P s.V s.f s.k →
    ON P (run A s l).V (run A s l).k ∧ FO P (run A s l).V (run A s l).f (run A s l).k := by
  induction l with
  | nil => intro s _ h1 h2; exact ⟨h1, h2⟩
  | cons st rest ih =>
    intro s hok h1 h2
    obtain ⟨a, b⟩ := step_orth P A s st hok.1 h1 h2
    exact ih (s.step A st) hok.2 a b

/-- advertised dimension after a sequence: `+1` per extension / restart, `knew` after a compress -/
def dimAfter : ℕ → List (Step 𝕜 E) → ℕ
  | k, [] => k
  | k, .extend _ _ :: rest => dimAfter (k + 1) rest
  | k, .restart _ _ _ :: rest => dimAfter (k + 1) rest
  | _, .compress knew _ _ :: rest => dimAfter knew rest

theorem run_dim (A : E →ₗ[𝕜] E) (l : List (Step 𝕜 E)) : ∀ (s : St 𝕜 E), (run A s l).k = dimAfter s.k l := by
  induction l with
  | nil => intro s; rfl
  | cons st rest ih =>
    intro s
    cases st <;> simp only [run, List.foldl_cons, dimAfter] <;> exact ih _

/-! ### the three-term step -/

/-- the three-term residual: `A v_k − β v_{k−1} − α v_k` -/
theorem resid_lanH (A : E →ₗ[𝕜] E) (V' : ℕ → E) (k : ℕ) (hk : 1 ≤ k) (α β : 𝕜) :
    resid A V' k (lanH k α β) = A (V' k) - β • V' (k - 1) - α • V' k := by
  unfold resid
  rw [sum_range_succ]
  have h1 : ∑ x ∈ range k, lanH k α β x • V' x = β • V' (k - 1) := by
    rw [sum_eq_single (k - 1)]
    · have : k - 1 ≠ k := by omega
      have h2 : k - 1 + 1 = k := by omega
      simp [lanH, this, h2]
    · intro b hb hne
      have hb' := mem_range.mp hb
      have : b ≠ k := by omega
      have h2 : b + 1 ≠ k := by omega
      simp [lanH, this, h2]
    · intro h; exfalso; apply h; rw [mem_range]; omega
  rw [h1]
  simp only [lanH, if_true]
  abel

theorem resid_congr (A : E →ₗ[𝕜] E) (V' : ℕ → E) (k : ℕ) (h h' : ℕ → 𝕜) (hh : ∀ a, a < k + 1 → h a = h' a) :
    resid A V' k h = resid A V' k h' := by
  unfold resid
  congr 1
  apply sum_congr rfl
  intro a ha
  rw [hh a (mem_range.mp ha)]

theorem trisym_congr (H H' : ℕ → ℕ → 𝕜) (k : ℕ) (hH : ∀ a b, a < k → b < k → H' a b = H a b) (h : TriSym H k) : TriSym H' k := by
  constructor
  · intro i j hi hj hij
    rw [hH i j hi hj]; exact h.1 i j hi hj hij
  · intro i j hi hj
    rw [hH i j hi hj, hH j i hj hi]; exact h.2 i j hi hj

/-- the exact Lanczos invariant at dimension `k`: relation without error columns, `VᴴBV = I`, `VᴴBf = 0`, `H` symmetric tridiagonal.
    (What `C07L.PassInv` says of a model state read as vectors.) -/
structure LInv (P : IP 𝕜 E) (A : E →ₗ[𝕜] E) (V : ℕ → E) (H : ℕ → ℕ → 𝕜) (f : E) (k : ℕ) : Prop where
  kry : Kry A V H f k
  on : ON P V k
  fo : FO P V f k
  tri : TriSym H k

section linv
variable {P : IP 𝕜 E} {A : E →ₗ[𝕜] E} {V V' : ℕ → E} {H H' : ℕ → ℕ → 𝕜} {f f' : E} {k : ℕ}

/-- the invariant only reads the first `k` columns, the leading block and the residual -/
theorem LInv.congr (h : LInv P A V H f k) (hV : ∀ j, j < k → V' j = V j) (hH : ∀ i j, i < k → j < k → H' i j = H i j) (hf : f' = f) :
    LInv P A V' H' f' k := by
  refine ⟨fun j hj => ?_, fun i hi j hj => by rw [hV i hi, hV j hj]; exact h.on i hi j hj,
    fun j hj => by rw [hV j hj, hf]; exact h.fo j hj, trisym_congr H H' k hH h.tri⟩
  rw [hV j hj, h.kry j hj, hf]
  exact congrArg (· + _) (sum_congr rfl fun i hi => by rw [hV i (mem_range.mp hi), hH i j (mem_range.mp hi) hj])

/-- dimension `0` (a freshly constructed object): nothing is claimed -/
theorem LInv.zero : LInv P A V H f 0 :=
  ⟨fun _ hj => absurd hj (Nat.not_lt_zero _), fun _ hi => absurd hi (Nat.not_lt_zero _), fun _ hj => absurd hj (Nat.not_lt_zero _),
    fun _ _ hi => absurd hi (Nat.not_lt_zero _), fun _ _ hi => absurd hi (Nat.not_lt_zero _)⟩

/-- INIT: any unit vector `v` with `H₀₀ = <v, A v>`, `f = A v − H₀₀ v` -/
theorem LInv.init (P : IP 𝕜 E) (A : E →ₗ[𝕜] E) (v : E) (hv : P.ip v v = 1) :
    LInv P A (fun _ => v) (fun _ _ => P.ip v (A v)) (A v - P.ip v (A v) • v) 1 := by
  refine ⟨fun j hj => ?_, fun i hi j hj => ?_, fun j _ => ?_, ⟨fun i j hi hj hij => ?_, fun i j hi hj => rfl⟩⟩
  · rw [sum_range_one, if_pos (Nat.succ_inj.mpr (Nat.lt_one_iff.mp hj))]; exact (add_sub_cancel _ _).symm
  · rw [Nat.lt_one_iff.mp hi, Nat.lt_one_iff.mp hj, if_pos rfl]; exact hv
  · rw [P.sub_right, P.smul_right, hv, mul_one]; exact sub_self _
  · rw [Nat.lt_one_iff.mp hi, Nat.lt_one_iff.mp hj] at hij; exact absurd hij (by decide)

end linv

/-- the three-term step: the relation for every `α`, and with a self-adjoint operator and an orthonormal extended basis the
    three-term column is the full projection `VᴴB A v_k` once `α = <v_k, A v_k>` -/
theorem extend_lanczos_core (P : IP 𝕜 E) (A : E →ₗ[𝕜] E) (V : ℕ → E) (H : ℕ → ℕ → 𝕜) (f : E) (k : ℕ) (β α : 𝕜)
    (hβ : β ≠ 0) (hK : Kry A V H f k) :
    Kry A (extV V k (β⁻¹ • f)) (extH H k β (lanH k α β)) (resid A (extV V k (β⁻¹ • f)) k (lanH k α β)) (k + 1) ∧
    ((∀ x y, P.ip x (A y) = P.ip (A x) y) → P.conj β = β → ON P (extV V k (β⁻¹ • f)) (k + 1) →
        α = P.ip (extV V k (β⁻¹ • f) k) (A (extV V k (β⁻¹ • f) k)) →
        (∀ i, i < k + 1 → lanH k α β i = P.ip (extV V k (β⁻¹ • f) i) (A (extV V k (β⁻¹ • f) k))) ∧
        FO P (extV V k (β⁻¹ • f)) (resid A (extV V k (β⁻¹ • f)) k (lanH k α β)) (k + 1)) := by
  refine ⟨extend_kry A V H f k β hβ _ hK, ?_⟩
  · intro hsa hβc hON hα
    have hco : ∀ i, i < k + 1 → lanH k α β i = P.ip (extV V k (β⁻¹ • f) i) (A (extV V k (β⁻¹ • f) k)) := by
      intro i hi
      rcases Nat.lt_succ_iff_lt_or_eq.mp hi with hlt | heq
      · have hne : i ≠ k := Nat.ne_of_lt hlt
        rw [lanczos_coeffs P A V H f k β hsa hβ hβc hK hON i hlt]
        simp [lanH, hne]
      · subst heq; simp [lanH, hα]
    exact ⟨hco, resid_orth P _ (k + 1) (A (extV V k (β⁻¹ • f) k)) (lanH k α β) hON hco⟩

section linv
variable {P : IP 𝕜 E} {A : E →ₗ[𝕜] E} {V V' : ℕ → E} {H : ℕ → ℕ → 𝕜} {f : E} {k : ℕ}

/-- EXTEND, the three-term step: `v = f/β`, `α = <v, A v>`, `f' = A v − β v_{k−1} − α v`; the three-term column is the full projection.
    `V'` is a variable so that the basis read off an array can be put in directly. -/
theorem LInv.extend (h : LInv P A V H f k) (hk : 1 ≤ k) (hsa : ∀ x y, P.ip x (A y) = P.ip (A x) y) {β : 𝕜} (hβ : β ≠ 0)
    (hβc : P.conj β = β) (hnorm : β * β = P.ip f f) (hV' : V' = extV V k (β⁻¹ • f)) :
    LInv P A V' (extH H k β (lanH k (P.ip (V' k) (A (V' k))) β)) (A (V' k) - β • V' (k - 1) - P.ip (V' k) (A (V' k)) • V' k) (k + 1) ∧
    ∀ a, a < k + 1 → lanH k (P.ip (V' k) (A (V' k))) β a = P.ip (V' a) (A (V' k)) := by
  subst hV'
  have hON' := on_extend P V k f β h.on h.fo hβ hβc hnorm
  obtain ⟨k1, k2⟩ := extend_lanczos_core P A V H f k β (P.ip (extV V k (β⁻¹ • f) k) (A (extV V k (β⁻¹ • f) k))) hβ h.kry
  obtain ⟨hco, hfo⟩ := k2 hsa hβc hON' rfl
  rw [resid_lanH A _ k hk] at k1 hfo
  exact ⟨⟨k1, hON', hfo, trisym_ext H k _ β h.tri⟩, hco⟩

/-- COMPRESS: `V⁺ = V Q`, `f⁺ = Q(m-1,k-1) f + H⁺(k,k-1) v⁺_k` for `H Q = Q H⁺`, `Q` with orthonormal leading columns -/
theorem LInv.compress {Hp Q : ℕ → ℕ → 𝕜} {m : ℕ} (h : LInv P A V H f m) (hk : 0 < k) (hkm : k < m)
    (hHQ : ∀ i, i < m → ∀ j, j < k → ∑ a ∈ range m, H i a * Q a j = ∑ b ∈ range m, Q i b * Hp b j)
    (hQ : ∀ i, i < k + 1 → ∀ j, j < k + 1 → ∑ a ∈ range m, P.conj (Q a i) * Q a j = if i = j then 1 else 0)
    (hband : ∀ j, j + 1 < k → Q (m - 1) j = 0) (hHess : ∀ b j, j + 1 < b → j < k → b < m → Hp b j = 0) (htri : TriSym Hp k) :
    LInv P A (mulQ V Q m) Hp (Q (m - 1) (k - 1) • f + Hp k (k - 1) • mulQ V Q m k) k := by
  have hONp := compress_on P V Q m (k + 1) h.on hQ
  refine ⟨compress_kry A V H Hp Q f m k hk hkm h.kry hHQ hHess hband, on_mono P _ k (k + 1) (Nat.le_succ k) hONp,
    compress_fo P V Q f m k _ _ h.fo hONp, htri⟩

end linv

end C07
