/-
  C08 — plane rotations as Mathlib matrices, and the array loops that apply them.

  * `C08Rot.IsRot G k c s`: `G` is the plane rotation `[c s; -s c]` embedded at rows/columns `k`, `k+1` of the `n × n` identity.
    The relation describes a matrix given by a VARIABLE, row by row, over any commutative ring, and carries the whole algebra:
    a product with `G` mixes two rows / two columns (`mul_left_apply`, `mul_apply`), `Gᵀ` is the rotation with `-s`,
    `Gᵀ G = G Gᵀ = 1` when `c² + s² = 1`, and two matrices with the same rows are equal (`IsRot.ext`).  `Gm n c s k` is the
    matrix the C08 statements name; any other definition of the same matrix gets the algebra from its own `IsRot` proof.
  * `IsM X M`: the array `X` is well-formed, has the shape of `M` and holds `M`.  One `rowsPair` / `colsPair` sweep with
    `rotG` / `rotT` maps `IsM` to `IsM` of the product with the rotation (M1), and each of the four `apply_*` loops of
    `UpperHessenbergQR` maps it to `IsM` of the product with `Qmg n cs sn k = G₀ G₁ ⋯ G_{k-1}` or its transpose (M3), for EVERY
    stored rotation sequence: shape and value come out of one induction per loop.
  * `Qmg` is orthogonal when the stored pairs lie on the unit circle, hence `qk` and `qtk` undo each other.
-/
import Mathlib.Data.Matrix.Basic
import Mathlib.Data.Matrix.Mul
import Mathlib.Data.Fintype.BigOperators
import Mathlib.Algebra.BigOperators.Fin
import Mathlib.Tactic.Ring
import Mathlib.Tactic.LinearCombination
import SpectraVerif.Proofs.C08Mat

open Matrix

/-! ### sums against a function supported at one, two, three indices -/

namespace C08HessMatrix
section sums
variable {α : Type} [CommRing α]

/-- a sum against a function supported at one index -/
theorem sum_at {n : Nat} (g : Fin n → α) (k : Nat) (hk : k < n) (a : α) :
    ∑ l : Fin n, g l * (if l.val = k then a else 0) = g ⟨k, hk⟩ * a := by
  rw [Fintype.sum_eq_single (⟨k, hk⟩ : Fin n)]
  · simp
  · intro x hx
    have : ¬ x.val = k := fun e => hx (Fin.ext e)
    simp [this]

theorem sum_if2 {n : Nat} (g : Fin n → α) (k : Nat) (hk : k + 1 < n) (a b : α) :
    ∑ l : Fin n, g l * (if l.val = k then a else if l.val = k + 1 then b else 0) =
      g ⟨k, by omega⟩ * a + g ⟨k + 1, hk⟩ * b := by
  have e : ∀ l : Fin n, g l * (if l.val = k then a else if l.val = k + 1 then b else 0) =
      g l * (if l.val = k then a else 0) + g l * (if l.val = k + 1 then b else 0) := by
    intro l
    by_cases h0 : l.val = k
    · have : ¬ l.val = k + 1 := by omega
      simp [h0]
    · simp [h0]
  rw [Finset.sum_congr rfl (fun l _ => e l), Finset.sum_add_distrib, sum_at g k (by omega), sum_at g (k + 1) hk]

theorem sum_if3 {n : Nat} (g : Fin n → α) (k : Nat) (hk : k + 2 < n) (a b c : α) :
    ∑ l : Fin n, g l * (if l.val = k then a else if l.val = k + 1 then b else if l.val = k + 2 then c else 0) =
      g ⟨k, by omega⟩ * a + g ⟨k + 1, by omega⟩ * b + g ⟨k + 2, hk⟩ * c := by
  have e : ∀ l : Fin n, g l * (if l.val = k then a else if l.val = k + 1 then b else if l.val = k + 2 then c else 0) =
      g l * (if l.val = k then a else 0) + g l * (if l.val = k + 1 then b else 0) +
        g l * (if l.val = k + 2 then c else 0) := by
    intro l
    by_cases h0 : l.val = k
    · have : ¬ l.val = k + 1 := by omega
      have : ¬ l.val = k + 2 := by omega
      simp [h0]
    · by_cases h1 : l.val = k + 1
      · have : ¬ l.val = k + 2 := by omega
        simp [h1]
      · simp [h0, h1]
  rw [Finset.sum_congr rfl (fun l _ => e l), Finset.sum_add_distrib, Finset.sum_add_distrib, sum_at g k (by omega),
    sum_at g (k + 1) (by omega), sum_at g (k + 2) hk]

/-- `A * M` entrywise as a sum against the rows of `Mᵀ` -/
theorem mul_apply_transpose {m n : Nat} (A : Matrix (Fin m) (Fin n) α) (M : Matrix (Fin n) (Fin n) α) (i : Fin m) (j : Fin n) :
    (A * M) i j = ∑ l, Mᵀ j l * A i l := by
  rw [Matrix.mul_apply]
  apply Finset.sum_congr rfl
  intro l _
  rw [Matrix.transpose_apply, mul_comm]

theorem orth_mul {n : Nat} {A B : Matrix (Fin n) (Fin n) α} (hA : Aᵀ * A = 1 ∧ A * Aᵀ = 1) (hB : Bᵀ * B = 1 ∧ B * Bᵀ = 1) :
    (A * B)ᵀ * (A * B) = 1 ∧ A * B * (A * B)ᵀ = 1 := by
  rw [Matrix.transpose_mul]
  constructor
  · rw [Matrix.mul_assoc, ← Matrix.mul_assoc _ A, hA.1, Matrix.one_mul, hB.1]
  · rw [Matrix.mul_assoc, ← Matrix.mul_assoc _ Bᵀ, hB.2, Matrix.one_mul, hA.2]

theorem smul_one_apply {n : Nat} (σ : α) (i j : Fin n) :
    (σ • (1 : Matrix (Fin n) (Fin n) α)) i j = if i.val = j.val then σ else 0 := by
  rw [Matrix.smul_apply, Matrix.one_apply, smul_eq_mul]
  by_cases h : i = j
  · rw [if_pos h, if_pos (congrArg Fin.val h), mul_one]
  · rw [if_neg h, if_neg (fun e => h (Fin.ext e)), mul_zero]

/-- `Qᵀ Q = 1`, `Q R = H - σ I` imply `Qᵀ H Q = R Q + σ I` -/
theorem similarity_of_QR {n : Nat} (Q R H : Matrix (Fin n) (Fin n) α) (σ : α)
    (hQ : Qᵀ * Q = 1) (hQR : Q * R = H - σ • (1 : Matrix (Fin n) (Fin n) α)) :
    Qᵀ * H * Q = R * Q + σ • (1 : Matrix (Fin n) (Fin n) α) := by
  have hH : H = Q * R + σ • (1 : Matrix (Fin n) (Fin n) α) := by rw [hQR, sub_add_cancel]
  rw [hH, Matrix.mul_add, Matrix.add_mul, ← Matrix.mul_assoc, hQ, Matrix.one_mul, Matrix.mul_smul, Matrix.mul_one,
    Matrix.smul_mul, hQ]

end sums
end C08HessMatrix

/-! ### the plane rotation, as a relation on a matrix given by a variable -/

namespace C08Rot
open C08HessMatrix

section rot
variable {R : Type} [CommRing R] {n : Nat}

/-- `G` is the plane rotation `[c s; -s c]` embedded at rows/columns `k`, `k+1` of the `n × n` identity -/
structure IsRot (G : Matrix (Fin n) (Fin n) R) (k : Nat) (c s : R) : Prop where
  row_k : ∀ i j : Fin n, i.val = k → G i j = if j.val = k then c else if j.val = k + 1 then s else 0
  row_k1 : ∀ i j : Fin n, i.val = k + 1 → G i j = if j.val = k then -s else if j.val = k + 1 then c else 0
  row_other : ∀ i j : Fin n, i.val ≠ k → i.val ≠ k + 1 → G i j = if j = i then 1 else 0

namespace IsRot
variable {G G' : Matrix (Fin n) (Fin n) R} {k : Nat} {c s : R}

/-- the rows determine the matrix -/
theorem ext (h : IsRot G k c s) (h' : IsRot G' k c s) : G = G' := by
  ext i j
  by_cases h1 : i.val = k
  · rw [h.row_k i j h1, h'.row_k i j h1]
  · by_cases h2 : i.val = k + 1
    · rw [h.row_k1 i j h2, h'.row_k1 i j h2]
    · rw [h.row_other i j h1 h2, h'.row_other i j h1 h2]

/-- `G * v`: only the entries `k`, `k+1` are mixed -/
theorem sum (h : IsRot G k c s) (hk : k + 1 < n) (g : Fin n → R) (i : Fin n) :
    (∑ l, G i l * g l) =
      if i.val = k then c * g ⟨k, by omega⟩ + s * g ⟨k + 1, hk⟩
      else if i.val = k + 1 then (-s) * g ⟨k, by omega⟩ + c * g ⟨k + 1, hk⟩ else g i := by
  by_cases h1 : i.val = k
  · rw [if_pos h1, Finset.sum_congr rfl (fun l _ => by rw [h.row_k i l h1, mul_comm]), sum_if2 g k hk,
      mul_comm, mul_comm (g _)]
  · rw [if_neg h1]
    by_cases h2 : i.val = k + 1
    · rw [if_pos h2, Finset.sum_congr rfl (fun l _ => by rw [h.row_k1 i l h2, mul_comm]), sum_if2 g k hk,
        mul_comm, mul_comm (g _)]
    · rw [if_neg h2, Fintype.sum_eq_single i]
      · rw [h.row_other i i h1 h2, if_pos rfl, one_mul]
      · intro x hx
        rw [h.row_other i x h1 h2, if_neg hx, zero_mul]

theorem transpose (h : IsRot G k c s) : IsRot Gᵀ k c (-s) where
  row_k i j hi := by
    rw [Matrix.transpose_apply]
    by_cases h1 : j.val = k
    · rw [if_pos h1, h.row_k j i h1, if_pos hi]
    · rw [if_neg h1]
      by_cases h2 : j.val = k + 1
      · rw [if_pos h2, h.row_k1 j i h2, if_pos hi]
      · rw [if_neg h2, h.row_other j i h1 h2, if_neg (fun e : i = j => h1 (e ▸ hi))]
  row_k1 i j hi := by
    rw [Matrix.transpose_apply, neg_neg]
    by_cases h1 : j.val = k
    · rw [if_pos h1, h.row_k j i h1, if_neg (by omega), if_pos hi]
    · rw [if_neg h1]
      by_cases h2 : j.val = k + 1
      · rw [if_pos h2, h.row_k1 j i h2, if_neg (by omega), if_pos hi]
      · rw [if_neg h2, h.row_other j i h1 h2, if_neg (fun e : i = j => h2 (e ▸ hi))]
  row_other i j hi1 hi2 := by
    rw [Matrix.transpose_apply]
    by_cases h1 : j.val = k
    · rw [h.row_k j i h1, if_neg hi1, if_neg hi2, if_neg (fun e : j = i => hi1 (e ▸ h1))]
    · by_cases h2 : j.val = k + 1
      · rw [h.row_k1 j i h2, if_neg hi1, if_neg hi2, if_neg (fun e : j = i => hi2 (e ▸ h2))]
      · rw [h.row_other j i h1 h2]
        exact C08Mat.ite_iff eq_comm _ _

/-- left multiplication by `G` mixes the rows `k`, `k+1` only -/
theorem mul_left_apply {m : Nat} (h : IsRot G k c s) (hk : k + 1 < n) (M : Matrix (Fin n) (Fin m) R) (i : Fin n) (j : Fin m) :
    (G * M) i j =
      if i.val = k then c * M ⟨k, by omega⟩ j + s * M ⟨k + 1, hk⟩ j
      else if i.val = k + 1 then (-s) * M ⟨k, by omega⟩ j + c * M ⟨k + 1, hk⟩ j else M i j := by
  rw [Matrix.mul_apply, h.sum hk (fun l => M l j) i]

/-- right multiplication by `G` mixes the columns `k`, `k+1` only -/
theorem mul_apply {m : Nat} (h : IsRot G k c s) (hk : k + 1 < n) (A : Matrix (Fin m) (Fin n) R) (i : Fin m) (j : Fin n) :
    (A * G) i j =
      if j.val = k then c * A i ⟨k, by omega⟩ - s * A i ⟨k + 1, hk⟩
      else if j.val = k + 1 then s * A i ⟨k, by omega⟩ + c * A i ⟨k + 1, hk⟩ else A i j := by
  rw [mul_apply_transpose, h.transpose.sum hk (fun l => A i l) j, neg_neg, neg_mul, sub_eq_add_neg]

/-- the rotation with `-s` is the inverse when `c² + s² = 1` -/
theorem mul_neg (h' : IsRot G' k c (-s)) (h : IsRot G k c s) (hk : k + 1 < n) (hcs : c * c + s * s = 1) : G' * G = 1 := by
  ext i j
  rw [h'.mul_left_apply hk, Matrix.one_apply, h.row_k _ j rfl, h.row_k1 _ j rfl]
  by_cases h1 : i.val = k
  · rw [if_pos h1]
    by_cases h2 : j.val = k
    · rw [if_pos h2, if_pos h2, if_pos (Fin.ext (h1.trans h2.symm))]
      linear_combination hcs
    · rw [if_neg h2, if_neg h2, if_neg (fun e : i = j => h2 (e ▸ h1))]
      by_cases h3 : j.val = k + 1
      · rw [if_pos h3, if_pos h3]; ring
      · rw [if_neg h3, if_neg h3]; ring
  · rw [if_neg h1]
    by_cases h1' : i.val = k + 1
    · rw [if_pos h1']
      by_cases h2 : j.val = k
      · rw [if_pos h2, if_pos h2, if_neg (fun e => by rw [e] at h1; exact h1 h2)]; ring
      · rw [if_neg h2, if_neg h2]
        by_cases h3 : j.val = k + 1
        · rw [if_pos h3, if_pos h3, if_pos (Fin.ext (h1'.trans h3.symm))]
          linear_combination hcs
        · rw [if_neg h3, if_neg h3, if_neg (fun e : i = j => h3 (e ▸ h1'))]; ring
    · rw [if_neg h1']
      by_cases e : i = j
      · rw [if_pos e, ← e, h.row_other i i h1 h1', if_pos rfl]
      · rw [if_neg e, h.row_other i j h1 h1', if_neg (fun e' => e e'.symm)]

/-- M2: the rotation is orthogonal when `c² + s² = 1` -/
theorem orth (h : IsRot G k c s) (hk : k + 1 < n) (hcs : c * c + s * s = 1) : Gᵀ * G = 1 ∧ G * Gᵀ = 1 :=
  ⟨h.transpose.mul_neg h hk hcs,
    mul_neg (s := -s) (by rw [neg_neg]; exact h) h.transpose hk (by rw [neg_mul_neg]; exact hcs)⟩

end IsRot
end rot
end C08Rot

namespace C08HessMatrix
open C08Rot

/-- the plane rotation `[c s; -s c]` embedded at rows/columns `k`, `k+1` of the `n × n` identity -/
def Gm {α : Type} [Field α] (n : Nat) (c s : α) (k : Nat) : Matrix (Fin n) (Fin n) α := fun i j =>
  if i.val = k ∧ j.val = k then c
  else if i.val = k ∧ j.val = k + 1 then s
  else if i.val = k + 1 ∧ j.val = k then -s
  else if i.val = k + 1 ∧ j.val = k + 1 then c
  else if i.val = j.val then 1 else 0

theorem Gm_isRot {α : Type} [Field α] (n : Nat) (c s : α) (k : Nat) : IsRot (Gm n c s k) k c s where
  row_k i j hi := by
    unfold Gm
    by_cases h2 : j.val = k
    · simp [hi, h2]
    · by_cases h4 : j.val = k + 1
      · simp [hi, h4]
      · simp [hi, h2, h4]; omega
  row_k1 i j hi := by
    unfold Gm
    by_cases h2 : j.val = k
    · simp [hi, h2]
    · by_cases h4 : j.val = k + 1
      · simp [hi, h4]
      · simp [hi, h2, h4]; omega
  row_other i j h1 h2 := by
    unfold Gm
    by_cases h : j = i
    · subst h; simp [h1, h2]
    · have h' : ¬ i.val = j.val := fun e => h (Fin.ext e.symm)
      simp [h1, h2, h, h']

theorem rotT_eq_rotG_neg {α : Type} [Field α] (c s : α) : QRModel.rotT c s = QRModel.rotG c (-s) := by
  funext x y
  simp only [QRModel.rotT, QRModel.rotG, neg_neg, neg_mul, sub_eq_add_neg]

end C08HessMatrix

/-! ### arrays as matrices -/

namespace C08Hess
open Lin QRModel

section loops
variable {α : Type} [Field α] [Sc α]

/-- `apply_QtY_mat` after `k` steps (rotations `0 … k-1`, ascending) -/
def qtk (cs sn : Vec α) (k : Nat) (Y : Mat α) : Mat α :=
  (List.range k).foldl (fun Y i => rowsPair (rotT (vget cs i) (vget sn i)) Y i 0 Y.cols) Y

/-- `apply_QY_mat` restricted to the rotations `k-1 … 0` (descending) -/
def qk (cs sn : Vec α) (k : Nat) (Y : Mat α) : Mat α :=
  ((List.range k).reverse).foldl (fun Y i => rowsPair (rotG (vget cs i) (vget sn i)) Y i 0 Y.cols) Y

theorem qtk_succ (cs sn : Vec α) (k : Nat) (Y : Mat α) :
    qtk cs sn (k + 1) Y = rowsPair (rotT (vget cs k) (vget sn k)) (qtk cs sn k Y) k 0 (qtk cs sn k Y).cols :=
  ListFold.foldl_range_succ _ _ _

theorem qk_succ (cs sn : Vec α) (k : Nat) (Y : Mat α) :
    qk cs sn (k + 1) Y = qk cs sn k (rowsPair (rotG (vget cs k) (vget sn k)) Y k 0 Y.cols) :=
  C08Mat.foldl_range_reverse_succ _ _ _

end loops
end C08Hess

namespace C08HessMatrix
open Lin QRModel C08Mat C08Hess C08Rot

section isM
variable {α : Type} [Sc α]

/-- the `r × c` Mathlib matrix read off the array `A` -/
def toMg (r c : Nat) (A : Mat α) : Matrix (Fin r) (Fin c) α := fun i j => A.get i.val j.val

/-- `X` is the well-formed `n × m` array of the matrix `M` -/
structure IsM {n m : Nat} (X : Mat α) (M : Matrix (Fin n) (Fin m) α) : Prop where
  wf : WF X
  rows : X.rows = n
  cols : X.cols = m
  eq : toMg n m X = M

namespace IsM
variable {n m : Nat} {X Y : Mat α} {M : Matrix (Fin n) (Fin m) α}

theorem of (hw : WF X) (hr : X.rows = n) (hc : X.cols = m) : IsM X (toMg n m X) := ⟨hw, hr, hc, rfl⟩

theorem rep (h : IsM X M) : Rep X n m X.get := Rep.of h.wf h.rows h.cols

/-- an array is determined by the matrix it holds -/
theorem ext (h : IsM X M) (h' : IsM Y M) : X = Y :=
  Rep.ext h.rep (h'.rep.congr fun a b ha hb => congrFun (congrFun (h'.eq.trans h.eq.symm) ⟨a, ha⟩) ⟨b, hb⟩)

end IsM

theorem _root_.C08Mat.Rep.isM {n m : Nat} {X : Mat α} {f : Nat → Nat → α} (h : Rep X n m f) : IsM X (toMg n m X) :=
  ⟨h.wf, h.rows, h.cols, rfl⟩

end isM

section arrays
variable {α : Type} [Field α] [Sc α]

/-- the `apply_YQ` loop after `k` steps (rotations `0 … k-1`, ascending) -/
def yqkg (cs sn : Vec α) (k : Nat) (Y : Mat α) : Mat α :=
  (List.range k).foldl (fun Y i => colsPair (rotT (vget cs i) (vget sn i)) Y i Y.rows) Y

/-- the `apply_YQt` loop restricted to the rotations `k-1 … 0` (descending) -/
def yqtkg (cs sn : Vec α) (k : Nat) (Y : Mat α) : Mat α :=
  ((List.range k).reverse).foldl (fun Y i => colsPair (rotG (vget cs i) (vget sn i)) Y i Y.rows) Y

theorem yqkg_succ (cs sn : Vec α) (k : Nat) (Y : Mat α) :
    yqkg cs sn (k + 1) Y = colsPair (rotT (vget cs k) (vget sn k)) (yqkg cs sn k Y) k (yqkg cs sn k Y).rows :=
  ListFold.foldl_range_succ _ _ _

theorem yqtkg_succ (cs sn : Vec α) (k : Nat) (Y : Mat α) :
    yqtkg cs sn (k + 1) Y = yqtkg cs sn k (colsPair (rotG (vget cs k) (vget sn k)) Y k Y.rows) :=
  foldl_range_reverse_succ _ _ _

/-- `G₀ G₁ ⋯ G_{k-1}` built from the stored `cos`/`sin` arrays -/
def Qmg (n : Nat) (cs sn : Vec α) : Nat → Matrix (Fin n) (Fin n) α
  | 0 => 1
  | k + 1 => Qmg n cs sn k * Gm n (vget cs k) (vget sn k) k

/-- the `Q` of the decomposition `q`: all `q.n - 1` stored rotations -/
def Qofg (q : UpperHessenbergQR α) : Matrix (Fin q.n) (Fin q.n) α := Qmg q.n q.cos q.sin (q.n - 1)

theorem Qmg_zero (n : Nat) (cs sn : Vec α) : Qmg n cs sn 0 = 1 := rfl
theorem Qmg_succ (n : Nat) (cs sn : Vec α) (k : Nat) :
    Qmg n cs sn (k + 1) = Qmg n cs sn k * Gm n (vget cs k) (vget sn k) k := rfl

namespace IsM
variable {n m : Nat} {X Y : Mat α} {M : Matrix (Fin n) (Fin m) α}

/-- M1: `rowsPair (rotG c s)` on rows `k`, `k+1` is left multiplication by the rotation -/
theorem rowsPair_rotG (h : IsM Y M) {G : Matrix (Fin n) (Fin n) α} {c s : α} {k : Nat} (hG : IsRot G k c s) (hk : k + 1 < n) :
    IsM (rowsPair (rotG c s) Y k 0 Y.cols) (G * M) := by
  have r := h.rep.rowsPair_full (rotG c s) hk
  refine ⟨r.wf, r.rows, r.cols, ?_⟩
  ext i j
  rw [hG.mul_left_apply hk, ← h.eq]
  exact r.get i.val j.val i.isLt j.isLt

/-- `rowsPair (rotT c s)` is left multiplication by the transposed rotation -/
theorem rowsPair_rotT (h : IsM Y M) {G : Matrix (Fin n) (Fin n) α} {c s : α} {k : Nat} (hG : IsRot G k c s) (hk : k + 1 < n) :
    IsM (rowsPair (rotT c s) Y k 0 Y.cols) (Gᵀ * M) := by
  rw [rotT_eq_rotG_neg]; exact h.rowsPair_rotG hG.transpose hk

/-- M1: `colsPair (rotT c s)` on columns `k`, `k+1` is right multiplication by the rotation -/
theorem colsPair_rotT (h : IsM Y M) {G : Matrix (Fin m) (Fin m) α} {c s : α} {k : Nat} (hG : IsRot G k c s) (hk : k + 1 < m) :
    IsM (colsPair (rotT c s) Y k Y.rows) (M * G) := by
  have r := h.rep.colsPair_full (rotT c s) hk
  refine ⟨r.wf, r.rows, r.cols, ?_⟩
  ext i j
  rw [hG.mul_apply hk, ← h.eq]
  exact r.get i.val j.val i.isLt j.isLt

/-- `colsPair (rotG c s)` is right multiplication by the transposed rotation -/
theorem colsPair_rotG (h : IsM Y M) {G : Matrix (Fin m) (Fin m) α} {c s : α} {k : Nat} (hG : IsRot G k c s) (hk : k + 1 < m) :
    IsM (colsPair (rotG c s) Y k Y.rows) (M * Gᵀ) := by
  have e : rotG c s = rotT c (-s) := by rw [rotT_eq_rotG_neg, neg_neg]
  rw [e]; exact h.colsPair_rotT hG.transpose hk

/-- M3: `apply_QtY_mat` after `k` steps holds `(G₀ ⋯ G_{k-1})ᵀ M` -/
theorem qtk (h : IsM Y M) (cs sn : Vec α) (k : Nat) (hk : k ≤ n - 1) : IsM (qtk cs sn k Y) ((Qmg n cs sn k)ᵀ * M) := by
  induction k with
  | zero => rw [Qmg_zero, Matrix.transpose_one, Matrix.one_mul]; exact h
  | succ k ih =>
    rw [qtk_succ, Qmg_succ, Matrix.transpose_mul, Matrix.mul_assoc]
    exact (ih (by omega)).rowsPair_rotT (Gm_isRot ..) (by omega)

/-- M3: `apply_QY_mat` restricted to the rotations `k-1 … 0` holds `(G₀ ⋯ G_{k-1}) M` -/
theorem qk (cs sn : Vec α) (k : Nat) (hk : k ≤ n - 1) :
    ∀ {Y : Mat α} {M : Matrix (Fin n) (Fin m) α}, IsM Y M → IsM (qk cs sn k Y) (Qmg n cs sn k * M) := by
  induction k with
  | zero => intro Y M h; rw [Qmg_zero, Matrix.one_mul]; exact h
  | succ k ih =>
    intro Y M h
    rw [qk_succ, Qmg_succ, Matrix.mul_assoc]
    exact ih (by omega) (h.rowsPair_rotG (Gm_isRot ..) (by omega))

/-- M3: `apply_YQ` after `k` steps holds `M (G₀ ⋯ G_{k-1})` -/
theorem yqk (h : IsM Y M) (cs sn : Vec α) (k : Nat) (hk : k ≤ m - 1) : IsM (yqkg cs sn k Y) (M * Qmg m cs sn k) := by
  induction k with
  | zero => rw [Qmg_zero, Matrix.mul_one]; exact h
  | succ k ih =>
    rw [yqkg_succ, Qmg_succ, ← Matrix.mul_assoc]
    exact (ih (by omega)).colsPair_rotT (Gm_isRot ..) (by omega)

/-- M3: `apply_YQt` restricted to the rotations `k-1 … 0` holds `M (G₀ ⋯ G_{k-1})ᵀ` -/
theorem yqtk (cs sn : Vec α) (k : Nat) (hk : k ≤ m - 1) :
    ∀ {Y : Mat α} {M : Matrix (Fin n) (Fin m) α}, IsM Y M → IsM (yqtkg cs sn k Y) (M * (Qmg m cs sn k)ᵀ) := by
  induction k with
  | zero => intro Y M h; rw [Qmg_zero, Matrix.transpose_one, Matrix.mul_one]; exact h
  | succ k ih =>
    intro Y M h
    rw [yqtkg_succ, Qmg_succ, Matrix.transpose_mul, ← Matrix.mul_assoc]
    exact ih (by omega) (h.colsPair_rotG (Gm_isRot ..) (by omega))

end IsM

theorem yqkg_dims (cs sn : Vec α) {Y : Mat α} (hw : WF Y) (k : Nat) (hk : k ≤ Y.cols - 1) :
    WF (yqkg cs sn k Y) ∧ (yqkg cs sn k Y).rows = Y.rows ∧ (yqkg cs sn k Y).cols = Y.cols :=
  have h := (IsM.of hw rfl rfl).yqk cs sn k hk
  ⟨h.wf, h.rows, h.cols⟩

/-- the accumulated product of rotations on the unit circle is orthogonal -/
theorem Qmg_orth (n : Nat) (cs sn : Vec α) (k : Nat) (hk : k ≤ n - 1)
    (horth : ∀ i, i < k → vget cs i * vget cs i + vget sn i * vget sn i = 1) :
    (Qmg n cs sn k)ᵀ * Qmg n cs sn k = 1 ∧ Qmg n cs sn k * (Qmg n cs sn k)ᵀ = 1 := by
  induction k with
  | zero => rw [Qmg_zero, Matrix.transpose_one, Matrix.mul_one]; exact ⟨rfl, rfl⟩
  | succ k ih =>
    rw [Qmg_succ]
    exact orth_mul (ih (by omega) (fun i hi => horth i (by omega))) ((Gm_isRot ..).orth (by omega) (horth k (by omega)))

end arrays
end C08HessMatrix

namespace C08Hess
open Lin QRModel C08Mat C08HessMatrix

section inverse
variable {α : Type} [Field α] [Sc α]

/-- one step of the `apply_QtY_mat` loop on entries -/
theorem qtk_step (cs sn : Vec α) {A : Mat α} {n m : Nat} {f : Nat → Nat → α} (hA : Rep A n m f) {k : Nat} (hk : k + 1 < n) :
    Rep (qtk cs sn (k + 1) A) n m fun a b =>
      if a = k then (rotT (vget cs k) (vget sn k) ((qtk cs sn k A).get k b) ((qtk cs sn k A).get (k + 1) b)).1
      else if a = k + 1 then (rotT (vget cs k) (vget sn k) ((qtk cs sn k A).get k b) ((qtk cs sn k A).get (k + 1) b)).2
      else (qtk cs sn k A).get a b := by
  rw [qtk_succ]
  exact (hA.isM.qtk cs sn k (by omega)).rep.rowsPair_full _ hk

/-- `Q (Qᵀ Y) = Y`: the array of `Q Qᵀ M = M` is `Y` -/
theorem qk_qtk (cs sn : Vec α) (k : Nat) (horth : ∀ i, i < k → vget cs i * vget cs i + vget sn i * vget sn i = 1)
    {Y : Mat α} (hw : WF Y) (hk : k ≤ Y.rows - 1) : qk cs sn k (qtk cs sn k Y) = Y := by
  have h := IsM.of hw rfl rfl
  refine IsM.ext ?_ h
  have := (h.qtk cs sn k hk).qk cs sn k hk
  rwa [← Matrix.mul_assoc, (Qmg_orth _ cs sn k hk horth).2, Matrix.one_mul] at this

/-- `Qᵀ (Q Y) = Y` -/
theorem qtk_qk (cs sn : Vec α) (k : Nat) (horth : ∀ i, i < k → vget cs i * vget cs i + vget sn i * vget sn i = 1)
    {Y : Mat α} (hw : WF Y) (hk : k ≤ Y.rows - 1) : qtk cs sn k (qk cs sn k Y) = Y := by
  have h := IsM.of hw rfl rfl
  refine IsM.ext ?_ h
  have := (h.qk cs sn k hk).qtk cs sn k hk
  rwa [← Matrix.mul_assoc, (Qmg_orth _ cs sn k hk horth).1, Matrix.one_mul] at this

end inverse
end C08Hess
