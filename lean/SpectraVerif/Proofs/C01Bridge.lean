/-
  Bridge between C07's `ℕ`-indexed Krylov relation `Kry` (columns `V : ℕ → E`, `H : ℕ → ℕ → 𝕜`) and the Mathlib `Matrix` form
  `A * V = V * H + f e_lastᵀ` that `Ritz.residual` consumes (helper file of Properties/C01.lean).
-/
import Mathlib.Data.Matrix.Mul
import Mathlib.Algebra.BigOperators.Fin
import SpectraVerif.Proofs.C07Run
import SpectraVerif.Proofs.Spectral

open Finset Matrix

namespace C01B
open C07

variable {F : Type} [Field F] {n : ℕ}

/-- the operator of a matrix, `x ↦ M x` -/
def opOf (M : Matrix (Fin n) (Fin n) F) : (Fin n → F) →ₗ[F] (Fin n → F) where
  toFun := M.mulVec
  map_add' := mulVec_add M
  map_smul' c x := by simp [mulVec_smul]

@[simp] theorem opOf_apply (M : Matrix (Fin n) (Fin n) F) (x : Fin n → F) : opOf M x = M *ᵥ x := rfl

/-- the first `m` basis columns as an `n × m` matrix -/
def Vmat (V : ℕ → Fin n → F) (m : ℕ) : Matrix (Fin n) (Fin m) F := fun r j => V j.val r
/-- the leading `m × m` block of `H` -/
def Hmat (H : ℕ → ℕ → F) (m : ℕ) : Matrix (Fin m) (Fin m) F := fun i j => H i.val j.val
/-- the first `m` coordinates of a coefficient sequence -/
def yvec (y : ℕ → F) (m : ℕ) : Fin m → F := fun j => y j.val

theorem Vmat_mulVec (V : ℕ → Fin n → F) (m : ℕ) (y : ℕ → F) : Vmat V m *ᵥ yvec y m = ∑ j ∈ range m, y j • V j := by
  ext r
  simp only [mulVec, dotProduct, Vmat, yvec, Finset.sum_apply, Pi.smul_apply, smul_eq_mul]
  rw [← Fin.sum_univ_eq_sum_range (fun j => y j * V j r)]
  apply Finset.sum_congr rfl; intro j _; ring

/-- C07's relation at dimension `m > 0` is the matrix relation `M V = V H + f e_{m-1}ᵀ` -/
theorem kry_matrix (M : Matrix (Fin n) (Fin n) F) (V : ℕ → Fin n → F) (H : ℕ → ℕ → F) (f : Fin n → F) (m : ℕ) (hm : 0 < m)
    (hK : Kry (opOf M) V H f m) :
    M * Vmat V m = Vmat V m * Hmat H m + vecMulVec f (Pi.single (⟨m - 1, by omega⟩ : Fin m) 1) := by
  ext r j
  have hj := hK j.val j.isLt
  have hjr := congrFun hj r
  simp only [opOf_apply] at hjr
  have e1 : (M * Vmat V m) r j = (M *ᵥ V j.val) r := by
    simp only [Matrix.mul_apply, mulVec, dotProduct, Vmat]
  rw [e1, hjr]
  simp only [Pi.add_apply, Finset.sum_apply, Pi.smul_apply, smul_eq_mul, Matrix.add_apply, Matrix.mul_apply, Vmat, Hmat, vecMulVec_apply]
  rw [← Fin.sum_univ_eq_sum_range (fun i => H i j.val * V i r)]
  congr 1
  · apply Finset.sum_congr rfl; intro i _; ring
  · by_cases hl : j.val + 1 = m
    · have : j = (⟨m - 1, by omega⟩ : Fin m) := Fin.ext (by show j.val = m - 1; omega)
      rw [if_pos hl, this]; simp
    · have : j ≠ (⟨m - 1, by omega⟩ : Fin m) := fun h => hl (by rw [h]; show m - 1 + 1 = m; omega)
      rw [if_neg hl]; simp [this]

/-- `Ritz.residual` for C07's relation: if `Kry` holds at dimension `m` and `(θ, y)` is an eigenpair of the leading block of `H`,
    then for `x = Σ_j y_j v_j`:  `M x - θ x = y_{m-1} • f`. -/
theorem ritz_residual_nat (M : Matrix (Fin n) (Fin n) F) (V : ℕ → Fin n → F) (H : ℕ → ℕ → F) (f : Fin n → F) (m : ℕ) (hm : 0 < m)
    (hK : Kry (opOf M) V H f m) (θ : F) (y : ℕ → F)
    (hy : ∀ i, i < m → ∑ a ∈ range m, H i a * y a = θ * y i) :
    M *ᵥ (∑ j ∈ range m, y j • V j) - θ • (∑ j ∈ range m, y j • V j) = y (m - 1) • f := by
  have hH : Hmat H m *ᵥ yvec y m = θ • yvec y m := by
    ext i
    simp only [mulVec, dotProduct, Hmat, yvec, Pi.smul_apply, smul_eq_mul]
    rw [Fin.sum_univ_eq_sum_range (fun a => H i.val a * y a)]
    exact hy i.val i.isLt
  have := Ritz.residual M (Vmat V m) (Hmat H m) f (⟨m - 1, by omega⟩ : Fin m) θ (yvec y m) (kry_matrix M V H f m hm hK) hH
  rw [Vmat_mulVec] at this
  simpa [yvec] using this

end C01B
