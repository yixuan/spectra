/-
  C10 — scalar kernels translated from BKLDLT.h (`Gen.BK`): field identities.
-/
import Mathlib.Tactic.FieldSimp
import Mathlib.Tactic.Ring
import Mathlib.Tactic.LinearCombination
import SpectraVerif.Proofs.ScField
import SpectraVerif.Proofs.C10Index
open Gen.BK BKLDLT

namespace C10S
variable {K : Type} [Field K]

/-- any field, any `Sc` instance (the comparison is an oracle): pivot used as divisor ≠ 0 and det ≠ 0 -/
theorem solve2_any [Sc K] (e11 e21 e22 b1 b2 : K)
    (hp : if Sc.ge (Sc.abs e11) (Sc.abs e21) then e11 ≠ 0 else e21 ≠ 0)
    (hdet : e11 * e22 - e21 * e21 ≠ 0) :
    e11 * (solve_inplace_2x2 e11 e21 e22 b1 b2).1 + e21 * (solve_inplace_2x2 e11 e21 e22 b1 b2).2 = b1 ∧
    e21 * (solve_inplace_2x2 e11 e21 e22 b1 b2).1 + e22 * (solve_inplace_2x2 e11 e21 e22 b1 b2).2 = b2 := by
  -- with `fac`, `x2`, `x1` named by the equations that define them, both branches are polynomial identities
  simp only [solve_inplace_2x2, scalarop_conj]
  split_ifs at hp ⊢ with h
  · have hfac : e21 / e11 * e11 = e21 := div_mul_cancel₀ _ hp
    generalize e21 / e11 = fac at hfac ⊢
    have hd : e22 - fac * e21 ≠ 0 := fun h0 => hdet (by linear_combination e11 * h0 + e21 * hfac)
    have hx2 : (b2 - fac * b1) / (e22 - fac * e21) * (e22 - fac * e21) = b2 - fac * b1 := div_mul_cancel₀ _ hd
    generalize (b2 - fac * b1) / (e22 - fac * e21) = x2 at hx2 ⊢
    have hx1 : (b1 - e21 * x2) / e11 * e11 = b1 - e21 * x2 := div_mul_cancel₀ _ hp
    generalize (b1 - e21 * x2) / e11 = x1 at hx1 ⊢
    exact ⟨by linear_combination hx1, by linear_combination (-x1) * hfac + fac * hx1 + hx2⟩
  · have hfac : e11 / e21 * e21 = e11 := div_mul_cancel₀ _ hp
    generalize e11 / e21 = fac at hfac ⊢
    have hd : e21 - fac * e22 ≠ 0 := fun h0 => hdet (by linear_combination (-e21) * h0 - e22 * hfac)
    have hx2 : (b1 - fac * b2) / (e21 - fac * e22) * (e21 - fac * e22) = b1 - fac * b2 := div_mul_cancel₀ _ hd
    generalize (b1 - fac * b2) / (e21 - fac * e22) = x2 at hx2 ⊢
    have hx1 : (b2 - e22 * x2) / e21 * e21 = b2 - e22 * x2 := div_mul_cancel₀ _ hp
    generalize (b2 - e22 * x2) / e21 = x1 at hx1 ⊢
    exact ⟨by linear_combination (-x1) * hfac + fac * hx1 + hx2, by linear_combination hx1⟩

theorem inv2_any [Sc K] (e11 e21 e22 : K) (hdet : e11 * e22 - e21 * e21 ≠ 0) :
    let d := inverse_inplace_2x2 e11 e21 e22
    e11 * d.1 + e21 * d.2.1 = 1 ∧ e11 * d.2.1 + e21 * d.2.2 = 0 ∧
    e21 * d.1 + e22 * d.2.1 = 0 ∧ e21 * d.2.1 + e22 * d.2.2 = 1 := by
  -- the side condition in the normal form `field_simp` looks for
  have h1 : e11 * e22 - e21 ^ 2 ≠ 0 := by rwa [pow_two]
  simp only [inverse_inplace_2x2, scalarop_conj]
  refine ⟨?_, ?_, ?_, ?_⟩ <;> (field_simp; try ring)

/-- for real scalars (`conj` is the identity) the row solve `x E = c` of the elimination is the column solve `E x = c` of `solve_inplace` -/
theorem solve_left_eq [Sc K] (e11 e21 e22 c1 c2 : K) : solve_left_2x2 e11 e21 e22 c1 c2 = solve_inplace_2x2 e11 e21 e22 c1 c2 := by
  unfold solve_left_2x2 solve_inplace_2x2 scalarop_conj
  by_cases h : Sc.ge (Sc.abs e11) (Sc.abs e21) = true
  · simp only [h, if_true]
  · simp only [h]

theorem solve_left2_any [Sc K] (e11 e21 e22 c1 c2 : K)
    (hp : if Sc.ge (Sc.abs e11) (Sc.abs e21) then e11 ≠ 0 else e21 ≠ 0)
    (hdet : e11 * e22 - e21 * e21 ≠ 0) :
    (solve_left_2x2 e11 e21 e22 c1 c2).1 * e11 + (solve_left_2x2 e11 e21 e22 c1 c2).2 * e21 = c1 ∧
    (solve_left_2x2 e11 e21 e22 c1 c2).1 * e21 + (solve_left_2x2 e11 e21 e22 c1 c2).2 * e22 = c2 := by
  rw [solve_left_eq]
  obtain ⟨h1, h2⟩ := solve2_any e11 e21 e22 c1 c2 hp hdet
  exact ⟨by linear_combination h1, by linear_combination h2⟩

theorem elim1 (a li lj b : K) (ha : a ≠ 0) :
    b - (lj / a) * li = b - li * lj / a ∧ (li / a) * a * (lj / a) + (b - (lj / a) * li) = b ∧ (li / a) * a = li := by
  refine ⟨?_, ?_, ?_⟩ <;> (field_simp; try ring)

theorem elim2 [Sc K] (e11 e21 e22 l1i l2i l1j l2j b : K)
    (hp : if Sc.ge (Sc.abs e11) (Sc.abs e21) then e11 ≠ 0 else e21 ≠ 0) (hdet : e11 * e22 - e21 * e21 ≠ 0) :
    let xi := solve_left_2x2 e11 e21 e22 l1i l2i
    let xj := solve_left_2x2 e11 e21 e22 l1j l2j
    (xi.1 * e11 + xi.2 * e21 = l1i ∧ xi.1 * e21 + xi.2 * e22 = l2i) ∧
    ((xi.1 * e11 + xi.2 * e21) * xj.1 + (xi.1 * e21 + xi.2 * e22) * xj.2 + (b - (xi.1 * l1j + xi.2 * l2j)) = b) := by
  intro xi xj
  have hi := solve_left2_any e11 e21 e22 l1i l2i hp hdet
  have hj := solve_left2_any e11 e21 e22 l1j l2j hp hdet
  refine ⟨hi, ?_⟩
  have a1 : xj.1 * e11 + xj.2 * e21 = l1j := hj.1
  have a2 : xj.1 * e21 + xj.2 * e22 = l2j := hj.2
  linear_combination xi.1 * a1 + xi.2 * a2

theorem break_iff (info : Int) : compute_break info = true ↔ info ≠ Successful := by simp [compute_break, Successful]

theorem wrapper_guards (info : Int) :
    (dense_set_shift_guard info = Res.throw "std::invalid_argument" ↔ info ≠ Successful) ∧
    (dense_set_shift_guard info = Res.ok () ↔ info = Successful) ∧
    (symshift_set_shift_guard (symshift_factorize_ok info) = Res.throw "std::invalid_argument" ↔ info ≠ Successful) ∧
    (symshift_set_shift_guard (symshift_factorize_ok info) = Res.ok () ↔ info = Successful) := by
  simp only [dense_set_shift_guard, symshift_set_shift_guard, symshift_factorize_ok, Successful]
  by_cases h : info = 0 <;> simp [h]

section ordered
variable {K : Type} [Field K] [LinearOrder K] [IsStrictOrderedRing K] (F : FieldFns K)

/-- exact comparisons pick a nonzero divisor out of a nonsingular block: the larger of `|e11|`, `|e21|` -/
theorem piv_ordered (e11 e21 e22 : K) (hdet : e11 * e22 - e21 * e21 ≠ 0) :
    if @Sc.ge K (scOfField F) (@Sc.abs K (scOfField F) e11) (@Sc.abs K (scOfField F) e21) then e11 ≠ 0 else e21 ≠ 0 := by
  simp only [ScF.ge, ScF.abs, decide_eq_true_eq]
  split_ifs with h
  · intro h0; rw [h0, abs_zero] at h
    have : e21 = 0 := abs_eq_zero.1 (le_antisymm h (abs_nonneg _))
    apply hdet; rw [h0, this]; ring
  · intro h0; apply h; rw [h0, abs_zero]; exact abs_nonneg _

theorem solve2_ordered (e11 e21 e22 b1 b2 : K) (hdet : e11 * e22 - e21 * e21 ≠ 0) :
    e11 * (@solve_inplace_2x2 K _ _ _ _ _ (scOfField F) e11 e21 e22 b1 b2).1 + e21 * (@solve_inplace_2x2 K _ _ _ _ _ (scOfField F) e11 e21 e22 b1 b2).2 = b1 ∧
    e21 * (@solve_inplace_2x2 K _ _ _ _ _ (scOfField F) e11 e21 e22 b1 b2).1 + e22 * (@solve_inplace_2x2 K _ _ _ _ _ (scOfField F) e11 e21 e22 b1 b2).2 = b2 :=
  @solve2_any K _ (scOfField F) e11 e21 e22 b1 b2 (piv_ordered F e11 e21 e22 hdet) hdet

theorem ge1_status_iff (akk : K) :
    (@ge1_status K _ _ _ _ _ (scOfField F) akk = NumericalIssue ↔ akk = 0) ∧
    (@ge1_status K _ _ _ _ _ (scOfField F) akk = Successful ↔ akk ≠ 0) := by
  simp only [ge1_status, NumericalIssue, Successful, ScF.eq, ScF.ofInt, Int.cast_zero, decide_eq_true_eq]
  by_cases h : akk = 0 <;> simp [h]

theorem ge2_status_iff (e11 e21 e22 : K) :
    (@ge2_status K _ _ _ _ _ (scOfField F) e11 e21 e22 = NumericalIssue ↔ e11 * e22 - e21 * e21 = 0) ∧
    (@ge2_status K _ _ _ _ _ (scOfField F) e11 e21 e22 = Successful ↔ e11 * e22 - e21 * e21 ≠ 0) := by
  simp only [ge2_status, scalarop_conj, NumericalIssue, Successful, ScF.eq, ScF.ofInt, Int.cast_zero, decide_eq_true_eq]
  by_cases h : e11 * e22 - e21 * e21 = 0 <;> simp [h]

theorem compute_status (m_n k info : Int) (akk : K) :
    compute_init_info info = Successful ∧
    (compute_break info = true ↔ info ≠ Successful) ∧
    @compute_final_info K _ _ _ _ _ (scOfField F) m_n k info akk = (if k = m_n - 1 ∧ akk = 0 then NumericalIssue else info) := by
  refine ⟨rfl, break_iff info, ?_⟩
  simp only [compute_final_info, NumericalIssue, ScF.eq, ScF.ofInt, Int.cast_zero, decide_eq_true_eq]
  by_cases h1 : k = m_n - 1 <;> by_cases h2 : akk = 0 <;> simp [h1, h2]

theorem status_n1 (src : Array K) (rowMajor : Bool) (uplo : Int) (shift alpha : K) :
    letI : Sc K := scOfField F
    (compute src rowMajor 1 uplo shift alpha).info =
      (if (copy_data (initSt 1) src rowMajor uplo shift).rd 0 0 = 0 then NumericalIssue else Successful) := by
  let _ : Sc K := scOfField F
  show (compute src rowMajor 1 uplo shift alpha).info = _
  have hn : (copy_data (initSt (α := K) 1) src rowMajor uplo shift).n = 1 := (copy_data_inv (initSt_inv 1)).n
  have hloop : ∀ i, computeLoop alpha 1 0 i (copy_data (initSt (α := K) 1) src rowMajor uplo shift) [] =
      (0, i, copy_data (initSt (α := K) 1) src rowMajor uplo shift, []) := by
    intro i; unfold computeLoop; rw [hn]; simp
  unfold compute
  have hfuel : (1 : Int).toNat = 1 := rfl
  simp only [hfuel, hloop]
  have h := (compute_status F 1 0 (compute_init_info NotComputed) ((copy_data (initSt (α := K) 1) src rowMajor uplo shift).rd 0 0))
  simp only [St.get, scalarop_real]
  have e : (0 : Int) = 1 - 1 := by norm_num
  rw [if_pos e, h.2.2]
  simp [compute_init_info, Successful]

end ordered

end C10S

namespace BKLDLT

/-- what the exact-arithmetic proofs need from the scalar class: the test `x == 0` is exact, the divisor chosen by the 2x2 solves is
    nonzero for a nonsingular block, and `Scalar(0)` is 0 (true for `scOfField`: the larger of `|e11|`, `|e21|`) -/
structure ExactSc (K : Type) [Field K] [Sc K] : Prop where
  eq0 : ∀ a : K, Sc.eq a (Sc.ofInt 0) = true ↔ a = 0
  piv : ∀ e11 e21 e22 : K, e11 * e22 - e21 * e21 ≠ 0 → if Sc.ge (Sc.abs e11) (Sc.abs e21) then e11 ≠ 0 else e21 ≠ 0
  zero : (zero : K) = 0

theorem ExactSc.solve2 {K : Type} [Field K] [Sc K] (hE : ExactSc K) (e11 e21 e22 b1 b2 : K) (h : e11 * e22 - e21 * e21 ≠ 0) :
    e11 * (solve_inplace_2x2 e11 e21 e22 b1 b2).1 + e21 * (solve_inplace_2x2 e11 e21 e22 b1 b2).2 = b1 ∧
    e21 * (solve_inplace_2x2 e11 e21 e22 b1 b2).1 + e22 * (solve_inplace_2x2 e11 e21 e22 b1 b2).2 = b2 :=
  C10S.solve2_any e11 e21 e22 b1 b2 (hE.piv e11 e21 e22 h) h

theorem exactSc_field {K : Type} [Field K] [LinearOrder K] [IsStrictOrderedRing K] (F : FieldFns K) : @ExactSc K _ (scOfField F) :=
  @ExactSc.mk K _ (scOfField F) (fun a => by simp only [ScF.eq, ScF.ofInt, Int.cast_zero, decide_eq_true_eq]) (C10S.piv_ordered F)
    (by show ((0 : Int) : K) = 0; simp)

end BKLDLT
