/-
  The left-to-right accumulation loops of the array layer (`Model/Lin.lean`) as sums: an accumulator fold is the start value plus
  the `List.sum` of the terms, over `List.range n` the `Finset.sum` over `range n`, and Eigen's `redux` order `Lin.sumFrom0` (which
  starts from the first term) is that sum as soon as `Sc.ofInt 0` is the field's `0` — in particular at `scOfField F`.
-/
import Mathlib.Algebra.BigOperators.Intervals
import SpectraVerif.Proofs.ScField
import SpectraVerif.Model.Lin

namespace SumFold
open Finset

theorem foldl_add_eq_sum {M ι : Type} [AddMonoid M] (f : ι → M) (l : List ι) (a : M) :
    l.foldl (fun acc i => acc + f i) a = a + (l.map f).sum := by
  induction l generalizing a with
  | nil => simp
  | cons x l ih => rw [List.foldl_cons, ih, List.map_cons, List.sum_cons, add_assoc]

theorem foldl_range_add {M : Type} [AddCommMonoid M] (f : ℕ → M) (n : ℕ) (a : M) :
    (List.range n).foldl (fun acc i => acc + f i) a = a + ∑ i ∈ range n, f i := by
  rw [foldl_add_eq_sum, ← List.sum_toFinset f (List.nodup_range), List.toFinset_range]

variable {K : Type} [Field K]

theorem sumFrom0_eq [Sc K] (h0 : (Sc.ofInt 0 : K) = 0) (n : ℕ) (f : ℕ → K) : Lin.sumFrom0 n f = ∑ i ∈ range n, f i := by
  cases n with
  | zero => simp [Lin.sumFrom0, Lin.zero, h0]
  | succ k => rw [Lin.sumFrom0, foldl_range_add (fun i => f (i + 1)), sum_range_succ', add_comm]

theorem sumFrom0_scOfField [LinearOrder K] [IsStrictOrderedRing K] (F : FieldFns K) (n : ℕ) (f : ℕ → K) :
    @Lin.sumFrom0 K _ (scOfField F) n f = ∑ i ∈ range n, f i :=
  @sumFrom0_eq K _ (scOfField F) (by simp) n f

end SumFold
