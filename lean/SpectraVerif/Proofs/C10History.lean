/-
  C10 — object reuse: `BKLDLT::compute` does not depend on what the object held before (helper lemmas).

  `compute` resets `m_n`, `m_perm`, `m_permc`, `m_info` but only RESIZES `m_data` (stale contents survive when the size is unchanged,
  `Model/BKLDLT.lean: enterSt`).  The lemmas here show that `copy_data` writes every one of the `n(n+1)/2` packed entries before it
  (or anything after it) reads them: two states that agree in everything but the contents of the packed array are mapped to the
  SAME state.  `Agree m s t` = equal up to packed positions `≥ m`; the element loop with the running `dest` pointer extends the
  agreed prefix column by column, and `shift_diag` reads the diagonal entry of a column only after the column was written; the
  `std::copy` path is the element loop with the column values (`copyGen_eq_copyFast`).  Proved for the shapes `copyGen`/`copyFast` of
  Proofs/C10Index.lean, generic in the entry type, so the real and the complex model share the proof.
-/
import SpectraVerif.Proofs.C10IndexC

set_option linter.unusedSectionVars false

namespace BKLDLT
section
variable {γ : Type} [Sub γ] [Sc γ]

/-- equal in everything except possibly the packed entries at positions `≥ m` -/
def Agree (m : Nat) (s t : St γ) : Prop :=
  s.n = t.n ∧ s.perm = t.perm ∧ s.ok = t.ok ∧ s.data.size = t.data.size ∧ ∀ p, p < m → s.data.getD p zero = t.data.getD p zero

theorem Agree.mono {m m' : Nat} {s t : St γ} (h : Agree m s t) (hm : m' ≤ m) : Agree m' s t :=
  ⟨h.1, h.2.1, h.2.2.1, h.2.2.2.1, fun p hp => h.2.2.2.2 p (by omega)⟩

theorem Agree.set {m : Nat} {s t : St γ} (h : Agree m s t) (m' q q' : Nat) (v : γ) (o o' : Bool) (hq : q = q') (ho : o = o')
    (hm : ∀ p, p < m' → p < m ∨ p = q) :
    Agree m' { s with data := s.data.setIfInBounds q v, ok := s.ok && o } { t with data := t.data.setIfInBounds q' v, ok := t.ok && o' } := by
  subst hq ho
  refine ⟨h.1, h.2.1, by simp only [h.2.2.1], by simp only [Array.size_setIfInBounds]; exact h.2.2.2.1, fun p hp => ?_⟩
  simp only [ListFold.getD_setIfInBounds, h.2.2.2.1]
  split
  · rfl
  · exact h.2.2.2.2 p ((hm p hp).resolve_right ‹_›)

theorem agree_wr {m : Nat} {s t : St γ} (h : Agree m s t) (i j : Int) (v : γ) : Agree m (s.wr i j v) (t.wr i j v) :=
  h.set m _ _ v _ _ (by rw [h.1]) (by rw [h.1]) fun _ hp => Or.inl hp

theorem agree_wrAt_next {s t : St γ} (d i j : Int) (v : γ) (h : Agree d.toNat s t) :
    Agree (d.toNat + 1) (s.wrAt d i j v) (t.wrAt d i j v) := by
  unfold St.wrAt
  simpa only [Bool.and_assoc] using h.set (d.toNat + 1) d.toNat d.toNat v (inb s.n i j && decide (d = off s.n i j))
    (inb t.n i j && decide (d = off t.n i j)) rfl (by rw [h.1]) fun p hp => by omega

theorem agree_rd {m : Nat} {s t : St γ} (h : Agree m s t) (i j : Int) (hq : (off s.n i j).toNat < m) : s.rd i j = t.rd i j := by
  unfold St.rd; rw [← h.1]; exact h.2.2.2.2 _ hq

theorem agree_chk {m : Nat} {s t : St γ} (h : Agree m s t) (i j : Int) : Agree m (s.chk i j) (t.chk i j) := by
  unfold St.chk
  exact ⟨h.1, h.2.1, by simp only [h.2.2.1, h.1], h.2.2.2.1, h.2.2.2.2⟩

/-- `diag_coeff(j) -= shift` reads an entry of the agreed prefix: agreement is kept -/
theorem agree_shift_diag {m : Nat} {s t : St γ} (h : Agree m s t) (j : Int) (shift : γ) (hq : (off s.n j j).toNat < m) :
    Agree m (shift_diag s j shift) (shift_diag t j shift) := by
  unfold shift_diag St.get
  dsimp only
  rw [agree_rd h j j hq]
  exact agree_wr (agree_chk h j j) j j _

theorem Agree.eq_of_full {s t : St γ} (h : Agree s.data.size s t) : s = t := by
  obtain ⟨n1, d1, p1, o1⟩ := s
  obtain ⟨n2, d2, p2, o2⟩ := t
  obtain ⟨h1, h2, h3, h4, h5⟩ := h
  dsimp only at h1 h2 h3 h4 h5
  subst h1 h2 h3
  have : d1 = d2 := by
    apply Array.ext h4
    intro i hi1 hi2
    have := h5 i hi1
    rw [Array.getD_eq_getD_getElem?, Array.getD_eq_getD_getElem?, Array.getElem?_eq_getElem hi1, Array.getElem?_eq_getElem hi2] at this
    simpa using this
  subst this; rfl

theorem foldl_range_rel {σ : Type} (P : Int → σ → σ → Prop) (f : σ → Int → σ) (lo hi : Int) (a b : σ) (hle : lo ≤ hi)
    (h0 : P lo a b) (hs : ∀ i a b, lo ≤ i → i < hi → P i a b → P (i + 1) (f a i) (f b i)) :
    P hi ((intRange lo hi).foldl f a) ((intRange lo hi).foldl f b) :=
  ListFold.foldl_intRange_rel P f f lo hi a b hle h0 hs

theorem colptr_nonneg {n j : Int} (hj : 0 ≤ j) (hjn : j < n) : 0 ≤ colptr n j := by
  have := (off_bounds (n := n) (i := j) (j := j) ⟨hj, le_refl _, hjn⟩).1
  unfold off at this; omega

theorem shift_diag_size (s : St γ) (j : Int) (shift : γ) : (shift_diag s j shift).data.size = s.data.size := by
  simp [shift_diag, St.get, St.wr, St.chk]

theorem hist_wr_n (s : St γ) (i j : Int) (v : γ) : (s.wr i j v).n = s.n := rfl
theorem hist_wrAt_n (s : St γ) (d i j : Int) (v : γ) : (s.wrAt d i j v).n = s.n := rfl
theorem hist_shift_diag_n (s : St γ) (j : Int) (shift : γ) : (shift_diag s j shift).n = s.n := rfl

/-- one column of the element loop extends the agreed prefix from `colptr n j` to `colptr n (j + 1)`: the running `dest` is the
    packed position, so `wrAt` writes the first position not yet agreed -/
theorem gencol_agree (n j : Int) (g : Int → γ) (a b : Int × St γ) (hn : a.2.n = n) (hj : 0 ≤ j) (hjn : j < n)
    (h1 : a.1 = b.1) (hd : a.1 = colptr n j) (h : Agree (colptr n j).toNat a.2 b.2) :
    let F := fun (acc : Int × St γ) => (intRange j n).foldl (fun (acc : Int × St γ) i => (acc.1 + 1, acc.2.wrAt acc.1 i j (g i))) acc
    (F a).1 = (F b).1 ∧ (F a).1 = colptr n (j + 1) ∧ (F a).2.n = n ∧ (F a).2.data.size = a.2.data.size ∧
      Agree (colptr n (j + 1)).toNat (F a).2 (F b).2 := by
  intro F
  have hc := colptr_nonneg hj hjn
  have := foldl_range_rel (fun i (x y : Int × St γ) => x.1 = y.1 ∧ x.1 = colptr n j + (i - j) ∧ x.2.n = n ∧ x.2.data.size = a.2.data.size ∧
      Agree (colptr n j + (i - j)).toNat x.2 y.2)
    (fun (acc : Int × St γ) i => (acc.1 + 1, acc.2.wrAt acc.1 i j (g i))) j n a b (by omega)
    ⟨h1, by omega, hn, rfl, by rw [Int.sub_self, Int.add_zero]; exact h⟩
    (fun i x y hi1 hi2 hp => by
      obtain ⟨p1, p2, p3, p4, p5⟩ := hp
      refine ⟨by dsimp only; omega, by dsimp only; omega, p3, (Array.size_setIfInBounds ..).trans p4, ?_⟩
      dsimp only
      rw [show (colptr n j + (i + 1 - j)).toNat = (x.1).toNat + 1 by omega, ← p1]
      apply agree_wrAt_next
      rw [p2]; exact p5)
  rw [colptr_succ]
  exact this

theorem copyGen_overwrites (n : Int) (g : Int → Int → γ) (shift : γ) (s t : St γ) (hn : 0 ≤ n) (hs : s.n = n)
    (hsz : s.data.size = (packedSize n).toNat) (h : Agree 0 s t) : copyGen n g shift s = copyGen n g shift t := by
  unfold copyGen
  have := foldl_range_rel (fun j (a b : Int × St γ) => a.1 = b.1 ∧ a.1 = colptr n j ∧ a.2.n = n ∧ a.2.data.size = (packedSize n).toNat ∧ Agree (colptr n j).toNat a.2 b.2)
    (fun (acc : Int × St γ) j =>
      ((((intRange j n).foldl (fun (acc : Int × St γ) i => (acc.1 + 1, acc.2.wrAt acc.1 i j (g j i))) acc).1,
        shift_diag ((intRange j n).foldl (fun (acc : Int × St γ) i => (acc.1 + 1, acc.2.wrAt acc.1 i j (g j i))) acc).2 j shift)))
    0 n ((0 : Int), s) ((0 : Int), t) hn
    ⟨rfl, (colptr_zero n).symm, hs, hsz, by rw [colptr_zero]; exact h⟩
    (fun j a b h1 h2 hp => by
      obtain ⟨p0, p1, p2, p3, p4⟩ := hp
      obtain ⟨c0, c1, c2, c3, c4⟩ := gencol_agree n j (g j) a b p2 h1 h2 p0 p1 p4
      have hc0 := colptr_nonneg h1 h2
      refine ⟨c0, c1, by rw [hist_shift_diag_n]; exact c2, by rw [shift_diag_size, c3]; exact p3, ?_⟩
      apply agree_shift_diag c4
      rw [c2, colptr_succ]; unfold off; omega)
  obtain ⟨q0, q1, q2, q3, q4⟩ := this
  exact Agree.eq_of_full (by rw [q3, ← colptr_n]; exact q4)

theorem copyFast_overwrites (n : Int) (g : Int → Int → γ) (shift : γ) (s t : St γ) (hn : 0 ≤ n) (hs : s.n = n)
    (hsz : s.data.size = (packedSize n).toNat) (h : Agree 0 s t) : copyFast n g shift s = copyFast n g shift t := by
  rw [← copyGen_eq_copyFast g shift s hs, ← copyGen_eq_copyFast g shift t (h.1 ▸ hs)]
  exact copyGen_overwrites n _ shift s t hn hs hsz h

/-! ### the entry state of `compute` on a used object vs. on a fresh one -/

theorem resizeData_size (old : Array γ) (size : Nat) : (resizeData old size).size = size := by
  unfold resizeData; split
  · assumption
  · simp

theorem enterSt_agree (prev : St γ) (n : Int) : Agree 0 (enterSt prev n) (initSt n) := by
  refine ⟨rfl, rfl, rfl, ?_, fun p hp => by omega⟩
  show (resizeData prev.data (packedSize n).toNat).size = (Array.replicate (packedSize n).toNat zero).size
  rw [resizeData_size]; simp

theorem enterSt_sized (prev : St γ) (n : Int) : (enterSt prev n).n = n ∧ (enterSt prev n).data.size = (packedSize n).toNat :=
  ⟨rfl, resizeData_size _ _⟩

end

/-! ### real model -/
section real
variable {α : Type} [Add α] [Sub α] [Mul α] [Div α] [Neg α] [Sc α]

/-- `copy_data` overwrites the whole packed array: whatever it contained before (any array of the right size) has no influence -/
theorem copy_data_overwrites (s t : St α) (src : Array α) (rm : Bool) (uplo : Int) (shift : α) (hn : 0 ≤ s.n)
    (hsz : s.data.size = (packedSize s.n).toNat) (h : Agree 0 s t) :
    copy_data s src rm uplo shift = copy_data t src rm uplo shift := by
  rw [copy_data_shape, copy_data_shape, ← h.1]
  split
  · exact copyFast_overwrites s.n _ shift s t hn rfl hsz h
  · exact copyGen_overwrites s.n _ shift s t hn rfl hsz h

theorem computeFrom_eq (prev : Fact α) (src : Array α) (rm : Bool) (n uplo : Int) (shift alpha : α) (hn : 0 ≤ n) :
    computeFrom prev src rm n uplo shift alpha = compute src rm n uplo shift alpha := by
  unfold computeFrom compute
  rw [copy_data_overwrites (enterSt prev.s n) (initSt n) src rm uplo shift hn (enterSt_sized prev.s n).2 (enterSt_agree prev.s n)]
  rfl

end real
end BKLDLT

/-! ### complex model -/
namespace BKLDLTC
open BKLDLT (St Fact Agree enterSt initSt packedSize)
section
variable {β : Type} [Add β] [Sub β] [Mul β] [Div β] [Neg β] [Sc β]

theorem copy_data_overwrites (s t : St (Cx β)) (src : Array (Cx β)) (rm : Bool) (uplo : Int) (shift : β) (hn : 0 ≤ s.n)
    (hsz : s.data.size = (packedSize s.n).toNat) (h : Agree 0 s t) :
    copy_data s src rm uplo shift = copy_data t src rm uplo shift := by
  rw [copy_data_shape, copy_data_shape, ← h.1]
  split
  · exact BKLDLT.copyFast_overwrites s.n _ _ s t hn rfl hsz h
  · exact BKLDLT.copyGen_overwrites s.n _ _ s t hn rfl hsz h

theorem computeFrom_eq (prev : Fact (Cx β)) (src : Array (Cx β)) (rm : Bool) (n uplo : Int) (shift alpha : β) (hn : 0 ≤ n) :
    computeFrom prev src rm n uplo shift alpha = compute src rm n uplo shift alpha := by
  unfold computeFrom compute
  rw [copy_data_overwrites (enterSt prev.s n) (initSt n) src rm uplo shift hn (BKLDLT.enterSt_sized prev.s n).2 (BKLDLT.enterSt_agree prev.s n)]
  rfl

end
end BKLDLTC
