/-
  C08 helper: the mechanism behind known finding C08-F1.  `DoubleShiftQR::compute` deflates a subdiagonal entry when
  `|h| ≤ eps_abs` OR `|h| ≤ eps·(|d₀|+|d₁|)`; the first test is ABSOLUTE (`eps_abs = min()·10·n/eps`), i.e. it fires whatever
  the size of the neighbouring diagonal entries — and of `‖H‖` — is.
-/
import SpectraVerif.Proofs.C08DsqrPass

namespace C08Finding
open Lin QRModel C08Mat

variable {K : Type} [Field K] [LinearOrder K] [IsStrictOrderedRing K] (F : FieldFns K)

abbrev mget (M : Mat K) (i j : Nat) : K := @Mat.get K (scOfField F) M i j
abbrev split (n : Nat) (epsAbs : K) (st : Mat K × Array Nat) (i : Nat) : Mat K × Array Nat :=
  @DoubleShiftQR.splitStep K _ _ (scOfField F) n epsAbs st i

/-- one step of the first pass of `compute`: an entry with `|h| ≤ epsAbs` is replaced by an exact `0` and starts a new block,
    for EVERY value of the diagonal entries `H(i,i)`, `H(i+1,i+1)` -/
theorem abs_deflation (H : Mat K) (hw : WF H) (n : Nat) (hr : H.rows = n) (hc : H.cols = n) (zi : Array Nat) (epsAbs : K)
    (i : Nat) (hi : i + 1 < n) (hsmall : |mget F H (i + 1) i| ≤ epsAbs) :
    mget F (split F n epsAbs (H, zi) i).1 (i + 1) i = 0 ∧ (split F n epsAbs (H, zi) i).2 = zi.push (i + 1) := by
  obtain ⟨_, _, _, g⟩ := C08DsqrMatrix.pStep_spec F true n epsAbs hw hr hc i hi
  have hd : C08DsqrMatrix.dfl F epsAbs H i = true := by simp [DoubleShiftQR.negligible, hsmall]
  rw [show split F n epsAbs (H, zi) i = _ from C08DsqrMatrix.sStep_pStep F n epsAbs (H, zi) i]
  exact ⟨(g (i + 1) i (by omega) (by omega)).trans (if_pos ⟨rfl, Or.inr ⟨rfl, hd⟩⟩), if_pos hd⟩

end C08Finding
