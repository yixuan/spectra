/-
  Lemmas for C15 (Davidson): exact restart bookkeeping.  With kernels that keep lengths (the orthogonaliser returns as many
  columns as it got, the correction has `corrSize` columns, the eigen-solver returns one pair per column of the small matrix,
  sorting keeps the number of pairs) every Rayleigh–Ritz step sees between `initSize` and `maxSize` columns.
  Arbitrary scalar / vector types; no algebra.
-/
import SpectraVerif.Proofs.C15Loop
import Mathlib.Tactic.SplitIfs

namespace C15L
open Dav

variable {σ ν : Type} (K : Kern σ ν)

/-- the kernels keep lengths; `sort` is the length clause of `sortPairs` written out -/
structure LenSpec (K : Kern σ ν) (c : Cfg) (corr : List (Pair σ ν) → List ν) (sel : Int) : Prop where
  orth : ∀ l k, (K.orth l k).length = l.length
  corr : ∀ ps, (corr ps).length = c.corrSize
  eig : ∀ G : List (List σ), (K.eig G).2.1.length = G.length ∧ (K.eig G).2.2.length = G.length
  sort : ∀ (ps : List (Pair σ ν)),
    ((K.argsort sel (ps.map (fun p => p.value))).filterMap (fun i => ps[i]?)).length = ps.length

/-- loop-head shape: products cached for a prefix of the basis, one Ritz pair per cached product -/
def LenInv (s : St σ ν) : Prop := s.opBasis.length ≤ s.basis.length ∧ s.pairs.length = s.opBasis.length

theorem headState_lens (c : Cfg) (s : St σ ν) (h : LenInv s) :
    (headState K c s).opBasis.length = (headState K c s).basis.length ∧
    (headState K c s).basis.length = (if s.basis.length > c.maxSize then min c.initSize s.pairs.length else s.basis.length) := by
  obtain ⟨h1, h2⟩ := h
  unfold headState updateOperatorBasisProduct
  by_cases hgt : s.basis.length > c.maxSize
  · -- after `restart` basis and products both have `min initSize #pairs` columns: nothing is left to multiply
    simp only [hgt, if_true, restart, List.length_append, List.length_map, List.length_drop, List.length_take]
    exact ⟨by omega, trivial⟩
  · -- the products are completed to the length of the basis (`opBasis ≤ basis` by `h1`)
    simp only [hgt, if_false, List.length_append, List.length_map, List.length_drop]
    exact ⟨by omega, trivial⟩

theorem iterHead_lens (c : Cfg) (corr : List (Pair σ ν) → List ν) (sel : Int) (hS : LenSpec K c corr sel) (tol : σ) (s : St σ ν)
    (h : LenInv s) :
    (iterHead K c sel tol s).2.opBasis.length = (iterHead K c sel tol s).2.basis.length ∧
    (iterHead K c sel tol s).2.pairs.length = (iterHead K c sel tol s).2.basis.length := by
  have hh := headState_lens K c s h
  have hp : (computeEigenPairs K (rrState K c s)).2.pairs.length = (headState K c s).basis.length := by
    have := hS.eig (smallMatrix K (rrState K c s))
    simp only [computeEigenPairs, List.length_zipWith, this.1, this.2, Nat.min_self]
    simp only [smallMatrix, List.length_map]; exact hh.1
  rcases iterHead_cases K c sel tol s with e | e <;> rw [e]
  · exact ⟨hh.1, hp⟩
  · refine ⟨hh.1, ?_⟩
    simp only [checkConvergence, sortPairs]
    rw [hS.sort]; exact hp

/-- head invariant for the bounds; the last clause is what `restart` needs: it keeps `initSize` of the PAIRS as the new basis -/
def SizeInv (c : Cfg) (s : St σ ν) : Prop :=
  LenInv s ∧ c.initSize ≤ s.basis.length ∧ (s.basis.length > c.maxSize → c.initSize ≤ s.pairs.length)

theorem loop_sizes_between (c : Cfg) (corr : List (Pair σ ν) → List ν) (sel : Int) (hS : LenSpec K c corr sel) (tol : σ)
    (maxit fuel : Nat) (s : St σ ν) (hc : c.initSize ≤ c.maxSize) (h : SizeInv c s)
    (hs : ∀ z ∈ s.sizes, c.initSize ≤ z ∧ z ≤ c.maxSize) :
    ∀ z ∈ (loop K c corr sel tol maxit fuel s).sizes, c.initSize ≤ z ∧ z ≤ c.maxSize := by
  refine loop_rule K c corr sel tol maxit (fun _ s => SizeInv c s ∧ ∀ z ∈ s.sizes, c.initSize ≤ z ∧ z ≤ c.maxSize)
    (fun s => ∀ z ∈ s.sizes, c.initSize ≤ z ∧ z ≤ c.maxSize) (fun _ h => h.2) (fun _ s r s1 i h hh _ => ?_)
    (fun _ s s1 h hh _ => ?_) fuel s ⟨h, hs⟩
  all_goals
    obtain ⟨⟨hL, hlo, hre⟩, hs⟩ := h
    obtain ⟨_, _, hsz, hb⟩ := iterHead_fields K c sel tol s _ s1 hh
    have hln := iterHead_lens K c corr sel hS tol s hL
    rw [hh] at hln
    dsimp only at hln
    have hz : c.initSize ≤ (headState K c s).basis.length ∧ (headState K c s).basis.length ≤ c.maxSize := by
      rw [(headState_lens K c s hL).2]
      split
      · rename_i hgt; have := hre hgt; omega
      · omega
    have h1 : ∀ z ∈ s1.sizes, c.initSize ≤ z ∧ z ≤ c.maxSize := by
      intro z hzm; rw [hsz, List.mem_append, List.mem_singleton] at hzm
      rcases hzm with hzm | rfl
      · exact hs z hzm
      · exact hz
  · exact h1
  · refine ⟨⟨⟨?_, ?_⟩, ?_, ?_⟩, h1⟩
    · simp only [extendBasis, hS.orth, List.length_append]; omega
    · simp only [extendBasis]; omega
    · simp only [extendBasis, hS.orth, List.length_append, hb]; omega
    · intro _; simp only [extendBasis]; rw [hln.2, hb]; exact hz.1

/-! ### the sizes `initialize()` leaves (regenerated `Gen.JD`) -/

/-- what `initialize()` guarantees whatever sizes it is entered with: each of its three corrections establishes one of the bounds
    and the later ones do not undo it; the bounds hold whatever value stands in the place of `n/3` -/
theorem jd_initialize_bounds (mx ini cor nev n : Int) :
    let i := Gen.JD.jd_initialize mx ini cor nev n
    i.1 ≤ n ∧ i.2.1 + i.2.2 ≤ n ∧ nev ≤ i.2.1 := by
  simp only [Gen.JD.jd_initialize, decide_eq_true_eq]
  generalize Int.tdiv n 3 = q
  refine ⟨by split_ifs <;> omega, by split_ifs <;> omega, by split_ifs <;> omega⟩

theorem jd_initialize_nonneg (mx ini cor nev n : Int) (hcor : 0 ≤ cor) (hnev : 0 ≤ nev) (hn : nev ≤ n) :
    let i := Gen.JD.jd_initialize mx ini cor nev n
    0 ≤ i.2.1 ∧ 0 ≤ i.2.2 := by
  have hq : 0 ≤ Int.tdiv n 3 ∧ Int.tdiv n 3 ≤ n := by
    rw [Int.tdiv_eq_ediv_of_nonneg (by omega)]; omega
  simp only [Gen.JD.jd_initialize, decide_eq_true_eq]
  generalize Int.tdiv n 3 = q at hq
  split_ifs <;> omega

end C15L
