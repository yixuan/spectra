/-
  C08 — DoubleShiftQR similarity, part D: `compute` as a whole.

  * `blockSt`, `RunExact`        the states of the block loop; the hypothesis "no argument of any `compute_reflector` call made by
                                 `compute` lies in the underflow window"
  * `st0_Hes`                    the first pass: every interior block boundary is a deflated (zeroed) subdiagonal position
                                 (`C08DsqrMatrix.zi_mem`), so the matrix the block loop starts from is block upper Hessenberg
  * `blocks_inv`                 the block loop keeps `Inv`
  * `finalPass_spec`             the last pass of `compute` zeroes exactly the negligible subdiagonal entries
-/
import SpectraVerif.Proofs.C08DsqrSimC
import SpectraVerif.Proofs.C08DsqrPass

namespace C08DsqrSim
open Lin C08Mat C08DsqrQ C08DsqrMatrix
open QRModel.DoubleShiftQR
open C08HessMatrix (toM)

variable {K : Type} [Field K] [LinearOrder K] [IsStrictOrderedRing K] (F : FieldFns K)

/-- the deflation test of `compute` as a proposition: `|h| ≤ eps_abs ∨ |h| ≤ eps (|d0| + |d1|)` -/
def Negl (e h d0 d1 : K) : Prop := |h| ≤ e ∨ |h| ≤ F.eps * (|d0| + |d1|)

theorem dfl_iff (e : K) (H : Mat K) (i : Nat) :
    dfl F e H i = true ↔ Negl F e (mget F H (i + 1) i) (mget F H i i) (mget F H (i + 1) (i + 1)) := by
  unfold Negl
  simp [dfl, negligible]

/-! ### the block loop -/

/-- the state of `compute` after `j` blocks -/
def blockSt (mat : Mat K) (s t : K) (j : Nat) : St K :=
  (List.range j).foldl (fun st i => C08Nr.ub F mat.rows s t st ((C08Nr.zeroInd F mat).getD i 0)
    ((C08Nr.zeroInd F mat).getD (i + 1) 0 - 1)) (C08Nr.st0 F mat)

theorem blockSt_succ (mat : Mat K) (s t : K) (j : Nat) :
    blockSt F mat s t (j + 1) = C08Nr.ub F mat.rows s t (blockSt F mat s t j) ((C08Nr.zeroInd F mat).getD j 0)
      ((C08Nr.zeroInd F mat).getD (j + 1) 0 - 1) := by
  unfold blockSt
  rw [ListFold.foldl_range_succ]

/-- NO argument of ANY `compute_reflector` call made by `compute(mat, s, t)` lies in the underflow window: an argument `x2` / `x3`
    that the code treats as zero because `|x| < m_near_0` is exactly zero (`BlockExact` for every block of the deflation
    pattern, on the state the block loop has reached) -/
def RunExact (mat : Mat K) (s t : K) : Prop :=
  ∀ j, j + 1 < (C08Nr.zeroInd F mat).size →
    BlockExact F mat.rows s t (blockSt F mat s t j) ((C08Nr.zeroInd F mat).getD j 0)
      ((C08Nr.zeroInd F mat).getD (j + 1) 0 - 1)

/-- `z` is a block boundary -/
def Zof (mat : Mat K) (z : Nat) : Prop := ∃ a, a < (C08Nr.zeroInd F mat).size ∧ (C08Nr.zeroInd F mat).getD a 0 = z

/-! ### the first pass -/

theorem st0_Hes (mat : Mat K) (hn : 1 ≤ mat.rows) :
    Hes (Zof F mat) (toM F mat.rows mat.rows (C08Nr.st0 F mat).1) := by
  obtain ⟨q1, _, _, q4, _⟩ := st0_H_spec F mat hn
  intro a b hL
  rw [toM_get]
  have ha := a.isLt
  have hb := b.isLt
  by_cases h2 : b.val + 2 ≤ a.val
  · exact q1 a.val b.val ha hb h2
  · rcases hL with hL | ⟨z, ⟨a', ha', hz⟩, z1, z2⟩
    · exact absurd hL h2
    · have hab : a.val = b.val + 1 := by omega
      have hzb : z = b.val + 1 := by omega
      rcases zi_mem F mat hn a' ha' with h0 | h0 | ⟨_, _, h3⟩
      · omega
      · omega
      · rw [hz, hzb, Nat.add_sub_cancel] at h3
        rw [hab, q4 b.val (by omega), if_pos h3]

/-! ### the block loop keeps the invariant -/

theorem st0_good (mat : Mat K) (hn : 1 ≤ mat.rows) : Good mat.rows (C08Nr.st0 F mat) := by
  obtain ⟨_, _, _, _, w, r, c⟩ := st0_H_spec F mat hn
  exact ⟨w, r, c, @zeros_WF K (scOfField F) 3 mat.rows, rfl, rfl, by show (Array.replicate _ _).size = _; simp⟩

theorem blocks_inv (hsq : ∀ x : K, 0 ≤ x → F.sqrt x * F.sqrt x = x ∧ 0 ≤ F.sqrt x) (hcut : C08Refl.cutoff F ≤ 0)
    (hmin : 0 < F.minPos) (mat : Mat K) (s t : K) (hn : 1 ≤ mat.rows) (hex : RunExact F mat s t)
    (j : Nat) (hj : j + 1 ≤ (C08Nr.zeroInd F mat).size) :
    Inv F mat.rows (toM F mat.rows mat.rows (C08Nr.st0 F mat).1) ((C08Nr.zeroInd F mat).getD j 0) (Hes (Zof F mat))
      (blockSt F mat s t j) := by
  obtain ⟨z1, z2, z3, z4, z5⟩ := C08Nr.zeroInd_spec F mat hn
  induction j with
  | zero =>
    rw [z2]
    refine ⟨st0_good F mat hn, ?_, st0_Hes F mat hn, fun j hj => absurd hj (Nat.not_lt_zero j)⟩
    rw [Qd_zero, Matrix.transpose_one, Matrix.one_mul, Matrix.mul_one]
    rfl
  | succ j ih =>
    have ih' := ih (by omega)
    have hlt := z4 j (by omega)
    have hbd := z5 (j + 1) (by omega)
    rw [blockSt_succ]
    have hxj := hex j (by omega)
    obtain ⟨iu, hiu⟩ : ∃ iu, (C08Nr.zeroInd F mat).getD (j + 1) 0 = iu + 1 :=
      ⟨(C08Nr.zeroInd F mat).getD (j + 1) 0 - 1, by omega⟩
    rw [hiu, Nat.add_sub_cancel] at hxj ⊢
    apply ub_inv F hsq hcut hmin (Zof F mat) mat.rows _ s t _ _ _ (by omega) (by omega) ⟨j, by omega, rfl⟩
      ⟨j + 1, by omega, hiu⟩ ?_ ih' hxj
    · rintro z ⟨a, ha, rfl⟩
      rcases Nat.lt_or_ge j a with h | h
      · right
        have := C08Nr.zi_mono (C08Nr.zeroInd F mat) z4 (j + 1) a (by omega) ha
        omega
      · left
        exact C08Nr.zi_mono (C08Nr.zeroInd F mat) z4 a j h (by omega)

/-! ### the last pass of `compute` -/

/-- `for (i = 0; i < m; i++) if (negligible(H(i+1,i))) H(i+1,i) = 0`: the fold of `pStep F false` -/
def finalPass (e : K) (B : Mat K) (m : Nat) : Mat K :=
  (List.range m).foldl (fun (H : Mat K) i =>
    if dfl F e H i then H.set (i + 1) i (@Lin.zero K (scOfField F)) else H) B

theorem finalPass_spec (n : Nat) (e : K) {B : Mat K} (hw : WF B) (hr : B.rows = n) (hc : B.cols = n) (m : Nat)
    (hm : m + 1 ≤ n) :
    WF (finalPass F e B m) ∧ (finalPass F e B m).rows = n ∧ (finalPass F e B m).cols = n ∧
    ∀ a b, a < n → b < n → mget F (finalPass F e B m) a b =
      if a = b + 1 ∧ b < m ∧ dfl F e B b = true then 0 else mget F B a b := by
  obtain ⟨w, r, c, g⟩ := pFold_spec F false n e hw hr hc m hm
  refine ⟨w, r, c, fun a b ha hb => (g a b ha hb).trans ?_⟩
  exact C08Mat.ite_iff ⟨fun h => (h.2.resolve_left (fun c => absurd c.1 (by simp))).elim (fun h1 h2 => ⟨h1, h.1, h2⟩),
    fun h => ⟨h.2.1, Or.inr ⟨h.1, h.2.2⟩⟩⟩ _ _

/-- the three outputs of `compute` in terms of the block loop and the last pass -/
theorem comp_eq (mat : Mat K) (s t : K) :
    (comp F mat s t).H = finalPass F (epsA F mat) (blockSt F mat s t ((C08Nr.zeroInd F mat).size - 1)).1 (mat.rows - 1) ∧
    (comp F mat s t).u = (blockSt F mat s t ((C08Nr.zeroInd F mat).size - 1)).2.1 ∧
    (comp F mat s t).nr = (blockSt F mat s t ((C08Nr.zeroInd F mat).size - 1)).2.2 ∧
    (comp F mat s t).n = mat.rows := ⟨rfl, rfl, rfl, rfl⟩

end C08DsqrSim
