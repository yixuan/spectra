/-
  Reading a `filter` over a literal table off by position.  For the generated tables of strings (`Gen.JDMembers.flow` …) the kernel
  can evaluate a predicate on every row cheaply, but deciding that a selected row EQUALS a row written in a statement costs it a
  `String.decEq` on two equal literals, which is quadratic in their length (150 characters: 3000 k heartbeats).  So: the predicate is
  evaluated (`marks`, one Bool per row), and the rows at the marked positions are then compared with the statement's rows by `rfl`,
  i.e. as literals.
-/

namespace Rows
variable {α : Type}

/-- the rows of `l` at the positions `m` marks, positions counted from `i` -/
def pick (m : Nat → Bool) : Nat → List α → List α
  | _, [] => []
  | i, x :: xs => if m i then x :: pick m (i + 1) xs else pick m (i + 1) xs

/-- `p` holds exactly at the positions `m` marks -/
def marks (p : α → Bool) (m : Nat → Bool) : Nat → List α → Bool
  | _, [] => true
  | i, x :: xs => (p x == m i) && marks p m (i + 1) xs

theorem filter_eq_pick (p : α → Bool) (m : Nat → Bool) (i : Nat) (l : List α) (h : marks p m i l = true) :
    l.filter p = pick m i l := by
  induction l generalizing i with
  | nil => rfl
  | cons x xs ih =>
    simp only [marks, Bool.and_eq_true, beq_iff_eq] at h
    rw [List.filter_cons, pick, h.1, ih _ h.2]

end Rows
