/-
  Lemmas for C15 (Davidson): with kernels that meet their SPECIFICATION (orthonormal eigen-decomposition; orthonormal
  completion of an orthonormal left part; argsort without repeated indices) an orthonormal initial space stays orthonormal
  through update / Rayleigh–Ritz / sort / extend / restart, and the stored Ritz vectors are orthonormal at every exit.
-/
import SpectraVerif.Proofs.C15Gram

namespace C15L
open Dav

variable {R M : Type} [CommRing R] [AddCommGroup M] [Module R M]
variable {K : Kern R M} {A : M →ₗ[R] M}

/-- specification of `SelfAdjointEigenSolver` used here: one coefficient per row of the small
    matrix, eigenvector columns orthonormal for the Euclidean dot product -/
def EigSpec (K : Kern R M) : Prop :=
  ∀ G : List (List R), (K.eig G).2.2.Pairwise (fun y z => sdot y z = 0) ∧
    ∀ y ∈ (K.eig G).2.2, sdot y y = 1 ∧ y.length = G.length

/-- specification of `twice_is_enough_orthogonalisation(M, k)`: if the first `k` columns are orthonormal the result is -/
def OrthSpec (ip : M → M → R) (K : Kern R M) : Prop := ∀ (l : List M) (k : Nat), ON ip (l.take k) → ON ip (K.orth l k)

/-- specification of `argsort`: no index twice -/
def ArgsortSpec (K : Kern R M) : Prop := ∀ (sel : Int) (vals : List R), (K.argsort sel vals).Nodup

/-- orthonormal Ritz vectors -/
def PairsON (ip : M → M → R) (ps : List (Pair R M)) : Prop :=
  ps.Pairwise (fun p q => ip p.vector q.vector = 0) ∧ ∀ p ∈ ps, ip p.vector p.vector = 1

omit [AddCommGroup M] [Module R M] in
theorem pairsON_basis {ip : M → M → R} {ps : List (Pair R M)} (h : PairsON ip ps) (k : Nat) :
    ON ip ((ps.take k).map (fun p => p.vector)) := by
  obtain ⟨h1, h2⟩ := h
  constructor
  · rw [List.pairwise_map]
    exact h1.sublist (List.take_sublist _ _)
  · intro u hu
    obtain ⟨p, hp, rfl⟩ := List.mem_map.mp hu
    exact h2 p (List.mem_of_mem_take hp)

theorem pairwise_zipWith {α β γ : Type} (f : α → β → γ) (Rb : β → β → Prop) (Rc : γ → γ → Prop)
    (h : ∀ a b a' b', Rb b b' → Rc (f a b) (f a' b')) (as : List α) (bs : List β) (hb : bs.Pairwise Rb) :
    (List.zipWith f as bs).Pairwise Rc := by
  induction as generalizing bs with
  | nil => simp
  | cons a as ih =>
    cases bs with
    | nil => simp
    | cons b bs =>
      rw [List.pairwise_cons] at hb
      simp only [List.zipWith_cons_cons, List.pairwise_cons]
      refine ⟨fun c hc => ?_, ih bs hb.2⟩
      obtain ⟨a', b', hb', rfl⟩ := mem_zipWith_right f as bs c hc
      exact h a b a' b' (hb.1 b' hb')

/-- Rayleigh–Ritz with an orthonormal basis and a specification-conforming eigen-solver gives orthonormal Ritz vectors -/
theorem computeEigenPairs_pairsON (ip : M → M → R) (hip : IsSymBilin ip) (hL : Linear K A) (hE : EigSpec K)
    {s : St R M} (hc : CachedFull A s) (hB : ON ip s.basis) : PairsON ip (computeEigenPairs K s).2.pairs := by
  have hG : (smallMatrix K s).length = s.basis.length := by
    unfold CachedFull at hc
    simp [smallMatrix, hc]
  obtain ⟨hpw, hun⟩ := hE (smallMatrix K s)
  simp only [computeEigenPairs]
  constructor
  · apply pairwise_zipWith (mkPair K s) (fun y z => sdot y z = 0 ∧ y.length = s.basis.length ∧ z.length = s.basis.length)
    · intro a b a' b' ⟨h0, hl, hl'⟩
      simp only [mkPair]
      rw [gram ip hip hL _ hB _ _ hl hl']; exact h0
    · -- strengthen the pairwise relation with the length facts
      have : ∀ y ∈ (K.eig (smallMatrix K s)).2.2, y.length = s.basis.length := fun y hy => by rw [(hun y hy).2, hG]
      exact (List.pairwise_and_iff.mpr ⟨hpw, List.pairwise_of_forall_mem_list (fun y hy z hz => ⟨this y hy, this z hz⟩)⟩)
  · intro p hp
    obtain ⟨θ, y, hy, rfl⟩ := mem_zipWith_right (mkPair K s) _ _ p hp
    have hl : y.length = s.basis.length := by rw [(hun y hy).2, hG]
    simp only [mkPair]
    rw [gram ip hip hL _ hB _ _ hl hl]; exact (hun y hy).1

/-- selecting along an index list without repetitions preserves orthonormality -/
theorem pairsON_filterMap (ip : M → M → R) (hip : IsSymBilin ip) {ps : List (Pair R M)} (h : PairsON ip ps)
    (idx : List Nat) (hn : idx.Nodup) : PairsON ip (idx.filterMap (fun i => ps[i]?)) := by
  obtain ⟨h1, h2⟩ := h
  constructor
  · apply List.Pairwise.filterMap (fun i => ps[i]?) (R := fun i j => i ≠ j) ?_ hn
    intro i j hij p hp q hq
    have hi := List.getElem?_eq_some_iff.mp hp
    have hj := List.getElem?_eq_some_iff.mp hq
    obtain ⟨hi1, rfl⟩ := hi
    obtain ⟨hj1, rfl⟩ := hj
    rcases Nat.lt_or_gt_of_ne hij with hlt | hgt
    · exact List.pairwise_iff_getElem.mp h1 i j hi1 hj1 hlt
    · rw [hip.symm]; exact List.pairwise_iff_getElem.mp h1 j i hj1 hi1 hgt
  · intro p hp
    exact h2 p (mem_filterMap_getElem? hp)

/-- loop-head invariant for specification-conforming kernels -/
def InvON (ip : M → M → R) (K : Kern R M) (A : M →ₗ[R] M) (s : St R M) : Prop :=
  Inv K A s ∧ ON ip s.basis ∧ PairsON ip s.pairs

def InvFullON (ip : M → M → R) (K : Kern R M) (A : M →ₗ[R] M) (s : St R M) : Prop :=
  InvFull K A s ∧ ON ip s.basis ∧ PairsON ip s.pairs

theorem iterHead_invFullON (ip : M → M → R) (hip : IsSymBilin ip) (hL : Linear K A) (hE : EigSpec K) (hS : ArgsortSpec K)
    (c : Cfg) (sel : Int) (tol : R) {s s1 : St R M} {r : Option Bool} (h : InvON ip K A s)
    (hh : iterHead K c sel tol s = (r, s1)) : InvFullON ip K A s1 := by
  obtain ⟨hI, hB, hP⟩ := h
  refine ⟨iterHead_invFull hL c sel tol hI hh, ?_⟩
  -- the basis after the optional restart is orthonormal
  have hB1 : ON ip (rrState K c s).basis := by
    show ON ip (if _ then _ else _ : St R M).basis
    split
    · exact pairsON_basis hP _
    · exact hB
  have hP' := computeEigenPairs_pairsON ip hip hL hE (s := rrState K c s) (head_prefix_full hL c hI) hB1
  rcases iterHead_cases K c sel tol s with e | e <;> rw [e] at hh <;> cases hh
  · exact ⟨hB1, hP'⟩
  · exact ⟨hB1, pairsON_filterMap ip hip hP' _ (hS _ _)⟩

theorem extend_invON (ip : M → M → R) (hO : OrthKeepsLeft K) (hQ : OrthSpec ip K) {s : St R M} (h : InvFullON ip K A s)
    (newv : List M) : InvON ip K A (extendBasis K newv s) := by
  obtain ⟨hI, hB, hP⟩ := h
  refine ⟨extend_inv hO hI newv, ?_, hP⟩
  simp only [extendBasis]
  apply hQ
  rw [List.take_left' rfl]; exact hB

theorem loop_invFullON (ip : M → M → R) (hip : IsSymBilin ip) (hL : Linear K A) (hO : OrthKeepsLeft K) (hQ : OrthSpec ip K)
    (hE : EigSpec K) (hS : ArgsortSpec K) (c : Cfg) (corr : List (Pair R M) → List M) (sel : Int) (tol : R)
    (maxit fuel : Nat) (s : St R M) (h : InvON ip K A s) (hs : s.niter + fuel = maxit) (hf : 0 < fuel) :
    InvFullON ip K A (loop K c corr sel tol maxit fuel s) := by
  exact loop_rule_counted K c corr sel tol maxit (InvON ip K A) (InvFullON ip K A)
    (fun s r s1 i h hh _ => iterHead_invFullON ip hip hL hE hS c sel tol (s1 := s1) h hh)
    (fun s s1 h hh => extend_invON ip hO hQ (iterHead_invFullON ip hip hL hE hS c sel tol (s1 := s1) h hh) _) fuel s hs hf h

/-! ### the part of the specification of the orthogonalisation kernel that holds for EVERY input.
  `QR_orthogonalisation` (the routine `JensWehner_orthogonalisation` applies to the block of new columns — see
  `C15.c15_extension_uses_householder_qr`, read off the regenerated call footprint) overwrites the block with the leading columns of
  the Q factor of its Householder QR decomposition.  Those columns are orthonormal among themselves whatever the block is — also when
  the correction vectors are linearly dependent (exactly parallel DPR corrections of an arrowhead matrix) — and whatever the old
  columns are.  (`OrthSpec` in C15Orth.lean is the conditional part: orthonormal old columns ⇒ the whole list is orthonormal.) -/
/-- unconditional specification of `twice_is_enough_orthogonalisation(M, k)` with the Householder-QR kernel in a space of dimension
    `d` (`QR_orthogonalisation` takes `min(rows, cols)` columns of the Q factor): for a block of at most `d` new columns, as many
    columns come back as went in and the columns behind the first `k` are orthonormal among themselves (unit norm, mutually orthogonal) -/
def OrthBlockSpec (ip : M → M → R) (K : Kern R M) (d : Nat) : Prop :=
  ∀ (l : List M) (k : Nat), l.length ≤ k + d → (K.orth l k).length = l.length ∧ ON ip ((K.orth l k).drop k)

omit [AddCommGroup M] [Module R M] in
/-- `extend_basis`: old columns kept, exactly `newv.length` columns appended, the appended block orthonormal in itself -/
theorem extend_block (ip : M → M → R) {d : Nat} (hO : OrthKeepsLeft K) (hB : OrthBlockSpec ip K d) (s : St R M) (newv : List M)
    (hd : newv.length ≤ d) :
    (extendBasis K newv s).basis = s.basis ++ (extendBasis K newv s).basis.drop s.basis.length ∧
    ((extendBasis K newv s).basis.drop s.basis.length).length = newv.length ∧
    ON ip ((extendBasis K newv s).basis.drop s.basis.length) := by
  have h1 := hO (s.basis ++ newv) s.basis.length
  have h2 := hB (s.basis ++ newv) s.basis.length (by simp; omega)
  simp only [extendBasis]
  refine ⟨?_, ?_, h2.2⟩
  · conv_lhs => rw [← List.take_append_drop s.basis.length (K.orth (s.basis ++ newv) s.basis.length)]
    rw [h1]; simp
  · rw [List.length_drop, h2.1]; simp

end C15L
