/-
  A concrete instance of the hypotheses of `c01_histories` / `c01_histories_orth` (helper file of Properties/C01.lean): the kernel
  record of a 1 × 1 problem `M = (2)` with `V = (1)`, `H = (2)`, `f = 0`, and the proofs that it satisfies `ExactKernels` and `ExactOrth`.
-/
import SpectraVerif.Proofs.C01Exact
import SpectraVerif.Proofs.C01ExactOrth


namespace C01Toy
open Orch C01M C01E

/-- a concrete kernel record on a 1 × 1 problem: `M = (2)`, `V = (1)`, `H = (2)`, `f = 0`; the small eigen-solver returns the pair
    `(2, (1))`, the convergence test accepts it -/
def toyK : Kern Unit ℚ ℚ Unit Unit Unit Unit :=
  { zeroρ := 0, zeroε := 0, zeroκ := (),
    facInit := fun _ f => ⟨f, 2, none⟩, factorize := fun _ _ f => ⟨f, 0, none⟩, facDim := fun _ => 1,
    eig := fun _ => .ok ([2], [1], [()]), select := fun _ _ n => .ok (List.range n),
    convTest := fun _ _ _ _ => true, nevAdj := fun c _ _ _ => c.nev, restartFac := fun _ _ f => ⟨f, 0, none⟩,
    backTransform := id, sortIdx := fun _ _ n => .ok (List.range n), assemble := fun _ _ => () }
def toyC : Cfg := ⟨1, 1, 1⟩  -- n, nev, ncv
def toyM : Matrix (Fin 1) (Fin 1) ℚ := fun _ _ => 2
def toySt : C07.St ℚ (Fin 1 → ℚ) := ⟨fun _ _ => 1, fun _ _ => 2, 0, 1, fun _ => 0⟩

theorem toy_good : Good (C01B.opOf toyM) toySt := by
  refine ⟨?_, rfl⟩
  intro j hj
  have hj0 : j = 0 := Nat.lt_one_iff.mp hj
  subst hj0
  funext r
  simp [toySt, toyM, C01B.opOf, Matrix.mulVec, dotProduct]

/-- `ExactKernels` is satisfiable -/
def toyX : ExactKernels toyK toyC 1 toyM (1 : ℚ) where
  abs := fun _ => toySt
  fnorm := fun _ => 0
  val := id
  est := id
  vec := fun _ _ => 1
  out := fun _ _ => 1
  tolv := fun _ => 1
  back := id
  ncv_pos := by decide
  nev_le := by decide
  init_good := fun _ _ h => h
  factorize_steps := fun _ _ _ => ⟨[], trivial, trivial, rfl⟩
  restart_steps := fun _ _ _ => ⟨[], trivial, trivial, rfl⟩
  factorize_full := fun _ _ => rfl
  restart_full := fun _ _ _ _ _ => rfl
  fnorm_spec := fun _ => ⟨le_refl _, by simp [nsq, toySt]⟩
  eig_spec := by
    intro fac evals lastRow cols h j hj
    simp only [toyK, Except.ok.injEq, Prod.mk.injEq] at h
    obtain ⟨h1, h2, h3⟩ := h
    subst h1; subst h2; subst h3
    have hj0 : j = 0 := by have : j < 1 := hj; omega
    subst hj0
    refine ⟨?_, by simp⟩
    intro i hi
    simp [toyC, toySt]
  select_lt := by
    intro sel evals ind h i hi
    simp only [toyK, Except.ok.injEq] at h
    subst h
    have hi0 : i = 0 := by have : i < 1 := hi; omega
    subst hi0; decide
  sort_lt := by
    intro rule vals ind h i hi
    simp only [toyK, Except.ok.injEq] at h
    subst h
    have hi0 : i = 0 := by have : i < 1 := hi; omega
    subst hi0; decide
  conv_spec := by
    intro tol fac θ e _
    have : (0 : ℚ) < max 1 |id θ| := lt_of_lt_of_le one_pos (le_max_left _ _)
    simp
  assemble_spec := by
    intro fac y
    funext r
    simp [toyC, toySt]
  back_spec := by
    intro l hl
    exact ⟨hl, fun i _ => rfl⟩

/-- `ExactOrth` is satisfiable too -/
theorem toyO : ExactOrth toyX where
  init_orth := fun _ _ h => h
  factorize_orth := fun _ _ _ => ⟨[], trivial, rfl⟩
  restart_orth := fun _ _ _ => ⟨[], trivial, rfl⟩
  eig_orth := by
    intro fac evals lastRow cols h j hj j' hj'
    have h0 : j = 0 := Nat.lt_one_iff.mp hj
    have h0' : j' = 0 := by have : j' < 1 := hj'; omega
    subst h0; subst h0'
    simp [toyC, toyX]
  select_inj := by
    intro sel evals ind h i hi i' hi' _
    have h0 : i = 0 := Nat.lt_one_iff.mp hi
    have h0' : i' = 0 := by have : i' < 1 := hi'; omega
    rw [h0, h0']
  sort_inj := by
    intro rule vals ind h i hi i' hi' _
    have h0 : i = 0 := Nat.lt_one_iff.mp hi
    have h0' : i' = 0 := by have : i' < 1 := hi'; omega
    rw [h0, h0']

theorem toy_orthgood : OrthGood toySt := by
  constructor
  · intro i hi j hj
    have h0 : i = 0 := Nat.lt_one_iff.mp hi
    have h0' : j = 0 := by have : j < 1 := hj; omega
    subst h0; subst h0'
    simp [dotIP, toySt, dotProduct]
  · intro j hj
    simp [dotIP, toySt]

end C01Toy
