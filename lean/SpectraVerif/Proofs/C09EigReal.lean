/-
  C09, UpperHessenbergEigen on top of the Schur similarity: the back-substitution of `doComputeEigenvectors` for a REAL
  eigenvalue (`realInner`) solves `(T − p I) y = 0` exactly (exact arithmetic), rows `c, c−1, …, 0`, 2x2 blocks by Cramer's rule with
  the characteristic polynomial of the block as determinant, overflow rescaling included.  Hypothesis: the fallback
  `w == 0 → divide by eps·norm` is not taken (`p` is not repeated on the diagonal of a 1x1 block above).

  It is the instance `E = K`, vector in column `c` (`viewR`) of the back-substitution of C09EigSolve.
-/
import Mathlib.Tactic.Linarith
import SpectraVerif.Proofs.C09EigSolve
import SpectraVerif.Proofs.C09Cdiv


namespace C09Eig
open Lin EigenPrims HessEigen C09Mat Finset

section gen
variable {α : Type} [Add α] [Sub α] [Mul α] [Div α] [Neg α] [Sc α]

/-- the overflow rescaling that ends a trip of `realInner`: column `n` is divided, from row `i` down, by the magnitude in row `i` -/
def rescale1 (size n i : ℕ) (t : Mat α) : Mat α :=
  let tt := Sc.abs (t.get i n)
  if Sc.gt ((Sc.eps * tt) * tt) one then divColTail t n i size tt else t

/-- row `i` of `realInner` on a 1x1 block (`r` the dot product with the solved part, `w = T(i,i) − p`) -/
def realRow (n i : ℕ) (norm r w : α) (t : Mat α) : Mat α :=
  if Sc.ne w zero then t.set i n ((-r) / w) else t.set i n ((-r) / (Sc.eps * norm))

/-- rows `i`, `i + 1` of `realInner` on a 2x2 block (`evi` its first eigenvalue, `lastr`, `lastw` remembered from row `i + 1`) -/
def realBlock (n i : ℕ) (p : α) (evi : α × α) (lastr lastw r w : α) (t : Mat α) : Mat α :=
  let x := t.get i (i + 1)
  let y := t.get (i + 1) i
  let denom := (evi.1 - p) * (evi.1 - p) + evi.2 * evi.2
  let tt := (x * lastr - lastw * r) / denom
  let t := t.set i n tt
  if Sc.gt (Sc.abs x) (Sc.abs lastw) then t.set (i + 1) n (((-r) - w * tt) / x)
  else t.set (i + 1) n (((-lastr) - y * tt) / lastw)

/-- one trip of `realInner` (row `i`): the second row of a block only remembers its dot product and `w` -/
def realStep (size n : ℕ) (p norm : α) (ev : Vec (α × α)) (i : ℕ) (st : RealSt α) : RealSt α :=
  let r := rowColDot st.t i n st.l (n - st.l + 1)
  let w := st.t.get i i - p
  if Sc.lt (evGet ev i).2 zero then ⟨r, w, st.l, st.t⟩
  else ⟨st.lastr, st.lastw, i, rescale1 size n i
    (if Sc.eq (evGet ev i).2 zero then realRow n i norm r w st.t else realBlock n i p (evGet ev i) st.lastr st.lastw r w st.t)⟩

theorem realInner_succ (size n : ℕ) (p norm : α) (ev : Vec (α × α)) (i : ℕ) (st : RealSt α) :
    realInner size n p norm ev (i + 1) st = realInner size n p norm ev i (realStep size n p norm ev i st) := by
  rw [realInner]; rfl

end gen

section field
variable {K : Type} [Field K] [LinearOrder K] [IsStrictOrderedRing K] (F : FieldFns K)

/-- entries of `M.col(c).tail(n - i) /= t` -/
theorem divColTail_spec {n : ℕ} (m : Mat K) (h : @Sq K n m) (c i : ℕ) (tt : K) (hc : c < n) :
    @Sq K n (@divColTail K _ (scOfField F) m c i n tt) ∧
    ∀ a b, a < n → @Mat.get K (scOfField F) (@divColTail K _ (scOfField F) m c i n tt) a b =
      if b = c ∧ i ≤ a then @Mat.get K (scOfField F) m a c / tt else @Mat.get K (scOfField F) m a b := by
  let _ : Sc K := scOfField F
  obtain ⟨sq, g⟩ := ListFold.foldl_range_inv (fun k acc => Sq n acc ∧ ∀ a b, a < n → acc.get a b = if b = c ∧ i ≤ a ∧ a < i + k then m.get a c / tt else m.get a b)
    (fun acc k => acc.set (i + k) c (acc.get (i + k) c / tt))
    (n - i) m ⟨h, fun a b _ => by rw [if_neg (by omega)]⟩
    (fun k acc hk ⟨sq, g⟩ => ⟨sq.set _ _ _, fun a b ha => by
      have e1 := g (i + k) c (by omega)
      rw [if_neg (by omega)] at e1
      rw [sq.get_set (i + k) c a b _ (by omega) hc ha, e1, g a b ha]
      by_cases h1 : a = i + k ∧ b = c
      · rw [if_pos h1, if_pos ⟨h1.2, by omega, by omega⟩, h1.1]
      · rw [if_neg h1]
        by_cases h2 : b = c ∧ i ≤ a ∧ a < i + k
        · rw [if_pos h2, if_pos ⟨h2.1, h2.2.1, by omega⟩]
        · rw [if_neg h2, if_neg (by omega)]⟩)
  refine ⟨sq, fun a b ha => ?_⟩
  rw [divColTail, g a b ha]
  by_cases h2 : b = c ∧ i ≤ a
  · rw [if_pos h2, if_pos ⟨h2.1, h2.2, by omega⟩]
  · rw [if_neg h2, if_neg (fun hh => h2 ⟨hh.1, hh.2.1⟩)]

/-- compatibility of the eigenvalue vector with the block structure of the quasi-triangular `T`: `T` is upper Hessenberg; a value with
    imaginary part `0` sits on a 1x1 block and is its diagonal entry; a value with positive imaginary part is the first row of an
    unsplit 2x2 block followed by its conjugate, the block is followed by a zero sub-diagonal entry, and `re ± i·im` are the roots of
    the block's characteristic polynomial; a negative imaginary part is a second row -/
structure EvOK (n : ℕ) (T : Mat K) (ev : Vec (K × K)) : Prop where
  hess : ∀ a b, b + 2 ≤ a → a < n → @Mat.get K (scOfField F) T a b = 0
  real : ∀ i, i < n → (@evGet K (scOfField F) ev i).2 = 0 →
    (@evGet K (scOfField F) ev i).1 = @Mat.get K (scOfField F) T i i ∧ (i + 1 < n → @Mat.get K (scOfField F) T (i + 1) i = 0)
  first : ∀ i, i < n → 0 < (@evGet K (scOfField F) ev i).2 → i + 1 < n ∧ (@evGet K (scOfField F) ev (i + 1)).2 < 0 ∧
    (i + 2 < n → @Mat.get K (scOfField F) T (i + 2) (i + 1) = 0) ∧
    2 * (@evGet K (scOfField F) ev i).1 = @Mat.get K (scOfField F) T i i + @Mat.get K (scOfField F) T (i + 1) (i + 1) ∧
    (@evGet K (scOfField F) ev i).1 * (@evGet K (scOfField F) ev i).1 + (@evGet K (scOfField F) ev i).2 * (@evGet K (scOfField F) ev i).2 =
      @Mat.get K (scOfField F) T i i * @Mat.get K (scOfField F) T (i + 1) (i + 1) -
        @Mat.get K (scOfField F) T i (i + 1) * @Mat.get K (scOfField F) T (i + 1) i
  second : ∀ i, i < n → (@evGet K (scOfField F) ev i).2 < 0 → 1 ≤ i ∧ 0 < (@evGet K (scOfField F) ev (i - 1)).2
  conj : ∀ i, i < n → 0 < (@evGet K (scOfField F) ev i).2 →
    (@evGet K (scOfField F) ev (i + 1)).1 = (@evGet K (scOfField F) ev i).1 ∧
    (@evGet K (scOfField F) ev (i + 1)).2 = -(@evGet K (scOfField F) ev i).2

/-- below a row that is not the first row of a block the sub-diagonal entry is `0` -/
theorem EvOK.sub_zero {n : ℕ} {T : Mat K} {ev : Vec (K × K)} (h : EvOK F n T ev) (i : ℕ) (hi : i + 1 < n)
    (hn : ¬ 0 < (@evGet K (scOfField F) ev i).2) : @Mat.get K (scOfField F) T (i + 1) i = 0 := by
  rcases lt_or_eq_of_le (not_lt.mp hn) with hlt | heq
  · obtain ⟨h1, h2⟩ := h.second i (by omega) hlt
    have := (h.first (i - 1) (by omega) h2).2.2.1
    rw [show i - 1 + 2 = i + 1 by omega, show i - 1 + 1 = i by omega] at this
    exact this hi
  · exact (h.real i (by omega) heq).2 hi

theorem EvOK.below_real {n : ℕ} {T : Mat K} {ev : Vec (K × K)} (h : EvOK F n T ev) {i a : ℕ}
    (hre : (@evGet K (scOfField F) ev i).2 = 0) (hia : i < a) (han : a < n) : @Mat.get K (scOfField F) T a i = 0 := by
  rcases Nat.lt_or_ge (i + 1) a with h2 | h2
  · exact h.hess a i h2 han
  · obtain rfl : a = i + 1 := by omega
    exact (h.real i (by omega) hre).2 han

theorem EvOK.below_pair {n : ℕ} {T : Mat K} {ev : Vec (K × K)} (h : EvOK F n T ev) {i a : ℕ}
    (hfi : 0 < (@evGet K (scOfField F) ev i).2) (hia : i + 1 < a) (han : a < n) :
    @Mat.get K (scOfField F) T a i = 0 ∧ @Mat.get K (scOfField F) T a (i + 1) = 0 := by
  refine ⟨h.hess a i (by omega) han, ?_⟩
  rcases Nat.lt_or_ge (i + 2) a with h2 | h2
  · exact h.hess a (i + 1) (by omega) han
  · obtain rfl : a = i + 2 := by omega
    exact (h.first i (by omega) hfi).2.2.1 han


/-- the rows `l..c` of the columns `j`, `k` of the work matrix `t` satisfy `Σ_{b=l..c} T(a,b) t(b,j) = p t(a,j) + s t(a,k)`: the
    eigenvector equation of a real eigenvalue (`s = 0`), and each half of that of a complex one (`j`, `k` its two columns, `s = ±q`) -/
def RowEqs (T t : Mat K) (p s : K) (j k l c : ℕ) : Prop :=
  ∀ a, l ≤ a → a ≤ c → ∑ b ∈ Ico l (c + 1), @Mat.get K (scOfField F) T a b * @Mat.get K (scOfField F) t b j =
    p * @Mat.get K (scOfField F) t a j + s * @Mat.get K (scOfField F) t a k

variable {F}

theorem RowEqs.scale {T t t' : Mat K} {p s : K} {j k l c : ℕ} (h : RowEqs F T t p s j k l c) (tt : K)
    (hj : ∀ b, l ≤ b → b ≤ c → @Mat.get K (scOfField F) t' b j = @Mat.get K (scOfField F) t b j / tt)
    (hk : ∀ b, l ≤ b → b ≤ c → @Mat.get K (scOfField F) t' b k = @Mat.get K (scOfField F) t b k / tt) :
    RowEqs F T t' p s j k l c := by
  intro a h1 h2
  rw [hj a h1 h2, hk a h1 h2, Finset.sum_congr rfl fun b hb => by
    rw [hj b (Finset.mem_Ico.mp hb).1 (by have := (Finset.mem_Ico.mp hb).2; omega), ← mul_div_assoc], ← Finset.sum_div, h a h1 h2]
  ring

/-- a row solved above the rows `i+1..c`: column `i` of `T` vanishes below row `i`, so only the new row has a new equation -/
theorem RowEqs.cons {T t t' : Mat K} {p s : K} {j k i c : ℕ} (h : RowEqs F T t p s j k (i + 1) c) (hic : i ≤ c)
    (hj : ∀ b, i < b → b ≤ c → @Mat.get K (scOfField F) t' b j = @Mat.get K (scOfField F) t b j)
    (hk : ∀ b, i < b → b ≤ c → @Mat.get K (scOfField F) t' b k = @Mat.get K (scOfField F) t b k)
    (hz : ∀ a, i < a → a ≤ c → @Mat.get K (scOfField F) T a i = 0)
    (hi : (@Mat.get K (scOfField F) T i i - p) * @Mat.get K (scOfField F) t' i j - s * @Mat.get K (scOfField F) t' i k +
      ∑ b ∈ Ico (i + 1) (c + 1), @Mat.get K (scOfField F) T i b * @Mat.get K (scOfField F) t b j = 0) :
    RowEqs F T t' p s j k i c := by
  intro a h1 h2
  rw [Finset.sum_eq_sum_Ico_succ_bot (by omega), Finset.sum_congr rfl fun b hb => by
    rw [hj b (Finset.mem_Ico.mp hb).1 (by have := (Finset.mem_Ico.mp hb).2; omega)]]
  rcases Nat.eq_or_lt_of_le h1 with rfl | hlt
  · linear_combination hi
  · rw [hz a hlt h2, zero_mul, zero_add, hj a hlt h2, hk a hlt h2]; exact h a hlt h2

theorem RowEqs.cons2 {T t t' : Mat K} {p s : K} {j k i c : ℕ} (h : RowEqs F T t p s j k (i + 2) c) (hic : i + 1 ≤ c)
    (hj : ∀ b, i + 1 < b → b ≤ c → @Mat.get K (scOfField F) t' b j = @Mat.get K (scOfField F) t b j)
    (hk : ∀ b, i + 1 < b → b ≤ c → @Mat.get K (scOfField F) t' b k = @Mat.get K (scOfField F) t b k)
    (hz : ∀ a, i + 1 < a → a ≤ c → @Mat.get K (scOfField F) T a i = 0 ∧ @Mat.get K (scOfField F) T a (i + 1) = 0)
    (e0 : (@Mat.get K (scOfField F) T i i - p) * @Mat.get K (scOfField F) t' i j - s * @Mat.get K (scOfField F) t' i k +
      @Mat.get K (scOfField F) T i (i + 1) * @Mat.get K (scOfField F) t' (i + 1) j +
      ∑ b ∈ Ico (i + 2) (c + 1), @Mat.get K (scOfField F) T i b * @Mat.get K (scOfField F) t b j = 0)
    (e1 : @Mat.get K (scOfField F) T (i + 1) i * @Mat.get K (scOfField F) t' i j +
      (@Mat.get K (scOfField F) T (i + 1) (i + 1) - p) * @Mat.get K (scOfField F) t' (i + 1) j - s * @Mat.get K (scOfField F) t' (i + 1) k +
      ∑ b ∈ Ico (i + 2) (c + 1), @Mat.get K (scOfField F) T (i + 1) b * @Mat.get K (scOfField F) t b j = 0) :
    RowEqs F T t' p s j k i c := by
  intro a h1 h2
  rw [Finset.sum_eq_sum_Ico_succ_bot (by omega), Finset.sum_eq_sum_Ico_succ_bot (by omega), Finset.sum_congr rfl fun b hb => by
    rw [hj b (Finset.mem_Ico.mp hb).1 (by have := (Finset.mem_Ico.mp hb).2; omega)]]
  by_cases hai : a = i
  · subst hai; linear_combination e0
  · by_cases hai1 : a = i + 1
    · subst hai1; linear_combination e1
    · have hlt : i + 1 < a := by omega
      rw [(hz a hlt h2).1, (hz a hlt h2).2, zero_mul, zero_mul, zero_add, zero_add, hj a hlt h2, hk a hlt h2]; exact h a hlt h2

variable (F)

/-- the running dot product of row `i` with the solved part `l..c` of column `j`, when row `i` of the work matrix is still `T` there -/
theorem rowColDot_eq (t T : Mat K) (i j l c : ℕ) (hl : l ≤ c)
    (hrow : ∀ b, l ≤ b → b ≤ c → @Mat.get K (scOfField F) t i b = @Mat.get K (scOfField F) T i b) :
    @rowColDot K _ _ (scOfField F) t i j l (c - l + 1) =
      ∑ b ∈ Ico l (c + 1), @Mat.get K (scOfField F) T i b * @Mat.get K (scOfField F) t b j := by
  let _ : Sc K := scOfField F
  rw [rowColDot, SumFold.sumFrom0_scOfField F, Finset.sum_Ico_eq_sum_range, show c + 1 - l = c - l + 1 by omega]
  exact Finset.sum_congr rfl fun kk hkk => by rw [hrow (l + kk) (by omega) (by have := Finset.mem_range.mp hkk; omega)]

/-- the rescaling only happens with a non-zero divisor: `eps · tt · tt > 1` -/
theorem rescale_ne {tt : K} (h : @Sc.gt K (scOfField F) ((@Sc.eps K (scOfField F) * tt) * tt) (@one K (scOfField F)) = true) : tt ≠ 0 := by
  intro h0
  rw [h0, mul_zero] at h
  simp [one] at h
  linarith

/-- a real vector in column `c` -/
def viewR (n c : ℕ) (hc : c < n) : ColView K K (scOfField F) n :=
  letI : Sc K := scOfField F
  { emb := RingHom.id K, own := (· = c), rd := fun t a => t.get a c, wr := fun t i v => t.set i c v, nz := (· ≠ 0)
    nz_smul := fun _ _ hs hz => mul_ne_zero hs hz
    rd_congr := fun _ _ _ h => h c rfl
    wr_sq := fun _ i v h => h.set i c v
    rd_wr := fun _ i v h hi => by rw [h.get_set i c i c v hi hc hi, if_pos ⟨rfl, rfl⟩]
    get_wr := fun _ i v a b h hi ha hor => by rw [h.get_set i c a b v hi hc ha, if_neg fun hh => hor.elim (· hh.1) (· hh.2)] }

variable {F} {n c : ℕ} {hc : c < n} {p : K} {T R : Mat K} {ev : Vec (K × K)} {i : ℕ} {t : Mat K}

/-- the overflow rescaling `col(c).tail(size − l) /= tt` keeps the solved part solved -/
theorem rescale_solved (h : Solved (viewR F n c hc) c p T R i t) :
    Solved (viewR F n c hc) c p T R i (@rescale1 K _ _ (scOfField F) n c i t) := by
  let _ : Sc K := scOfField F
  unfold rescale1
  extract_lets tt
  split
  · obtain ⟨sq, g⟩ := divColTail_spec F t h.toSq c i tt hc
    refine h.scale _ sq tt⁻¹ (inv_ne_zero (rescale_ne F ‹_›)) (fun b h1 h2 => ?_) fun a b ha hor => ?_
    · exact (g b c (by omega)).trans ((if_pos ⟨rfl, h1⟩).trans (div_eq_inv_mul _ _))
    · exact (g a b ha).trans (if_neg fun hh => hor.elim (· hh.1) (by omega))
  · exact h

/-- the row of a 1x1 block: `y_i = −r / w` with `r` the dot product of row `i` with the solved part and `w = T(i,i) − p ≠ 0` -/
theorem realRow_solved (norm : K) (hev : EvOK F n T ev)
    (h : Solved (viewR F n c hc) c p T R (i + 1) t) (hre : (@evGet K (scOfField F) ev i).2 = 0) (r w : K)
    (hr : r = ∑ b ∈ Ico (i + 1) (c + 1), @Mat.get K (scOfField F) T i b * @Mat.get K (scOfField F) t b c)
    (hw : w = @Mat.get K (scOfField F) T i i - p) (hw0 : w ≠ 0) (hic : i < c) :
    Solved (viewR F n c hc) c p T R i (@realRow K _ _ _ (scOfField F) c i norm r w t) := by
  let _ : Sc K := scOfField F
  rw [realRow, if_pos (by simpa [zero] using hw0)]
  refine h.put1 (fun a h1 h2 => hev.below_real F hre h1 (by omega)) (-r / w) ?_ fun h => absurd h (by omega)
  show (T.get i i - p) * (-r / w) + ∑ b ∈ Ico (i + 1) (c + 1), T.get i b * t.get b c = 0
  rw [← hr, ← hw, mul_div_cancel₀ _ hw0, neg_add_cancel]

/-- the two rows of a 2x2 block by Cramer's rule: the denominator is the determinant of the shifted block -/
theorem realBlock_solved (hev : EvOK F n T ev)
    (h : Solved (viewR F n c hc) c p T R (i + 2) t) (hpos : 0 < (@evGet K (scOfField F) ev i).2)
    (hx : @Mat.get K (scOfField F) t i (i + 1) = @Mat.get K (scOfField F) T i (i + 1))
    (hy : @Mat.get K (scOfField F) t (i + 1) i = @Mat.get K (scOfField F) T (i + 1) i) (lastr lastw r w : K)
    (hlr : lastr = ∑ b ∈ Ico (i + 2) (c + 1), @Mat.get K (scOfField F) T (i + 1) b * @Mat.get K (scOfField F) t b c)
    (hlw : lastw = @Mat.get K (scOfField F) T (i + 1) (i + 1) - p)
    (hr : r = ∑ b ∈ Ico (i + 2) (c + 1), @Mat.get K (scOfField F) T i b * @Mat.get K (scOfField F) t b c)
    (hw : w = @Mat.get K (scOfField F) T i i - p) (hic : i + 1 < c) :
    Solved (viewR F n c hc) c p T R i
      (@realBlock K _ _ _ _ _ (scOfField F) c i p (@evGet K (scOfField F) ev i) lastr lastw r w t) := by
  let _ : Sc K := scOfField F
  obtain ⟨f1, f2, f3, f4, f5⟩ := hev.first i (by omega) hpos
  simp only [realBlock]
  rw [hx, hy]
  have hden : ((evGet ev i).1 - p) * ((evGet ev i).1 - p) + (evGet ev i).2 * (evGet ev i).2 = w * lastw - T.get i (i + 1) * T.get (i + 1) i := by
    rw [hlw, hw]; linear_combination f5 - p * f4
  have hden0 : ((evGet ev i).1 - p) * ((evGet ev i).1 - p) + (evGet ev i).2 * (evGet ev i).2 ≠ 0 :=
    C09Cdiv.sumsq_ne (Or.inr (ne_of_gt hpos))
  rw [hden] at hden0 ⊢
  have hv0 := mul_div_cancel₀ (T.get i (i + 1) * lastr - lastw * r) hden0
  generalize (T.get i (i + 1) * lastr - lastw * r) / (w * lastw - T.get i (i + 1) * T.get (i + 1) i) = v0 at hv0 ⊢
  have cancel : ∀ {x : K}, x ≠ 0 → ∀ u, x * u = 0 → u = 0 := fun hx u hu => (mul_eq_zero.mp hu).resolve_left hx
  -- either way of getting `y_{i+1}` writes `(i + 1, c)` after `(i, c)`; what differs is which of the two equations it is read from
  have key : ∀ v1 : K, (∀ u, T.get i (i + 1) * u = 0 → u = 0) ∧ T.get i (i + 1) * v1 = -r - w * v0 ∨
      (∀ u, lastw * u = 0 → u = 0) ∧ lastw * v1 = -lastr - T.get (i + 1) i * v0 →
      Solved (viewR F n c hc) c p T R i ((t.set i c v0).set (i + 1) c v1) := fun v1 hv1 => by
    obtain ⟨e0, e1⟩ := cramer hv0 hv1
    refine h.put2 (fun a h1 h2 => hev.below_pair F hpos h1 (by omega)) v0 v1 ?_ ?_ fun h => absurd h (by omega)
    · show (T.get i i - p) * v0 + T.get i (i + 1) * v1 + ∑ b ∈ Ico (i + 2) (c + 1), T.get i b * t.get b c = 0
      rw [← hr, ← hw]; exact e0
    · show T.get (i + 1) i * v0 + (T.get (i + 1) (i + 1) - p) * v1 + ∑ b ∈ Ico (i + 2) (c + 1), T.get (i + 1) b * t.get b c = 0
      rw [← hlr, ← hlw]; exact e1
  split
  · rename_i hbr
    have hx0 : T.get i (i + 1) ≠ 0 := abs_pos.mp (lt_of_le_of_lt (abs_nonneg lastw) (of_decide_eq_true hbr))
    exact key _ (Or.inl ⟨cancel hx0, mul_div_cancel₀ _ hx0⟩)
  · rename_i hbr
    have hlw0 : lastw ≠ 0 := by
      intro h0
      rw [h0] at hbr hden0
      simp at hbr
      rw [hbr] at hden0
      exact hden0 (by ring)
    exact key _ (Or.inr ⟨cancel hlw0, mul_div_cancel₀ _ hlw0⟩)

variable (F) in
/-- loop invariant of `realInner` in front of row `k − 1` -/
def RInv (n c : ℕ) (hc : c < n) (p : K) (T R : Mat K) (ev : Vec (K × K)) (k : ℕ) (st : RealSt K) : Prop :=
  Inv (viewR F n c hc) c c p p T R ev k st.l st.t st.lastr st.lastw

theorem realStep_inv (norm : K) (hev : EvOK F n T ev)
    (hRT : ∀ a b, a < n → b < c → @Mat.get K (scOfField F) R a b = @Mat.get K (scOfField F) T a b)
    (hnf : ∀ i, i < c → (@evGet K (scOfField F) ev i).2 = 0 → @Mat.get K (scOfField F) T i i ≠ p)
    (i : ℕ) (st : RealSt K) (h : RInv F n c hc p T R ev (i + 1) st) :
    RInv F n c hc p T R ev i (@realStep K _ _ _ _ _ (scOfField F) n c p norm ev i st) := by
  let _ : Sc K := scOfField F
  have hS := h.solved
  have hlc := h.lle
  have hil : i < st.l := by rcases h.mode with h | h <;> omega
  have hrow : ∀ b, b ≤ c → st.t.get i b = T.get i b := fun b hb =>
    hS.row_eq (fun a b ha ho hb => hRT a b ha (lt_of_le_of_ne hb ho)) hil hb
  have hdot : rowColDot st.t i c st.l (c - st.l + 1) = ∑ b ∈ Ico st.l (c + 1), T.get i b * st.t.get b c :=
    rowColDot_eq F st.t T i c st.l c hlc fun b _ hb2 => hrow b hb2
  have hwii : st.t.get i i - p = T.get i i - p := by rw [hrow i (by omega)]
  have hsec := hev.second
  have hfst : ∀ k, k < n → 0 < (evGet ev k).2 → (evGet ev (k + 1)).2 < 0 := fun k hk hp => (hev.first k hk hp).2.1
  simp only [realStep]
  by_cases hneg : (evGet ev i).2 < 0
  · rw [if_pos (by simpa [zero] using hneg), hdot, hwii]
    exact h.skip hsec hneg
  · rw [if_neg (by simpa [zero] using hneg)]
    refine h.solve hsec hfst hneg _ (fun hzero hl hS1 => rescale_solved ?_) fun hpos hl hS2 hlr hlw => rescale_solved ?_
    · rw [if_pos (by simpa [zero] using hzero)]
      exact realRow_solved norm hev hS1 hzero _ _ (hdot.trans (by rw [hl])) hwii
        (hwii ▸ sub_ne_zero.mpr (hnf i (by omega) hzero)) (by omega)
    · rw [if_neg (by simpa [zero] using ne_of_gt hpos)]
      exact realBlock_solved hev hS2 hpos (hrow _ (by omega)) (hS.row_eq (fun a b ha ho hb => hRT a b ha (lt_of_le_of_ne hb ho))
        (by omega) (by omega)) _ _ _ _ hlr hlw
        (hdot.trans (by rw [hl])) hwii (by omega)

variable (F) in
theorem real_column (n c : ℕ) (norm : K) (T tc : Mat K) (ev : Vec (K × K)) (hev : EvOK F n T ev) (hw : @WF K tc) (hr : tc.rows = n)
    (hcl : tc.cols = n) (hc : c < n) (hc0 : (@evGet K (scOfField F) ev c).2 = 0)
    (htc : ∀ a b, a < n → b ≤ c → @Mat.get K (scOfField F) tc a b = @Mat.get K (scOfField F) T a b)
    (hnf : ∀ i, i < c → (@evGet K (scOfField F) ev i).2 = 0 → @Mat.get K (scOfField F) T i i ≠ (@evGet K (scOfField F) ev c).1) :
    let _ : Sc K := scOfField F
    let st := realInner n c (evGet ev c).1 norm ev c ⟨zero, zero, c, tc.set c c one⟩
    let y : ℕ → K := fun b => if b ≤ c then st.t.get b c else 0
    (∀ a, a < n → ∑ b ∈ range n, T.get a b * y b = (evGet ev c).1 * y a) ∧ y c ≠ 0 ∧
    @WF K st.t ∧ st.t.rows = n ∧ st.t.cols = n ∧ (∀ a b, a < n → b ≠ c → st.t.get a b = tc.get a b) := by
  intro _ st y
  have sq : Sq n tc := ⟨hw, hr, hcl⟩
  have e1 : (one : K) = 1 := by simp [one]
  -- the start: `y_c = 1` solves the single row `c`, because `p = T(c,c)`
  have h0 : RInv F n c hc (evGet ev c).1 T tc ev c ⟨zero, zero, c, tc.set c c one⟩ := by
    refine ⟨(Solved.init sq hc fun a b ha hb => htc a b ha (le_of_eq hb)).put1 (fun a h1 h2 => absurd h1 (by omega)) one ?_
      fun _ => e1 ▸ one_ne_zero, le_rfl, Or.inl ⟨rfl, by rw [hc0]; exact lt_irrefl _⟩⟩
    rw [Finset.Ico_self, Finset.sum_empty, add_zero]
    exact mul_eq_zero_of_left (sub_eq_zero.mpr (hev.real c hc hc0).1.symm) _
  obtain ⟨hS, _, hmode⟩ := C09Loop.countdown (realInner n c (evGet ev c).1 norm ev) _ (fun _ => rfl) (realInner_succ n c _ norm ev) _
    (realStep_inv norm hev (fun a b ha hb => htc a b ha (by omega)) hnf) c _ h0
  have hl : st.l = 0 := by
    rcases hmode with ⟨h1, _⟩ | ⟨_, h2, _⟩
    · exact h1
    · exact absurd (hev.second 0 (by omega) h2).1 (by omega)
  refine ⟨(hl ▸ hS).full fun a b h1 h2 h3 => ?_, (if_pos (le_refl c)).trans_ne (hS.yc (by omega)), hS.wf, hS.rows, hS.cols, fun a b ha hb => hS.off a b ha hb⟩
  rcases Nat.lt_or_ge b c with h4 | h4
  · exact hev.hess a b (by omega) h2
  · exact (show b = c by omega) ▸ hev.below_real F hc0 h1 h2


end field
end C09Eig
