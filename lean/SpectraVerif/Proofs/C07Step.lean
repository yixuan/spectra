/-
  What one pass of the model's `Arnoldi.factorize_from` loop computes, entry by entry, at a field (helper lemmas for
  Properties/C07.lean): the re-orthogonalisation loop keeps `f = w - V h` (or takes the `f := 0` shortcut), and
  `Arnoldi.stepCore` produces `v = f/beta`, the new column / sub-diagonal entry of `H`, and that residual.
-/
import SpectraVerif.Proofs.C07Refine
import SpectraVerif.Proofs.C06StaleV

set_option linter.unusedSectionVars false
open Finset C08Mat
open C06StaleV (size_subMulVecK0)

namespace C07R
section step
variable {K : Type} [Field K] [Sc K] (h0 : (Sc.ofInt 0 : K) = 0)
include h0

/-- the invariant of the re-orthogonalisation loop: `f = w - V h` entrywise -/
def RInv (n i1 : ℕ) (V : Lin.Mat K) (w f h : Lin.Vec K) : Prop :=
  f.size = n ∧ h.size = i1 ∧ ∀ r, r < n → Lin.vget f r = Lin.vget w r - ∑ j ∈ range i1, V.get r j * Lin.vget h j

/-- every exit of `Arnoldi.reorth` either keeps `f = w - V h` (with the corrected `h`) or is the `f := 0` shortcut -/
theorem reorth_inv (op : Arnoldi.Op K) (eps bt : K) (V : Lin.Mat K) (i1 n : ℕ) (w : Lin.Vec K) :
    ∀ (fuel count : ℕ) (f h : Lin.Vec K) (beta : K) (Vf : Lin.Vec K) (oerr : K) (np : ℕ), RInv n i1 V w f h →
      (RInv n i1 V w (Arnoldi.reorth op eps bt V i1 n fuel count f h beta Vf oerr np).1
                     (Arnoldi.reorth op eps bt V i1 n fuel count f h beta Vf oerr np).2.1) ∨
      (∀ r, Lin.vget (Arnoldi.reorth op eps bt V i1 n fuel count f h beta Vf oerr np).1 r = 0) := by
  intro fuel
  induction fuel with
  | zero => intro count f h beta Vf oerr np hI; left; simpa [Arnoldi.reorth] using hI
  | succ fuel ih =>
    intro count f h beta Vf oerr np hI
    unfold Arnoldi.reorth
    split
    · split
      · right; intro r; exact LinField.vget_vzero h0 n r
      · apply ih
        obtain ⟨hfs, hhs, hf⟩ := hI
        refine ⟨by rw [size_subMulVecK0, hfs], by rw [size_vadd, hhs], ?_⟩
        intro r hr
        rw [subMulVecK0_eq h0 _ _ _ _ _ (by omega), hf r hr, sub_sub, ← sum_add_distrib]
        congr 1
        apply sum_congr rfl
        intro j hj
        rw [vget_vadd _ _ (by have := mem_range.mp hj; omega)]; ring
    · left; exact hI

omit h0 in
theorem size_adjoint (op : Arnoldi.Op K) (V : Lin.Mat K) (k : ℕ) (y : Lin.Vec K) : (op.adjoint V k y).size = k := by
  unfold Arnoldi.Op.adjoint Arnoldi.tmulVecK0
  split <;> exact size_vofFn _ _

omit h0 in
theorem get_withCol (V : Lin.Mat K) (i : ℕ) (v : Lin.Vec K) (r c : ℕ) (hr : r < V.rows) (hc : c < V.cols) :
    (Arnoldi.withCol V i v).get r c = if c = i then Lin.vget v r else V.get r c := by
  unfold Arnoldi.withCol; rw [get_ofFn _ _ _ hr hc]

omit h0 in
theorem get_withHcol (H : Lin.Mat K) (i : ℕ) (sub : K) (h : Lin.Vec K) (a b : ℕ) (ha : a < H.rows) (hb : b < H.cols) :
    (Arnoldi.withHcol H i sub h).get a b =
      if b = i then (if a < i + 1 then Lin.vget h a else H.get a b) else if a = i ∧ b + 1 = i then sub else H.get a b := by
  unfold Arnoldi.withHcol; rw [get_ofFn _ _ _ ha hb]

/-- what one regular pass of `Arnoldi::factorize_from` computes (model at a field), entry by entry -/
def StepSpec (op : Arnoldi.Op K) (s s' : Arnoldi.State K) (i : ℕ) (f : Lin.Vec K) (beta sub : K) : Prop :=
  (∀ r c, r < s.n → c < s.m → s'.V.get r c = if c = i then Lin.vget f r / beta else s.V.get r c) ∧
  (∃ h' : Lin.Vec K,
     (∀ a b, a < s.m → b < s.m → s'.H.get a b =
        if b = i then (if a < i + 1 then Lin.vget h' a else s.H.get a b) else if a = i ∧ b + 1 = i then sub else s.H.get a b) ∧
     ((∀ r, r < s.n → Lin.vget s'.f r = Lin.vget (op.A (Lin.vdivs f beta)) r - ∑ j ∈ range (i + 1), s'.V.get r j * Lin.vget h' j) ∨
      (∀ r, Lin.vget s'.f r = 0))) ∧
  s'.k = s.k ∧ s'.n = s.n ∧ s'.m = s.m

theorem stepCore_spec (op : Arnoldi.Op K) (bt : K) (s : Arnoldi.State K) (i : ℕ) (f : Lin.Vec K) (beta : K) (restart : Bool)
    (ops nexp : ℕ) (hVr : s.V.rows = s.n) (hVc : s.V.cols = s.m) (hHr : s.H.rows = s.m) (hHc : s.H.cols = s.m)
    (hf : f.size = s.n) (hA : ∀ x, (op.A x).size = s.n) :
    StepSpec op s (Arnoldi.stepCore op bt s i f beta restart ops nexp) i f beta (if restart then 0 else beta) := by
  have hsub : (if restart then (Lin.zero : K) else beta) = (if restart then 0 else beta) := by rw [LinField.zero_eq h0]
  have hVget : ∀ r c, r < s.n → c < s.m →
      (Arnoldi.withCol s.V i (Lin.vdivs f beta)).get r c = if c = i then Lin.vget f r / beta else s.V.get r c := by
    intro r c hr hc
    rw [get_withCol _ _ _ _ _ (by omega) (by omega)]
    by_cases hci : c = i
    · simp only [hci, if_true]; exact LinField.vget_vdivs h0 f beta r
    · simp [hci]
  have hI0 : RInv s.n (i + 1) (Arnoldi.withCol s.V i (Lin.vdivs f beta)) (op.A (Lin.vdivs f beta))
      (Arnoldi.subMulVecK0 (op.A (Lin.vdivs f beta)) (Arnoldi.withCol s.V i (Lin.vdivs f beta)) (i + 1)
        (op.adjoint (Arnoldi.withCol s.V i (Lin.vdivs f beta)) (i + 1) (op.A (Lin.vdivs f beta))))
      (op.adjoint (Arnoldi.withCol s.V i (Lin.vdivs f beta)) (i + 1) (op.A (Lin.vdivs f beta))) := by
    refine ⟨by rw [size_subMulVecK0, hA], size_adjoint _ _ _ _, ?_⟩
    intro r hr
    rw [subMulVecK0_eq h0 _ _ _ _ _ (by rw [hA]; exact hr)]
  unfold Arnoldi.stepCore
  simp only []
  split
  · refine ⟨hVget, ⟨_, ?_, Or.inl hI0.2.2⟩, rfl, rfl, rfl⟩
    intro a b ha hb
    rw [get_withHcol _ _ _ _ _ _ (by omega) (by omega), hsub]
  · -- `5 0`: fuel and start count of the model's `reorth` (`count < 5` in the C++)
    have := reorth_inv h0 op s.eps bt (Arnoldi.withCol s.V i (Lin.vdivs f beta)) (i + 1) s.n (op.A (Lin.vdivs f beta)) 5 0 _ _
      (op.norm (Arnoldi.subMulVecK0 (op.A (Lin.vdivs f beta)) (Arnoldi.withCol s.V i (Lin.vdivs f beta)) (i + 1)
        (op.adjoint (Arnoldi.withCol s.V i (Lin.vdivs f beta)) (i + 1) (op.A (Lin.vdivs f beta)))))
      (op.adjoint (Arnoldi.withCol s.V i (Lin.vdivs f beta)) (i + 1) (Arnoldi.subMulVecK0 (op.A (Lin.vdivs f beta)) (Arnoldi.withCol s.V i (Lin.vdivs f beta)) (i + 1)
        (op.adjoint (Arnoldi.withCol s.V i (Lin.vdivs f beta)) (i + 1) (op.A (Lin.vdivs f beta)))))
      (Lin.maxAbs (op.adjoint (Arnoldi.withCol s.V i (Lin.vdivs f beta)) (i + 1) (Arnoldi.subMulVecK0 (op.A (Lin.vdivs f beta)) (Arnoldi.withCol s.V i (Lin.vdivs f beta)) (i + 1)
        (op.adjoint (Arnoldi.withCol s.V i (Lin.vdivs f beta)) (i + 1) (op.A (Lin.vdivs f beta))))))
      s.nreorth hI0
    rcases this with h1 | h2
    · exact ⟨hVget, ⟨_, fun a b ha hb => by rw [get_withHcol _ _ _ _ _ _ (by omega) (by omega), hsub], Or.inl h1.2.2⟩, rfl, rfl, rfl⟩
    · refine ⟨hVget, ⟨?w, ?hH, Or.inr h2⟩, rfl, rfl, rfl⟩
      case hH =>
        intro a b ha hb
        rw [get_withHcol _ _ _ _ _ _ (by omega) (by omega), hsub]

omit h0 in
theorem reorth_fsize (op : Arnoldi.Op K) (eps bt : K) (V : Lin.Mat K) (i1 n : ℕ) :
    ∀ (fuel count : ℕ) (f h : Lin.Vec K) (beta : K) (Vf : Lin.Vec K) (oerr : K) (np : ℕ), f.size = n →
      (Arnoldi.reorth op eps bt V i1 n fuel count f h beta Vf oerr np).1.size = n := by
  intro fuel
  induction fuel with
  | zero => intro count f h beta Vf oerr np hf; simpa [Arnoldi.reorth] using hf
  | succ fuel ih =>
    intro count f h beta Vf oerr np hf
    unfold Arnoldi.reorth
    split
    · split
      · simp [Lin.vzero]
      · apply ih; rw [size_subMulVecK0, hf]
    · exact hf

omit h0 in
theorem stepCore_dims (op : Arnoldi.Op K) (bt : K) (s : Arnoldi.State K) (i : ℕ) (f : Lin.Vec K) (beta : K) (restart : Bool)
    (ops nexp : ℕ) (hA : ∀ x, (op.A x).size = s.n) :
    (Arnoldi.stepCore op bt s i f beta restart ops nexp).V.rows = s.V.rows ∧
    (Arnoldi.stepCore op bt s i f beta restart ops nexp).V.cols = s.V.cols ∧
    (Arnoldi.stepCore op bt s i f beta restart ops nexp).H.rows = s.H.rows ∧
    (Arnoldi.stepCore op bt s i f beta restart ops nexp).H.cols = s.H.cols ∧
    (Arnoldi.stepCore op bt s i f beta restart ops nexp).f.size = s.n := by
  unfold Arnoldi.stepCore
  simp only []
  split
  · exact ⟨rfl, rfl, rfl, rfl, by rw [size_subMulVecK0, hA]⟩
  · exact ⟨rfl, rfl, rfl, rfl, reorth_fsize _ _ _ _ _ _ _ _ _ _ _ _ _ _ (by rw [size_subMulVecK0, hA])⟩

end step
end C07R
