/-
  C10 — tier 3 (global identity of the factorization, correctness of solve): shared definitions and their first lemmas.
  What the packed array and `m_perm` mean after `compute`:
    * `kind pf c`   position `c` in the left-to-right tiling of `m_perm`: 0 = 1x1 block, 1 = first row of a 2x2 block, 2 = second row
    * `Lent s i j`  the unit lower triangular factor (block-unit: the sub-diagonal entry of a 2x2 block belongs to `D`, not to `L`)
    * `Dent s i j`  the block diagonal factor (symmetric 2x2 blocks `[d11 d21; d21 d22]` from the stored lower triangle)
    * `permFn pc`   the index map of the compressed permutation: `(applyPermc x pc)[i] = x[permFn pc i]`
    * `LDLt s n`    the entries of `L D Lᵀ`
    * `DNs k s`     every block of `D` in the columns `< k` is nonsingular
    * `f.IsLDLT A n` `f` is an `L D Lᵀ` factorization of `A`: the notion the factorization identity and the correctness of solve meet in
  then the facts on `kind`, `Lent` and `permFn` that the factorization identity and the correctness of solve share.
-/
import Mathlib.Algebra.BigOperators.Intervals
import Mathlib.Algebra.BigOperators.Ring.Finset
import SpectraVerif.Proofs.C10SolveSafe
import SpectraVerif.Proofs.C10Pivot

namespace BKLDLT
section
variable {K : Type} [Field K] [Sc K]

/-- kind of position `c` in the left-to-right tiling of `m_perm` by 1x1 (entry ≥ 0) and 2x2 blocks (two consecutive negative entries) -/
def kindN (pf : Int → Int) : Nat → Nat
  | 0 => if pf 0 < 0 then 1 else 0
  | c + 1 => if pf ((c : Int) + 1) < 0 then (if kindN pf c = 1 then 2 else 1) else 0
def kind (pf : Int → Int) (c : Int) : Nat := kindN pf c.toNat

/-- `L` (unit lower triangular, block-unit for 2x2 pivots) as stored in the packed array -/
def Lent (s : St K) (i j : Int) : K :=
  if i = j then 1 else if i < j then 0 else if kind (pfn s) j = 1 ∧ i = j + 1 then 0 else s.rd i j

/-- `D` (block diagonal with the stored 1x1 / symmetric 2x2 blocks) -/
def Dent (s : St K) (i j : Int) : K :=
  if i = j then s.rd i i
  else if i = j + 1 ∧ kind (pfn s) j = 1 then s.rd i j
  else if j = i + 1 ∧ kind (pfn s) i = 1 then s.rd j i
  else 0

/-- index map of a compressed permutation: the swaps `(a₁ b₁), (a₂ b₂), …` applied in this order to a vector `x` give `x ∘ permFn` -/
def permFn (pc : List (Int × Int)) (i : Int) : Int := pc.foldr (fun ab i => tr ab.1 ab.2 i) i

/-- entries of `L D Lᵀ` -/
def LDLt (s : St K) (n : Int) (i j : Int) : K :=
  ∑ c ∈ Finset.range n.toNat, ∑ c' ∈ Finset.range n.toNat, Lent s i (c : Int) * Dent s (c : Int) (c' : Int) * Lent s j (c' : Int)

/-- the blocks of `D` in the columns `< k` are nonsingular -/
def DNs (k : Int) (s : St K) : Prop :=
  ∀ c, 0 ≤ c → c < k → (kind (pfn s) c = 0 → s.rd c c ≠ 0) ∧
    (kind (pfn s) c = 1 → s.rd c c * s.rd (c + 1) (c + 1) - s.rd (c + 1) c * s.rd (c + 1) c ≠ 0)

end

theorem kind_zero (pf : Int → Int) : kind pf 0 = if pf 0 < 0 then 1 else 0 := rfl

theorem kind_succ (pf : Int → Int) {c : Int} (hc : 0 ≤ c) :
    kind pf (c + 1) = if pf (c + 1) < 0 then (if kind pf c = 1 then 2 else 1) else 0 := by
  unfold kind
  have e : (c + 1).toNat = c.toNat + 1 := by omega
  have e2 : ((c.toNat : Nat) : Int) = c := by omega
  rw [e]
  simp only [kindN, e2]

theorem kind_congr {pf pf' : Int → Int} {c : Int} (hc : 0 ≤ c) (h : ∀ j, 0 ≤ j → j ≤ c → pf' j = pf j) : kind pf' c = kind pf c := by
  have key : ∀ m : Nat, (∀ j : Int, 0 ≤ j → j ≤ m → pf' j = pf j) → kind pf' m = kind pf m := by
    intro m
    induction m with
    | zero => intro h; rw [Nat.cast_zero, kind_zero, kind_zero, h 0 (le_refl _) (by simp)]
    | succ m ih =>
      intro h
      have e : ((m + 1 : Nat) : Int) = (m : Int) + 1 := by push_cast; ring
      rw [e, kind_succ _ (by omega), kind_succ _ (by omega), ih (fun j a b => h j a (by push_cast; omega)), h ((m : Int) + 1) (by omega) (by push_cast; omega)]
  have e : ((c.toNat : Nat) : Int) = c := by omega
  rw [← e]; exact key _ (by rw [e]; exact h)

theorem kind_of_nonneg {pf : Int → Int} {c : Int} (hc : 0 ≤ c) (h : 0 ≤ pf c) : kind pf c = 0 := by
  by_cases c0 : c = 0
  · subst c0; rw [kind_zero, if_neg (by omega)]
  · have e : c = (c - 1) + 1 := by ring
    rw [e, kind_succ _ (by omega), ← e, if_neg (by omega)]

/-- a tiling that ends at `k` does not have the first row of a 2x2 block at `k-1` -/
theorem Pre.kind_last {pf : Int → Int} {k : Int} (h : Pre pf k) : 1 ≤ k → kind pf (k - 1) ≠ 1 := by
  induction h with
  | zero => intro h; omega
  | @one k hp h1 ih =>
    intro _
    have e : k + 1 - 1 = k := by ring
    rw [e, kind_of_nonneg hp.nonneg h1]; decide
  | @two k hp h1 h2 ih =>
    intro _
    have hk := hp.nonneg
    have e : k + 2 - 1 = k + 1 := by ring
    have hk1 : kind pf k = 1 := by
      by_cases c0 : k = 0
      · subst c0; rw [kind_zero, if_pos h1]
      · have e : k = (k - 1) + 1 := by ring
        rw [e, kind_succ _ (by omega), ← e, if_pos h1, if_neg (ih (by omega))]
    rw [e, kind_succ _ hk, if_pos h2, if_pos hk1]; decide

theorem Pre.kind_neg {pf : Int → Int} {k : Int} (h : Pre pf k) (h1 : pf k < 0) : kind pf k = 1 := by
  have hk := h.nonneg
  by_cases c0 : k = 0
  · subst c0; rw [kind_zero, if_pos h1]
  · have e : k = (k - 1) + 1 := by ring
    rw [e, kind_succ _ (by omega), ← e, if_pos h1, if_neg (h.kind_last (by omega))]

theorem Pre.kind_neg2 {pf : Int → Int} {k : Int} (h : Pre pf k) (h1 : pf k < 0) (h2 : pf (k + 1) < 0) : kind pf (k + 1) = 2 := by
  rw [kind_succ _ h.nonneg, if_pos h2, if_pos (h.kind_neg h1)]

theorem kind_lt3 (pf : Int → Int) (c : Int) (hc : 0 ≤ c) : kind pf c = 0 ∨ kind pf c = 1 ∨ kind pf c = 2 := by
  by_cases h0 : c = 0
  · subst h0; rw [kind_zero]; split <;> simp
  · have e : c = (c - 1) + 1 := by ring
    rw [e, kind_succ pf (c := c - 1) (by omega)]; split_ifs <;> simp

theorem kind2_inv (pf : Int → Int) (c : Int) (hc : 0 ≤ c) (h : kind pf c = 2) : 1 ≤ c ∧ kind pf (c - 1) = 1 := by
  by_cases h0 : c = 0
  · subst h0; rw [kind_zero] at h; split at h <;> omega
  · have e : c = (c - 1) + 1 := by ring
    rw [e, kind_succ pf (c := c - 1) (by omega)] at h
    refine ⟨by omega, ?_⟩
    split_ifs at h with a b
    · exact b
    · omega

theorem Tl.tail1 {pf : Int → Int} {i n : Int} (h : Tl pf i n) (hin : i < n) (hp : 0 ≤ pf i) : Tl pf (i + 1) n := by
  cases h with
  | nil => omega
  | one _ g => exact g
  | two g _ _ => omega

theorem Tl.tail2 {pf : Int → Int} {i n : Int} (h : Tl pf i n) (hin : i < n) (hp : pf i < 0) : pf (i + 1) < 0 ∧ Tl pf (i + 2) n := by
  cases h with
  | nil => omega
  | one g _ => omega
  | two _ g2 g3 => exact ⟨g2, g3⟩

/-- a first row of a 2x2 block is followed, inside the matrix, by its second row -/
theorem tl_kind1 {pf : Int → Int} {i n : Int} (ht : Tl pf i n) (hp : Pre pf i) :
    ∀ c, i ≤ c → c < n → kind pf c = 1 → c + 1 < n ∧ kind pf (c + 1) = 2 := by
  induction ht with
  | nil i => intro c h1 h2; omega
  | @one i k h1 ht ih =>
    intro c hc hcn hk
    have hi := hp.nonneg
    by_cases e : c = i
    · subst e; rw [kind_of_nonneg hi h1] at hk; omega
    · exact ih (Pre.one hp h1) c (by omega) hcn hk
  | @two i k h1 h2 ht ih =>
    intro c hc hcn hk
    have hi := hp.nonneg
    have a := hp.kind_neg h1
    have b := hp.kind_neg2 h1 h2
    have := ht.le
    by_cases e : c = i
    · subst e; exact ⟨by omega, b⟩
    · by_cases e' : c = i + 1
      · subst e'; omega
      · exact ih (Pre.two hp h1 h2) c (by omega) hcn hk

theorem permFn_nil (i : Int) : permFn [] i = i := rfl
theorem permFn_cons (ab : Int × Int) (pc : List (Int × Int)) (i : Int) : permFn (ab :: pc) i = tr ab.1 ab.2 (permFn pc i) := rfl
theorem permFn_append (l1 l2 : List (Int × Int)) (i : Int) : permFn (l1 ++ l2) i = permFn l1 (permFn l2 i) := by
  simp [permFn, List.foldr_append]

namespace SolveC

theorem permFn_cancel (pc : List (Int × Int)) (i : Int) : permFn pc.reverse (permFn pc i) = i := by
  induction pc generalizing i with
  | nil => rfl
  | cons ab pc ih =>
    rw [List.reverse_cons, permFn_append, permFn_cons, permFn_cons, permFn_nil, tr_invol, ih]

theorem permFn_cancel' (pc : List (Int × Int)) (i : Int) : permFn pc (permFn pc.reverse i) = i := by
  have := permFn_cancel pc.reverse i
  rwa [List.reverse_reverse] at this

theorem permFn_range {n : Int} (pc : List (Int × Int)) (hpc : ∀ ab ∈ pc, 0 ≤ ab.1 ∧ ab.1 < n ∧ 0 ≤ ab.2 ∧ ab.2 < n)
    (i : Int) (hi : 0 ≤ i ∧ i < n) : 0 ≤ permFn pc i ∧ permFn pc i < n := by
  induction pc with
  | nil => exact hi
  | cons ab pc ih =>
    have h := hpc ab List.mem_cons_self
    rw [permFn_cons]
    exact tr_range ⟨h.1, h.2.1⟩ ⟨h.2.2.1, h.2.2.2⟩ (ih (fun cd hcd => hpc cd (List.mem_cons_of_mem _ hcd)))

end SolveC

section
variable {K : Type} [Field K] [Sc K]

theorem Lent_diag (s : St K) (i : Int) : Lent s i i = 1 := by simp [Lent]
theorem Lent_upper (s : St K) {i j : Int} (h : i < j) : Lent s i j = 0 := by
  unfold Lent; rw [if_neg (by omega), if_pos h]
theorem Lent_lower (s : St K) {i j : Int} (h : j < i) (hk : ¬ (kind (pfn s) j = 1 ∧ i = j + 1)) : Lent s i j = s.rd i j := by
  unfold Lent; rw [if_neg (by omega), if_neg (by omega), if_neg hk]
theorem Lent_sub (s : St K) {j : Int} (hk : kind (pfn s) j = 1) : Lent s (j + 1) j = 0 := by
  unfold Lent; rw [if_neg (by omega), if_neg (by omega), if_pos ⟨hk, rfl⟩]

theorem Lent_col (s : St K) {i k : Int} (hki : k ≤ i) :
    Lent s i k = if i = k then 1 else if kind (pfn s) k = 1 ∧ i = k + 1 then 0 else s.rd i k := by
  unfold Lent
  by_cases c : i = k
  · rw [if_pos c, if_pos c]
  · rw [if_neg c, if_neg c, if_neg (by omega)]

end

theorem Fact.Ok.permFn_range {α : Type} [Add α] [Sub α] [Mul α] [Div α] [Neg α] [Sc α] {n : Int} {f : Fact α} (h : f.Ok n) {i : Int}
    (hi : 0 ≤ i) (hin : i < n) : 0 ≤ permFn f.permc i ∧ permFn f.permc i < n :=
  SolveC.permFn_range _ h.permc_range i ⟨hi, hin⟩

section
variable {K : Type} [Field K] [Sc K]

/-- `f` is an `L D Lᵀ` factorization of `A`: `P A Pᵀ = L D Lᵀ` on `[0, n)²` with `P`, `L`, `D` read from `f` (`permFn`, `Lent`, `Dent`),
    every block of `D` nonsingular.  `compute` establishes it (`compute_isLDLT`), `solve` needs nothing else (`Fact.IsLDLT.solve`). -/
structure Fact.IsLDLT (A : Int → Int → K) (n : Int) (f : Fact K) : Prop extends f.Ok n where
  ident : ∀ i j, 0 ≤ i → i < n → 0 ≤ j → j < n → A (permFn f.permc i) (permFn f.permc j) = LDLt f.s n i j
  dns : DNs n f.s

/-- the identity only looks at `A` on `[0, n)²` -/
theorem Fact.IsLDLT.congr {A A' : Int → Int → K} {n : Int} {f : Fact K} (h : f.IsLDLT A n)
    (e : ∀ a b, 0 ≤ a ∧ a < n → 0 ≤ b ∧ b < n → A' a b = A a b) : f.IsLDLT A' n :=
  ⟨h.toOk, fun i j hi hin hj hjn => by
    rw [e _ _ (h.toOk.permFn_range hi hin) (h.toOk.permFn_range hj hjn)]; exact h.ident i j hi hin hj hjn, h.dns⟩

end

end BKLDLT
