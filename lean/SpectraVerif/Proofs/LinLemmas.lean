/-
  The lemma file of `Model/Lin.lean`, the array layer every model is written in; all properties share it.  For any scalar type and
  any `Sc` instance (core Lean only, no Mathlib): what `vget` / `Mat.get` read after each of the constructors `vset`, `vofFn`,
  `vzero`, `vmap2`, `Array.map`, `push`, `Mat.set`, `Mat.ofFn`, `Mat.zeros`, `Mat.identity`, `Mat.setCol`, `Mat.transpose`, …, and
  the sizes.  The namespace is the one the fixed predicate `C08Mat.WF` carries.

  A `Mat` stores its entries column by column in one array; `get` / `set` compute the position `i + j * rows` and do not look at
  `cols`, so an out-of-range ROW index would alias the next column: every entry lemma asks for the row bounds and for `WF` (the
  array has `rows * cols` entries).  The column bound of the entry READ is never needed.
-/
import SpectraVerif.Model.Lin

namespace C08Mat
open Lin

variable {α : Type}

/-! ### index arithmetic of the column-major layout -/

theorem idx_lt {r c i j : Nat} (hi : i < r) (hj : j < c) : i + j * r < r * c := by
  have h1 : (j + 1) * r ≤ c * r := Nat.mul_le_mul_right r hj
  have h2 : (j + 1) * r = j * r + r := Nat.succ_mul j r
  have h3 : c * r = r * c := Nat.mul_comm c r
  omega

theorem idx_mod {r i : Nat} (j : Nat) (hi : i < r) : (i + j * r) % r = i := by
  rw [Nat.add_mul_mod_self_right, Nat.mod_eq_of_lt hi]

theorem idx_div {r i : Nat} (j : Nat) (hi : i < r) : (i + j * r) / r = j := by
  have hr : 0 < r := by omega
  rw [Nat.add_mul_div_right _ _ hr, Nat.div_eq_of_lt hi, Nat.zero_add]

theorem idx_inj {r i j i' j' : Nat} (hi : i < r) (hi' : i' < r) (h : i + j * r = i' + j' * r) : i = i' ∧ j = j' := by
  have h1 := idx_mod j hi
  have h2 := idx_mod j' hi'
  have h3 := idx_div j hi
  have h4 := idx_div j' hi'
  rw [h] at h1 h3
  exact ⟨by omega, by omega⟩

/-- every position of an `r × c` array is `i + j * r` for exactly one in-range pair -/
theorem idx_split {r c k : Nat} (hk : k < r * c) : k % r < r ∧ k / r < c ∧ k % r + k / r * r = k := by
  have hr0 : 0 < r := by
    rcases Nat.eq_zero_or_pos r with h0 | h0
    · subst h0; simp at hk
    · exact h0
  exact ⟨Nat.mod_lt _ hr0, by rw [Nat.div_lt_iff_lt_mul hr0, Nat.mul_comm]; exact hk,
    by rw [Nat.mul_comm]; exact Nat.mod_add_div k r⟩

theorem ite_iff {β : Type} {p q : Prop} [Decidable p] [Decidable q] (h : p ↔ q) (x y : β) :
    (if p then x else y) = if q then x else y := by
  by_cases hp : p
  · rw [if_pos hp, if_pos (h.mp hp)]
  · rw [if_neg hp, if_neg (fun hq => hp (h.mpr hq))]

/-! ### arrays read with a default -/

theorem getD_set {β : Type} (d : Array β) (i k : Nat) (x z : β) :
    (d.setIfInBounds i x).getD k z = if k = i ∧ i < d.size then x else d.getD k z := by
  simp only [Array.getD_eq_getD_getElem?, Array.getElem?_setIfInBounds]
  by_cases h : i = k
  · subst h; by_cases h2 : i < d.size <;> simp [h2]
  · have : ¬ k = i := fun e => h e.symm
    simp [h, this]

theorem getD_setIfInBounds (d : Array α) (k k' : Nat) (x z : α) (hk : k < d.size) :
    (d.setIfInBounds k x).getD k' z = if k' = k then x else d.getD k' z := by
  rw [getD_set]
  by_cases h : k' = k
  · rw [if_pos ⟨h, hk⟩, if_pos h]
  · rw [if_neg (fun e => h e.1), if_neg h]

theorem getD_of_ge {β : Type} (d : Array β) {k : Nat} (z : β) (h : d.size ≤ k) : d.getD k z = z := by
  simp [Array.getD_eq_getD_getElem?, h]

theorem getD_ofFn {β : Type} {n : Nat} (f : Fin n → β) {k : Nat} (z : β) (h : k < n) :
    (Array.ofFn f).getD k z = f ⟨k, h⟩ := by
  rw [Array.getD_eq_getD_getElem?, Array.getElem?_ofFn, dif_pos h, Option.getD_some]

/-! ### vectors -/

section vec
variable [Sc α]

omit [Sc α] in
theorem vset_size (v : Vec α) (i : Nat) (x : α) : (vset v i x).size = v.size := Array.size_setIfInBounds

/-- the one fact about `vset`; the three forms below are what callers have -/
theorem vget_vset' (v : Vec α) (i j : Nat) (x : α) :
    vget (vset v i x) j = if j = i ∧ i < v.size then x else vget v j := getD_set v i j x zero

theorem vget_vset (v : Vec α) {i j : Nat} (x : α) (hi : i < v.size) :
    vget (vset v i x) j = if j = i then x else vget v j := by
  rw [vget_vset']
  by_cases h : j = i
  · rw [if_pos ⟨h, hi⟩, if_pos h]
  · rw [if_neg (fun e => h e.1), if_neg h]

theorem vget_vset_eq (v : Vec α) {i : Nat} (x : α) (hi : i < v.size) : vget (vset v i x) i = x := by
  rw [vget_vset v x hi, if_pos rfl]

theorem vget_vset_ne (v : Vec α) {i j : Nat} (x : α) (h : j ≠ i) : vget (vset v i x) j = vget v j := by
  rw [vget_vset', if_neg (fun e => h e.1)]

theorem vget_of_ge (v : Vec α) {i : Nat} (h : v.size ≤ i) : vget v i = zero := getD_of_ge v zero h

omit [Sc α] in
theorem size_vofFn (n : Nat) (f : Nat → α) : (vofFn n f).size = n := Array.size_ofFn

theorem vget_vofFn (n : Nat) (f : Nat → α) {i : Nat} (hi : i < n) : vget (vofFn n f) i = f i := getD_ofFn _ zero hi

omit [Sc α] in
theorem vofFn_congr {n : Nat} {f g : Nat → α} (h : ∀ i, i < n → f i = g i) : vofFn n f = vofFn n g := by
  unfold vofFn
  exact congrArg _ (funext fun i => h i.val i.isLt)

theorem size_vzero (n : Nat) : (vzero n : Vec α).size = n := Array.size_replicate

theorem vget_vzero (n i : Nat) : vget (vzero n : Vec α) i = zero := by
  unfold vget vzero
  rw [Array.getD_eq_getD_getElem?, Array.getElem?_replicate]
  split <;> rfl

theorem size_vmap2 (f : α → α → α) (x y : Vec α) : (vmap2 f x y).size = x.size := size_vofFn _ _

theorem vget_vmap2 (f : α → α → α) (x y : Vec α) {i : Nat} (hi : i < x.size) :
    vget (vmap2 f x y) i = f (vget x i) (vget y i) := vget_vofFn _ _ hi

theorem size_vadd [Add α] (x y : Vec α) : (vadd x y).size = x.size := size_vmap2 _ _ _

theorem vget_vadd [Add α] (x y : Vec α) {i : Nat} (hi : i < x.size) : vget (vadd x y) i = vget x i + vget y i :=
  vget_vmap2 _ _ _ hi

theorem size_vsub [Sub α] (x y : Vec α) : (vsub x y).size = x.size := size_vmap2 _ _ _

theorem vget_vsub [Sub α] (x y : Vec α) {i : Nat} (hi : i < x.size) : vget (vsub x y) i = vget x i - vget y i :=
  vget_vmap2 _ _ _ hi

/-- `vscale`, `vdivs`, `vneg` are `Array.map`; out of range both sides read `zero` only if `g zero = zero` -/
theorem vget_map (g : α → α) (x : Vec α) {i : Nat} (hi : i < x.size) : vget (x.map g) i = g (vget x i) := by
  unfold vget
  rw [Array.getD_eq_getD_getElem?, Array.getD_eq_getD_getElem?, Array.getElem?_map, Array.getElem?_eq_getElem hi]
  rfl

theorem vget_push_lt (v : Vec α) (x : α) {i : Nat} (hi : i < v.size) : vget (v.push x) i = vget v i := by
  unfold vget
  rw [Array.getD_eq_getD_getElem?, Array.getD_eq_getD_getElem?, Array.getElem?_push, if_neg (by omega)]

theorem vget_push_eq (v : Vec α) (x : α) : vget (v.push x) v.size = x := by
  unfold vget
  rw [Array.getD_eq_getD_getElem?, Array.getElem?_push, if_pos rfl, Option.getD_some]

/-- vectors of one size with the same entries are equal -/
theorem vext {a b : Vec α} (hs : a.size = b.size) (h : ∀ i, i < a.size → vget a i = vget b i) : a = b := by
  apply Array.ext hs
  intro i h1 h2
  have := h i h1
  unfold vget at this
  rwa [Array.getD_eq_getD_getElem?, Array.getD_eq_getD_getElem?, Array.getElem?_eq_getElem h1, Array.getElem?_eq_getElem h2,
    Option.getD_some, Option.getD_some] at this

end vec

/-! ### matrices -/

def WF (m : Mat α) : Prop := m.d.size = m.rows * m.cols

@[simp] theorem set_rows (m : Mat α) (i j : Nat) (x : α) : (m.set i j x).rows = m.rows := by
  unfold Mat.set; split <;> rfl

@[simp] theorem set_cols (m : Mat α) (i j : Nat) (x : α) : (m.set i j x).cols = m.cols := by
  unfold Mat.set; split <;> rfl

theorem set_WF {m : Mat α} (hw : WF m) (i j : Nat) (x : α) : WF (m.set i j x) := by
  unfold WF at hw ⊢
  unfold Mat.set; split
  · simpa [Array.size_setIfInBounds] using hw
  · exact hw

theorem set_oob (m : Mat α) (i j : Nat) (x : α) (h : ¬ (i < m.rows ∧ j < m.cols)) : m.set i j x = m := by
  unfold Mat.set; rw [if_neg h]

@[simp] theorem ofFn_rows (r c : Nat) (f : Nat → Nat → α) : (Mat.ofFn r c f).rows = r := rfl
@[simp] theorem ofFn_cols (r c : Nat) (f : Nat → Nat → α) : (Mat.ofFn r c f).cols = c := rfl

theorem ofFn_WF (r c : Nat) (f : Nat → Nat → α) : WF (Mat.ofFn r c f) := Array.size_ofFn

theorem ofFn_congr {r c : Nat} {f g : Nat → Nat → α} (h : ∀ i j, i < r → j < c → f i j = g i j) :
    Mat.ofFn r c f = Mat.ofFn r c g := by
  unfold Mat.ofFn
  refine congrArg _ (congrArg _ (funext fun k => ?_))
  obtain ⟨h1, h2, _⟩ := idx_split k.isLt
  exact h _ _ h1 h2

section mat
variable [Sc α]

/-- the bound `j' < m.cols` of the entry read is not needed -/
theorem get_set {m : Mat α} (hw : WF m) {i j i' j' : Nat} (x : α)
    (hi : i < m.rows) (hj : j < m.cols) (hi' : i' < m.rows) :
    (m.set i j x).get i' j' = if i' = i ∧ j' = j then x else m.get i' j' := by
  have hk : i + j * m.rows < m.d.size := by rw [hw]; exact idx_lt hi hj
  unfold Mat.set
  rw [if_pos ⟨hi, hj⟩]
  unfold Mat.get
  simp only []
  rw [getD_set]
  by_cases h : i' = i ∧ j' = j
  · obtain ⟨rfl, rfl⟩ := h
    rw [if_pos ⟨rfl, hk⟩, if_pos ⟨rfl, rfl⟩]
  · rw [if_neg (fun e => h (idx_inj hi' hi e.1)), if_neg h]

/-- `get_set` for callers that know the shape as `m.rows = r`, `m.cols = c` -/
theorem get_set_of {m : Mat α} (hw : WF m) {r c : Nat} (hr : m.rows = r) (hc : m.cols = c) {i j i' j' : Nat} (x : α)
    (hi : i < r) (hj : j < c) (hi' : i' < r) :
    (m.set i j x).get i' j' = if i' = i ∧ j' = j then x else m.get i' j' :=
  get_set hw x (hr ▸ hi) (hc ▸ hj) (hr ▸ hi')

/-- a column index past the end reads `zero`, whatever the row index -/
theorem get_of_ge {m : Mat α} (hw : WF m) (i : Nat) {j : Nat} (hj : m.cols ≤ j) : m.get i j = zero := by
  unfold Mat.get
  refine getD_of_ge _ _ ?_
  rw [hw, Nat.mul_comm]
  exact Nat.le_trans (Nat.mul_le_mul_right _ hj) (Nat.le_add_left _ _)

theorem get_set_self {m : Mat α} (hw : WF m) {i j : Nat} (x : α) (hi : i < m.rows) (hj : j < m.cols) :
    (m.set i j x).get i j = x := by
  rw [get_set hw x hi hj hi, if_pos ⟨rfl, rfl⟩]

theorem get_ofFn (r c : Nat) (f : Nat → Nat → α) {i j : Nat} (hi : i < r) (hj : j < c) :
    (Mat.ofFn r c f).get i j = f i j := by
  unfold Mat.get Mat.ofFn
  simp only []
  rw [getD_ofFn _ _ (idx_lt hi hj)]
  simp only []
  rw [idx_mod j hi, idx_div j hi]

@[simp] theorem zeros_rows (r c : Nat) : (Mat.zeros r c : Mat α).rows = r := rfl
@[simp] theorem zeros_cols (r c : Nat) : (Mat.zeros r c : Mat α).cols = c := rfl

theorem zeros_WF (r c : Nat) : WF (Mat.zeros r c : Mat α) := Array.size_replicate

/-- every entry of `zeros` (in or out of range) is `zero` -/
theorem get_zeros (r c i j : Nat) : (Mat.zeros r c : Mat α).get i j = zero := by
  unfold Mat.get Mat.zeros
  simp only []
  rw [Array.getD_eq_getD_getElem?, Array.getElem?_replicate]
  split <;> rfl

/-- extensionality: two well-formed matrices of the same shape with the same in-range entries are equal -/
theorem ext_get {m1 m2 : Mat α} (h1 : WF m1) (h2 : WF m2) (hr : m1.rows = m2.rows) (hc : m1.cols = m2.cols)
    (h : ∀ a b, a < m1.rows → b < m1.cols → m1.get a b = m2.get a b) : m1 = m2 := by
  obtain ⟨r1, c1, d1⟩ := m1
  obtain ⟨r2, c2, d2⟩ := m2
  simp only at hr hc
  subst hr; subst hc
  unfold WF at h1 h2
  simp only at h1 h2
  have hd : d1 = d2 := by
    apply Array.ext
    · rw [h1, h2]
    · intro k hk1 hk2
      obtain ⟨hmod, hdiv, hkk⟩ := idx_split (h1 ▸ hk1 : k < r1 * c1)
      have := h (k % r1) (k / r1) hmod hdiv
      unfold Mat.get at this
      simp only [hkk] at this
      rw [Array.getD_eq_getD_getElem?, Array.getD_eq_getD_getElem?] at this
      simpa [hk1, hk2] using this
  rw [hd]

theorem identity_WF (n : Nat) : WF (Mat.identity n : Mat α) := ofFn_WF _ _ _

theorem get_identity (n : Nat) {i j : Nat} (hi : i < n) (hj : j < n) :
    (Mat.identity n : Mat α).get i j = if i = j then one else zero := get_ofFn n n _ hi hj

theorem size_col (m : Mat α) (j : Nat) : (m.col j).size = m.rows := size_vofFn _ _

theorem vget_col (m : Mat α) (j : Nat) {i : Nat} (hi : i < m.rows) : vget (m.col j) i = m.get i j := vget_vofFn _ _ hi

theorem size_row (m : Mat α) (i : Nat) : (m.row i).size = m.cols := size_vofFn _ _

theorem vget_row (m : Mat α) (i : Nat) {j : Nat} (hj : j < m.cols) : vget (m.row i) j = m.get i j := vget_vofFn _ _ hj

theorem get_transpose (m : Mat α) {i j : Nat} (hi : i < m.cols) (hj : j < m.rows) : m.transpose.get i j = m.get j i :=
  get_ofFn _ _ _ hi hj

/-- a loop of `set`s along a list of rows of one column -/
theorem setRows_spec (j : Nat) (g : Nat → α) (l : List Nat) : ∀ {m : Mat α}, WF m → j < m.cols → (∀ a ∈ l, a < m.rows) →
    WF (l.foldl (fun acc i => acc.set i j (g i)) m) ∧
    (l.foldl (fun acc i => acc.set i j (g i)) m).rows = m.rows ∧
    (l.foldl (fun acc i => acc.set i j (g i)) m).cols = m.cols ∧
    ∀ r c, r < m.rows →
      (l.foldl (fun acc i => acc.set i j (g i)) m).get r c = if c = j ∧ r ∈ l then g r else m.get r c := by
  induction l with
  | nil => intro m hw _ _; exact ⟨hw, rfl, rfl, fun r c _ => by simp⟩
  | cons a l ih =>
    intro m hw hj hl
    have ha : a < m.rows := hl a List.mem_cons_self
    obtain ⟨w1, w2, w3, w4⟩ := ih (set_WF hw a j (g a)) (by rw [set_cols]; exact hj)
      (fun b hb => by rw [set_rows]; exact hl b (List.mem_cons_of_mem _ hb))
    rw [set_rows] at w2 w4
    rw [set_cols] at w3
    refine ⟨w1, w2, w3, fun r c hr => ?_⟩
    rw [List.foldl_cons, w4 r c hr, get_set hw _ ha hj hr]
    by_cases h3 : r = a
    · subst h3; by_cases h1 : c = j <;> simp [h1]
    · simp [h3]

theorem setCol_spec {m : Mat α} (hw : WF m) {j : Nat} (hj : j < m.cols) (v : Vec α) :
    WF (m.setCol j v) ∧ (m.setCol j v).rows = m.rows ∧ (m.setCol j v).cols = m.cols ∧
    ∀ r c, r < m.rows → (m.setCol j v).get r c = if c = j then vget v r else m.get r c := by
  obtain ⟨w1, w2, w3, w4⟩ := setRows_spec j (vget v) (List.range m.rows) hw hj (fun a ha => List.mem_range.mp ha)
  refine ⟨w1, w2, w3, fun r c hr => ?_⟩
  unfold Mat.setCol
  rw [w4 r c hr]
  simp [List.mem_range, hr]

theorem size_mulVecK [Add α] [Mul α] (m : Mat α) (k : Nat) (x : Vec α) : (m.mulVecK k x).size = m.rows :=
  size_vofFn _ _

theorem vget_mulVecK [Add α] [Mul α] (m : Mat α) (k : Nat) (x : Vec α) {i : Nat} (hi : i < m.rows) :
    vget (m.mulVecK k x) i = sumFrom0 k (fun j => m.get i j * vget x j) := vget_vofFn _ _ hi

theorem size_tmulVecK [Add α] [Mul α] (m : Mat α) (k : Nat) (x : Vec α) : (m.tmulVecK k x).size = k :=
  size_vofFn _ _

theorem vget_tmulVecK [Add α] [Mul α] (m : Mat α) (k : Nat) (x : Vec α) {j : Nat} (hj : j < k) :
    vget (m.tmulVecK k x) j = sumFrom0 m.rows (fun i => m.get i j * vget x i) := vget_vofFn _ _ hj

theorem get_mul [Add α] [Mul α] (a b : Mat α) {i j : Nat} (hi : i < a.rows) (hj : j < b.cols) :
    (a.mul b).get i j = sumFrom0 a.cols (fun k => a.get i k * b.get k j) := get_ofFn _ _ _ hi hj

end mat

end C08Mat
