/-
  C08 — refinement of the array model `QRModel.UpperHessenbergQR` (Model/HessQR.lean, the statement-by-statement model of
  `Spectra::UpperHessenbergQR`) to Mathlib `Matrix` algebra, at the exact-arithmetic instance `scOfField F`.  The rotation
  matrices, the relation `IsM` between arrays and matrices and the four `apply_*` loops are in `C08Rot`, for any scalar.

  * `toM r c A` reads an `r × c` Mathlib matrix off the column-major array `A`; `Gm n c s k` is the plane rotation
    `[c s; -s c]` embedded at rows/columns `k, k+1`; `Qm n cs sn k = G₀ G₁ ⋯ G_{k-1}`; `Qof q = Qm q.n q.cos q.sin (q.n - 1)`.
  * M1: one `rowsPair` / `colsPair` sweep is a multiplication by `Gₖ` / `Gₖᵀ` from the left / right.
  * M3: `apply_QtY`, `apply_QY`, `apply_YQ`, `apply_YQt` (matrix and vector overloads) multiply by exactly `Qᵀ` / `Q` from the
    stated side, for EVERY stored rotation sequence (no hypothesis on `cos`/`sin`).
  * M4 (`hqr_matrix`): for the computed decomposition with ideal rotations, `QᵀQ = QQᵀ = 1`, `Q R = H - σ I`, `R` upper
    triangular, `matrix_QtHQ = R Q + σ I = Qᵀ H Q`, `matrix_QtHQ` upper Hessenberg.
-/
import SpectraVerif.Proofs.C08Hess

namespace C08HessMatrix
open Lin QRModel C08Mat C08Hess C08Rot
open QRModel.UpperHessenbergQR
open Matrix

section Generic
variable {α : Type} [Field α] [Sc α]

/-- a one-column array that holds `M * (the column of y)` holds the vector `M y` -/
theorem mulVec_of_colMat {n : Nat} {M : Matrix (Fin n) (Fin n) α} {y : Vec α} {Y' : Mat α}
    (h : IsM Y' (M * toMg n 1 (colMat n y))) (i : Fin n) :
    Y'.get i.val 0 = M.mulVec (fun i : Fin n => vget y i.val) i := by
  show toMg n 1 Y' i 0 = _
  rw [h.eq, Matrix.mul_apply]
  exact Finset.sum_congr rfl fun l _ => congrArg (M i l * ·) (get_ofFn n 1 _ l.isLt Nat.one_pos)

end Generic

/-! ### instantiation at the exact-arithmetic scalar instance `scOfField F` -/

section AtField
variable {K : Type} [Field K] [LinearOrder K] [IsStrictOrderedRing K] (F : FieldFns K)

/-- the `r × c` Mathlib matrix read off the array `A` (entries `A(i,j)`, `i < r`, `j < c`) -/
def toM (r c : Nat) (A : Mat K) : Matrix (Fin r) (Fin c) K := fun i j => mget F A i.val j.val

/-- `G₀ G₁ ⋯ G_{k-1}`, `Gᵢ = Gm n (cs[i]) (sn[i]) i` -/
def Qm (n : Nat) (cs sn : Vec K) (k : Nat) : Matrix (Fin n) (Fin n) K := @Qmg K _ (scOfField F) n cs sn k

/-- the orthogonal factor of the decomposition `q` -/
def Qof (q : UpperHessenbergQR K) : Matrix (Fin q.n) (Fin q.n) K := Qm F q.n q.cos q.sin (q.n - 1)

theorem toM_apply (r c : Nat) (A : Mat K) (i : Fin r) (j : Fin c) : toM F r c A i j = mget F A i.val j.val := rfl
theorem toM_eq (r c : Nat) (A : Mat K) : toM F r c A = @toMg K (scOfField F) r c A := rfl
theorem Qm_zero (n : Nat) (cs sn : Vec K) : Qm F n cs sn 0 = 1 := rfl
theorem Qm_succ (n : Nat) (cs sn : Vec K) (k : Nat) :
    Qm F n cs sn (k + 1) = Qm F n cs sn k * Gm n (vgt F cs k) (vgt F sn k) k := rfl
theorem Qof_eq (q : UpperHessenbergQR K) : Qof F q = @Qofg K _ (scOfField F) q := rfl

abbrev YQtm (q : UpperHessenbergQR K) (Y : Mat K) : Mat K := @apply_YQt K _ _ _ (scOfField F) q Y
abbrev rowsP (f : K → K → K × K) (Y : Mat K) (i j0 cnt : Nat) : Mat K := @rowsPair K (scOfField F) f Y i j0 cnt
abbrev colsP (f : K → K → K × K) (Y : Mat K) (i cnt : Nat) : Mat K := @colsPair K (scOfField F) f Y i cnt

/-! #### M1 -/

theorem rowsPair_rotT_toM {n m : Nat} (c s : K) {Y : Mat K} (hw : WF Y) (hr : Y.rows = n) (hc : Y.cols = m)
    {k : Nat} (hk : k + 1 < n) :
    toM F n m (rowsP F (rotT c s) Y k 0 m) = (Gm n c s k)ᵀ * toM F n m Y :=
  letI := scOfField F
  hc ▸ ((IsM.of hw hr rfl).rowsPair_rotT (Gm_isRot n c s k) hk).eq

theorem rowsPair_rotG_toM {n m : Nat} (c s : K) {Y : Mat K} (hw : WF Y) (hr : Y.rows = n) (hc : Y.cols = m)
    {k : Nat} (hk : k + 1 < n) :
    toM F n m (rowsP F (rotG c s) Y k 0 m) = Gm n c s k * toM F n m Y :=
  letI := scOfField F
  hc ▸ ((IsM.of hw hr rfl).rowsPair_rotG (Gm_isRot n c s k) hk).eq

theorem colsPair_rotT_toM {n m : Nat} (c s : K) {Y : Mat K} (hw : WF Y) (hr : Y.rows = m) (hc : Y.cols = n)
    {k : Nat} (hk : k + 1 < n) :
    toM F m n (colsP F (rotT c s) Y k m) = toM F m n Y * Gm n c s k :=
  letI := scOfField F
  hr ▸ ((IsM.of hw rfl hc).colsPair_rotT (Gm_isRot n c s k) hk).eq

theorem colsPair_rotG_toM {n m : Nat} (c s : K) {Y : Mat K} (hw : WF Y) (hr : Y.rows = m) (hc : Y.cols = n)
    {k : Nat} (hk : k + 1 < n) :
    toM F m n (colsP F (rotG c s) Y k m) = toM F m n Y * (Gm n c s k)ᵀ :=
  letI := scOfField F
  hr ▸ ((IsM.of hw rfl hc).colsPair_rotG (Gm_isRot n c s k) hk).eq

/-! #### M3 -/

theorem apply_QtY_mat_toM (q : UpperHessenbergQR K) {m : Nat} {Y : Mat K} (hw : WF Y) (hr : Y.rows = q.n) (hc : Y.cols = m) :
    toM F q.n m (QtYm F q Y) = (Qof F q)ᵀ * toM F q.n m Y :=
  letI := scOfField F
  ((IsM.of hw hr hc).qtk q.cos q.sin (q.n - 1) (Nat.le_refl _)).eq

theorem apply_QY_mat_toM (q : UpperHessenbergQR K) {m : Nat} {Y : Mat K} (hw : WF Y) (hr : Y.rows = q.n) (hc : Y.cols = m) :
    toM F q.n m (QYm F q Y) = Qof F q * toM F q.n m Y :=
  letI := scOfField F
  ((IsM.of hw hr hc).qk q.cos q.sin (q.n - 1) (Nat.le_refl _)).eq

theorem apply_YQ_toM (q : UpperHessenbergQR K) {m : Nat} {Y : Mat K} (hw : WF Y) (hr : Y.rows = m) (hc : Y.cols = q.n) :
    toM F m q.n (YQm F q Y) = toM F m q.n Y * Qof F q :=
  letI := scOfField F
  ((IsM.of hw hr hc).yqk q.cos q.sin (q.n - 1) (Nat.le_refl _)).eq

theorem apply_YQt_toM (q : UpperHessenbergQR K) {m : Nat} {Y : Mat K} (hw : WF Y) (hr : Y.rows = m) (hc : Y.cols = q.n) :
    toM F m q.n (YQtm F q Y) = toM F m q.n Y * (Qof F q)ᵀ :=
  letI := scOfField F
  ((IsM.of hw hr hc).yqtk q.cos q.sin (q.n - 1) (Nat.le_refl _)).eq

theorem apply_QY_vec (q : UpperHessenbergQR K) (y : Vec K) (hy : y.size = q.n) :
    (fun i : Fin q.n => vgt F (QYv F q y) i.val) = (Qof F q).mulVec (fun i : Fin q.n => vgt F y i.val) :=
  letI := scOfField F
  funext fun i => ((apply_vec_gen q y hy).1.2 i.val i.isLt).trans
    (mulVec_of_colMat ((corr_colMat q.n y hy).1.isM.qk q.cos q.sin (q.n - 1) (Nat.le_refl _)) i)

theorem apply_QtY_vec (q : UpperHessenbergQR K) (y : Vec K) (hy : y.size = q.n) :
    (fun i : Fin q.n => vgt F (QtYv F q y) i.val) = (Qof F q)ᵀ.mulVec (fun i : Fin q.n => vgt F y i.val) :=
  letI := scOfField F
  funext fun i => ((apply_vec_gen q y hy).2.2 i.val i.isLt).trans
    (mulVec_of_colMat ((corr_colMat q.n y hy).1.isM.qtk q.cos q.sin (q.n - 1) (Nat.le_refl _)) i)

/-- orthogonality of `Q` from the unit-circle property of the stored pairs -/
theorem Qof_orth (q : UpperHessenbergQR K)
    (horth : ∀ i, i < q.n - 1 → vgt F q.cos i * vgt F q.cos i + vgt F q.sin i * vgt F q.sin i = 1) :
    (Qof F q)ᵀ * Qof F q = 1 ∧ Qof F q * (Qof F q)ᵀ = 1 :=
  @Qmg_orth K _ (scOfField F) q.n q.cos q.sin (q.n - 1) (Nat.le_refl _) horth

/-! #### M4: the computed decomposition in `Matrix` language -/

/-- the upper Hessenberg part of the input (entries below the subdiagonal are ignored by the class) -/
abbrev Hup (mat : Mat K) : Mat K :=
  Mat.ofFn mat.rows mat.rows (fun i j => if i ≤ j + 1 then mget F mat i j else 0)

theorem hqr_n (mat : Mat K) (shift : K) : (hqr F mat shift).n = mat.rows := rfl

theorem Hsh_get (mat : Mat K) (shift : K) (i j : Nat) (hi : i < mat.rows) (hj : j < mat.rows) :
    mget F (Hsh F mat shift) i j = if i ≤ j + 1 then mget F mat i j - (if i = j then shift else 0) else 0 :=
  @get_ofFn K (scOfField F) _ _ _ _ _ hi hj

theorem Hup_get (mat : Mat K) (i j : Nat) (hi : i < mat.rows) (hj : j < mat.rows) :
    mget F (Hup F mat) i j = if i ≤ j + 1 then mget F mat i j else 0 :=
  @get_ofFn K (scOfField F) _ _ _ _ _ hi hj

/-- `Hsh = Hup - σ I` -/
theorem toM_Hsh (mat : Mat K) (shift : K) (n : Nat) (hn : n = mat.rows) :
    toM F n n (Hsh F mat shift) = toM F n n (Hup F mat) - shift • (1 : Matrix (Fin n) (Fin n) K) := by
  subst hn
  ext i j
  rw [Matrix.sub_apply, smul_one_apply, toM_apply, toM_apply,
    Hsh_get F mat shift i.val j.val i.isLt j.isLt, Hup_get F mat i.val j.val i.isLt j.isLt]
  by_cases h1 : i.val ≤ j.val + 1
  · rw [if_pos h1, if_pos h1]
  · rw [if_neg h1, if_neg h1, if_neg (by omega), sub_zero]

/-! The parts of M4 for `q = hqr F mat shift` (all matrices indexed by `Fin q.n`; `q.n = mat.rows`). -/

/-- (a) `Q` is orthogonal -/
theorem hqr_Q_orth (hsqrt : ∀ x : K, 0 ≤ x → F.sqrt x * F.sqrt x = x ∧ 0 ≤ F.sqrt x) (hcut : C08Givens.cutoff F ≤ 0)
    (mat : Mat K) (shift : K)
    (q : UpperHessenbergQR K) (hq : q = hqr F mat shift) :
    (Qof F q)ᵀ * Qof F q = 1 ∧ Qof F q * (Qof F q)ᵀ = 1 := by
  subst hq
  exact Qof_orth F (hqr F mat shift) (fun i hi => @rot_orth_gen K _ (scOfField F) (ideal_of F hsqrt hcut) mat shift i hi)

/-- (b) `Q R = H - σ I` -/
theorem hqr_QR_matrix (hsqrt : ∀ x : K, 0 ≤ x → F.sqrt x * F.sqrt x = x ∧ 0 ≤ F.sqrt x) (hcut : C08Givens.cutoff F ≤ 0)
    (mat : Mat K) (shift : K)
    (q : UpperHessenbergQR K) (hq : q = hqr F mat shift) :
    Qof F q * toM F q.n q.n q.R = toM F q.n q.n (Hup F mat) - shift • (1 : Matrix (Fin q.n) (Fin q.n) K) := by
  subst hq
  obtain ⟨_, h2, h3, h4, _, _⟩ := @sizes_gen K _ (scOfField F) mat shift
  have h := apply_QY_mat_toM F (hqr F mat shift) (m := (hqr F mat shift).n) h4 h2 h3
  have e : QYm F (hqr F mat shift) (hqr F mat shift).R = Hsh F mat shift :=
    @QR_gen K _ (scOfField F) (zero_eq F) (ideal_of F hsqrt hcut) mat shift
  rw [e] at h
  rw [← toM_Hsh F mat shift (hqr F mat shift).n rfl]
  exact h.symm

/-- (d) `matrix_QtHQ = R Q + σ I` (no hypothesis on the rotations) -/
theorem hqr_RQ_matrix (mat : Mat K) (shift : K)
    (q : UpperHessenbergQR K) (hq : q = hqr F mat shift) :
    toM F q.n q.n (QtHQ F q) = toM F q.n q.n q.R * Qof F q + shift • (1 : Matrix (Fin q.n) (Fin q.n) K) := by
  subst hq
  obtain ⟨_, h2, h3, h4, _, _⟩ := @sizes_gen K _ (scOfField F) mat shift
  have h := apply_YQ_toM F (hqr F mat shift) (m := (hqr F mat shift).n) h4 h2 h3
  ext i j
  rw [Matrix.add_apply, smul_one_apply, ← h, toM_apply, toM_apply]
  exact @rq_compute K _ (scOfField F) (zero_eq F) mat shift i.val j.val i.isLt j.isLt

/-- (d') `matrix_QtHQ = Qᵀ H Q` -/
theorem hqr_QtHQ_matrix (hsqrt : ∀ x : K, 0 ≤ x → F.sqrt x * F.sqrt x = x ∧ 0 ≤ F.sqrt x) (hcut : C08Givens.cutoff F ≤ 0)
    (mat : Mat K) (shift : K)
    (q : UpperHessenbergQR K) (hq : q = hqr F mat shift) :
    toM F q.n q.n (QtHQ F q) = (Qof F q)ᵀ * toM F q.n q.n (Hup F mat) * Qof F q := by
  rw [hqr_RQ_matrix F mat shift q hq]
  exact (similarity_of_QR (Qof F q) _ _ shift (hqr_Q_orth F hsqrt hcut mat shift q hq).1
    (hqr_QR_matrix F hsqrt hcut mat shift q hq)).symm

/-- M4: the computed decomposition, in `Matrix` language (`n = mat.rows`) -/
theorem hqr_matrix (hsqrt : ∀ x : K, 0 ≤ x → F.sqrt x * F.sqrt x = x ∧ 0 ≤ F.sqrt x) (hcut : C08Givens.cutoff F ≤ 0)
    (mat : Mat K) (shift : K) :
    let n := mat.rows
    let Q : Matrix (Fin n) (Fin n) K := Qof F (hqr F mat shift)
    let R : Matrix (Fin n) (Fin n) K := toM F n n (hqr F mat shift).R
    let Hm : Matrix (Fin n) (Fin n) K := toM F n n (Mat.ofFn n n (fun i j => if i ≤ j + 1 then mget F mat i j else 0))
    let T : Matrix (Fin n) (Fin n) K := toM F n n (QtHQ F (hqr F mat shift))
    (Qᵀ * Q = 1 ∧ Q * Qᵀ = 1) ∧
    Q * R = Hm - shift • (1 : Matrix (Fin n) (Fin n) K) ∧
    (∀ i j : Fin n, j < i → R i j = 0) ∧
    T = R * Q + shift • (1 : Matrix (Fin n) (Fin n) K) ∧
    T = Qᵀ * Hm * Q ∧
    (∀ i j : Fin n, j.val + 1 < i.val → T i j = 0) := by
  intro n Q R Hm T
  exact ⟨hqr_Q_orth F hsqrt hcut mat shift _ rfl, hqr_QR_matrix F hsqrt hcut mat shift _ rfl,
    fun i j h => @R_upper_gen K _ (scOfField F) (zero_eq F) mat shift i.val j.val i.isLt j.isLt h, hqr_RQ_matrix F mat shift _ rfl,
    hqr_QtHQ_matrix F hsqrt hcut mat shift _ rfl,
    fun i j h => @qthq_gen K _ (scOfField F) (zero_eq F) mat shift i.val j.val i.isLt j.isLt h⟩

end AtField
end C08HessMatrix
