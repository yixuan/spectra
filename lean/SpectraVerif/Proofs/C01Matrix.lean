/-
  Matrix-level lemmas for C01 (helper file of Properties/C01.lean).

  Norms are handled as SQUARED Euclidean norms `nsq v = v ⬝ᵥ v`, so that everything stays inside a linearly ordered field
  (float, double and long double are all covered by "any ordered field"); a `Real.sqrt` form is derived in Properties/C01.lean.
-/
import Mathlib.Data.Matrix.Mul
import Mathlib.Algebra.Order.Field.Basic
import Mathlib.Algebra.Order.BigOperators.Ring.Finset
import Mathlib.Tactic.Ring

set_option linter.unusedSectionVars false

open Matrix

namespace C01M

section ordered
variable {n m : Type} [Fintype n] [Fintype m] {F : Type} [Field F] [LinearOrder F] [IsStrictOrderedRing F]

/-- squared Euclidean norm -/
def nsq (v : n → F) : F := v ⬝ᵥ v

theorem nsq_nonneg (v : n → F) : 0 ≤ nsq v := by
  unfold nsq dotProduct
  exact Finset.sum_nonneg (fun i _ => mul_self_nonneg (v i))

theorem nsq_smul (c : F) (v : n → F) : nsq (c • v) = c ^ 2 * nsq v := by
  unfold nsq
  rw [smul_dotProduct, dotProduct_smul, smul_eq_mul, smul_eq_mul]; ring

theorem nsq_neg (v : n → F) : nsq (-v) = nsq v := by
  unfold nsq; rw [neg_dotProduct, dotProduct_neg, neg_neg]

/-- the scalar step: the code's test `|c| * β < b` with `β = ‖f‖` (given as `0 ≤ β`, `β² = ‖f‖²`) bounds `c² ‖f‖²` by `b²` -/
theorem sq_bound (c β N b : F) (hβ : 0 ≤ β) (hN : β * β = N) (h : |c| * β < b) : c ^ 2 * N < b ^ 2 := by
  have h2 : c ^ 2 * N = (|c| * β) ^ 2 := by rw [mul_pow, sq_abs, ← hN, sq β]
  rw [h2]
  exact pow_lt_pow_left₀ h (mul_nonneg (abs_nonneg c) hβ) two_ne_zero

/-- `(V y) · (V z) = y · z` for `VᵀV = I` -/
theorem dot_mulVec_of_orth (V : Matrix n m F) [DecidableEq m] (hV : Vᵀ * V = 1) (y z : m → F) :
    (V *ᵥ y) ⬝ᵥ (V *ᵥ z) = y ⬝ᵥ z := by
  rw [dotProduct_mulVec, ← mulVec_transpose, mulVec_mulVec, hV, one_mulVec]

end ordered

end C01M
