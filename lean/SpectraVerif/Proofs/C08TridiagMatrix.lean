/-
  C08 (TridiagQR part, `Matrix` language) -- exact-arithmetic correctness of the array model `QRModel.TridiagQR`
  (Model/TridiagQR.lean, mirror of `Spectra::TridiagQR`) stated with Mathlib matrices.

  Notation: `q = tqr F mat shift` the computed object, `n = mat.rows`, `Q = TQ F q = G₀ G₁ ⋯ G_{n-2}` the product of the stored
  rotations (`= Qof F (toHess q)`), `R = toM (matrix_R q)`, `Tm = toM (symTri n d e)` the symmetric tridiagonal matrix of
  the stored diagonal `d = q.T_diag` and (deflated) subdiagonal `e = q.T_subd`, `σ = shift`.

  * TM1 `tqr_apply_*`, `tqr_apply_matrix`: the six inherited `apply_*` methods multiply by `Q` / `Qᵀ` from the stated side, for
    EVERY `q : TridiagQR K` (no hypothesis on the stored rotations).
  * TM2 `tqr_Q_orth`, `tqr_QR_matrix`, `tqr_R_band_matrix`: `QᵀQ = QQᵀ = 1`, `Q R = Tm - σ I`, `R` upper triangular with upper
    bandwidth 2.
  * `RQ_hessenberg`, `RQ_subdiag`, `RQ_diag`, `RQ_diag_last`: for every upper triangular `R` and every rotation sequence,
    `R Q` is upper Hessenberg and its subdiagonal / diagonal entries are given by closed formulas.
  * TM3 `tqr_QtHQ_raw_matrix`: the symmetric tridiagonal matrix formed by the rotation loop of `matrix_QtHQ` (before the final
    deflation pass) IS `Qᵀ Tm Q`.
  * TM4 `tqr_QtHQ_matrix`: `matrix_QtHQ` is `Qᵀ Tm Q` with exactly the negligible sub/superdiagonal entries replaced by `0`.
  * TM5 `tqr_matrix`: the package.
-/
import SpectraVerif.Proofs.C08HessMatrix
import SpectraVerif.Proofs.C08TridiagQ

namespace C08TridiagMatrix
open Lin QRModel C08Mat C08Hess C08HessMatrix
open Matrix

section AtField
variable {K : Type} [Field K] [LinearOrder K] [IsStrictOrderedRing K] (F : FieldFns K)

/-! ### notation -/

/-- `TridiagQR::compute(mat, shift)` at the exact-arithmetic instance -/
abbrev tqr (mat : Mat K) (shift : K) : TridiagQR K := @TridiagQR.compute K _ _ _ _ _ (scOfField F) mat shift

/-- the base-class view read by the inherited `apply_*` methods -/
abbrev hessOf (q : TridiagQR K) : UpperHessenbergQR K := @TridiagQR.toHess K (scOfField F) q

/-- `matrix_R` -/
abbrev Rmat (q : TridiagQR K) : Mat K := @TridiagQR.matrix_R K (scOfField F) q

/-- `matrix_QtHQ` -/
abbrev TQtHQ (q : TridiagQR K) : Mat K := @TridiagQR.matrix_QtHQ K _ _ _ _ (scOfField F) q

/-- the orthogonal factor `Q = G₀ ⋯ G_{n-2}` of `q`, indexed by `Fin q.n` (`= Qof F (toHess q)`) -/
def TQ (q : TridiagQR K) : Matrix (Fin q.n) (Fin q.n) K := Qof F (hessOf F q)

theorem TQ_eq (q : TridiagQR K) : TQ F q = Qof F (hessOf F q) := rfl
theorem TQ_eq_Qm (q : TridiagQR K) : TQ F q = Qm F q.n q.cos q.sin (q.n - 1) := rfl

/-- the symmetric tridiagonal `n × n` matrix with diagonal `d` and sub/superdiagonal `e` -/
abbrev symTri (n : Nat) (d e : Vec K) : Mat K :=
  Mat.ofFn n n (fun i j => if i = j then vgt F d i else if i = j + 1 then vgt F e j else if j = i + 1 then vgt F e i else 0)

theorem symTri_get (n : Nat) (d e : Vec K) (i j : Nat) (hi : i < n) (hj : j < n) :
    mget F (symTri F n d e) i j =
      if i = j then vgt F d i else if i = j + 1 then vgt F e j else if j = i + 1 then vgt F e i else 0 :=
  @get_ofFn K (scOfField F) _ _ _ _ _ hi hj

/-- the test of the deflation passes at position `m` of the pair (diagonal `D`, subdiagonal `E`) -/
abbrev negl (D E : Vec K) (m : Nat) : Prop := |vgt F E m| ≤ F.eps * (|vgt F D m| + |vgt F D (m + 1)|)

/-- the symmetric tridiagonal matrix with the bands `(D, E)` that the rotation loop of `matrix_QtHQ` produces -/
abbrev rawMat (q : TridiagQR K) : Mat K :=
  @TridiagQR.bandMat K (scOfField F) q.n (vgt F (C08Tridiag.qthqRaw F q).2) (vgt F (C08Tridiag.qthqRaw F q).1)
    (vgt F (C08Tridiag.qthqRaw F q).2) (fun _ => 0)

/-! ### TM1: the inherited `apply_*` methods, for every `q : TridiagQR K` -/

theorem tqr_apply_QY_mat (q : TridiagQR K) {m : Nat} {Y : Mat K} (hw : WF Y) (hr : Y.rows = q.n) (hc : Y.cols = m) :
    toM F q.n m (@TridiagQR.apply_QY_mat K _ _ _ (scOfField F) q Y) = TQ F q * toM F q.n m Y :=
  apply_QY_mat_toM F (hessOf F q) hw hr hc

theorem tqr_apply_YQ (q : TridiagQR K) {m : Nat} {Y : Mat K} (hw : WF Y) (hr : Y.rows = m) (hc : Y.cols = q.n) :
    toM F m q.n (@TridiagQR.apply_YQ K _ _ _ (scOfField F) q Y) = toM F m q.n Y * TQ F q :=
  apply_YQ_toM F (hessOf F q) hw hr hc

/-- TM1: the six `apply_*` methods of `TridiagQR` are multiplications by `Q = Qof F (toHess q)` or its transpose, for EVERY
    stored rotation sequence -/
theorem tqr_apply_matrix (q : TridiagQR K) :
    (∀ y : Vec K, y.size = q.n →
      (fun i : Fin q.n => vgt F (@TridiagQR.apply_QY K _ _ _ (scOfField F) q y) i.val) =
        (TQ F q).mulVec (fun i : Fin q.n => vgt F y i.val)) ∧
    (∀ y : Vec K, y.size = q.n →
      (fun i : Fin q.n => vgt F (@TridiagQR.apply_QtY K _ _ _ (scOfField F) q y) i.val) =
        (TQ F q)ᵀ.mulVec (fun i : Fin q.n => vgt F y i.val)) ∧
    (∀ (m : Nat) (Y : Mat K), WF Y → Y.rows = q.n → Y.cols = m →
      toM F q.n m (@TridiagQR.apply_QY_mat K _ _ _ (scOfField F) q Y) = TQ F q * toM F q.n m Y) ∧
    (∀ (m : Nat) (Y : Mat K), WF Y → Y.rows = q.n → Y.cols = m →
      toM F q.n m (@TridiagQR.apply_QtY_mat K _ _ _ (scOfField F) q Y) = (TQ F q)ᵀ * toM F q.n m Y) ∧
    (∀ (m : Nat) (Y : Mat K), WF Y → Y.rows = m → Y.cols = q.n →
      toM F m q.n (@TridiagQR.apply_YQ K _ _ _ (scOfField F) q Y) = toM F m q.n Y * TQ F q) ∧
    (∀ (m : Nat) (Y : Mat K), WF Y → Y.rows = m → Y.cols = q.n →
      toM F m q.n (@TridiagQR.apply_YQt K _ _ _ (scOfField F) q Y) = toM F m q.n Y * (TQ F q)ᵀ) :=
  ⟨fun y hy => apply_QY_vec F (hessOf F q) y hy, fun y hy => apply_QtY_vec F (hessOf F q) y hy,
    fun _ _ hw hr hc => tqr_apply_QY_mat F q hw hr hc, fun _ _ hw hr hc => apply_QtY_mat_toM F (hessOf F q) hw hr hc,
    fun _ _ hw hr hc => tqr_apply_YQ F q hw hr hc, fun _ _ hw hr hc => apply_YQt_toM F (hessOf F q) hw hr hc⟩

/-! ### TM2: `Q` orthogonal, `Q R = Tm - σ I`, `R` banded upper triangular -/

theorem tqr_n (mat : Mat K) (shift : K) : (tqr F mat shift).n = mat.rows := rfl
theorem tqr_shift (mat : Mat K) (shift : K) : (tqr F mat shift).shift = shift := rfl

/-- TM2 (a): `Q` is orthogonal -/
theorem tqr_Q_orth (hsqrt : ∀ x : K, 0 ≤ x → F.sqrt x * F.sqrt x = x ∧ 0 ≤ F.sqrt x) (hcut : C08Givens.cutoff F ≤ 0)
    (mat : Mat K) (shift : K) (q : TridiagQR K) (hq : q = tqr F mat shift) :
    (TQ F q)ᵀ * TQ F q = 1 ∧ TQ F q * (TQ F q)ᵀ = 1 := by
  subst hq
  exact Qof_orth F (hessOf F (tqr F mat shift))
    (fun i hi => (C08TridiagQ.linked_ideal F _ (C08TridiagQ.linked_compute F mat shift) (C08TridiagQ.idealF_of F hsqrt hcut) i
      (Nat.add_lt_of_lt_sub hi)).1)

/-- `T̃ - σ I` as a `Matrix` -/
theorem toM_Tshift (n : Nat) (d e : Vec K) (σ : K) :
    toM F n n (C08TridiagQ.Tshift F n d e σ) =
      toM F n n (symTri F n d e) - σ • (1 : Matrix (Fin n) (Fin n) K) := by
  ext i j
  have t1 : mget F (C08TridiagQ.Tshift F n d e σ) i.val j.val = _ :=
    C08TridiagQ.Tshift_get F n d e σ i.val j.val i.isLt j.isLt
  rw [Matrix.sub_apply, smul_one_apply, toM_apply, toM_apply, t1, symTri_get F n d e i.val j.val i.isLt j.isLt]
  by_cases h1 : i.val = j.val
  · rw [if_pos h1, if_pos h1, if_pos h1]
  · rw [if_neg h1, if_neg h1, if_neg h1, sub_zero]

/-- TM2 (b): `Q R = Tm - σ I` -/
theorem tqr_QR_matrix (hsqrt : ∀ x : K, 0 ≤ x → F.sqrt x * F.sqrt x = x ∧ 0 ≤ F.sqrt x) (hcut : C08Givens.cutoff F ≤ 0)
    (mat : Mat K) (shift : K) (q : TridiagQR K) (hq : q = tqr F mat shift) :
    TQ F q * toM F q.n q.n (Rmat F q) =
      toM F q.n q.n (symTri F q.n q.T_diag q.T_subd) - shift • (1 : Matrix (Fin q.n) (Fin q.n) K) := by
  have h := tqr_apply_QY_mat F q (m := q.n) (Y := Rmat F q) (ofFn_WF _ _ _) rfl rfl
  have e : @TridiagQR.apply_QY_mat K _ _ _ (scOfField F) q (Rmat F q) =
      C08TridiagQ.Tshift F q.n q.T_diag q.T_subd shift := by
    rw [hq]; exact C08TridiagQ.QR_linked_eq F _ (C08TridiagQ.linked_compute F mat shift) (C08TridiagQ.idealF_of F hsqrt hcut)
  rw [e, toM_Tshift] at h
  exact h.symm

/-- TM2 (c): `R` is upper triangular with upper bandwidth 2 (every `q`) -/
theorem tqr_R_band_matrix (q : TridiagQR K) (i j : Fin q.n) :
    (j < i → toM F q.n q.n (Rmat F q) i j = 0) ∧ (i.val + 2 < j.val → toM F q.n q.n (Rmat F q) i j = 0) :=
  C08Tridiag.matrix_R_band F q i.val j.val i.isLt j.isLt

/-! ### `R Q` for an upper triangular `R`: pure `Matrix` algebra over the rotation product -/

/-- the matrix with entries `f i j` -/
def ofNat (n : Nat) (f : Nat → Nat → K) : Matrix (Fin n) (Fin n) K := fun i j => f i.val j.val

theorem toM_eq_ofNat (n : Nat) (A : Mat K) : toM F n n A = ofNat n (mget F A) := rfl

/-- `c_{k-1}`, with `c_{-1} = 1` -/
def cprev (cs : Vec K) (k : Nat) : K := if k = 0 then 1 else vgt F cs (k - 1)

include F in
/-- right multiplication by `Gₖ` mixes the columns `k`, `k+1` only -/
theorem mul_Gm_apply {m n : Nat} (A : Matrix (Fin m) (Fin n) K) (c s : K) (k : Nat) (hk : k + 1 < n)
    (i : Fin m) (j : Fin n) :
    (A * Gm n c s k) i j =
      if j.val = k then c * A i ⟨k, by omega⟩ - s * A i ⟨k + 1, hk⟩
      else if j.val = k + 1 then s * A i ⟨k, by omega⟩ + c * A i ⟨k + 1, hk⟩ else A i j :=
  (Gm_isRot n c s k).mul_apply hk A i j

/-- `R (G₀ ⋯ G_{k-1})` -/
def RQk (n : Nat) (cs sn : Vec K) (f : Nat → Nat → K) (k : Nat) : Matrix (Fin n) (Fin n) K :=
  ofNat n f * Qm F n cs sn k

theorem RQk_succ (n : Nat) (cs sn : Vec K) (f : Nat → Nat → K) (k : Nat) :
    RQk F n cs sn f (k + 1) = RQk F n cs sn f k * Gm n (vgt F cs k) (vgt F sn k) k := by
  unfold RQk
  rw [Qm_succ, Matrix.mul_assoc]

/-- the invariant of `R ↦ R G₀ ↦ R G₀ G₁ ↦ ⋯` for an upper triangular `R = (f i j)`: columns `> k` are untouched, the
    active column `k` is `c_{k-1} R(k,k)` on the diagonal and `0` below, the columns `< k` are final -/
def RQInv (n : Nat) (cs sn : Vec K) (f : Nat → Nat → K) (k : Nat) (A : Matrix (Fin n) (Fin n) K) : Prop :=
  (∀ i j : Fin n, k < j.val → A i j = f i.val j.val) ∧
  (∀ i j : Fin n, j.val = k → k < i.val → A i j = 0) ∧
  (∀ i j : Fin n, j.val = k → i.val = k → A i j = cprev F cs k * f k k) ∧
  (∀ i j : Fin n, j.val < k → j.val + 1 < i.val → A i j = 0) ∧
  (∀ i j : Fin n, j.val < k → i.val = j.val + 1 → A i j = -(vgt F sn j.val) * f (j.val + 1) (j.val + 1)) ∧
  (∀ i j : Fin n, j.val < k → i.val = j.val →
    A i j = cprev F cs j.val * vgt F cs j.val * f j.val j.val - vgt F sn j.val * f j.val (j.val + 1))

theorem RQInv_zero (n : Nat) (cs sn : Vec K) (f : Nat → Nat → K)
    (hup : ∀ i j, i < n → j < i → f i j = 0) : RQInv F n cs sn f 0 (RQk F n cs sn f 0) := by
  have e : RQk F n cs sn f 0 = ofNat n f := by unfold RQk; rw [Qm_zero, Matrix.mul_one]
  rw [e]
  refine ⟨fun i j _ => rfl, fun i j hj hi => ?_, fun i j hj hi => ?_, fun i j h => absurd h (by omega),
    fun i j h => absurd h (by omega), fun i j h => absurd h (by omega)⟩
  · exact hup i.val j.val i.isLt (by omega)
  · show f i.val j.val = _
    rw [hi, hj]; unfold cprev; simp

theorem RQInv_step (n : Nat) (cs sn : Vec K) (f : Nat → Nat → K)
    (hup : ∀ i j, i < n → j < i → f i j = 0) (k : Nat) (hk : k + 1 < n) (A : Matrix (Fin n) (Fin n) K)
    (h : RQInv F n cs sn f k A) :
    RQInv F n cs sn f (k + 1) (A * Gm n (vgt F cs k) (vgt F sn k) k) := by
  obtain ⟨h1, h2, h3, h4, h5, h6⟩ := h
  have hk0 : k < n := Nat.lt_of_succ_lt hk
  -- the two columns that `Gₖ` mixes: column `k + 1` is still that of `R`, column `k` is `c_{k-1} R(k,k)` on the diagonal
  have a1 : ∀ i : Fin n, A i ⟨k + 1, hk⟩ = f i.val (k + 1) := fun i => h1 i ⟨k + 1, hk⟩ (Nat.lt_succ_self k)
  have a0 : ∀ i : Fin n, k < i.val → A i ⟨k, hk0⟩ = 0 := fun i hi => h2 i ⟨k, hk0⟩ rfl hi
  have cp : cprev F cs (k + 1) = vgt F cs k := by unfold cprev; simp
  have mix := fun i j => mul_Gm_apply F A (vgt F cs k) (vgt F sn k) k hk i j
  refine ⟨fun i j hj => ?_, fun i j hj hi => ?_, fun i j hj hi => ?_, fun i j hj hi => ?_, fun i j hj hi => ?_,
    fun i j hj hi => ?_⟩
  · rw [mix, if_neg (by omega), if_neg (by omega)]
    exact h1 i j (by omega)
  · rw [mix, if_neg (by omega), if_pos hj, a1 i, a0 i (by omega), hup i.val (k + 1) i.isLt hi]
    ring
  · rw [mix, if_neg (by omega), if_pos hj, a1 i, a0 i (by omega), cp, hi]
    ring
  · rw [mix]
    by_cases hjk : j.val = k
    · rw [if_pos hjk, a1 i, a0 i (by omega), hup i.val (k + 1) i.isLt (by omega)]
      ring
    · rw [if_neg hjk, if_neg (by omega)]
      exact h4 i j (by omega) hi
  · rw [mix]
    by_cases hjk : j.val = k
    · rw [if_pos hjk, a1 i, a0 i (by omega), hi, hjk]
      ring
    · rw [if_neg hjk, if_neg (by omega)]
      exact h5 i j (by omega) hi
  · rw [mix]
    by_cases hjk : j.val = k
    · rw [if_pos hjk, a1 i, h3 i ⟨k, hk0⟩ rfl (by omega), hi, hjk]
      ring
    · rw [if_neg hjk, if_neg (by omega)]
      exact h6 i j (by omega) hi

theorem RQInv_all (n : Nat) (cs sn : Vec K) (f : Nat → Nat → K)
    (hup : ∀ i j, i < n → j < i → f i j = 0) (k : Nat) (hk : k ≤ n - 1) :
    RQInv F n cs sn f k (RQk F n cs sn f k) := by
  induction k with
  | zero => exact RQInv_zero F n cs sn f hup
  | succ k ih =>
    rw [RQk_succ]
    exact RQInv_step F n cs sn f hup k (by omega) _ (ih (by omega))

/-- `R Q` is upper Hessenberg when `R` is upper triangular (every rotation sequence) -/
theorem RQ_hessenberg (n : Nat) (cs sn : Vec K) (f : Nat → Nat → K) (hup : ∀ i j, i < n → j < i → f i j = 0)
    (i j : Fin n) (hji : j.val + 1 < i.val) : (ofNat n f * Qm F n cs sn (n - 1)) i j = 0 :=
  (RQInv_all F n cs sn f hup (n - 1) (Nat.le_refl _)).2.2.2.1 i j (by omega) hji

/-- the subdiagonal of `R Q`: `(R Q)(j+1, j) = -s_j R(j+1, j+1)` -/
theorem RQ_subdiag (n : Nat) (cs sn : Vec K) (f : Nat → Nat → K) (hup : ∀ i j, i < n → j < i → f i j = 0)
    (i j : Fin n) (hij : i.val = j.val + 1) :
    (ofNat n f * Qm F n cs sn (n - 1)) i j = -(vgt F sn j.val) * f (j.val + 1) (j.val + 1) :=
  (RQInv_all F n cs sn f hup (n - 1) (Nat.le_refl _)).2.2.2.2.1 i j (by omega) hij

/-- the diagonal of `R Q` except its last entry: `(R Q)(j, j) = c_{j-1} c_j R(j,j) - s_j R(j,j+1)` -/
theorem RQ_diag (n : Nat) (cs sn : Vec K) (f : Nat → Nat → K) (hup : ∀ i j, i < n → j < i → f i j = 0)
    (j : Fin n) (hj : j.val + 1 < n) :
    (ofNat n f * Qm F n cs sn (n - 1)) j j =
      cprev F cs j.val * vgt F cs j.val * f j.val j.val - vgt F sn j.val * f j.val (j.val + 1) :=
  (RQInv_all F n cs sn f hup (n - 1) (Nat.le_refl _)).2.2.2.2.2 j j (by omega) rfl

/-- the last diagonal entry of `R Q`: `(R Q)(n-1, n-1) = c_{n-2} R(n-1,n-1)` -/
theorem RQ_diag_last (n : Nat) (cs sn : Vec K) (f : Nat → Nat → K) (hup : ∀ i j, i < n → j < i → f i j = 0)
    (j : Fin n) (hj : j.val = n - 1) :
    (ofNat n f * Qm F n cs sn (n - 1)) j j = cprev F cs (n - 1) * f (n - 1) (n - 1) :=
  (RQInv_all F n cs sn f hup (n - 1) (Nat.le_refl _)).2.2.1 j j hj hj

/-! ### TM3: the bands formed by the rotation loop of `matrix_QtHQ` are `Qᵀ Tm Q` -/

theorem symTri_symm (n : Nat) (d e : Vec K) (i j : Nat) (hi : i < n) (hj : j < n) :
    mget F (symTri F n d e) i j = mget F (symTri F n d e) j i := by
  rw [symTri_get F n d e i j hi hj, symTri_get F n d e j i hj hi]
  by_cases h1 : i = j
  · subst h1; rfl
  · have h1' : ¬ j = i := fun h => h1 h.symm
    rw [if_neg h1, if_neg h1']
    by_cases h2 : i = j + 1
    · have h3 : ¬ j = i + 1 := by omega
      rw [if_pos h2, if_neg h3, if_pos h2]
    · rw [if_neg h2]
      by_cases h3 : j = i + 1
      · rw [if_pos h3, if_pos h3]
      · rw [if_neg h3, if_neg h3, if_neg h2]

theorem toM_symTri_transpose (n : Nat) (d e : Vec K) :
    (toM F n n (symTri F n d e))ᵀ = toM F n n (symTri F n d e) := by
  ext i j
  rw [Matrix.transpose_apply, toM_apply, toM_apply]
  exact symTri_symm F n d e j.val i.val j.isLt i.isLt

theorem Rmat_get (q : TridiagQR K) (i j : Nat) (hi : i < q.n) (hj : j < q.n) :
    mget F (Rmat F q) i j =
      if i = j then vgt F q.R_diag i else if i + 1 = j then vgt F q.R_supd i
      else if i + 2 = j then vgt F q.R_supd2 i else 0 := by
  have h : mget F (Rmat F q) i j = _ :=
    @C08Tridiag.get_bandMat K (scOfField F) q.n (fun _ => @Lin.zero K (scOfField F)) (vgt F q.R_diag)
      (vgt F q.R_supd) (vgt F q.R_supd2) i j hi hj
  rw [h, C08Tridiag.zero_eq]
  simp

theorem Rmat_upper (q : TridiagQR K) (i j : Nat) (hi : i < q.n) (hji : j < i) : mget F (Rmat F q) i j = 0 :=
  (C08Tridiag.matrix_R_band F q i j hi (by omega)).1 hji

/-- a band matrix with the same vector `E` below and above the diagonal `D` and nothing on the second superdiagonal is the
    symmetric tridiagonal matrix of `(D, E)` -/
theorem bandSym_get (n : Nat) (D E : Vec K) (u2 : Nat → K) (hu : ∀ i, u2 i = 0) (i j : Nat) (hi : i < n) (hj : j < n) :
    mget F (@TridiagQR.bandMat K (scOfField F) n (vgt F E) (vgt F D) (vgt F E) u2) i j = mget F (symTri F n D E) i j := by
  have h : mget F (@TridiagQR.bandMat K (scOfField F) n (vgt F E) (vgt F D) (vgt F E) u2) i j = _ :=
    @C08Tridiag.get_bandMat K (scOfField F) n (vgt F E) (vgt F D) (vgt F E) u2 i j hi hj
  rw [symTri_get F _ _ _ i j hi hj, h, C08Tridiag.zero_eq, hu]
  by_cases h1 : i = j
  · rw [if_pos h1, if_pos h1]
  · rw [if_neg h1, if_neg h1]
    by_cases h2 : i + 1 = j
    · have h3 : ¬ i = j + 1 := by omega
      rw [if_pos h2, if_neg h3, if_pos h2.symm]
    · have h2' : ¬ j = i + 1 := fun h => h2 h.symm
      rw [if_neg h2, if_neg h2']
      by_cases h4 : i + 2 = j
      · have h3 : ¬ i = j + 1 := by omega
        rw [if_pos h4, if_neg h3]
      · rw [if_neg h4]

/-- the raw bands as a `Matrix`: the symmetric tridiagonal matrix of `(D, E)` -/
theorem toM_rawMat (q : TridiagQR K) :
    toM F q.n q.n (rawMat F q) =
      toM F q.n q.n (symTri F q.n (C08Tridiag.qthqRaw F q).1 (C08Tridiag.qthqRaw F q).2) := by
  ext i j
  exact bandSym_get F q.n _ _ _ (fun _ => rfl) i.val j.val i.isLt j.isLt

/-- `Qᵀ Tm Q = R Q + σ I` -/
theorem tqr_similarity (hsqrt : ∀ x : K, 0 ≤ x → F.sqrt x * F.sqrt x = x ∧ 0 ≤ F.sqrt x) (hcut : C08Givens.cutoff F ≤ 0)
    (mat : Mat K) (shift : K) (q : TridiagQR K) (hq : q = tqr F mat shift) :
    (TQ F q)ᵀ * toM F q.n q.n (symTri F q.n q.T_diag q.T_subd) * TQ F q =
      toM F q.n q.n (Rmat F q) * TQ F q + shift • (1 : Matrix (Fin q.n) (Fin q.n) K) :=
  similarity_of_QR (TQ F q) _ _ shift (tqr_Q_orth F hsqrt hcut mat shift q hq).1
    (tqr_QR_matrix F hsqrt hcut mat shift q hq)

/-- `Qᵀ Tm Q` is symmetric (every `q`) -/
theorem QtTQ_symm (q : TridiagQR K) (d e : Vec K) (i j : Fin q.n) :
    ((TQ F q)ᵀ * toM F q.n q.n (symTri F q.n d e) * TQ F q) i j =
      ((TQ F q)ᵀ * toM F q.n q.n (symTri F q.n d e) * TQ F q) j i := by
  have h : ((TQ F q)ᵀ * toM F q.n q.n (symTri F q.n d e) * TQ F q)ᵀ =
      (TQ F q)ᵀ * toM F q.n q.n (symTri F q.n d e) * TQ F q := by
    rw [Matrix.transpose_mul, Matrix.transpose_mul, Matrix.transpose_transpose, toM_symTri_transpose, Matrix.mul_assoc]
  have h2 := congrFun (congrFun h j) i
  rw [Matrix.transpose_apply] at h2
  exact h2

theorem tqr_RQ_eq (q : TridiagQR K) :
    toM F q.n q.n (Rmat F q) * TQ F q = ofNat q.n (mget F (Rmat F q)) * Qm F q.n q.cos q.sin (q.n - 1) := rfl

/-- on and below the diagonal the raw bands `(D, E)` are the entries of `R Q + σ I`, for every object that stores the result
    of its own factorization loop -/
theorem raw_lower_linked (q : TridiagQR K) (hq : C08TridiagQ.Linked F q) (hid : C08TridiagQ.IdealF F)
    (i j : Fin q.n) (hji : j.val ≤ i.val) :
    toM F q.n q.n (symTri F q.n (C08Tridiag.qthqRaw F q).1 (C08Tridiag.qthqRaw F q).2) i j =
      (toM F q.n q.n (Rmat F q) * TQ F q + q.shift • (1 : Matrix (Fin q.n) (Fin q.n) K)) i j := by
  have hup : ∀ a b, a < q.n → b < a → mget F (Rmat F q) a b = 0 := fun a b ha hb => Rmat_upper F _ a b ha hb
  rw [Matrix.add_apply, smul_one_apply, toM_apply, symTri_get F _ _ _ _ _ i.isLt j.isLt, tqr_RQ_eq]
  by_cases h1 : i.val = j.val
  · obtain rfl : i = j := Fin.ext h1
    rw [if_pos rfl, if_pos rfl]
    by_cases h2 : i.val + 1 < q.n
    · rw [RQ_diag F _ _ _ _ hup i h2, Rmat_get F _ i.val i.val i.isLt i.isLt,
        Rmat_get F _ i.val (i.val + 1) i.isLt h2, if_pos rfl, if_neg (by omega), if_pos rfl]
      have hd := C08TridiagQ.qthq_diag_final F q hq hid i.val h2
      unfold cprev
      linear_combination hd
    · have h3 : i.val = q.n - 1 := by omega
      rw [RQ_diag_last F _ _ _ _ hup i h3, Rmat_get F _ _ _ (by omega) (by omega), if_pos rfl, h3]
      have hd := C08TridiagQ.qthq_diag_last F q hq hid (by omega)
      unfold cprev
      linear_combination hd
  · rw [if_neg h1, if_neg h1, add_zero]
    by_cases h2 : i.val = j.val + 1
    · rw [if_pos h2, RQ_subdiag F _ _ _ _ hup i j h2,
        Rmat_get F _ (j.val + 1) (j.val + 1) (by omega) (by omega), if_pos rfl]
      exact C08TridiagQ.qthq_sub_final F q hq hid j.val (by omega)
    · rw [if_neg h2, if_neg (by omega), RQ_hessenberg F _ _ _ _ hup i j (by omega)]

/-- TM3 (MAIN): the symmetric tridiagonal matrix with the diagonal `D` and the sub/superdiagonal `E` that the rotation loop of
    `matrix_QtHQ` produces (before the final deflation pass) is `Qᵀ Tm Q` -/
theorem tqr_QtHQ_raw_matrix (hsqrt : ∀ x : K, 0 ≤ x → F.sqrt x * F.sqrt x = x ∧ 0 ≤ F.sqrt x)
    (hcut : C08Givens.cutoff F ≤ 0) (mat : Mat K) (shift : K) (q : TridiagQR K) (hq : q = tqr F mat shift) :
    toM F q.n q.n (rawMat F q) =
      (TQ F q)ᵀ * toM F q.n q.n (symTri F q.n q.T_diag q.T_subd) * TQ F q := by
  rw [toM_rawMat]
  have hS := tqr_similarity F hsqrt hcut mat shift q hq
  subst hq
  have hL := fun i j h => raw_lower_linked F _ (C08TridiagQ.linked_compute F mat shift)
    (C08TridiagQ.idealF_of F hsqrt hcut) i j h
  ext i j
  by_cases h : j.val ≤ i.val
  · rw [hL i j h, hS]; rfl
  · rw [QtTQ_symm F _ _ _ i j, toM_apply, symTri_symm F _ _ _ _ _ i.isLt j.isLt, ← toM_apply, hL j i (by omega), hS]; rfl

/-! ### TM4: the final deflation pass of `matrix_QtHQ` -/

/-- entries of `matrix_QtHQ` against the raw bands `(D, E)` of its rotation loop: exactly the negligible sub/superdiagonal
    entries are replaced by `0` (every `q`, no hypothesis) -/
theorem QtHQ_get (q : TridiagQR K) (i j : Nat) (hi : i < q.n) (hj : j < q.n) :
    mget F (TQtHQ F q) i j =
      if (i = j + 1 ∨ j = i + 1) ∧ negl F (C08Tridiag.qthqRaw F q).1 (C08Tridiag.qthqRaw F q).2 (min i j) then 0
      else mget F (symTri F q.n (C08Tridiag.qthqRaw F q).1 (C08Tridiag.qthqRaw F q).2) i j := by
  have h : mget F (TQtHQ F q) i j = mget F (symTri F q.n (C08Tridiag.qthqRaw F q).1
      (@TridiagQR.deflate K _ _ (scOfField F) (C08Tridiag.qthqRaw F q).1 (C08Tridiag.qthqRaw F q).2 q.n)) i j :=
    bandSym_get F q.n _ _ _ (fun _ => C08Tridiag.zero_eq F) i j hi hj
  rw [h, symTri_get F _ _ _ i j hi hj, symTri_get F _ _ _ i j hi hj]
  -- the deflated subdiagonal at `m`: `0` where the entry is negligible, the raw entry elsewhere
  have hd : ∀ m, m < q.n - 1 → vgt F (@TridiagQR.deflate K _ _ (scOfField F) (C08Tridiag.qthqRaw F q).1
      (C08Tridiag.qthqRaw F q).2 q.n) m =
      if negl F (C08Tridiag.qthqRaw F q).1 (C08Tridiag.qthqRaw F q).2 m then 0 else vgt F (C08Tridiag.qthqRaw F q).2 m :=
    fun m hm => by rw [show vgt F _ m = _ from C08Tridiag.deflate_get F _ _ q.n m]; simp only [hm, true_and]
  by_cases h1 : i = j
  · rw [if_pos h1, if_pos h1, if_neg (fun hh => by have := hh.1; omega)]
  · rw [if_neg h1, if_neg h1]
    by_cases h3 : i = j + 1
    · rw [if_pos h3, if_pos h3, hd j (by omega), show min i j = j by omega]
      by_cases hng : negl F (C08Tridiag.qthqRaw F q).1 (C08Tridiag.qthqRaw F q).2 j
      · rw [if_pos hng, if_pos ⟨Or.inl h3, hng⟩]
      · rw [if_neg hng, if_neg (fun hh => hng hh.2)]
    · rw [if_neg h3, if_neg h3]
      by_cases h2 : j = i + 1
      · rw [if_pos h2, if_pos h2, hd i (by omega), show min i j = i by omega]
        by_cases hng : negl F (C08Tridiag.qthqRaw F q).1 (C08Tridiag.qthqRaw F q).2 i
        · rw [if_pos hng, if_pos ⟨Or.inr h2, hng⟩]
        · rw [if_neg hng, if_neg (fun hh => hng hh.2)]
      · rw [if_neg h2, if_neg h2, if_neg (fun hh => by have := hh.1; omega)]

/-- the same on `Matrix` entries, against `toM (rawMat q)` -/
theorem QtHQ_vs_raw (q : TridiagQR K) (i j : Fin q.n) :
    toM F q.n q.n (TQtHQ F q) i j =
      if (i.val = j.val + 1 ∨ j.val = i.val + 1) ∧
          negl F (C08Tridiag.qthqRaw F q).1 (C08Tridiag.qthqRaw F q).2 (min i.val j.val) then 0
      else toM F q.n q.n (rawMat F q) i j := by
  rw [toM_rawMat]
  exact QtHQ_get F q i.val j.val i.isLt j.isLt

/-- TM4: `matrix_QtHQ` is `Qᵀ Tm Q` with exactly the sub/superdiagonal entries that pass the negligibility test
    `|E[m]| ≤ eps (|D[m]| + |D[m+1]|)` (`m = min i j`, `(D, E)` the bands of `Qᵀ Tm Q`) replaced by `0` -/
theorem tqr_QtHQ_matrix (hsqrt : ∀ x : K, 0 ≤ x → F.sqrt x * F.sqrt x = x ∧ 0 ≤ F.sqrt x)
    (hcut : C08Givens.cutoff F ≤ 0) (mat : Mat K) (shift : K) (q : TridiagQR K) (hq : q = tqr F mat shift)
    (i j : Fin q.n) :
    toM F q.n q.n (TQtHQ F q) i j =
      if (i.val = j.val + 1 ∨ j.val = i.val + 1) ∧
          negl F (C08Tridiag.qthqRaw F q).1 (C08Tridiag.qthqRaw F q).2 (min i.val j.val) then 0
      else ((TQ F q)ᵀ * toM F q.n q.n (symTri F q.n q.T_diag q.T_subd) * TQ F q) i j := by
  rw [← tqr_QtHQ_raw_matrix F hsqrt hcut mat shift q hq]
  exact QtHQ_vs_raw F q i j

/-- the symmetric matrix `Δ` of the entries that the final deflation pass of `matrix_QtHQ` drops -/
def dropMat (q : TridiagQR K) : Matrix (Fin q.n) (Fin q.n) K := fun i j =>
  if (i.val = j.val + 1 ∨ j.val = i.val + 1) ∧
      negl F (C08Tridiag.qthqRaw F q).1 (C08Tridiag.qthqRaw F q).2 (min i.val j.val)
  then vgt F (C08Tridiag.qthqRaw F q).2 (min i.val j.val) else 0

theorem dropMat_symm (q : TridiagQR K) : (dropMat F q)ᵀ = dropMat F q := by
  ext i j
  rw [Matrix.transpose_apply]
  unfold dropMat
  rw [Nat.min_comm j.val i.val]
  have e : (j.val = i.val + 1 ∨ i.val = j.val + 1) = (i.val = j.val + 1 ∨ j.val = i.val + 1) := propext Or.comm
  simp only [e]

/-- every dropped entry is negligible -/
theorem dropMat_small (q : TridiagQR K) (i j : Fin q.n) (h : dropMat F q i j ≠ 0) :
    (i.val = j.val + 1 ∨ j.val = i.val + 1) ∧ dropMat F q i j = vgt F (C08Tridiag.qthqRaw F q).2 (min i.val j.val) ∧
    |dropMat F q i j| ≤ F.eps * (|vgt F (C08Tridiag.qthqRaw F q).1 (min i.val j.val)| +
      |vgt F (C08Tridiag.qthqRaw F q).1 (min i.val j.val + 1)|) := by
  unfold dropMat at h ⊢
  by_cases c : (i.val = j.val + 1 ∨ j.val = i.val + 1) ∧
      negl F (C08Tridiag.qthqRaw F q).1 (C08Tridiag.qthqRaw F q).2 (min i.val j.val)
  · rw [if_pos c]
    exact ⟨c.1, rfl, c.2⟩
  · rw [if_neg c] at h
    exact absurd rfl h

/-- `matrix_QtHQ = raw bands - Δ` (every `q`) -/
theorem QtHQ_eq_raw_sub (q : TridiagQR K) :
    toM F q.n q.n (TQtHQ F q) = toM F q.n q.n (rawMat F q) - dropMat F q := by
  ext i j
  rw [Matrix.sub_apply, QtHQ_vs_raw F q i j]
  unfold dropMat
  by_cases c : (i.val = j.val + 1 ∨ j.val = i.val + 1) ∧
      negl F (C08Tridiag.qthqRaw F q).1 (C08Tridiag.qthqRaw F q).2 (min i.val j.val)
  · rw [if_pos c, if_pos c, toM_rawMat, toM_apply, symTri_get F _ _ _ _ _ i.isLt j.isLt]
    rcases c.1 with h | h
    · have hm : min i.val j.val = j.val := by omega
      have h1 : ¬ i.val = j.val := by omega
      rw [if_neg h1, if_pos h, hm, sub_self]
    · have hm : min i.val j.val = i.val := by omega
      have h1 : ¬ i.val = j.val := by omega
      have h2 : ¬ i.val = j.val + 1 := by omega
      rw [if_neg h1, if_neg h2, if_pos h, hm, sub_self]
  · rw [if_neg c, if_neg c, sub_zero]

/-- TM4, matrix form: `matrix_QtHQ = Qᵀ Tm Q - Δ` -/
theorem tqr_QtHQ_matrix_sub (hsqrt : ∀ x : K, 0 ≤ x → F.sqrt x * F.sqrt x = x ∧ 0 ≤ F.sqrt x)
    (hcut : C08Givens.cutoff F ≤ 0) (mat : Mat K) (shift : K) (q : TridiagQR K) (hq : q = tqr F mat shift) :
    toM F q.n q.n (TQtHQ F q) =
      (TQ F q)ᵀ * toM F q.n q.n (symTri F q.n q.T_diag q.T_subd) * TQ F q - dropMat F q := by
  rw [← tqr_QtHQ_raw_matrix F hsqrt hcut mat shift q hq]
  exact QtHQ_eq_raw_sub F q

/-! ### TM5: the package -/

/-- TM5: the computed tridiagonal QR decomposition in `Matrix` language (`n = mat.rows`, `q = compute(mat, shift)`, `d`, `e` the
    stored diagonal / deflated subdiagonal of the input, `(D, E)` the bands left by the rotation loop of `matrix_QtHQ`) -/
theorem tqr_matrix (hsqrt : ∀ x : K, 0 ≤ x → F.sqrt x * F.sqrt x = x ∧ 0 ≤ F.sqrt x) (hcut : C08Givens.cutoff F ≤ 0)
    (mat : Mat K) (shift : K) :
    let n := mat.rows
    let q := tqr F mat shift
    let Q : Matrix (Fin n) (Fin n) K := Qof F (hessOf F q)
    let R : Matrix (Fin n) (Fin n) K := toM F n n (Rmat F q)
    let Tm : Matrix (Fin n) (Fin n) K := toM F n n (Mat.ofFn n n (fun i j =>
      if i = j then vgt F q.T_diag i else if i = j + 1 then vgt F q.T_subd j
      else if j = i + 1 then vgt F q.T_subd i else 0))
    let D := (C08Tridiag.qthqRaw F q).1
    let E := (C08Tridiag.qthqRaw F q).2
    let B : Matrix (Fin n) (Fin n) K :=
      toM F n n (@TridiagQR.bandMat K (scOfField F) n (vgt F E) (vgt F D) (vgt F E) (fun _ => 0))
    let T : Matrix (Fin n) (Fin n) K := toM F n n (TQtHQ F q)
    let Δ : Matrix (Fin n) (Fin n) K := dropMat F q
    (Qᵀ * Q = 1 ∧ Q * Qᵀ = 1) ∧
    Q * R = Tm - shift • (1 : Matrix (Fin n) (Fin n) K) ∧
    (∀ i j : Fin n, j < i → R i j = 0) ∧
    (∀ i j : Fin n, i.val + 2 < j.val → R i j = 0) ∧
    Qᵀ * Tm * Q = R * Q + shift • (1 : Matrix (Fin n) (Fin n) K) ∧
    B = Qᵀ * Tm * Q ∧
    (∀ i j : Fin n, T i j =
      if (i.val = j.val + 1 ∨ j.val = i.val + 1) ∧
          |vgt F E (min i.val j.val)| ≤
            F.eps * (|vgt F D (min i.val j.val)| + |vgt F D (min i.val j.val + 1)|) then 0
      else (Qᵀ * Tm * Q) i j) ∧
    (T = Qᵀ * Tm * Q - Δ ∧ Δᵀ = Δ) := by
  intro n q Q R Tm D E B T Δ
  exact ⟨tqr_Q_orth F hsqrt hcut mat shift _ rfl, tqr_QR_matrix F hsqrt hcut mat shift _ rfl,
    fun i j h => (tqr_R_band_matrix F (tqr F mat shift) i j).1 h,
    fun i j h => (tqr_R_band_matrix F (tqr F mat shift) i j).2 h,
    tqr_similarity F hsqrt hcut mat shift _ rfl,
    tqr_QtHQ_raw_matrix F hsqrt hcut mat shift _ rfl,
    fun i j => tqr_QtHQ_matrix F hsqrt hcut mat shift _ rfl i j,
    tqr_QtHQ_matrix_sub F hsqrt hcut mat shift _ rfl, dropMat_symm F (tqr F mat shift)⟩

end AtField
end C08TridiagMatrix
