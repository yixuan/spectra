/-
  C04 — lemmas that connect the ordering theorems of C18 (about the source-translated `argsort`, keys and the std::sort model)
  with the solver model: what `Orch.retrieve` stores when its `select` kernel is the translated `argsort`
  (`HermSolver.argsortIdx`) resp. the general family's `SortEigenvalue` switch (`C04M.genSelectIdx`), and which Ritz values
  `HermSolver.restartShifts` / the translated shift loop of `GenEigsBase::restart` consume.
  Exact arithmetic = any linearly ordered field `K` (`scOfField F`).
-/
import SpectraVerif.Model.C04Select
import SpectraVerif.Proofs.ScField
import SpectraVerif.Proofs.SortLemmas
import SpectraVerif.Proofs.OrchLemmas
import SpectraVerif.Proofs.C13Lemmas
import SpectraVerif.Properties.C18
import SpectraVerif.Proofs.Spectral

namespace C04L
open SortLemmas Gen.Sort

/-! ### lists -/
section lists
variable {β : Type}

theorem map_intRange (f : Int → β) (n : Nat) :
    (intRange 0 (n : Int)).map f = (List.range n).map (fun (i : Nat) => f (i : Int)) := by
  rw [ListFold.intRange_zero, List.map_map]; rfl

/-- a list read as an array-function `v` (the `listFn` views of the models): mapping `v` over `0..n-1` gives the list back -/
theorem map_view_take (l : List β) (d : β) (v : Int → β) (hv : ∀ i : Nat, v i = l.getD i d) (n : Nat) (h : n ≤ l.length) :
    (intRange 0 (n : Int)).map v = l.take n := by
  rw [map_intRange, ← ListFold.map_range_getD_take l d n h]
  exact List.map_congr_left fun i _ => hv i

theorem map_view (l : List β) (d : β) (v : Int → β) (hv : ∀ i : Nat, v i = l.getD i d) (n : Nat) (h : l.length = n) :
    (intRange 0 (n : Int)).map v = l := by
  rw [map_view_take l d v hv n h.ge, List.take_of_length_le h.le]

theorem sortIdxList_mem (lt : Int → Int → Bool) (n : Nat) (j : Int) (h : j ∈ sortIdxList lt n) : 0 ≤ j ∧ j < n :=
  mem_intRange.mp ((sortIdxList_perm lt n).mem_iff.mp h)

theorem sortIdxList_len (lt : Int → Int → Bool) (n : Nat) : (sortIdxList lt n).length = n := by
  rw [sortIdxList_length]; simp

/-- a sorted list splits at EVERY position `k` into a better and a worse part -/
theorem pairwise_split {R : β → β → Prop} (l : List β) (h : l.Pairwise R) (k : Nat) :
    ∀ a ∈ l.take k, ∀ b ∈ l.drop k, R a b := by
  have h2 : (l.take k ++ l.drop k).Pairwise R := by rw [List.take_append_drop]; exact h
  exact (List.pairwise_append.mp h2).2.2

theorem bothends_vals (B : List Int) (f : Int → β) (d : β) (n k : Nat) (hB : B.length = n) (hk : k ≤ n) :
    ((List.range k).map (fun i : Nat => f (C18.interleave (fun j => B.getD j.toNat 0) n i))).Perm
      ((List.range ((k + 1) / 2)).map (fun j => (B.map f).getD j d) ++
       (List.range (k / 2)).map (fun j => (B.map f).getD (n - 1 - j) d)) := by
  have e2 : (List.range ((k + 1) / 2)).map (fun j => (B.map f).getD j d) =
      ((List.range ((k + 1) / 2)).map (fun j : Nat => (fun j : Int => B.getD j.toNat 0) j)).map f := by
    rw [List.map_map]
    refine List.map_congr_left fun j hj => ?_
    have := List.mem_range.mp hj
    rw [ListFold.getD_map _ _ 0 _ _ (by omega)]; simp
  have e3 : (List.range (k / 2)).map (fun j => (B.map f).getD (n - 1 - j) d) =
      ((List.range (k / 2)).map (fun j : Nat => (fun j : Int => B.getD j.toNat 0) ((n : Int) - 1 - j))).map f := by
    rw [List.map_map]
    refine List.map_congr_left fun j hj => ?_
    have := List.mem_range.mp hj
    rw [ListFold.getD_map _ _ 0 _ _ (by omega)]
    simp only [Function.comp]
    congr 2; omega
  rw [e2, e3, ← List.map_append]
  show (List.map (f ∘ fun i : Nat => C18.interleave (fun j => B.getD j.toNat 0) n i) (List.range k)).Perm _
  rw [← List.map_map]
  exact (C18.c18_bothends _ n k).map f

end lists

section field
variable {K : Type} [Field K] [LinearOrder K] [IsStrictOrderedRing K] (F : FieldFns K)

/-- `HermSolver.listFn` at the field instance -/
def lf (l : List K) : Int → K := @HermSolver.listFn K (scOfField F) l

theorem lf_nonneg (l : List K) (i : Int) (h : 0 ≤ i) : lf F l i = l.getD i.toNat 0 := by
  have : ¬ i < 0 := by omega
  simp [lf, HermSolver.listFn, this, Lin.zero]

theorem lf_nat (l : List K) (i : Nat) : lf F l (i : Int) = l.getD i 0 := by
  rw [lf_nonneg F l _ (by omega)]; simp

theorem base_length (sel : Int) (v : Int → K) (n : Nat) : (C18.baseOrder F sel v n).length = n := sortIdxList_len _ n

theorem base_getD (sel : Int) (v : Int → K) (n i : Nat) (h : i < n) :
    0 ≤ (C18.baseOrder F sel v n).getD i 0 ∧ (C18.baseOrder F sel v n).getD i 0 < n :=
  sortIdxList_mem _ n _ (ListFold.getD_mem _ 0 i (by rw [sortIdxList_len]; exact h))

/-- position `i` of the index vector `argsort` returns (as used by `retrieve_ritzpair`) -/
def order (sel : Int) (vals : List K) (n : Nat) (i : Nat) : Int :=
  if sel = 8 then C18.interleave (fun j => (C18.baseOrder F sel (lf F vals) n).getD j.toNat 0) n i
  else (C18.baseOrder F sel (lf F vals) n).getD i 0

/-- `HermSolver.argsortIdx` for an accepted rule, in terms of C18's `baseOrder` -/
theorem argsortIdx_ok (sel : Int) (vals : List K) (n : Nat) (h : argsort_rule sel ≠ -1) :
    ∃ idx : List Nat, @HermSolver.argsortIdx K _ _ _ _ _ (scOfField F) sel vals n = .ok idx ∧
      ∀ i, i < n → ((idx.getD i 0 : Nat) : Int) = order F sel vals n i ∧ 0 ≤ order F sel vals n i ∧ order F sel vals n i < n := by
  obtain ⟨ind, hi, hv⟩ := C18.c18_argsort_value F sel (lf F vals) n h
  have hi' : @argsort K _ _ _ _ _ (scOfField F) sel (@HermSolver.listFn K (scOfField F) vals) (n : Int) = Res.ok ind := hi
  refine ⟨(List.range n).map (fun (i : Nat) => (ind (i : Int)).toNat), ?_, ?_⟩
  · simp only [HermSolver.argsortIdx, hi']
  · intro i hin
    have hv' := hv (i : Int) (by omega) (by omega)
    have hord : ind (i : Int) = order F sel vals n i := by
      rw [hv']; unfold order C18.interleave
      by_cases h8 : sel = 8
      · simp only [h8, if_true]
      · simp only [h8, if_false]; simp
    have hrange : 0 ≤ order F sel vals n i ∧ order F sel vals n i < n := by
      unfold order C18.interleave
      repeat' split
      all_goals exact base_getD F _ _ n _ (by omega)
    refine ⟨?_, hrange⟩
    rw [ListFold.getD_map_range _ _ _ _ hin, hord]
    omega


/-- the values `retrieve_ritzpair` / `sort_ritzpair` store, position by position, when the index list comes from `argsort` -/
theorem vals_of_order (sel : Int) (vals : List K) (n : Nat) (idx : List Nat)
    (hidx : ∀ i, i < n → ((idx.getD i 0 : Nat) : Int) = order F sel vals n i ∧ 0 ≤ order F sel vals n i ∧ order F sel vals n i < n) :
    (List.range n).map (fun i => vals.getD (idx.getD i 0) 0) = (List.range n).map (fun i => lf F vals (order F sel vals n i)) := by
  refine List.map_congr_left fun i hi => ?_
  obtain ⟨h1, h2, _⟩ := hidx i (List.mem_range.mp hi)
  rw [lf_nonneg F vals _ h2, ← h1]; simp

/-- for the four one-sided rules the stored values are C18's base order mapped through the values -/
theorem order_map (sel : Int) (vals : List K) (n : Nat) (h8 : sel ≠ 8) :
    (List.range n).map (fun i => lf F vals (order F sel vals n i)) = (C18.baseOrder F sel (lf F vals) n).map (lf F vals) := by
  rw [← ListFold.map_range_getD_map _ (lf F vals) 0 n (base_length F sel (lf F vals) n)]
  apply List.map_congr_left
  intro i _
  simp [order, h8]

theorem base_vals (sel : Int) (L : List K) (n : Nat) (hn : n ≤ L.length) :
    ((C18.baseOrder F sel (lf F L) n).map (lf F L)).Perm (L.take n) ∧
    ((C18.baseOrder F sel (lf F L) n).map (lf F L)).Pairwise (fun a b =>
      (sel = 0 → |b| ≤ |a|) ∧ (sel = 3 → b ≤ a) ∧ (sel = 4 → |a| ≤ |b|) ∧ (sel = 7 → a ≤ b)) := by
  constructor
  · have := (C18.c18_perm_base F sel (lf F L) n).map (lf F L)
    rwa [map_view_take L 0 _ (lf_nat F L) n hn] at this
  · rw [List.pairwise_map]
    exact (C18.c18_sorted F sel (lf F L) n).imp fun hab => ⟨hab.1, fun h => hab.2.1 (Or.inl h), hab.2.2.1, hab.2.2.2⟩

/-! #### general family -/

/-- `C04M.clistFn` at the field instance -/
def clf (l : List (K × K)) : Int → K × K := @C04M.clistFn K (scOfField F) l

theorem clf_nonneg (l : List (K × K)) (i : Int) (h : 0 ≤ i) : clf F l i = l.getD i.toNat (0, 0) := by
  have : ¬ i < 0 := by omega
  simp [clf, C04M.clistFn, this, Lin.zero]

theorem clf_nat (l : List (K × K)) (i : Nat) : clf F l (i : Int) = l.getD i (0, 0) := by
  rw [clf_nonneg F l _ (by omega)]; simp

/-- the general family's selection switch for an accepted rule, in terms of C18's `baseOrderC` -/
theorem genSelectIdx_ok (r : Int) (vals : List (K × K)) (n : Nat) (h : r = 0 ∨ r = 1 ∨ r = 2 ∨ r = 4 ∨ r = 5 ∨ r = 6) :
    @C04M.genSelectIdx K _ _ _ _ _ (scOfField F) r vals n = .ok ((C18.baseOrderC F r (clf F vals) n).map Int.toNat) := by
  have hr := (C18.c18_dispatch_complex_rule r h).1
  have hne : gen_select_rule r ≠ -1 := by rw [hr]; rcases h with h | h | h | h | h | h <;> subst h <;> decide
  have hne' : r ≠ -1 := by rw [hr] at hne; exact hne
  simp only [C04M.genSelectIdx, hr, hne', if_false]
  rfl

/-- values stored by `retrieve` when the index list is `base.map toNat` -/
theorem vals_of_base (base : List Int) (n : Nat) (hl : base.length = n) (hm : ∀ j ∈ base, 0 ≤ j ∧ j < (n : Int))
    (evals : List (K × K)) :
    (List.range n).map (fun i => evals.getD ((base.map Int.toNat).getD i 0) (0, 0)) = base.map (clf F evals) := by
  rw [← ListFold.map_range_getD_map base (clf F evals) 0 n hl]
  apply List.map_congr_left
  intro i hi
  have hin : i < n := List.mem_range.mp hi
  have h0 := (hm _ (ListFold.getD_mem base 0 i (by omega))).1
  rw [clf_nonneg F evals _ h0]
  congr 1
  simp [List.getD_eq_getElem?_getD, List.getElem?_map]
  rw [List.getElem?_eq_getElem (by omega)]; simp

/-! #### the symmetric restart's shift list -/

theorem restartShifts_eq (ncv k : Nat) (rv : List K) :
    @HermSolver.restartShifts K (scOfField F) ncv k rv =
      (sortIdxList (fun i j => decide (-|lf F (rv.drop k) i| < -|lf F (rv.drop k) j|)) ((ncv - k : Nat) : Int)).map (lf F (rv.drop k)) := by
  simp only [HermSolver.restartShifts, lf]
  congr 2
  funext i j
  simp [Sc.gt]

theorem restartShifts_perm (ncv k : Nat) (rv : List K) (h : rv.length = ncv) :
    (@HermSolver.restartShifts K (scOfField F) ncv k rv).Perm (rv.drop k) := by
  rw [restartShifts_eq]
  have hp := (sortIdxList_perm (fun i j => decide (-|lf F (rv.drop k) i| < -|lf F (rv.drop k) j|)) ((ncv - k : Nat) : Int)).map (lf F (rv.drop k))
  rw [map_view _ 0 _ (lf_nat F _) (ncv - k) (by simp [h])] at hp
  exact hp

theorem restartShifts_sorted (ncv k : Nat) (rv : List K) :
    (@HermSolver.restartShifts K (scOfField F) ncv k rv).Pairwise (fun a b => |b| ≤ |a|) := by
  rw [restartShifts_eq, List.pairwise_map]
  have hs := sortIdxList_sorted (fun i => -|lf F (rv.drop k) i|) ((ncv - k : Nat) : Int)
  exact hs.imp (fun h => neg_le_neg_iff.mp h)

end field

/-! ### the shift schedule of `GenEigsBase::restart` (translated loop body, any scalar, comparisons are oracles) -/
section genshift
open RestartIdx Gen.Restart
variable {α : Type} [Add α] [Sub α] [Mul α] [Div α] [Neg α] [Sc α]

/-- positions of `m_ritz_val` a pass consumes as shifts: one for a real shift, two for a double shift -/
def consumed (p : Pass) : List Int := if p.double then [p.i, p.i + 1] else [p.i]

theorem genPasses_cover (ritz : Int → α × α) (ncv i : Int) (hadj : AdjacentConj ritz ncv i) :
    (genPasses ritz ncv i).flatMap consumed = intRange i ncv ∧
    ∀ p ∈ genPasses ritz ncv i, p.double = is_complex (ritz p.i) ∧
      (p.double = true → is_conj (ritz p.i) (ritz (p.i + 1)) = true ∧ p.i + 1 < ncv) := by
  revert hadj
  refine genPasses_induction ritz ncv
    (motive := fun i ps => AdjacentConj ritz ncv i → ps.flatMap consumed = intRange i ncv ∧
      ∀ p ∈ ps, p.double = is_complex (ritz p.i) ∧ (p.double = true → is_conj (ritz p.i) (ritz (p.i + 1)) = true ∧ p.i + 1 < ncv))
    (fun i h _ => ?_) (fun i hlt ih hadj => ?_) i
  · rw [intRange_empty i ncv h]; simp
  · rw [adj_lt ritz ncv i hlt] at hadj
    rcases step_cases ncv ritz i with ⟨e, hc⟩ | ⟨hc, hb, ⟨h2, e⟩ | ⟨h2, e⟩⟩ <;> rw [e] at ih ⊢
    · -- a single shift: the value is real (adjacency excludes a complex value at the last position)
      cases h : is_complex (ritz i)
      · rw [h, if_neg Bool.false_ne_true] at hadj
        obtain ⟨h1, h2⟩ := ih hadj
        refine ⟨?_, ?_⟩
        · rw [List.flatMap_cons, h1, ListFold.intRange_cons i ncv hlt]; simp [consumed]
        · intro p hp
          rcases List.mem_cons.mp hp with rfl | hp
          · simp [h]
          · exact h2 p hp
      · rw [h, if_pos rfl] at hadj
        exact absurd hadj.1 (hc h)
    · -- a complex value whose successor is not its conjugate: excluded by adjacency
      rw [hc, if_pos rfl, h2] at hadj
      exact absurd hadj.2.1 Bool.false_ne_true
    · rw [hc, if_pos rfl] at hadj
      obtain ⟨h1, h3⟩ := ih hadj.2.2
      refine ⟨?_, ?_⟩
      · rw [List.flatMap_cons, h1, ListFold.intRange_cons i ncv hlt, ListFold.intRange_cons (i + 1) ncv hb]
        simp only [consumed, if_true, List.cons_append, List.nil_append]
        congr 3; omega
      · intro p hp
        rcases List.mem_cons.mp hp with rfl | hp
        · simp [hc, h2, hb]
        · exact h3 p hp

end genshift

/-! ### what `Orch.retrieve` stores -/
section retrieve
open Orch
variable {φ ρ ε κ β τ ω : Type} (Kn : Kern φ ρ ε κ β τ ω) (c : Cfg)

theorem retrieve_ok (sel : Int) (s : St φ ρ ε κ) (evals : List ρ) (lastRow : List ε) (cols : List κ) (ind : List Nat)
    (he : Kn.eig s.fac = .ok (evals, lastRow, cols)) (hs : Kn.select sel evals c.ncv = .ok ind) :
    (retrieve Kn c sel s).2 = none ∧
    (retrieve Kn c sel s).1.ritzVal = (List.range c.ncv).map (fun i => evals.getD (ind.getD i 0) Kn.zeroρ) ∧
    (retrieve Kn c sel s).1.ritzEst = (List.range c.ncv).map (fun i => lastRow.getD (ind.getD i 0) Kn.zeroε) ∧
    (retrieve Kn c sel s).1.ritzVec = (List.range c.nev).map (fun i => cols.getD (ind.getD i 0) Kn.zeroκ) := by
  simp [retrieve, he, hs]

end retrieve
/-! ### order of ν = 1 + c/(λ-σ) (buckling: c = σ; Cayley: c = 2σ), as facts about `t ↦ c / t` with `t = λ - σ` -/
section nu
variable {K : Type} [Field K] [LinearOrder K] [IsStrictOrderedRing K]

/-- `t ↦ c / t` on one side of its pole: decreasing for `c > 0`, increasing for `c < 0` -/
theorem recip_lt_same_side (c t1 t2 : K) (hside : 0 < t1 * t2) :
    (0 < c → (c / t2 < c / t1 ↔ t1 < t2)) ∧ (c < 0 → (c / t2 < c / t1 ↔ t2 < t1)) := by
  have h1 : t1 ≠ 0 := left_ne_zero_of_mul hside.ne'
  have h2 : t2 ≠ 0 := right_ne_zero_of_mul hside.ne'
  have hd : c / t1 - c / t2 = c * (t2 - t1) / (t1 * t2) := by field_simp
  have key : c / t2 < c / t1 ↔ 0 < c * (t2 - t1) := by rw [← sub_pos, hd, div_pos_iff_of_pos_right hside]
  exact ⟨fun hc => by rw [key, mul_pos_iff_of_pos_left hc, sub_pos],
    fun hc => by rw [key, ← neg_mul_neg, mul_pos_iff_of_pos_left (neg_pos.mpr hc), neg_sub, sub_pos]⟩

theorem abs_div_lt_abs_div (a1 a2 t1 t2 : K) (h1 : t1 ≠ 0) (h2 : t2 ≠ 0) :
    |a2 / t2| < |a1 / t1| ↔ |a2| * |t1| < |a1| * |t2| := by
  rw [abs_div, abs_div, div_lt_div_iff₀ (abs_pos.mpr h2) (abs_pos.mpr h1)]

/-- the case table of `ν = 1 + c / t` (`t = λ - σ`; buckling: `c = σ`, Cayley: `c = 2σ`) -/
theorem nu_table (c t1 t2 : K) (h1 : t1 ≠ 0) (h2 : t2 ≠ 0) :
    (0 < t1 * t2 → (0 < c → (1 + c / t2 < 1 + c / t1 ↔ t1 < t2)) ∧ (c < 0 → (1 + c / t2 < 1 + c / t1 ↔ t2 < t1))) ∧
    (t2 < 0 → 0 < t1 → (0 < c → 1 + c / t2 < 1 ∧ 1 < 1 + c / t1) ∧ (c < 0 → 1 + c / t1 < 1 ∧ 1 < 1 + c / t2)) ∧
    (c ≠ 0 → (|1 + c / t2 - 1| < |1 + c / t1 - 1| ↔ |t1| < |t2|)) := by
  simp only [add_lt_add_iff_left, add_lt_iff_neg_left, lt_add_iff_pos_right, add_sub_cancel_left]
  refine ⟨recip_lt_same_side c t1 t2, fun hn hp => ⟨fun hc => ⟨div_neg_of_pos_of_neg hc hn, div_pos hc hp⟩,
    fun hc => ⟨div_neg_of_neg_of_pos hc hp, div_pos_of_neg_of_neg hc hn⟩⟩, fun hc => ?_⟩
  rw [abs_div, abs_div, div_lt_div_iff_of_pos_left (abs_pos.mpr hc) (abs_pos.mpr h2) (abs_pos.mpr h1)]

end nu

end C04L
