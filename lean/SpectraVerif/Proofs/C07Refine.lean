/-
  Refinement of the executable array kernels of `Model/Arnoldi.lean` to `Finset.sum` expressions, and discrete facts of the
  executable model (advertised dimension), for Properties/C07.lean.

  The kernel lemmas hold for ANY `Sc` instance on a field `K` whose `ofInt 0` is `0` (in particular the exact-arithmetic instance
  `scOfField F` of `Proofs/ScField.lean`, see `h0_scOfField`): the kernels use nothing else from `Sc`.
-/
import Mathlib.Algebra.BigOperators.Intervals
import Mathlib.Algebra.Order.Field.Basic
import Mathlib.Tactic.Ring
import SpectraVerif.Proofs.LinField
import SpectraVerif.Proofs.ListFold
import SpectraVerif.Model.Arnoldi
import SpectraVerif.Model.Lanczos

set_option linter.unusedSectionVars false


open Finset

namespace C07R

theorem h0_scOfField {K : Type} [Field K] [LinearOrder K] [IsStrictOrderedRing K] (F : FieldFns K) :
    @Sc.ofInt K (scOfField F) 0 = 0 := by simp

section kernels
variable {K : Type} [Field K] [Sc K] (h0 : (Sc.ofInt 0 : K) = 0)
include h0

/-- gemv accumulator: `0 + f 0 + … + f (n-1)` is the sum -/
theorem sum0_eq (n : ℕ) (f : ℕ → K) : Arnoldi.sum0 n f = ∑ i ∈ range n, f i := by
  unfold Arnoldi.sum0
  rw [SumFold.foldl_range_add, LinField.zero_eq h0, zero_add]

/-- `V.leftCols(k) * x` -/
theorem mulVecK0_eq (V : Lin.Mat K) (k : ℕ) (x : Lin.Vec K) (i : ℕ) (hi : i < V.rows) :
    Lin.vget (Arnoldi.mulVecK0 V k x) i = ∑ j ∈ range k, V.get i j * Lin.vget x j := by
  unfold Arnoldi.mulVecK0; rw [C08Mat.vget_vofFn _ _ hi, sum0_eq h0]

/-- `V.leftCols(k).adjoint() * y` -/
theorem tmulVecK0_eq (V : Lin.Mat K) (k : ℕ) (y : Lin.Vec K) (j : ℕ) (hj : j < k) :
    Lin.vget (Arnoldi.tmulVecK0 V k y) j = ∑ i ∈ range V.rows, V.get i j * Lin.vget y i := by
  unfold Arnoldi.tmulVecK0; rw [C08Mat.vget_vofFn _ _ hj, sum0_eq h0]

/-- `f -= V.leftCols(k) * g` -/
theorem subMulVecK0_eq (f : Lin.Vec K) (V : Lin.Mat K) (k : ℕ) (g : Lin.Vec K) (i : ℕ) (hi : i < f.size) :
    Lin.vget (Arnoldi.subMulVecK0 f V k g) i = Lin.vget f i - ∑ j ∈ range k, V.get i j * Lin.vget g j := by
  unfold Arnoldi.subMulVecK0; rw [C08Mat.vget_vofFn _ _ hi, sum0_eq h0]

/-- the harness operator class: `y = a x` for the row-major array `a` -/
theorem rowMajorOp_eq (n : ℕ) (a : Array K) (x : Lin.Vec K) (i : ℕ) (hi : i < n) :
    Lin.vget (Arnoldi.rowMajorOp n a x) i = ∑ j ∈ range n, a.getD (i * n + j) 0 * Lin.vget x j := by
  unfold Arnoldi.rowMajorOp; rw [C08Mat.vget_vofFn _ _ hi, sum0_eq h0, LinField.zero_eq h0]

/-- `Arnoldi::compress_V`, columns `i < k`: only the first `m - k + i + 1` entries of column `i` of `Q` are used -/
theorem compress_V_col (op : Arnoldi.Op K) (s : Arnoldi.State K) (Q : Lin.Mat K) (r i : ℕ)
    (hr : r < s.n) (hi : i < s.k) (hkm : s.k < s.m) :
    (Arnoldi.compress_V op s Q).V.get r i = ∑ j ∈ range (s.m - s.k + i + 1), s.V.get r j * Q.get j i := by
  simp only [Arnoldi.compress_V]
  rw [C08Mat.get_ofFn _ _ _ hr (by omega)]
  have h1 : i < s.k + 1 := by omega
  simp only [h1, if_true]
  rw [C08Mat.get_ofFn _ _ _ hr h1]
  simp only [hi, if_true]
  exact sum0_eq h0 _ _

/-- `Arnoldi::compress_V`, column `k`: the full product `V * Q.col(k)` -/
theorem compress_V_colk (op : Arnoldi.Op K) (s : Arnoldi.State K) (Q : Lin.Mat K) (r : ℕ)
    (hr : r < s.n) (hkm : s.k < s.m) :
    (Arnoldi.compress_V op s Q).V.get r s.k = ∑ j ∈ range s.m, s.V.get r j * Q.get j s.k := by
  simp only [Arnoldi.compress_V]
  rw [C08Mat.get_ofFn _ _ _ hr hkm]
  have h1 : s.k < s.k + 1 := by omega
  simp only [h1, if_true]
  rw [C08Mat.get_ofFn _ _ _ hr h1]
  simp only [lt_irrefl, if_false]
  exact sum0_eq h0 _ _

/-- `Arnoldi::compress_V`: `f⁺ = f * Q(m-1,k-1) + V⁺.col(k) * H(k,k-1)` -/
theorem compress_V_f (op : Arnoldi.Op K) (s : Arnoldi.State K) (Q : Lin.Mat K) (r : ℕ)
    (hr : r < s.n) (hkm : s.k < s.m) :
    Lin.vget (Arnoldi.compress_V op s Q).f r
      = Lin.vget s.f r * Q.get (s.m - 1) (s.k - 1) + (∑ j ∈ range s.m, s.V.get r j * Q.get j s.k) * s.H.get s.k (s.k - 1) := by
  have := compress_V_colk h0 op s Q r hr hkm
  simp only [Arnoldi.compress_V] at this ⊢
  rw [C08Mat.vget_vofFn _ _ hr, this]

end kernels

/-! ### discrete facts of the executable model, any scalar type (in particular `Float`) -/
section discrete
variable {α : Type} [Add α] [Sub α] [Mul α] [Div α] [Neg α] [Sc α]

theorem lanczos_factorize_dim (op : Arnoldi.Op α) (s s' : Arnoldi.State α) (a b : ℕ)
    (h : Lanczos.factorize_from op s a b = some s') : (a < b → s'.k = b) ∧ (b ≤ a → s' = s) := by
  unfold Lanczos.factorize_from at h
  split at h
  · cases h; exact ⟨fun hab => by omega, fun _ => rfl⟩
  · split at h
    · cases h
    · cases h; exact ⟨fun _ => rfl, fun hba => by omega⟩

theorem lanczos_factorize_throws (op : Arnoldi.Op α) (s : Arnoldi.State α) (a b : ℕ) :
    Lanczos.factorize_from op s a b = none ↔ (a < b ∧ s.k < a) := by
  unfold Lanczos.factorize_from
  split
  · simp; omega
  · split
    · simp; omega
    · simp; omega

end discrete
end C07R
