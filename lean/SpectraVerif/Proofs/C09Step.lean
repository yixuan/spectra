/-
  C09 helper lemmas: one Givens step of `tridiagonal_qr_step` as `GᵀTG` / `QG` (function level and array level),
  entries of `applyOnTheRight`, and the Gram matrix of a rotated basis.
-/
import Mathlib.Tactic.Ring
import Mathlib.Tactic.LinearCombination
import Mathlib.Algebra.BigOperators.Intervals
import Mathlib.Algebra.BigOperators.Ring.Finset
import SpectraVerif.Proofs.ScField
import SpectraVerif.Proofs.C09Loop
import SpectraVerif.Proofs.LinLoop

set_option linter.unusedSectionVars false

namespace C09Step
open Lin EigenPrims TridiagEigen C09Loop C08Mat

section fn
variable {R : Type} [CommRing R]

/-- `M G` for the plane rotation `G` = identity except `G(k,k) = c, G(k,k+1) = s, G(k+1,k) = −s, G(k+1,k+1) = c` -/
def mulG (M : Nat → Nat → R) (k : Nat) (c s : R) : Nat → Nat → R := fun i j =>
  if j = k then c * M i k - s * M i (k + 1) else if j = k + 1 then s * M i k + c * M i (k + 1) else M i j
/-- `Gᵀ M` -/
def mulGt (M : Nat → Nat → R) (k : Nat) (c s : R) : Nat → Nat → R := fun i j =>
  if i = k then c * M k j - s * M (k + 1) j else if i = k + 1 then s * M k j + c * M (k + 1) j else M i j
/-- `Gᵀ M G` -/
def conjG (M : Nat → Nat → R) (k : Nat) (c s : R) : Nat → Nat → R := mulGt (mulG M k c s) k c s

/-- the symmetric tridiagonal matrix with diagonal `d`, sub-diagonal `e`, plus the bulge `z` at `(b+2, b)` and `(b, b+2)` -/
def bandT (d e : Nat → R) (b : Option Nat) (z : R) : Nat → Nat → R := fun i j =>
  if i = j then d i else if i = j + 1 then e j else if j = i + 1 then e i
  else if b = some j ∧ i = j + 2 then z else if b = some i ∧ j = i + 2 then z else 0

theorem conjG_kk (M : Nat → Nat → R) (k : Nat) (c s : R) :
    conjG M k c s k k = c * c * M k k - c * s * (M k (k + 1) + M (k + 1) k) + s * s * M (k + 1) (k + 1) := by
  simp [conjG, mulGt, mulG]; ring
theorem conjG_k1k1 (M : Nat → Nat → R) (k : Nat) (c s : R) :
    conjG M k c s (k + 1) (k + 1) = s * s * M k k + c * s * (M k (k + 1) + M (k + 1) k) + c * c * M (k + 1) (k + 1) := by
  simp [conjG, mulGt, mulG]; ring
theorem conjG_k1k (M : Nat → Nat → R) (k : Nat) (c s : R) :
    conjG M k c s (k + 1) k = c * s * (M k k - M (k + 1) (k + 1)) + c * c * M (k + 1) k - s * s * M k (k + 1) := by
  simp [conjG, mulGt, mulG]; ring
theorem conjG_kk1 (M : Nat → Nat → R) (k : Nat) (c s : R) :
    conjG M k c s k (k + 1) = c * s * (M k k - M (k + 1) (k + 1)) + c * c * M k (k + 1) - s * s * M (k + 1) k := by
  simp [conjG, mulGt, mulG]; ring
theorem conjG_ik (M : Nat → Nat → R) (k i : Nat) (c s : R) (h1 : i ≠ k) (h2 : i ≠ k + 1) :
    conjG M k c s i k = c * M i k - s * M i (k + 1) := by
  simp [conjG, mulGt, mulG, h1, h2]
theorem conjG_ik1 (M : Nat → Nat → R) (k i : Nat) (c s : R) (h1 : i ≠ k) (h2 : i ≠ k + 1) :
    conjG M k c s i (k + 1) = s * M i k + c * M i (k + 1) := by
  simp [conjG, mulGt, mulG, h1, h2]
theorem conjG_kj (M : Nat → Nat → R) (k j : Nat) (c s : R) (h1 : j ≠ k) (h2 : j ≠ k + 1) :
    conjG M k c s k j = c * M k j - s * M (k + 1) j := by
  simp [conjG, mulGt, mulG, h1, h2]
theorem conjG_k1j (M : Nat → Nat → R) (k j : Nat) (c s : R) (h1 : j ≠ k) (h2 : j ≠ k + 1) :
    conjG M k c s (k + 1) j = s * M k j + c * M (k + 1) j := by
  simp [conjG, mulGt, mulG, h1, h2]

theorem conjG_far (M : Nat → Nat → R) (k i j : Nat) (c s : R) (hi1 : i ≠ k) (hi2 : i ≠ k + 1) (hj1 : j ≠ k) (hj2 : j ≠ k + 1) :
    conjG M k c s i j = M i j := by
  simp only [conjG, mulGt, mulG, if_neg hi1, if_neg hi2, if_neg hj1, if_neg hj2]

end fn

section arr
variable {K : Type} [Field K] [LinearOrder K] [IsStrictOrderedRing K] (F : FieldFns K)

/-- what one trip of the Givens loop of `tridiagonal_qr_step` stores, in terms of the incoming state
    (`c, s` = the rotation `makeGivens(x, z)`; `a = diag[k]`, `b = subdiag[k]`, `a' = diag[k+1]`) -/
theorem qrBody_spec (n start end_ k : Nat) (st : QRSt K)
    (hd : k + 1 < st.diag.size) (hs : k < st.sub.size) (hs1 : k + 1 < end_ → k + 1 < st.sub.size) :
    let _ : Sc K := scOfField F
    let c := (makeGivens st.x st.z).c
    let s := (makeGivens st.x st.z).s
    let st' := qrBody n start end_ k st
    vget st'.diag k = c * c * vget st.diag k - 2 * c * s * vget st.sub k + s * s * vget st.diag (k + 1) ∧
    vget st'.diag (k + 1) = s * s * vget st.diag k + 2 * c * s * vget st.sub k + c * c * vget st.diag (k + 1) ∧
    vget st'.sub k = c * s * (vget st.diag k - vget st.diag (k + 1)) + (c * c - s * s) * vget st.sub k ∧
    (start < k → vget st'.sub (k - 1) = c * vget st.sub (k - 1) - s * st.z) ∧
    (k + 1 < end_ → st'.z = -(s * vget st.sub (k + 1)) ∧ vget st'.sub (k + 1) = c * vget st.sub (k + 1)) ∧
    (¬ k + 1 < end_ → st'.z = st.z) ∧
    st'.x = vget st'.sub k ∧
    (∀ j, j ≠ k → j ≠ k + 1 → vget st'.diag j = vget st.diag j) ∧
    (∀ j, j ≠ k → j + 1 ≠ k → j ≠ k + 1 → vget st'.sub j = vget st.sub j) ∧
    st'.q = applyOnTheRight st.q n k (k + 1) c s := by
  intro _ c s st'
  refine ⟨?_, ?_, ?_, ?_, ?_, ?_, ?_, ?_,
    fun j h1 h2 h3 => qrBody_sub_other n start end_ k st j (by omega) (by omega) (by omega), rfl⟩
  all_goals simp only [st', qrBody]
  · rw [vget_vset_ne _ _ (by omega), vget_vset_eq _ _ (by omega)]; ring
  · rw [vget_vset_eq _ _ (by rw [vset_size]; omega)]; ring
  · rw [vget_ite_vset_ne _ _ _ _ _ (fun _ => by omega), vget_ite_vset_ne _ _ _ _ _ (fun _ => by omega), vget_vset_eq _ _ hs]
    ring
  · intro hlt
    rw [vget_ite_vset_ne _ _ _ _ _ (fun _ => by omega), if_pos hlt, vget_vset_eq _ _ (by rw [vset_size]; omega),
      vget_vset_ne _ _ (by omega)]
  · intro hlt
    rw [if_pos hlt, if_pos hlt, vget_vset_eq _ _ (by rw [ite_vset_size, vset_size]; exact hs1 hlt),
      vget_ite_vset_ne _ _ _ _ _ (fun _ => by omega), vget_vset_ne _ _ (by omega)]
    exact ⟨by ring, rfl⟩
  · intro hn; rw [if_neg hn]
  · rw [vget_ite_vset_ne (k + 1 < end_) _ _ _ _ (fun _ => by omega)]
  · intro j h1 h2
    rw [vget_vset_ne _ _ (by omega), vget_vset_ne _ _ (by omega)]

end arr
end C09Step

namespace C09Mat
open Lin EigenPrims C09Loop
open C08Mat hiding WF

section gen
variable {α : Type} [Add α] [Sub α] [Mul α] [Div α] [Neg α] [Sc α]

/-- well-formed: the data array has `rows * cols` entries -/
def WF (m : Mat α) : Prop := m.d.size = m.rows * m.cols

/-- `applyOnTheRight` keeps the shape -/
theorem applyOnTheRight_shape (m : Mat α) (h : WF m) (nrow p q : Nat) (c s : α) :
    WF (applyOnTheRight m nrow p q c s) ∧ (applyOnTheRight m nrow p q c s).rows = m.rows ∧ (applyOnTheRight m nrow p q c s).cols = m.cols := by
  simp only [applyOnTheRight]
  split
  · exact ⟨h, rfl, rfl⟩
  · exact ListFold.foldl_range_inv (fun _ acc => WF acc ∧ acc.rows = m.rows ∧ acc.cols = m.cols) _ _ _ ⟨h, rfl, rfl⟩
      fun i acc _ ⟨w, r, c'⟩ => ⟨set_WF (set_WF w _ _ _) _ _ _, by rw [set_rows, set_rows, r], by rw [set_cols, set_cols, c']⟩

end gen

section field
variable {K : Type} [Field K] [LinearOrder K] [IsStrictOrderedRing K] (F : FieldFns K)

/-- **entries of `M.applyOnTheRight(p, q, rot)` restricted to the first `nrow` rows** (field instance): column `p` becomes
    `c·col_p − s·col_q`, column `q` becomes `s·col_p + c·col_q`, everything else is unchanged -/
theorem applyOnTheRight_get (m : Mat K) (h : @WF K m) (nrow p q : Nat) (c s : K) (hpq : p ≠ q)
    (hpc : p < m.cols) (hqc : q < m.cols) (hn : nrow ≤ m.rows) (i j : Nat) (hi : i < m.rows) :
    let _ : Sc K := scOfField F
    (applyOnTheRight m nrow p q c s).get i j =
      if i < nrow then (if j = p then c * m.get i p - s * m.get i q else if j = q then s * m.get i p + c * m.get i q else m.get i j)
      else m.get i j := by
  intro _
  simp only [applyOnTheRight]
  by_cases he : (Sc.eq c one && Sc.eq (-s) zero) = true
  · rw [if_pos he]
    simp only [Bool.and_eq_true, ScF.eq, decide_eq_true_eq, one, zero, ScF.ofInt, Int.cast_one, Int.cast_zero, neg_eq_zero] at he
    simp only [he.1, he.2, one_mul, zero_mul, sub_zero, zero_add]
    by_cases hjp : j = p
    · rw [if_pos hjp, hjp, ite_self]
    · rw [if_neg hjp]
      by_cases hjq : j = q
      · rw [if_pos hjq, hjq, ite_self]
      · rw [if_neg hjq, ite_self]
  · rw [if_neg he]
    -- trip `t` is the two-entry step on `(t, p)`, `(t, q)` with the pair map `rotPair c (-s)`
    have hin : ∀ t k, t < nrow → k < 2 → t < m.rows ∧ (if k = 0 then p else q) < m.cols := fun t k ht _ =>
      ⟨Nat.lt_of_lt_of_le ht hn, by split <;> assumption⟩
    obtain ⟨_, _, _, ht, hu⟩ := fold_spec
      (upd2_ok (rotPair c (-s)) (fun t _ => t) (fun _ k => if k = 0 then p else q) _ _ nrow hin (fun t _ hh => hpq hh.2))
      hin (fun t t' k k' _ _ _ _ hh _ => hh) (pairNv_cong _) h rfl rfl nrow (Nat.le_refl nrow)
    show ((List.range nrow).foldl (upd2 (rotPair c (-s)) (fun t _ => t) (fun _ k => if k = 0 then p else q)) m).get i j = _
    generalize List.foldl _ _ _ = Z at ht hu ⊢
    by_cases hwin : i < nrow
    · rw [if_pos hwin]
      by_cases hjp : j = p
      · have h0 : Z.get i p = c * m.get i p + -s * m.get i q := ht i 0 hwin Nat.zero_lt_two
        rw [if_pos hjp, hjp, h0, neg_mul, sub_eq_add_neg]
      · rw [if_neg hjp]
        by_cases hjq : j = q
        · have h1 : Z.get i q = - -s * m.get i p + c * m.get i q := ht i 1 hwin Nat.one_lt_two
          rw [if_pos hjq, hjq, h1, neg_neg]
        · rw [if_neg hjq]
          refine hu i j hi (fun t k _ hk hh => ?_)
          obtain rfl | rfl : k = 0 ∨ k = 1 := by omega
          · exact hjp hh.2.symm
          · exact hjq hh.2.symm
    · rw [if_neg hwin]
      exact hu i j hi (fun t _ ht _ hh => hwin (hh.1 ▸ ht))

end field

end C09Mat

namespace C09Gram
open Finset C09Step
variable {R : Type} [CommRing R]

theorem gram_mulG_right (n k : Nat) (X Y : Nat → Nat → R) (c s : R) (a b : Nat) :
    ∑ i ∈ range n, X i a * mulG Y k c s i b = mulG (fun a b => ∑ i ∈ range n, X i a * Y i b) k c s a b := by
  simp only [mulG]
  split_ifs
  · simp only [mul_sub, Finset.sum_sub_distrib, Finset.mul_sum, mul_left_comm]
  · simp only [mul_add, Finset.sum_add_distrib, Finset.mul_sum, mul_left_comm]
  · rfl

theorem gram_mulG_left (n k : Nat) (X Y : Nat → Nat → R) (c s : R) (a b : Nat) :
    ∑ i ∈ range n, mulG X k c s i a * Y i b = mulGt (fun a b => ∑ i ∈ range n, X i a * Y i b) k c s a b := by
  simp only [mul_comm (mulG X k c s _ a)]
  rw [gram_mulG_right]
  simp only [mulG, mulGt, mul_comm]

/-- the Gram matrix of `QG` is `Gᵀ(QᵀQ)G` -/
theorem gram_conjG (n k : Nat) (Q : Nat → Nat → R) (c s : R) (a b : Nat) :
    ∑ i ∈ range n, mulG Q k c s i a * mulG Q k c s i b = conjG (fun a b => ∑ i ∈ range n, Q i a * Q i b) k c s a b := by
  rw [gram_mulG_left]; simp only [gram_mulG_right]; rfl

end C09Gram
