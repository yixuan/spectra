/-
  C08 — what `DoubleShiftQR::update_block(il, iu)` does, index by index (`Model/DoubleShiftQR.lean`), for every scalar type.

  The block loop of `compute` writes the entries `0 … n − 1` of `(m_ref_u, m_ref_nr)` once each, in order.  At an index `k` it takes one
  STEP (`Op`): a reflector step — `compute_reflector(x, k)` with arguments `x` read off `m_mat_H`, `apply_PX` on one block of `m_mat_H`,
  `apply_XP` on another — or `m_ref_nr[k] = 1`.  `update_block(il, iu)` is the sequence of the steps at `il … iu`
  (`update_block_steps`); `IsStep` lists them: the first reflector of a block of size 2 / of size ≥ 3, the chase steps, the last
  two-row reflector, the closing identity.

  `update_block_rule`: a relation between two runs of `update_block(il, iu)` on different states, indexed by the next index to be
  written, that every step advances holds at the end; the steps of the first run may assume a guard `G` on the arguments `(x2, x3)` of
  their `compute_reflector` call, provided the run satisfies it (`BlockGuard`).  One run is the case `R k st _`; no guard is `G = True`
  (`BlockGuard.trivial`).  The invariants of `update_block` (row counts: C08Nr, stale columns: C08ReuseDs, similarity: C08DsqrSimC) are
  instances: each proves that ONE step preserves it.  Core Lean only.
-/
import SpectraVerif.Model.DoubleShiftQR
import SpectraVerif.Proofs.ListFold

namespace C08Steps
open Lin QRModel QRModel.DoubleShiftQR

variable {α : Type} [Add α] [Sub α] [Mul α] [Div α] [Neg α] [Sc α]

/-- `compute_reflector(x1, x2, x3, ind)`, then `apply_PX(H.block(a1, a2, a3, a4), ind)`, then `apply_XP(H.block(b1, b2, b3, b4), ind)` -/
def refStep (st : St α) (x1 x2 x3 : α) (ind a1 a2 a3 a4 b1 b2 b3 b4 : Nat) : St α :=
  (apply_XP (apply_PX st.1 (computeReflector st.2.1 st.2.2 x1 x2 x3 ind).1 (computeReflector st.2.1 st.2.2 x1 x2 x3 ind).2 a1 a2 a3 a4 ind)
      (computeReflector st.2.1 st.2.2 x1 x2 x3 ind).1 (computeReflector st.2.1 st.2.2 x1 x2 x3 ind).2 b1 b2 b3 b4 ind,
   (computeReflector st.2.1 st.2.2 x1 x2 x3 ind).1, (computeReflector st.2.1 st.2.2 x1 x2 x3 ind).2)

/-- `m_ref_nr[ind] = 1` -/
def endStep (st : St α) (ind : Nat) : St α := (st.1, st.2.1, st.2.2.setIfInBounds ind 1)

/-- a step at index `k`: a reflector computed from `x H`, applied from the left to `H.block(k, c, nrowP, ncolP)` and from the right to
    `H.block(0, k, nrowX, ncolX)`; or the identity -/
inductive Op (α : Type) where
  | refl (x : Mat α → α × α × α) (k c nrowP ncolP nrowX ncolX : Nat)
  | close (k : Nat)

def Op.run : Op α → St α → St α
  | .refl x k c nrowP ncolP nrowX ncolX, st =>
      refStep st (x st.1).1 (x st.1).2.1 (x st.1).2.2 k k c nrowP ncolP 0 k nrowX ncolX
  | .close k, st => endStep st k

def Op.idx : Op α → Nat
  | .refl _ k _ _ _ _ _ => k
  | .close k => k

/-- the arguments `(x2, x3)` of the `compute_reflector` call of the step satisfy `G` -/
def Op.Guard (G : α → α → Prop) : Op α → St α → Prop
  | .refl x _ _ _ _ _ _, st => G (x st.1).2.1 (x st.1).2.2
  | .close _, _ => True

/-! the four reflector steps of `update_block(il, iu)`; `firstCol0/1/2` is the first column of `H² − sH + tI` on the block -/

def first2 (n : Nat) (s t : α) (il : Nat) : Op α :=
  .refl (fun H => (firstCol0 (H.get il il) (H.get il (il + 1)) (H.get (il + 1) il) s t,
    firstCol1 (H.get il il) (H.get (il + 1) il) (H.get (il + 1) (il + 1)) s, zero)) il il 2 (n - il) (il + 2) 2

def first3 (n : Nat) (s t : α) (il iu : Nat) : Op α :=
  .refl (fun H => (firstCol0 (H.get il il) (H.get il (il + 1)) (H.get (il + 1) il) s t,
    firstCol1 (H.get il il) (H.get (il + 1) il) (H.get (il + 1) (il + 1)) s,
    firstCol2 (H.get (il + 2) (il + 1)) (H.get (il + 1) il))) il il 3 (n - il) (il + min (iu - il + 1) 4) 3

def chase (n il iu i : Nat) : Op α :=
  .refl (fun H => (H.get (il + i) (il + i - 1), H.get (il + i + 1) (il + i - 1), H.get (il + i + 2) (il + i - 1)))
    (il + i) (il + i - 1) 3 (n - il - i + 1) (il + min (iu - il + 1) (i + 4)) 3

def last (n il iu : Nat) : Op α :=
  .refl (fun H => (H.get (iu - 1) (iu - 2), H.get iu (iu - 2), zero)) (iu - 1) (iu - 2) 2 (n - iu + 2) (il + (iu - il + 1)) 2

/-- the state after `m` iterations of the chase loop -/
def chaseRun (n il iu : Nat) (st : St α) (m : Nat) : St α :=
  (List.range m).foldl (fun st k => (chase n il iu (k + 1)).run st) st

theorem chaseRun_succ (n il iu : Nat) (st : St α) (m : Nat) :
    chaseRun n il iu st (m + 1) = (chase n il iu (m + 1)).run (chaseRun n il iu st m) := by
  unfold chaseRun
  rw [ListFold.foldl_range_succ]

theorem update_block_steps (n : Nat) (s t : α) (st : St α) (il iu : Nat) :
    update_block n s t st il iu =
      if iu - il + 1 == 1 then (Op.close il).run st
      else if iu - il + 1 == 2 then (Op.close (il + 1)).run ((first2 n s t il).run st)
      else (Op.close iu).run ((last n il iu).run (chaseRun n il iu ((first3 n s t il iu).run st) (iu - il + 1 - 3))) := by
  -- unfolding the right side first keeps `rfl` from comparing the two sides through `Op.run`, which is dear
  simp only [Op.run, first2, first3, last, chaseRun, chase, refStep, endStep]
  unfold update_block
  simp only []
  split
  · rfl
  · split <;> rfl

/-- `o` is the step `update_block(il, iu)` takes at index `k` -/
inductive IsStep (n : Nat) (s t : α) (il iu : Nat) : Nat → Op α → Prop where
  | first2 : il + 1 = iu → IsStep n s t il iu il (first2 n s t il)
  | first3 : il + 2 ≤ iu → IsStep n s t il iu il (first3 n s t il iu)
  | chase (i : Nat) : 1 ≤ i → il + i + 2 ≤ iu → IsStep n s t il iu (il + i) (chase n il iu i)
  | last : il + 2 ≤ iu → IsStep n s t il iu (iu - 1) (last n il iu)
  | close : il ≤ iu → IsStep n s t il iu iu (.close iu)

omit [Div α] [Neg α] in
theorem IsStep.idx {n : Nat} {s t : α} {il iu k : Nat} {o : Op α} (h : IsStep n s t il iu k o) : o.idx = k ∧ il ≤ k ∧ k ≤ iu := by
  cases h <;> exact ⟨rfl, by omega, by omega⟩

/-- every reflector step of `update_block(il, iu)` on `st` satisfies its guard -/
def BlockGuard (G : α → α → Prop) (n : Nat) (s t : α) (st : St α) (il iu : Nat) : Prop :=
  (iu - il + 1 = 2 → (first2 n s t il).Guard G st) ∧
  (3 ≤ iu - il + 1 → (first3 n s t il iu).Guard G st ∧
    (∀ j, j < iu - il + 1 - 3 → (chase n il iu (j + 1)).Guard G (chaseRun n il iu ((first3 n s t il iu).run st) j)) ∧
    (last n il iu).Guard G (chaseRun n il iu ((first3 n s t il iu).run st) (iu - il + 1 - 3)))

theorem BlockGuard.trivial (n : Nat) (s t : α) (st : St α) (il iu : Nat) : BlockGuard (fun _ _ => True) n s t st il iu :=
  ⟨fun _ => True.intro, fun _ => ⟨True.intro, fun _ _ => True.intro, True.intro⟩⟩

theorem update_block_rule (G : α → α → Prop) (n : Nat) (s t : α) {il iu : Nat} (hle : il ≤ iu) {R : Nat → St α → St α → Prop}
    (hstep : ∀ k (o : Op α) st st', IsStep n s t il iu k o → o.Guard G st → R k st st' → R (k + 1) (o.run st) (o.run st'))
    {st st' : St α} (hG : BlockGuard G n s t st il iu) (h0 : R il st st') :
    R (iu + 1) (update_block n s t st il iu) (update_block n s t st' il iu) := by
  have hclose : ∀ a b, R iu a b → R (iu + 1) ((Op.close iu).run a) ((Op.close iu).run b) :=
    fun a b h => hstep _ _ a b (.close hle) True.intro h
  rw [update_block_steps, update_block_steps]
  by_cases h1 : (iu - il + 1 == 1) = true
  · rw [if_pos h1, if_pos h1]
    have e : il = iu := by have := beq_iff_eq.mp h1; omega
    subst e
    exact hclose _ _ h0
  · rw [if_neg h1, if_neg h1]
    have h1' : iu - il + 1 ≠ 1 := fun c => h1 (beq_iff_eq.mpr c)
    by_cases h2 : (iu - il + 1 == 2) = true
    · rw [if_pos h2, if_pos h2]
      have h2' := beq_iff_eq.mp h2
      have e : il + 1 = iu := by omega
      have hf := hstep _ _ st st' (.first2 e) (hG.1 h2') h0
      rw [e] at hf ⊢
      exact hclose _ _ hf
    · rw [if_neg h2, if_neg h2]
      have h3 : il + 2 ≤ iu := by have h2' : iu - il + 1 ≠ 2 := fun c => h2 (beq_iff_eq.mpr c); omega
      clear h1 h2 h1'
      obtain ⟨g1, g2, g3⟩ := hG.2 (by omega)
      have hc : ∀ m, m ≤ iu - il + 1 - 3 → R (il + m + 1) (chaseRun n il iu ((first3 n s t il iu).run st) m)
          (chaseRun n il iu ((first3 n s t il iu).run st') m) := by
        intro m
        induction m with
        | zero => intro _; exact hstep _ _ st st' (.first3 h3) g1 h0
        | succ m ih =>
          intro hm
          rw [chaseRun_succ, chaseRun_succ]
          exact hstep _ _ _ _ (.chase (m + 1) (Nat.le_add_left 1 m) (by omega)) (g2 m hm) (ih (Nat.le_of_succ_le hm))
      have hm := hc _ (Nat.le_refl _)
      rw [show il + (iu - il + 1 - 3) + 1 = iu - 1 by omega] at hm
      have hl := hstep _ _ _ _ (.last h3) g3 hm
      rw [show iu - 1 + 1 = iu by omega] at hl
      exact hclose _ _ hl

end C08Steps
